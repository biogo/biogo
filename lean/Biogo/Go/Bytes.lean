/-
Shared byte/line library for the sequence readers and writers (DESIGN.md §3.2).

* `splitLines`   — what a loop over `bufio.Reader.ReadLine` sees once the `isPrefix`
                   fragments of one physical line have been joined: lines end at LF, one CR
                   directly before the LF is dropped, an unterminated non-empty last line is
                   returned as it is.  (That the 4096-byte fragmentation delivers this is proved
                   of the byte-level `bufio.Reader` model `Biogo.Go.Bufio` in
                   `Properties/C04_bufio`; the correspondence runs physical lines of 1…20000 bytes.)
* `trimSpace`    — `bytes.TrimSpace` with Go's semantics on arbitrary bytes: the ASCII space
                   set plus the UTF-8 encodings of the other `unicode.IsSpace` runes
                   (U+0085, U+00A0, U+1680, U+2000–U+200A, U+2028, U+2029, U+202F, U+205F,
                   U+3000); the right trim follows `utf8.DecodeLastRune`.
* `removeSpaces` — `bytes.Join(bytes.Fields(s), nil)`.
* `indexAnySpTab`— `bytes.IndexAny(s, " \t")`.
* explicit panics for slicing (`sliceFrom`, `slice`) and an in-memory `io.Writer` (`Sink`).

Core only (the driver links this file).
-/
namespace Biogo.Go.Bytes

abbrev Bytes := List UInt8

/-- a Go run-time panic, with the reason -/
inductive Panic
  | sliceBounds      -- slice bounds out of range
  | indexRange       -- index out of range
  | divideByZero     -- integer divide by zero
  | nilDeref         -- method call on a nil interface
  | illegalEncoding  -- panic("alphabet: illegal encoding")
  deriving DecidableEq, Repr

def Panic.code : Panic → String
  | .sliceBounds => "slice" | .indexRange => "index" | .divideByZero => "divzero"
  | .nilDeref => "nil" | .illegalEncoding => "encoding"

/-- `s[i:]` -/
def sliceFrom (s : Bytes) (i : Nat) : Except Panic Bytes :=
  if i ≤ s.length then .ok (s.drop i) else .error .sliceBounds

/-- `s[i:j]` -/
def slice (s : Bytes) (i j : Nat) : Except Panic Bytes :=
  if i ≤ j ∧ j ≤ s.length then .ok ((s.take j).drop i) else .error .sliceBounds

/-! ### white space -/

/-- the `asciiSpace` table of package bytes: `\t \n \v \f \r ' '` -/
def isAsciiSpace (b : UInt8) : Bool :=
  b == 9 || b == 10 || b == 11 || b == 12 || b == 13 || b == 32

/-- second byte of a two-byte space after the lead byte C2: U+0085, U+00A0 -/
def isSp2 (b : UInt8) : Bool := b == 0x85 || b == 0xA0

/-- a three-byte UTF-8 encoding of a `unicode.IsSpace` rune -/
def isSp3 (a b c : UInt8) : Bool :=
  (a == 0xE1 && b == 0x9A && c == 0x80) ||                                        -- U+1680
  (a == 0xE2 && b == 0x80 && ((0x80 ≤ c && c ≤ 0x8A) || c == 0xA8 || c == 0xA9 || c == 0xAF)) ||
                                                             -- U+2000–200A, 2028, 2029, 202F
  (a == 0xE2 && b == 0x81 && c == 0x9F) ||                                        -- U+205F
  (a == 0xE3 && b == 0x80 && c == 0x80)                                           -- U+3000

/-- `bytes.TrimLeftFunc(s, unicode.IsSpace)`: runes are decoded from the front; a byte that
    does not start the encoding of a space rune stops the trim (an invalid or incomplete
    sequence decodes to U+FFFD of width 1, which is not a space). -/
def trimLeft : Bytes → Bytes
  | [] => []
  | a :: rest =>
    if isAsciiSpace a then trimLeft rest
    else match rest with
      | [] => [a]
      | b :: r =>
        if a == 0xC2 && isSp2 b then trimLeft r
        else match r with
          | [] => a :: rest
          | c :: r' => if isSp3 a b c then trimLeft r' else a :: rest

/-- the right trim on the reversed slice (head = last byte).  `utf8.DecodeLastRune` walks
    back from the last byte to the first rune-start byte (at most 3 further bytes), decodes
    forward and accepts the rune only if it ends exactly at the end. -/
def trimRev : Bytes → Bytes
  | [] => []
  | z :: rest =>
    if z < 0x80 then (if isAsciiSpace z then trimRev rest else z :: rest)
    else match rest with
      | [] => [z]
      | y :: r =>
        if y == 0xC2 && isSp2 z then trimRev r
        else match r with
          | [] => z :: rest
          | x :: r' => if isSp3 x y z then trimRev r' else z :: rest

/-- `bytes.TrimRightFunc(s, unicode.IsSpace)` -/
def trimRight (s : Bytes) : Bytes := (trimRev s.reverse).reverse

/-- `bytes.TrimSpace` (= `TrimRightFunc(TrimLeftFunc(s))`; its ASCII fast path is equivalent) -/
def trimSpace (s : Bytes) : Bytes := trimRight (trimLeft s)

/-- `bytes.Join(bytes.Fields(s), nil)`: every space rune removed.  `FieldsFunc` advances by
    the width of the decoded rune; advancing one byte at a time over a non-space rune is
    equivalent because no continuation byte can start the encoding of a space. -/
def removeSpaces : Bytes → Bytes
  | [] => []
  | a :: rest =>
    if isAsciiSpace a then removeSpaces rest
    else match rest with
      | [] => [a]
      | b :: r =>
        if a == 0xC2 && isSp2 b then removeSpaces r
        else match r with
          | [] => a :: (if isAsciiSpace b then [] else [b])
          | c :: r' => if isSp3 a b c then removeSpaces r' else a :: removeSpaces (b :: c :: r')

/-- `bytes.IndexAny(s, " \t")` (`none` = -1) -/
def indexAnySpTab (s : Bytes) : Option Nat := s.findIdx? (fun b => b == 32 || b == 9)

/-- `bytes.HasPrefix` -/
def hasPrefix (s p : Bytes) : Bool := p.isPrefixOf s

/-! ### lines -/

/-- `ReadLine` drops `\n` and one `\r` directly before it; `cur` is the reversed line -/
def dropCR : Bytes → Bytes
  | 13 :: c => c
  | c => c

/-- lines as seen through `bufio.Reader.ReadLine` (fragments joined); `cur` accumulates the
    current line in reverse -/
def splitLinesAux : Bytes → Bytes → List Bytes
  | [], cur => if cur.isEmpty then [] else [cur.reverse]
  | b :: bs, cur =>
    if b == 10 then (dropCR cur).reverse :: splitLinesAux bs []
    else splitLinesAux bs (b :: cur)

def splitLines (bs : Bytes) : List Bytes := splitLinesAux bs []

/-- number of input lines (LF-terminated lines plus a non-empty unterminated last line) -/
def lineCount (bs : Bytes) : Nat := (splitLines bs).length

/-- `bufio`'s `defaultBufSize`: the size of the buffer behind `bufio.NewReader` -/
def bufSize : Nat := 4096

/-- How `ReadLine` delivers an unterminated last line `l`: in fragments of `bufSize` bytes
    flagged `isPrefix` (a fragment that would end in CR is cut one byte short and the CR is
    left for the next one).  A remainder of 1…`bufSize-1` bytes comes with `isPrefix = false`;
    if nothing remains, the next `ReadLine` returns `io.EOF` while the caller is still
    waiting for the end of the line.  `true` = that happens (`fuel` ≥ length of `l`). -/
def endsPendingAux : Nat → Bytes → Bool
  | 0, _ => false
  | fuel + 1, l =>
    if l.length == 0 then true
    else if l.length < bufSize then false
    else if (l.take bufSize).getLast? == some 13 then endsPendingAux fuel (l.drop (bufSize - 1))
    else endsPendingAux fuel (l.drop bufSize)

/-- an unterminated last line that a `ReadLine` loop sees only as `isPrefix` fragments
    followed by `io.EOF` (its length is a positive multiple of the buffer size, up to the
    CR adjustment) -/
def endsPending (l : Bytes) : Bool := l.length ≥ bufSize && endsPendingAux (l.length + 1) l

/-- The input as a `ReadLine` loop sees it: the lines delivered completely, and the bytes of
    a final line that is delivered only as `isPrefix` fragments before `io.EOF`
    (`[]` when there is none).  `eofWithData`: the underlying `io.Reader` returns `io.EOF`
    together with the last bytes (then `bufio` sees the pending error before it sees the
    full buffer and the last fragment is delivered as a complete line); `false` for a
    reader that reports `io.EOF` on the Read after the last data (files, `bytes.Reader`). -/
def readLineInput (eofWithData : Bool) (bs : Bytes) : List Bytes × Bytes :=
  let ls := splitLines bs
  if eofWithData then (ls, [])
  else match bs.getLast?, ls.getLast? with
    | some b, some l => if b != 10 && endsPending l then (ls.dropLast, l) else (ls, [])
    | _, _ => (ls, [])

/-! ### an in-memory `io.Writer` -/

structure Sink where
  out : Array UInt8 := #[]

/-- `w.Write(p)` on a writer that never fails: appends and returns `len(p)` -/
def Sink.write (s : Sink) (p : Bytes) : Sink × Nat := (⟨s.out.appendList p⟩, p.length)

def Sink.bytes (s : Sink) : Bytes := s.out.toList

/-- FNV-1a, 64 bit (used only to compare long outputs in the line protocol) -/
def fnv1a (bs : Bytes) : UInt64 :=
  bs.foldl (fun h b => (h ^^^ b.toUInt64) * 1099511628211) 14695981039346656037

/-- FNV-1a, 32 bit (the harness picks the behaviour of the `io.Reader` under test from it) -/
def fnv1a32 (bs : Bytes) : UInt32 :=
  bs.foldl (fun h b => (h ^^^ b.toUInt32) * 16777619) 2166136261

end Biogo.Go.Bytes
