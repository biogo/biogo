/-
Goroutines as a labelled transition system (DESIGN.md §3.4), core Lean only.

`Sys σ ι`: states `σ`, actor ids `ι`; `step s i = none` means actor `i` is blocked (or
finished) in `s`.  The atomic blocks of a model are the pieces of code between two
blocking operations / `verif` hook points, so that a schedule of the model can be forced
on the implementation.  `Biogo.Interleave` (Go/Interleave.lean) has the same systems with
flagged lenient runs and a fixed policy; its facts are these, carried over.
-/
namespace Biogo.LTS

structure Sys (σ ι : Type) where
  init : σ
  step : σ → ι → Option σ

variable {σ ι : Type}

/-- states reachable from `init` by any finite schedule -/
inductive Reach (S : Sys σ ι) : σ → Prop
  | init : Reach S S.init
  | step {s s' : σ} {i : ι} : Reach S s → S.step s i = some s' → Reach S s'

/-- states reachable from a given state -/
inductive ReachFrom (S : Sys σ ι) (s₀ : σ) : σ → Prop
  | refl : ReachFrom S s₀ s₀
  | step {s s' : σ} {i : ι} : ReachFrom S s₀ s → S.step s i = some s' → ReachFrom S s₀ s'

theorem ReachFrom.reach {S : Sys σ ι} {s₀ s : σ} (h₀ : Reach S s₀) (h : ReachFrom S s₀ s) :
    Reach S s := by
  induction h with
  | refl => exact h₀
  | step _ hs ih => exact Reach.step ih hs

theorem ReachFrom.head {S : Sys σ ι} {s s₁ t : σ} {i : ι} (hs : S.step s i = some s₁)
    (h : ReachFrom S s₁ t) : ReachFrom S s t := by
  induction h with
  | refl => exact .step .refl hs
  | step _ hs' ih => exact .step ih hs'

/-- invariant induction; the step may use that its source state is reachable (for stacking
    invariants) -/
theorem inv_induction' {S : Sys σ ι} (Inv : σ → Prop)
    (inv_init : Inv S.init)
    (inv_step : ∀ s i s', Reach S s → Inv s → S.step s i = some s' → Inv s') :
    ∀ s, Reach S s → Inv s := by
  intro s h
  induction h with
  | init => exact inv_init
  | step hr hs ih => exact inv_step _ _ _ hr ih hs

theorem inv_induction {S : Sys σ ι} (Inv : σ → Prop)
    (inv_init : Inv S.init)
    (inv_step : ∀ s i s', Inv s → S.step s i = some s' → Inv s') :
    ∀ s, Reach S s → Inv s :=
  inv_induction' Inv inv_init fun s i s' _ => inv_step s i s'

theorem inv_from {S : Sys σ ι} (Inv : σ → Prop) {s₀ : σ}
    (h0 : Inv s₀)
    (inv_step : ∀ s i s', Inv s → S.step s i = some s' → Inv s') :
    ∀ s, ReachFrom S s₀ s → Inv s := by
  intro s h
  induction h with
  | refl => exact h0
  | step _ hs ih => exact inv_step _ _ _ ih hs

/-- strict run: every step of the schedule must be enabled -/
def run (S : Sys σ ι) : σ → List ι → Option σ
  | s, [] => some s
  | s, i :: rest =>
    match S.step s i with
    | some s' => run S s' rest
    | none => none

/-- lenient run: a step of a blocked actor is skipped -/
def runSkip (S : Sys σ ι) : σ → List ι → σ
  | s, [] => s
  | s, i :: rest =>
    match S.step s i with
    | some s' => runSkip S s' rest
    | none => runSkip S s rest

theorem run_reachFrom {S : Sys σ ι} {s s' : σ} {sched : List ι}
    (h : run S s sched = some s') : ReachFrom S s s' := by
  induction sched generalizing s with
  | nil => simp [run] at h; subst h; exact .refl
  | cons i rest ih =>
    simp only [run] at h
    split at h
    · rename_i s₁ hs
      exact (ih h).head hs
    · cases h

theorem run_reach {S : Sys σ ι} {s' : σ} {sched : List ι}
    (h : run S S.init sched = some s') : Reach S s' :=
  (run_reachFrom h).reach .init

theorem runSkip_reachFrom {S : Sys σ ι} (s : σ) (sched : List ι) :
    ReachFrom S s (runSkip S s sched) := by
  induction sched generalizing s with
  | nil => exact .refl
  | cons i rest ih =>
    simp only [runSkip]
    split
    · rename_i s₁ hs
      exact (ih s₁).head hs
    · exact ih s

theorem runSkip_reach {S : Sys σ ι} (sched : List ι) : Reach S (runSkip S S.init sched) :=
  (runSkip_reachFrom S.init sched).reach .init

theorem run_append (S : Sys σ ι) (s : σ) (l₁ l₂ : List ι) :
    run S s (l₁ ++ l₂) = (run S s l₁).bind fun t => run S t l₂ := by
  induction l₁ generalizing s with
  | nil => rfl
  | cons i rest ih =>
    simp only [List.cons_append, run]
    cases S.step s i with
    | some s' => exact ih s'
    | none => rfl

/-- every reachable state is the end of a strict run -/
theorem reach_exists_run {S : Sys σ ι} {s : σ} (h : Reach S s) :
    ∃ sched, run S S.init sched = some s := by
  induction h with
  | init => exact ⟨[], rfl⟩
  | step _ hs ih =>
    rename_i i _
    obtain ⟨sched, hr⟩ := ih
    exact ⟨sched ++ [i], by simp [run_append, hr, run, hs]⟩

/-- variant lemma for termination arguments; `C` is a stable side condition -/
theorem run_length_le_of {S : Sys σ ι} (μ : σ → Nat) (C : σ → Prop)
    (hC : ∀ s i s', C s → S.step s i = some s' → C s')
    (hdec : ∀ s i s', C s → S.step s i = some s' → μ s' < μ s)
    {s s' : σ} {sched : List ι} (hs0 : C s) (h : run S s sched = some s') :
    sched.length + μ s' ≤ μ s := by
  induction sched generalizing s with
  | nil => simp [run] at h; subst h; simp
  | cons i rest ih =>
    simp only [run] at h
    split at h
    · rename_i s₁ hs
      have := ih (hC _ _ _ hs0 hs) h
      have := hdec _ _ _ hs0 hs
      simp only [List.length_cons]; omega
    · cases h

theorem run_length_le {S : Sys σ ι} (μ : σ → Nat)
    (hdec : ∀ s i s', S.step s i = some s' → μ s' < μ s)
    {s s' : σ} {sched : List ι} (h : run S s sched = some s') :
    sched.length + μ s' ≤ μ s :=
  run_length_le_of μ (fun _ => True) (fun _ _ _ _ _ => trivial) (fun s i s' _ => hdec s i s') trivial h

/-! ### bounded channels -/

structure Chan (α : Type) where
  buf : List α := []
  cap : Nat
  closed : Bool := false
deriving Repr, DecidableEq

namespace Chan
variable {α : Type}
/-- buffered send: blocked when full (no rendezvous here; see the models for hand-off) -/
def send? (c : Chan α) (x : α) : Option (Chan α) :=
  if c.buf.length < c.cap then some { c with buf := c.buf ++ [x] } else none
/-- receive: a value, or `none` when empty (the caller looks at `closed`) -/
def recv? (c : Chan α) : Option (α × Chan α) :=
  match c.buf with
  | x :: rest => some (x, { c with buf := rest })
  | [] => none
end Chan

end Biogo.LTS
