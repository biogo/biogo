/-
Goroutines as a labelled transition system (DESIGN.md §3.4).  Generic, core Lean only.
A `Sys σ ι` has a state type, an initial state and a partial step function per actor (`none` =
that actor is blocked or has nothing left to do).  Schedules are strict (`run`: every scheduled
step must be enabled), lenient (`runSkip`: a blocked step is skipped and flagged — what a
schedule-forcing harness can do) or a fixed policy (`finish`).  The systems are those of
`Biogo.LTS` (Go/LTS.lean) through `Sys.toLTS`, and the generic facts come from there; only
`reach_runSkipFrom` (the flags are not in `LTS.runSkip`) and `reach_finish` have inductions of their own.

The atomic blocks of a model built on this are the code between two hook points, so a
schedule of the model can be forced on the implementation.
-/
import Biogo.Go.LTS

namespace Biogo.Interleave

structure Sys (σ : Type) (ι : Type) where
  init : σ
  step : σ → ι → Option σ

variable {σ ι : Type}

/-- states reachable by some interleaving -/
inductive Reach (S : Sys σ ι) : σ → Prop where
  | init : Reach S S.init
  | step {s s' : σ} {i : ι} : Reach S s → S.step s i = some s' → Reach S s'

def Sys.toLTS (S : Sys σ ι) : LTS.Sys σ ι := { init := S.init, step := S.step }

theorem reach_toLTS {S : Sys σ ι} {s : σ} : LTS.Reach S.toLTS s ↔ Reach S s :=
  ⟨fun h => by induction h with | init => exact .init | step _ hs ih => exact .step ih hs,
   fun h => by induction h with | init => exact .init | step _ hs ih => exact .step ih hs⟩

/-- invariant induction that may use reachability of the source state -/
theorem inv_of_reach' (S : Sys σ ι) (Inv : σ → Prop) (h0 : Inv S.init)
    (hstep : ∀ s i s', Reach S s → Inv s → S.step s i = some s' → Inv s') : ∀ s, Reach S s → Inv s :=
  fun s hr => LTS.inv_induction' (S := S.toLTS) Inv h0
    (fun s i s' hr => hstep s i s' (reach_toLTS.1 hr)) s (reach_toLTS.2 hr)

/-- invariant induction -/
theorem inv_of_reach (S : Sys σ ι) (Inv : σ → Prop) (h0 : Inv S.init)
    (hstep : ∀ s i s', Inv s → S.step s i = some s' → Inv s') : ∀ s, Reach S s → Inv s :=
  inv_of_reach' S Inv h0 fun s i s' _ => hstep s i s'

def enabled (S : Sys σ ι) (s : σ) (i : ι) : Bool := (S.step s i).isSome

/-- nobody can move -/
def Stuck (S : Sys σ ι) (s : σ) : Prop := ∀ i, S.step s i = none

/-- strict schedule: `none` as soon as a scheduled actor is blocked -/
def runFrom (S : Sys σ ι) : σ → List ι → Option σ
  | s, [] => some s
  | s, i :: is =>
    match S.step s i with
    | some s' => runFrom S s' is
    | none => none

def run (S : Sys σ ι) (sched : List ι) : Option σ := runFrom S S.init sched

/-- lenient schedule: a blocked step is skipped; the flags say which steps ran -/
def runSkipFrom (S : Sys σ ι) : σ → List ι → σ × List Bool
  | s, [] => (s, [])
  | s, i :: is =>
    match S.step s i with
    | some s' => let (t, fl) := runSkipFrom S s' is; (t, true :: fl)
    | none => let (t, fl) := runSkipFrom S s is; (t, false :: fl)

def runSkip (S : Sys σ ι) (sched : List ι) : σ × List Bool := runSkipFrom S S.init sched

theorem runFrom_eq (S : Sys σ ι) (s : σ) (sched : List ι) : runFrom S s sched = LTS.run S.toLTS s sched := by
  induction sched generalizing s with
  | nil => rfl
  | cons i is ih => cases h : S.step s i <;> simp [runFrom, LTS.run, Sys.toLTS, h, ih]

theorem reach_run (S : Sys σ ι) (sched : List ι) (t : σ) (h : run S sched = some t) : Reach S t :=
  reach_toLTS.1 (LTS.run_reach ((runFrom_eq S S.init sched).symm.trans h))

/-- how the non-vacuity examples exhibit a reachable state by evaluation -/
theorem exists_reach_of_run (S : Sys σ ι) (sched : List ι) {P : σ → Prop} [DecidablePred P]
    (h : (run S sched).any (fun s => decide (P s)) = true) : ∃ s, Reach S s ∧ P s := by
  obtain ⟨s, hs, hp⟩ := (Option.any_eq_true _ _).mp h
  exact ⟨s, reach_run S _ s hs, of_decide_eq_true hp⟩

theorem reach_runSkipFrom (S : Sys σ ι) : ∀ (sched : List ι) (s : σ), Reach S s →
    Reach S (runSkipFrom S s sched).1 := by
  intro sched
  induction sched with
  | nil => intro s hr; exact hr
  | cons i is ih =>
    intro s hr
    simp only [runSkipFrom]
    split
    · rename_i s' hs; exact ih s' (Reach.step hr hs)
    · exact ih s hr

theorem reach_runSkip (S : Sys σ ι) (sched : List ι) : Reach S (runSkip S sched).1 :=
  reach_runSkipFrom S sched S.init Reach.init

/-- every reachable state is reached by a strict schedule -/
theorem reach_iff_run (S : Sys σ ι) (t : σ) : Reach S t ↔ ∃ sched, run S sched = some t :=
  ⟨fun hr => (LTS.reach_exists_run (reach_toLTS.2 hr)).imp fun sched h => (runFrom_eq S S.init sched).trans h,
   fun ⟨sched, h⟩ => reach_run S sched t h⟩

/-- run a fixed policy: repeatedly step the first enabled actor of `actors s`, at most `fuel` times -/
def finish (S : Sys σ ι) (actors : σ → List ι) : Nat → σ → σ
  | 0, s => s
  | fuel + 1, s =>
    match (actors s).findSome? (fun i => S.step s i) with
    | some s' => finish S actors fuel s'
    | none => s

theorem reach_finish (S : Sys σ ι) (actors : σ → List ι) : ∀ (fuel : Nat) (s : σ), Reach S s →
    Reach S (finish S actors fuel s) := by
  intro fuel
  induction fuel with
  | zero => intro s hr; exact hr
  | succ n ih =>
    intro s hr
    simp only [finish]
    split
    · rename_i s' hs
      obtain ⟨i, _, hi⟩ := List.exists_of_findSome?_eq_some hs
      exact ih s' (Reach.step hr hi)
    · exact hr

/-! ### bounded FIFO channels -/

structure Chan (α : Type) where
  cap : Nat
  buf : List α
deriving Repr

namespace Chan
variable {α : Type}

def send (c : Chan α) (x : α) : Option (Chan α) :=
  if c.buf.length < c.cap then some { c with buf := c.buf ++ [x] } else none

def recv (c : Chan α) : Option (α × Chan α) :=
  match c.buf with
  | [] => none
  | x :: r => some (x, { c with buf := r })

theorem send_isSome (c : Chan α) (x : α) : (c.send x).isSome = decide (c.buf.length < c.cap) := by
  unfold send; split <;> simp [*]

theorem recv_isSome (c : Chan α) : c.recv.isSome = !c.buf.isEmpty := by
  unfold recv; cases c.buf <;> simp

theorem send_buf {c c' : Chan α} {x : α} (h : c.send x = some c') :
    c'.buf = c.buf ++ [x] ∧ c'.cap = c.cap ∧ c.buf.length < c.cap := by
  unfold send at h
  split at h
  · simp only [Option.some.injEq] at h; subst h; exact ⟨rfl, rfl, by assumption⟩
  · simp at h

theorem recv_buf {c c' : Chan α} {x : α} (h : c.recv = some (x, c')) :
    c.buf = x :: c'.buf ∧ c'.cap = c.cap := by
  unfold recv at h
  split at h
  · simp at h
  · rename_i y r hb
    simp only [Option.some.injEq, Prod.mk.injEq] at h
    obtain ⟨rfl, rfl⟩ := h
    exact ⟨hb, rfl⟩

end Chan

/-! ### mutex -/

abbrev Mutex (ι : Type) := Option ι

def Mutex.lock [DecidableEq ι] (m : Mutex ι) (i : ι) : Option (Mutex ι) :=
  match m with
  | none => some (some i)
  | some _ => none

def Mutex.unlock [DecidableEq ι] (m : Mutex ι) (i : ι) : Option (Mutex ι) :=
  if m = some i then some none else none

end Biogo.Interleave
