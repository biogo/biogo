/-
The heap storage of `SubAnnotations` (Model/ContAnn.lean) refines the value model
(`Aln.subs`): for the fixed `Clone`, in every state of every history, every alignment's
annotation slice reads exactly the value the model holds, the slices of different alignments
lie in different arrays, and so the observation read from the heap is the observation of the
value model.  Core-only.
-/
import Biogo.Model.ContAnn
import Biogo.Proofs.ContAnnHeap
import Biogo.Proofs.ContFrame
import Biogo.Proofs.ContGrid
import Biogo.Proofs.ContApply

namespace Biogo.Containers
open Biogo.Go

/-- the row annotations of an object (column-stored alignments only) -/
def Obj.subs? : Obj → Option (List Ann)
  | .aln a => some a.subs
  | _ => none

def annOfSpec (sp : SeqSpec) : Ann := ⟨sp.name, sp.off, sp.strand⟩

/-- the effect of an operation on the row annotations of every object, in the value model -/
def specSubs (cx : Ctx) (w : World) (op : Op) : List (Option (List Ann)) :=
  match op with
  | .clone k =>
    match w.objs[k]? with
    | some (.aln a) => w.objs.map Obj.subs? ++ [some a.subs]
    | some (.lin _) => w.objs.map Obj.subs? ++ [none]
    | some (.multi _) => w.objs.map Obj.subs? ++ [none]
    | _ => w.objs.map Obj.subs?
  | .rowRevComp k r =>
    match w.objs[k]? with
    | some (.aln a) =>
      if r < a.rows then (w.objs.map Obj.subs?).set k (some (a.subs.modify r negStrand)) else w.objs.map Obj.subs?
    | _ => w.objs.map Obj.subs?
  | .rowReverse k r =>
    match w.objs[k]? with
    | some (.aln a) =>
      if r < a.rows then (w.objs.map Obj.subs?).set k (some (a.subs.modify r noStrand)) else w.objs.map Obj.subs?
    | _ => w.objs.map Obj.subs?
  | .delete k i =>
    match w.objs[k]? with
    | some (.aln a) =>
      if i < a.rows then (w.objs.map Obj.subs?).set k (some (a.subs.eraseIdx i)) else w.objs.map Obj.subs?
    | _ => w.objs.map Obj.subs?
  | .add k seqs =>
    match w.objs[k]? with
    | some (.aln a) => (w.objs.map Obj.subs?).set k (some (a.subs ++ seqs.map annOfSpec))
    | _ => w.objs.map Obj.subs?
  | .subseq k st en =>
    w.objs.map Obj.subs? ++ List.replicate ((apply cx w (.subseq k st en)).1.objs.length - w.objs.length) none
  | _ => w.objs.map Obj.subs?

theorem map_setObj (w : World) (k : Nat) (h : Cells) (o' : Obj) :
    (w.setObj k h o').objs.map Obj.subs? = (w.objs.map Obj.subs?).set k o'.subs? := by
  simp only [World.setObj, List.map_set]

theorem map_setObj_same (w : World) (k : Nat) (h : Cells) (o o' : Obj) (hk : w.objs[k]? = some o)
    (hs : o'.subs? = o.subs?) : (w.setObj k h o').objs.map Obj.subs? = w.objs.map Obj.subs? := by
  rw [map_setObj, hs]
  apply set_getElem?_self
  rw [List.getElem?_map, hk]; rfl

theorem Aln.appendColumns_subs (cx : Ctx) (h : Cells) (a : Aln) (rows : Nat) (colsIn : List (List QL))
    (h' : Cells) (a' : Aln) (happ : a.appendColumns cx h rows colsIn = some (h', a')) : a'.subs = a.subs := by
  unfold Aln.appendColumns at happ
  split at happ
  · cases happ
  · simp only [Option.some.injEq, Prod.mk.injEq] at happ
    rw [← happ.2]

theorem Aln.appendEach_subs (cx : Ctx) (h : Cells) (a : Aln) (rows : Nat) (runs : List (List QL))
    (h' : Cells) (a' : Aln) (happ : a.appendEach cx h rows runs = some (h', a')) : a'.subs = a.subs := by
  unfold Aln.appendEach at happ
  split at happ
  · cases happ
  · rename_i hne
    have e := (eachFold_eq cx rows runs (by simpa using hne) _ h a).symm.trans happ
    simp only [Option.some.injEq, Prod.mk.injEq] at e
    rw [← e.2]

theorem newLins_anns (cx : Ctx) : ∀ (sps : List SeqSpec) (h : Cells) (acc : List Lin),
    ((sps.foldl (fun (acc : Cells × List Lin) sp =>
        ((newLin cx acc.1 sp).1, acc.2 ++ [(newLin cx acc.1 sp).2])) (h, acc)).2.map
          fun (ss : Lin) => (⟨ss.name, ss.off, ss.strand⟩ : Ann))
      = (acc.map fun (ss : Lin) => (⟨ss.name, ss.off, ss.strand⟩ : Ann)) ++ sps.map annOfSpec := by
  intro sps
  induction sps with
  | nil => intro h acc; simp
  | cons sp sps ih =>
    intro h acc
    simp only [List.foldl_cons]
    rw [ih]
    simp [newLin, annOfSpec]

def Op.keepsAnns : Op → Bool
  | .clone _ | .rowRevComp .. | .rowReverse .. | .delete .. | .add .. | .subseq .. => false
  | _ => true

theorem Upd.subs_same {cx : Ctx} {w : World} {op : Op} {o o' : Obj} {h' : Cells} (hu : Upd cx w op o h' o')
    (hop : op.keepsAnns = true) : o'.subs? = o.subs? := by
  cases hu with
  | appendColsAln hr happ => exact congrArg some (Aln.appendColumns_subs cx w.cells _ _ _ _ _ happ)
  | appendEachAln hr happ => exact congrArg some (Aln.appendEach_subs cx w.cells _ _ _ _ _ happ)
  | _ => first | rfl | cases hop

theorem apply_subs_keeps (cx : Ctx) (w : World) (op : Op) (hop : op.keepsAnns = true) :
    (apply cx w op).1.objs.map Obj.subs? = w.objs.map Obj.subs? := by
  have ha := applies_apply cx w op
  generalize (apply cx w op).1 = w' at ha
  cases ha with
  | same | mkbuf | mutbuf => rfl
  | upd hwr hk hu => exact map_setObj_same w _ _ _ _ hk (hu.subs_same hop)
  | _ => cases hop

theorem apply_subs (cx : Ctx) (w : World) (op : Op) :
    (apply cx w op).1.objs.map Obj.subs? = specSubs cx w op := by
  cases op with
  | mkbuf | mutbuf | revComp | reverse | flush | truncate | set | appendCols | appendEach =>
    exact apply_subs_keeps cx w _ rfl
  | clone k =>
    simp only [specSubs]
    cases hk : w.objs[k]? with
    | none => simp only [apply, hk]
    | some o => cases o <;> simp only [apply, hk, List.map_append, List.map_cons, List.map_nil, Obj.subs?] <;> rfl
  | rowRevComp k r | rowReverse k r =>
    simp only [specSubs]
    cases hk : w.objs[k]? with
    | none => simp only [apply, hk]
    | some o =>
      cases o with
      | lin l => simp only [apply, hk]
      | aln a =>
        simp only [apply, hk]
        split
        · rw [map_setObj]; rfl
        · rfl
      | multi m | set m => simp only [apply, hk]; split <;> first | rfl | exact map_setObj_same w k _ _ _ hk rfl
  | add k seqs =>
    simp only [specSubs]
    cases hk : w.objs[k]? with
    | none => simp only [apply, hk]
    | some o =>
      cases o with
      | lin l | set m => simp only [apply, hk]
      | multi m => simp only [apply, hk]; exact map_setObj_same w k _ _ _ hk rfl
      | aln a =>
        simp only [apply, hk]
        rw [map_setObj]
        congr 1
        have := newLins_anns cx seqs w.cells []
        simp only [List.map_nil, List.nil_append] at this
        show some (a.subs ++ (newLins cx w.cells seqs).2.map fun ss => (⟨ss.name, ss.off, ss.strand⟩ : Ann)) = _
        rw [newLins_eq, this]
  | delete k i =>
    simp only [specSubs]
    cases hk : w.objs[k]? with
    | none => simp only [apply, hk]
    | some o =>
      cases o with
      | lin l | set m => simp only [apply, hk]
      | aln a =>
        simp only [apply, hk]
        split
        · rw [map_setObj]; rfl
        · rfl
      | multi m => simp only [apply, hk]; split <;> first | rfl | exact map_setObj_same w k _ _ _ hk rfl
  | subseq k st en =>
    simp only [specSubs]
    cases hk : w.objs[k]? with
    | none => simp only [apply, hk]; simp
    | some o =>
      cases o with
      | lin l | set m | aln a => simp only [apply, hk]; simp
      | multi m =>
        simp only [apply, hk]
        cases hres : m.subseq cx w.cells st en with
        | mk h' om =>
          cases om with
          | none => simp
          | some m' => simp [Obj.subs?]

/-- the annotation storage represents the row annotations `L` (one entry per object): every
    alignment's slice is valid, reads its value, and different alignments use different arrays -/
structure AnnSim (L : List (Option (List Ann))) (st : AnnStore) : Prop where
  len : st.subs.length = L.length
  read : ∀ (k : Nat) (xs : List Ann) (s : Slice), L[k]? = some (some xs) → st.subs[k]? = some s →
    CapValidG st.anns s ∧ st.anns.read s = xs
  disj : ∀ (i j : Nat) (xi xj : List Ann) (si sj : Slice), i ≠ j → L[i]? = some (some xi) → L[j]? = some (some xj) →
    st.subs[i]? = some si → st.subs[j]? = some sj → si.arr ≠ sj.arr

theorem AnnStore.pad_noop (st : AnnStore) (n : Nat) (h : n ≤ st.subs.length) : st.pad n = st := by
  simp only [AnnStore.pad]
  have : n - st.subs.length = 0 := by omega
  rw [this]; simp

theorem AnnSim.slice_of {L : List (Option (List Ann))} {st : AnnStore} (hs : AnnSim L st) {k : Nat}
    {x : Option (List Ann)} (hk : L[k]? = some x) : ∃ s, st.subs[k]? = some s := by
  have hlt : k < st.subs.length := by rw [hs.len]; exact (List.getElem?_eq_some_iff.mp hk).1
  exact ⟨st.subs[k], List.getElem?_eq_getElem hlt⟩

theorem AnnSim.padNone {L : List (Option (List Ann))} {st : AnnStore} (hs : AnnSim L st) (d : Nat) :
    AnnSim (L ++ List.replicate d none) (st.pad (L.length + d)) := by
  have hpad : (st.pad (L.length + d)).subs = st.subs ++ List.replicate d Slice.nil := by
    simp only [AnnStore.pad, hs.len]; congr 2; omega
  have hanns : (st.pad (L.length + d)).anns = st.anns := rfl
  have hold : ∀ (k : Nat) (xs : List Ann), (L ++ List.replicate d none)[k]? = some (some xs) → L[k]? = some (some xs) := by
    intro k xs hk
    by_cases hlt : k < L.length
    · rwa [List.getElem?_append_left hlt] at hk
    · rw [List.getElem?_append_right (by omega), List.getElem?_replicate] at hk
      split at hk <;> simp at hk
  have holds : ∀ (k : Nat) (s : Slice), k < L.length → (st.subs ++ List.replicate d Slice.nil)[k]? = some s →
      st.subs[k]? = some s := by
    intro k s hlt hk
    rwa [List.getElem?_append_left (by rw [hs.len]; exact hlt)] at hk
  refine ⟨by rw [hpad]; simp [hs.len], ?_, ?_⟩
  · intro k xs s hk hsk
    rw [hpad] at hsk; rw [hanns]
    have hk' := hold k xs hk
    exact hs.read k xs s hk' (holds k s (List.getElem?_eq_some_iff.mp hk').1 hsk)
  · intro i j xi xj si sj hij hi hj hsi hsj
    rw [hpad] at hsi hsj
    have hi' := hold i xi hi
    have hj' := hold j xj hj
    exact hs.disj i j xi xj si sj hij hi' hj' (holds i si (List.getElem?_eq_some_iff.mp hi').1 hsi)
      (holds j sj (List.getElem?_eq_some_iff.mp hj').1 hsj)

/-- slot `k` (holding `x`, stored in `s`) is given the annotations `xs'`, stored in `s'`, through a
    heap update within new arrays and, if the slot held annotations, the array of `s` -/
theorem AnnSim.replace {L : List (Option (List Ann))} {st : AnnStore} (hs : AnnSim L st) (k : Nat)
    (x : Option (List Ann)) (xs' : List Ann) (s s' : Slice) (hk : L[k]? = some x) (hsk : st.subs[k]? = some s)
    (anns' : Heap Ann) (hvalid : CapValidG anns' s') (hread : anns'.read s' = xs')
    (hfoot : (x.isSome = true ∧ s'.arr = s.arr) ∨ st.anns.arrays.length ≤ s'.arr)
    (hw : Within (fun b => x.isSome = true ∧ s.arr = b) st.anns anns') :
    AnnSim (L.set k (some xs')) { anns := anns', subs := st.subs.set k s' } := by
  have hkL : k < L.length := (List.getElem?_eq_some_iff.mp hk).1
  have hkS : k < st.subs.length := (List.getElem?_eq_some_iff.mp hsk).1
  have hLget := getElem?_set_of_lt hkL (some xs')
  have hSget := getElem?_set_of_lt hkS s'
  -- another alignment's slice is untouched
  have hother : ∀ (j : Nat) (xj : List Ann) (sj : Slice), j ≠ k → L[j]? = some (some xj) → st.subs[j]? = some sj →
      CapValidG anns' sj ∧ anns'.read sj = xj ∧ sj.arr ≠ s'.arr := by
    intro j xj sj hjk hj hsj
    obtain ⟨v, r⟩ := hs.read j xj sj hj hsj
    have hne : x.isSome = true → sj.arr ≠ s.arr := fun hx => by
      obtain ⟨xs, rfl⟩ := Option.isSome_iff_exists.mp hx
      exact hs.disj j k xj xs sj s hjk hj hk hsj hsk
    have hsame := hw.frame sj.arr (fun e => hne e.1 e.2.symm) v.1
    refine ⟨v.mono hw.size hsame, by rw [← r]; exact read_congr_arr _ _ _ hsame, ?_⟩
    rcases hfoot with ⟨hx, e⟩ | e
    · rw [e]; exact hne hx
    · have := v.1; omega
  refine ⟨by simp [hs.len], ?_, ?_⟩
  · intro j xj sj hj hsj
    simp only at hsj ⊢
    rw [hLget] at hj; rw [hSget] at hsj
    by_cases e : k = j
    · simp only [e, if_true, Option.some.injEq] at hj hsj
      subst hj; subst hsj
      exact ⟨hvalid, hread⟩
    · simp only [e, if_false] at hj hsj
      obtain ⟨a, b, _⟩ := hother j xj sj (Ne.symm e) hj hsj
      exact ⟨a, b⟩
  · intro i j xi xj si sj hij hi hj hsi hsj
    simp only at hsi hsj
    rw [hLget] at hi hj; rw [hSget] at hsi hsj
    by_cases ei : k = i
    · simp only [ei, if_true, Option.some.injEq] at hi hsi
      have ej : ¬ k = j := fun e => hij (ei.symm.trans e)
      simp only [ej, if_false] at hj hsj
      subst hsi
      exact (hother j xj sj (Ne.symm ej) hj hsj).2.2.symm
    · simp only [ei, if_false] at hi hsi
      by_cases ej : k = j
      · simp only [ej, if_true, Option.some.injEq] at hj hsj
        subst hsj
        exact (hother i xi si (Ne.symm ei) hi hsi).2.2
      · simp only [ej, if_false] at hj hsj
        exact hs.disj i j xi xj si sj hij hi hj hsi hsj

theorem AnnSim.update {L : List (Option (List Ann))} {st : AnnStore} (hs : AnnSim L st) (k : Nat)
    (xs xs' : List Ann) (s s' : Slice) (hk : L[k]? = some (some xs)) (hsk : st.subs[k]? = some s)
    (anns' : Heap Ann) (hvalid : CapValidG anns' s') (hread : anns'.read s' = xs')
    (hfoot : s'.arr = s.arr ∨ st.anns.arrays.length ≤ s'.arr)
    (hframe : ∀ b, b ≠ s.arr → b < st.anns.arrays.length → anns'.arr b = st.anns.arr b)
    (hsize : st.anns.arrays.length ≤ anns'.arrays.length) :
    AnnSim (L.set k (some xs')) { anns := anns', subs := st.subs.set k s' } :=
  hs.replace k (some xs) xs' s s' hk hsk anns' hvalid hread (hfoot.imp_left fun e => ⟨rfl, e⟩)
    ⟨hsize, fun b hb => hframe b fun e => hb ⟨rfl, e.symm⟩⟩

theorem AnnSim.modRow {L : List (Option (List Ann))} {st : AnnStore} (hs : AnnSim L st) (k : Nat)
    (xs : List Ann) (s : Slice) (hk : L[k]? = some (some xs)) (hsk : st.subs[k]? = some s) (r : Nat) (f : Ann → Ann) :
    AnnSim (L.set k (some (xs.modify r f))) { st with anns := modSlice st.anns s r f } := by
  obtain ⟨v, rd⟩ := hs.read k xs s hk hsk
  obtain ⟨m1, mw⟩ := modSlice_spec st.anns s r f v.1
  have hu := hs.update k xs (xs.modify r f) s s hk hsk (modSlice st.anns s r f) (v.writesOnly mw) (by rw [m1, rd])
    (Or.inl rfl) (fun b hb _ => mw.frame b (Ne.symm hb)) (Nat.le_of_eq mw.size.symm)
  rwa [set_getElem?_self st.subs k s hsk] at hu

theorem AnnSim.push {L : List (Option (List Ann))} {st : AnnStore} (hs : AnnSim L st) (xs : List Ann)
    (cap : Nat) :
    AnnSim (L ++ [some xs]) { anns := (st.anns.ofList xs cap zeroAnn).1,
                              subs := st.subs ++ [(st.anns.ofList xs cap zeroAnn).2] } := by
  obtain ⟨oarr, _, _, ovalid, oold, oread⟩ := ofList_factsG st.anns xs cap zeroAnn
  -- an empty slot is appended, then filled
  have h1 := hs.padNone 1
  have hpad : st.pad (L.length + 1) = { st with subs := st.subs ++ [Slice.nil] } := by
    simp only [AnnStore.pad, hs.len, Nat.add_sub_cancel_left]; rfl
  rw [hpad] at h1
  have h2 := h1.replace L.length none xs Slice.nil (st.anns.ofList xs cap zeroAnn).2
    (by rw [List.getElem?_append_right (Nat.le_refl _), Nat.sub_self]; rfl)
    (by rw [← hs.len, List.getElem?_append_right (Nat.le_refl _), Nat.sub_self]; rfl)
    (st.anns.ofList xs cap zeroAnn).1 ovalid oread (Or.inr (Nat.le_of_eq oarr.symm))
    (oold.within _)
  rw [List.set_append_right _ _ (Nat.le_refl _), Nat.sub_self] at h2
  simp only at h2
  rw [← hs.len, List.set_append_right _ _ (Nat.le_refl _), Nat.sub_self] at h2
  exact h2

theorem specSubs_length (cx : Ctx) (w : World) (op : Op) : (specSubs cx w op).length = (apply cx w op).1.objs.length := by
  rw [← apply_subs, List.length_map]

/-- **one operation**: with the fixed `Clone` the annotation storage keeps representing the
    value model's row annotations -/
theorem annSim_step (cx : Ctx) (w : World) (st : AnnStore) (hs : AnnSim (w.objs.map Obj.subs?) st) (op : Op) :
    AnnSim ((apply cx w op).1.objs.map Obj.subs?) (applyAnn false cx w st op) := by
  rw [apply_subs]
  have hlenL : (w.objs.map Obj.subs?).length = w.objs.length := List.length_map _
  -- `applyAnn` ends by padding to the number of objects, which a store representing the result has
  have hvia : ∀ (L' : List (Option (List Ann))) (st' : AnnStore), specSubs cx w op = L' →
      applyAnn false cx w st op = st'.pad (apply cx w op).1.objs.length → AnnSim L' st' →
      AnnSim (specSubs cx w op) (applyAnn false cx w st op) := by
    intro L' st' e1 e2 h'
    rw [e2, AnnStore.pad_noop _ _ (by rw [← specSubs_length, e1, h'.len]; exact Nat.le_refl _), e1]
    exact h'
  -- the operation does not concern the annotations
  have hsame : specSubs cx w op = w.objs.map Obj.subs? → applyAnn false cx w st op = st.pad (apply cx w op).1.objs.length →
      AnnSim (specSubs cx w op) (applyAnn false cx w st op) := fun e1 e2 => hvia _ st e1 e2 hs
  have hLk : ∀ (k : Nat) (o : Obj), w.objs[k]? = some o → (w.objs.map Obj.subs?)[k]? = some o.subs? := by
    intro k o hk; rw [List.getElem?_map, hk]; rfl
  cases op with
  | mkbuf cells extra => exact hsame rfl rfl
  | mutbuf b i c => exact hsame rfl rfl
  | revComp k => exact hsame rfl rfl
  | reverse k => exact hsame rfl rfl
  | set k r pos c => exact hsame rfl rfl
  | appendCols k bs => exact hsame rfl rfl
  | appendEach k bs => exact hsame rfl rfl
  | flush k wh fill => exact hsame rfl rfl
  | truncate k s e => exact hsame rfl rfl
  | subseq k s e =>
    have hsp : specSubs cx w (.subseq k s e) = w.objs.map Obj.subs? ++
        List.replicate ((apply cx w (.subseq k s e)).1.objs.length - w.objs.length) none := rfl
    have hle : w.objs.length ≤ (apply cx w (.subseq k s e)).1.objs.length := by
      have := specSubs_length cx w (.subseq k s e)
      rw [hsp, List.length_append, List.length_map, List.length_replicate] at this
      omega
    have hap : applyAnn false cx w st (.subseq k s e) = st.pad (apply cx w (.subseq k s e)).1.objs.length := rfl
    rw [hap, hsp]
    have := hs.padNone ((apply cx w (.subseq k s e)).1.objs.length - w.objs.length)
    rw [hlenL] at this
    have e2 : w.objs.length + ((apply cx w (.subseq k s e)).1.objs.length - w.objs.length)
        = (apply cx w (.subseq k s e)).1.objs.length := by omega
    rw [e2] at this
    exact this
  | clone k =>
    cases hk : w.objs[k]? with
    | none => exact hsame (by simp only [specSubs, hk]) (by simp only [applyAnn, hk])
    | some o =>
      have hlenA : (apply cx w (.clone k)).1.objs.length = (specSubs cx w (.clone k)).length :=
        (specSubs_length cx w (.clone k)).symm
      cases o with
      | set m => exact hsame (by simp only [specSubs, hk]) (by simp only [applyAnn, hk])
      | lin l | multi m =>
        have hsp : specSubs cx w (.clone k) = w.objs.map Obj.subs? ++ List.replicate 1 none := by
          simp only [specSubs, hk]; rfl
        have hap : applyAnn false cx w st (.clone k) = st.pad (apply cx w (.clone k)).1.objs.length := by
          simp only [applyAnn, hk]
        rw [hap, hlenA, hsp]
        have := hs.padNone 1
        simpa using this
      | aln a =>
        obtain ⟨s, hsk⟩ := hs.slice_of (hLk k _ hk)
        obtain ⟨v, r⟩ := hs.read k a.subs s (hLk k _ hk) hsk
        have hsp : specSubs cx w (.clone k) = w.objs.map Obj.subs? ++ [some a.subs] := by
          simp only [specSubs, hk]
        have hap : applyAnn false cx w st (.clone k) =
            ({ anns := (st.anns.ofList (st.anns.read s) (cx.grow 0 s.len) zeroAnn).1,
               subs := st.subs ++ [(st.anns.ofList (st.anns.read s) (cx.grow 0 s.len) zeroAnn).2] } : AnnStore).pad
              (apply cx w (.clone k)).1.objs.length := by
          simp only [applyAnn, hk, hsk, Bool.false_eq_true, if_false]
        refine hvia _ _ hsp hap ?_
        rw [r]
        exact hs.push a.subs _
  | rowRevComp k r | rowReverse k r =>
    cases hk : w.objs[k]? with
    | none => exact hsame (by simp only [specSubs, hk]) (by simp only [applyAnn, hk])
    | some o =>
      cases o with
      | aln a =>
        obtain ⟨s, hsk⟩ := hs.slice_of (hLk k _ hk)
        by_cases hp : r < a.rows
        · simp only [specSubs, applyAnn, hk, hsk, hp, if_true]
          rw [AnnStore.pad_noop _ _ (by rw [← specSubs_length]; simp [specSubs, hk, hp, hs.len])]
          exact hs.modRow k a.subs s (hLk k _ hk) hsk r _
        · exact hsame (by simp only [specSubs, hk, hp, if_false]) (by simp only [applyAnn, hk, hsk, hp, if_false])
      | _ => exact hsame (by simp only [specSubs, hk]) (by simp only [applyAnn, hk])
  | delete k i =>
    cases hk : w.objs[k]? with
    | none => exact hsame (by simp only [specSubs, hk]) (by simp only [applyAnn, hk])
    | some o =>
      cases o with
      | lin l | multi m | set m => exact hsame (by simp only [specSubs, hk]) (by simp only [applyAnn, hk])
      | aln a =>
        obtain ⟨s, hsk⟩ := hs.slice_of (hLk k _ hk)
        by_cases hp : i < a.rows
        · obtain ⟨v, rd⟩ := hs.read k a.subs s (hLk k _ hk) hsk
          have hsp : specSubs cx w (.delete k i)
              = (w.objs.map Obj.subs?).set k (some (a.subs.eraseIdx i)) := by
            simp only [specSubs, hk, hp, if_true]
          have hap : applyAnn false cx w st (.delete k i) =
              ({ anns := (delSlice st.anns s i).1, subs := st.subs.set k (delSlice st.anns s i).2 } : AnnStore).pad
                (apply cx w (.delete k i)).1.objs.length := by
            simp only [applyAnn, hk, hsk, hp, if_true]
          refine hvia _ _ hsp hap ?_
          by_cases hin : i < s.len
          · obtain ⟨d1, d2, d3, dw⟩ := delSlice_spec st.anns s i v hin
            exact hs.update k a.subs (a.subs.eraseIdx i) s _ (hLk k _ hk) hsk _ d2 (by rw [d1, rd]) (Or.inl d3)
              (fun b hb _ => dw.frame b (Ne.symm hb)) (Nat.le_of_eq dw.size.symm)
          · -- fewer annotations than rows: nothing is erased
            rw [delSlice_of_le st.anns s i (Nat.le_of_not_lt hin)]
            exact hs.update k a.subs (a.subs.eraseIdx i) s s (hLk k _ hk) hsk st.anns v
              (by rw [rd, List.eraseIdx_of_length_le (by rw [← rd, v.length_read]; exact Nat.le_of_not_lt hin)]) (Or.inl rfl)
              (fun _ _ _ => rfl) (Nat.le_refl _)
        · exact hsame (by simp only [specSubs, hk, hp, if_false]) (by simp only [applyAnn, hk, hsk, hp, if_false])
  | add k seqs =>
    cases hk : w.objs[k]? with
    | none => exact hsame (by simp only [specSubs, hk]) (by simp only [applyAnn, hk])
    | some o =>
      cases o with
      | lin l | multi m | set m => exact hsame (by simp only [specSubs, hk]) (by simp only [applyAnn, hk])
      | aln a =>
        obtain ⟨s, hsk⟩ := hs.slice_of (hLk k _ hk)
        obtain ⟨v, rd⟩ := hs.read k a.subs s (hLk k _ hk) hsk
        have hsp : specSubs cx w (.add k seqs)
            = (w.objs.map Obj.subs?).set k (some (a.subs ++ seqs.map annOfSpec)) := by
          simp only [specSubs, hk]
        have hap : applyAnn false cx w st (.add k seqs) =
            ({ anns := (appendAnns cx.grow st.anns s (seqs.map annOfSpec)).1,
               subs := st.subs.set k (appendAnns cx.grow st.anns s (seqs.map annOfSpec)).2 } : AnnStore).pad
              (apply cx w (.add k seqs)).1.objs.length := by
          simp only [applyAnn, hk, hsk]; rfl
        refine hvia _ _ hsp hap ?_
        obtain ⟨a1, a2, a3, aw⟩ := appendAnns_spec cx.grow (seqs.map annOfSpec) st.anns s v
        exact hs.update k a.subs _ s _ (hLk k _ hk) hsk _ a2 (by rw [a1, rd]) a3
          (fun b hb hbl => aw.frame b (Ne.symm hb) hbl) aw.size

theorem initAnn_fold_sim : ∀ (objs : List Obj) (L : List (Option (List Ann))) (st : AnnStore), AnnSim L st →
    AnnSim (L ++ objs.map Obj.subs?)
      (objs.foldl (fun (st : AnnStore) o =>
        match o with
        | .aln a => { anns := (st.anns.ofList a.subs a.subs.length zeroAnn).1,
                      subs := st.subs ++ [(st.anns.ofList a.subs a.subs.length zeroAnn).2] }
        | _ => { st with subs := st.subs ++ [Slice.nil] }) st) := by
  intro objs
  induction objs with
  | nil => intro L st hs; simpa using hs
  | cons o os ih =>
    intro L st hs
    simp only [List.foldl_cons, List.map_cons]
    rw [show L ++ o.subs? :: os.map Obj.subs? = (L ++ [o.subs?]) ++ os.map Obj.subs? by simp]
    apply ih
    cases o with
    | aln a => exact hs.push a.subs _
    | lin l | multi m | set m =>
      have := hs.padNone 1
      simp only [AnnStore.pad, hs.len] at this
      simpa [Obj.subs?] using this

theorem initAnn_sim (w : World) : AnnSim (w.objs.map Obj.subs?) (initAnn w) := by
  have h0 : AnnSim [] (⟨Heap.empty, []⟩ : AnnStore) :=
    ⟨rfl, fun k xs s hk => by simp at hk, fun i j xi xj si sj _ hi => by simp at hi⟩
  have := initAnn_fold_sim w.objs [] _ h0
  simp only [List.nil_append] at this
  exact this

theorem zipIdx_map_eq {α β : Type} (l : List α) (f : α × Nat → β) (g : α → β)
    (hfg : ∀ (k : Nat) (x : α), l[k]? = some x → f (x, k) = g x) : l.zipIdx.map f = l.map g := by
  apply List.ext_getElem?
  intro k
  rw [List.getElem?_map, List.getElem?_map, List.getElem?_zipIdx]
  cases hk : l[k]? with
  | none => rfl
  | some x => simp only [Option.map_some, Nat.zero_add]; rw [hfg k x hk]

/-- **reading the row annotations from the heap gives the observation of the value model** -/
theorem viewA_eq_view (cx : Ctx) (w : World) (st : AnnStore) (hs : AnnSim (w.objs.map Obj.subs?) st) :
    viewA cx w st = w.view cx := by
  simp only [viewA, World.view]
  apply zipIdx_map_eq
  intro k o hk
  simp only
  cases o with
  | aln a =>
    have hL : (w.objs.map Obj.subs?)[k]? = some (some a.subs) := by rw [List.getElem?_map, hk]; rfl
    obtain ⟨s, hsk⟩ := hs.slice_of hL
    obtain ⟨_, rd⟩ := hs.read k a.subs s hL hsk
    have : st.subs.getD k Slice.nil = s := by
      simp only [List.getD_eq_getElem?_getD, hsk, Option.getD_some]
    rw [this, rd]
    rfl
  | lin l | multi m | set m => rfl

def runOpsA (pinned : Bool) (cx : Ctx) (ws : World × AnnStore) (ops : List Op) : World × AnnStore :=
  ops.foldl (fun ws op => ((apply cx ws.1 op).1, applyAnn pinned cx ws.1 ws.2 op)) ws

theorem runOpsA_sim (cx : Ctx) (ops : List Op) : ∀ (w : World) (st : AnnStore), AnnSim (w.objs.map Obj.subs?) st →
    (runOpsA false cx (w, st) ops).1 = runOps cx w ops ∧
    AnnSim ((runOps cx w ops).objs.map Obj.subs?) (runOpsA false cx (w, st) ops).2 := by
  induction ops with
  | nil => intro w st hs; exact ⟨rfl, hs⟩
  | cons op ops ih =>
    intro w st hs
    exact ih (apply cx w op).1 (applyAnn false cx w st op) (annSim_step cx w st hs op)

theorem runHistoryA_fold (cx : Ctx) : ∀ (ops : List Op) (w : World) (st : AnnStore) (acc : List (String × List ObjV)),
    AnnSim (w.objs.map Obj.subs?) st →
    (ops.foldl (fun (acc : (World × AnnStore) × List (String × List ObjV)) op =>
      (((apply cx acc.1.1 op).1, applyAnn false cx acc.1.1 acc.1.2 op),
       acc.2 ++ [((apply cx acc.1.1 op).2, viewA cx (apply cx acc.1.1 op).1 (applyAnn false cx acc.1.1 acc.1.2 op))]))
      ((w, st), acc)).2
    = (ops.foldl (fun (st : World × List (String × List ObjV)) op =>
        ((apply cx st.1 op).1, st.2 ++ [((apply cx st.1 op).2, (apply cx st.1 op).1.view cx)])) (w, acc)).2 := by
  intro ops
  induction ops with
  | nil => intro w st acc _; rfl
  | cons op ops ih =>
    intro w st acc hs
    simp only [List.foldl_cons]
    have hs' := annSim_step cx w st hs op
    rw [viewA_eq_view cx _ _ hs']
    exact ih _ _ _ hs'

/-- **the function the driver executes** (`runHistoryA false`: row annotations stored in slices on
    a heap, `Clone` as fixed) **reports exactly the observations of the value model** -/
theorem runHistoryA_eq (cx : Ctx) (w : World) (ops : List Op) :
    runHistoryA false cx w ops = runHistory cx w ops := by
  have hs := initAnn_sim w
  simp only [runHistoryA, runHistory]
  rw [viewA_eq_view cx w _ hs]
  exact runHistoryA_fold cx ops w (initAnn w) _ hs

end Biogo.Containers
