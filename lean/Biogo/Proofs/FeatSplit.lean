/-
`bytes.Split` / `bytes.SplitN` undo `bytes.Join` on separator-free fields.
-/
import Biogo.Go.BytesFeat

namespace Biogo.BytesFeat

theorem splitOn_nosep (sep : UInt8) (p : Bytes) (h : sep ∉ p) : splitOn sep p = [p] := by
  induction p with
  | nil => simp [splitOn]
  | cons c r ih =>
    have hc : (c == sep) = false := beq_false_of_ne (List.ne_of_not_mem_cons h).symm
    have hr : sep ∉ r := List.not_mem_of_not_mem_cons h
    rw [splitOn]; simp [hc, ih hr]

theorem splitOn_field (sep : UInt8) (p rest : Bytes) (h : sep ∉ p) :
    splitOn sep (p ++ sep :: rest) = p :: splitOn sep rest := by
  induction p with
  | nil => rw [List.nil_append, splitOn]; simp
  | cons c r ih =>
    have hc : (c == sep) = false := beq_false_of_ne (List.ne_of_not_mem_cons h).symm
    have hr : sep ∉ r := List.not_mem_of_not_mem_cons h
    rw [List.cons_append, splitOn]; simp [hc, ih hr]

theorem splitOn_joinWith (sep : UInt8) (fs : List Bytes) (hne : fs ≠ []) (h : ∀ f ∈ fs, sep ∉ f) :
    splitOn sep (joinWith sep fs) = fs := by
  induction fs with
  | nil => exact absurd rfl hne
  | cons p ps ih =>
    cases ps with
    | nil => simp [joinWith, splitOn_nosep sep p (h p (by simp))]
    | cons q qs =>
      rw [joinWith, splitOn_field sep p _ (h p (by simp)), ih (by simp) (fun f hf => h f (List.mem_cons_of_mem _ hf))]

theorem splitOn_ne_nil (sep : UInt8) (s : Bytes) : splitOn sep s ≠ [] := by
  cases s with
  | nil => simp [splitOn]
  | cons c r =>
    rw [splitOn]
    split
    · simp
    · split <;> simp

theorem splitOn_cons_ne (sep c : UInt8) (r : Bytes) (h : c ≠ sep) :
    ∃ p ps, splitOn sep r = p :: ps ∧ splitOn sep (c :: r) = (c :: p) :: ps := by
  obtain ⟨p, ps, hs⟩ := List.exists_cons_of_ne_nil (splitOn_ne_nil sep r)
  exact ⟨p, ps, hs, by rw [splitOn]; simp [beq_false_of_ne h, hs]⟩

theorem splitOn_concat (sep c : UInt8) (hc : c ≠ sep) (s : Bytes) :
    ∃ init last, splitOn sep s = init ++ [last] ∧ splitOn sep (s ++ [c]) = init ++ [last ++ [c]] := by
  induction s with
  | nil => exact ⟨[], [], rfl, by simp [splitOn, beq_false_of_ne hc]⟩
  | cons d r ih =>
    obtain ⟨init, last, h1, h2⟩ := ih
    by_cases hd : d = sep
    · subst hd
      exact ⟨[] :: init, last, by rw [splitOn, h1]; simp, by rw [List.cons_append, splitOn, h2]; simp⟩
    · have hd' : (d == sep) = false := beq_false_of_ne hd
      cases init with
      | nil => exact ⟨[], d :: last, by rw [splitOn, h1]; simp [hd'], by rw [List.cons_append, splitOn, h2]; simp [hd']⟩
      | cons i is =>
        exact ⟨(d :: i) :: is, last, by rw [splitOn, h1]; simp [hd'], by rw [List.cons_append, splitOn, h2]; simp [hd']⟩

theorem splitN_one (sep : UInt8) (s : Bytes) : splitN sep 1 s = [s] := by
  cases s <;> simp [splitN]

theorem splitN_nosep (sep : UInt8) (k : Nat) (hk : 1 ≤ k) (p : Bytes) (h : sep ∉ p) : splitN sep k p = [p] := by
  match k, hk with
  | 1, _ => exact splitN_one sep p
  | n + 2, _ =>
    induction p with
    | nil => simp [splitN]
    | cons c r ih =>
      have hc : (c == sep) = false := beq_false_of_ne (List.ne_of_not_mem_cons h).symm
      have hr : sep ∉ r := List.not_mem_of_not_mem_cons h
      rw [splitN]; simp [hc, ih hr]

theorem splitN_field (sep : UInt8) (n : Nat) (p rest : Bytes) (h : sep ∉ p) :
    splitN sep (n + 2) (p ++ sep :: rest) = p :: splitN sep (n + 1) rest := by
  induction p with
  | nil => rw [List.nil_append, splitN]; simp
  | cons c r ih =>
    have hc : (c == sep) = false := beq_false_of_ne (List.ne_of_not_mem_cons h).symm
    have hr : sep ∉ r := List.not_mem_of_not_mem_cons h
    rw [List.cons_append, splitN]; simp [hc, ih hr]

theorem splitN_joinWith (sep : UInt8) (fs : List Bytes) (hne : fs ≠ []) (h : ∀ f ∈ fs, sep ∉ f) :
    ∀ k, 1 ≤ k → splitN sep k (joinWith sep fs) =
      if fs.length ≤ k then fs else fs.take (k - 1) ++ [joinWith sep (fs.drop (k - 1))] := by
  induction fs with
  | nil => exact absurd rfl hne
  | cons p ps ih =>
    intro k hk
    cases ps with
    | nil =>
      have : ([p] : List Bytes).length ≤ k := by simpa using hk
      simp only [joinWith, this, if_true]
      exact splitN_nosep sep k hk p (h p (by simp))
    | cons q qs =>
      match k, hk with
      | 1, _ =>
        simp [splitN_one]
      | n + 2, _ =>
        rw [joinWith, splitN_field sep n p _ (h p (by simp)),
          ih (by simp) (fun f hf => h f (List.mem_cons_of_mem _ hf)) (n + 1) (by omega)]
        by_cases hl : (q :: qs).length ≤ n + 1
        · have : (p :: q :: qs).length ≤ n + 2 := by simp at hl ⊢; omega
          rw [if_pos hl, if_pos this]
        · have : ¬ (p :: q :: qs).length ≤ n + 2 := by simp at hl ⊢; omega
          rw [if_neg hl, if_neg this]
          simp

theorem splitN_joinWith_get (sep : UInt8) (fs : List Bytes) (h : ∀ f ∈ fs, sep ∉ f) (m : Nat)
    (hm : m ≤ fs.length) (hm1 : 1 ≤ m) :
    m ≤ (splitN sep (m + 1) (joinWith sep fs)).length ∧
    ∀ i, i < m → (splitN sep (m + 1) (joinWith sep fs))[i]? = fs[i]? := by
  have hne : fs ≠ [] := by intro e; subst e; simp at hm; omega
  rw [splitN_joinWith sep fs hne h (m + 1) (by omega)]
  split
  · exact ⟨hm, fun _ _ => rfl⟩
  · refine ⟨by simp; omega, ?_⟩
    intro i hi
    simp only [Nat.add_sub_cancel]
    rw [List.getElem?_append_left (by simp; omega), List.getElem?_take_of_lt hi]

end Biogo.BytesFeat
