/-
Helper lemmas for C20: assignments to a feature of a location chain between two queries
(`Feat.chainApply`: another orientation, another start) and what they do to the closed forms
`orientProduct`, `runRef`, `startSum`, `lastId`.  Core-only.
-/
import Biogo.Model.Feat
import Biogo.Model.Gene
import Biogo.Spec.Gene
import Biogo.Proofs.Feat

namespace Biogo.Proofs.FeatChain
open Biogo.Feat Biogo.Gene Biogo.Spec.Gene Biogo.Proofs.Feat

theorem modifyAt_eq_modify (f : Node → Node) (k : Nat) (c : Chain) : modifyAt f k c = c.modify k f := by
  induction c generalizing k with
  | nil => cases k <;> rfl
  | cons x rest ih =>
    cases k with
    | zero => rfl
    | succ k => rw [modifyAt, List.modify_succ_cons, ih]

theorem modifyAt_length (f : Node → Node) : ∀ (k : Nat) (c : Chain), (modifyAt f k c).length = c.length :=
  fun k c => by rw [modifyAt_eq_modify, List.length_modify]

theorem modifyAt_beyond (f : Node → Node) : ∀ (k : Nat) (c : Chain), c.length ≤ k → modifyAt f k c = c :=
  fun k c h => by rw [modifyAt_eq_modify, List.modify_eq_self h]

theorem modifyAt_split (f : Node → Node) : ∀ (pre : List Node) (x : Node) (rest : Chain),
    modifyAt f pre.length (pre ++ x :: rest) = pre ++ f x :: rest
  | [], _, _ => rfl
  | a :: pre, x, rest => by
    simp only [List.length_cons, List.cons_append, modifyAt, modifyAt_split f pre x rest]

theorem length_replace (pre : List Node) (x x' : Node) (rest : Chain) :
    (pre ++ x' :: rest).length = (pre ++ x :: rest).length := by
  simp only [List.length_append, List.length_cons]

theorem chainApply_cons (n : Node) (l : Chain) (op : ChainOp) :
    (chainApply (n :: l) op).headD n :: (chainApply (n :: l) op).tail = chainApply (n :: l) op := by
  cases op with
  | orient k o => cases k <;> simp [chainApply, modifyAt]
  | move k s => cases k <;> simp [chainApply, modifyAt]

theorem setOrient_id (x : Node) (o : Int) : (x.setOrient o).id = x.id := by
  unfold Node.setOrient; cases x.orient <;> rfl

theorem setOrient_start (x : Node) (o : Int) : (x.setOrient o).start = x.start := by
  unfold Node.setOrient; cases x.orient <;> rfl

theorem setOrient_neg (x : Node) (hx : x.oriented = true) :
    (x.setOrient (-x.ori)).oriented = true ∧ (x.setOrient (-x.ori)).ori = -x.ori := by
  unfold Node.oriented Node.ori Node.setOrient at *
  cases ho : x.orient with
  | none => rw [ho] at hx; simp at hx
  | some o =>
    rw [ho] at hx
    simp only [Option.getD_some, bne_iff_ne, ne_eq] at hx ⊢
    exact ⟨by omega, trivial⟩

/-- orientations on the chain are `Forward`, `Reverse` or `NotOriented` (`feat.Orientation` is an
    `int8`; the three constants are the legal values) -/
def ValidOrients (c : Chain) : Prop := ∀ x ∈ c, x.oriented = true → x.ori = 1 ∨ x.ori = -1

theorem orientProduct_pm_one (c : Chain) (hv : ValidOrients c) :
    orientProduct c = 1 ∨ orientProduct c = -1 := by
  induction c with
  | nil => exact Or.inl rfl
  | cons x rest ih =>
    unfold orientProduct
    by_cases hx : x.oriented = true
    · -- a product of two of `1`, `-1`
      rw [if_pos hx]
      have ih := ih (fun y hy => hv y (List.mem_cons_of_mem _ hy))
      rcases hv x (List.mem_cons_self ..) hx with h1 | h1 <;> rcases ih with h2 | h2 <;>
        rw [h1, h2] <;> decide
    · rw [if_neg hx]; exact Or.inl rfl

theorem orientProduct_flip (pre : List Node) (x : Node) (rest : Chain)
    (hpre : ∀ y ∈ pre, y.oriented = true) (hx : x.oriented = true) :
    orientProduct (pre ++ x.setOrient (-x.ori) :: rest) = -orientProduct (pre ++ x :: rest) := by
  induction pre with
  | nil =>
    obtain ⟨h1, h2⟩ := setOrient_neg x hx
    simp only [List.nil_append, orientProduct, h1, hx, if_true, h2, Int.neg_mul]
  | cons a pre ih =>
    have ha : a.oriented = true := hpre a (List.mem_cons_self ..)
    simp only [List.cons_append, orientProduct, ha, if_true,
      ih (fun y hy => hpre y (List.mem_cons_of_mem _ hy)), Int.mul_neg]

theorem runRef_setOrient (x : Node) (o : Int) (rest : Chain) :
    runRef (x.setOrient o) rest = runRef x rest := by
  cases rest with
  | nil => exact setOrient_id x o
  | cons y rest => rfl

theorem runRef_flip_above (a : Node) (pre : List Node) (x : Node) (rest : Chain) (hx : x.oriented = true) :
    runRef a (pre ++ x.setOrient (-x.ori) :: rest) = runRef a (pre ++ x :: rest) := by
  induction pre generalizing a with
  | nil =>
    simp only [List.nil_append, runRef, hx, (setOrient_neg x hx).1, if_true, runRef_setOrient]
  | cons b pre ih => simp only [List.cons_append, runRef, ih b]

theorem baseOrientSpec_flip (pre : List Node) (x : Node) (rest : Chain)
    (hpre : ∀ y ∈ pre, y.oriented = true) (hx : x.oriented = true) :
    ∃ r, baseOrientSpec (pre ++ x :: rest) = some (orientProduct (pre ++ x :: rest), r) ∧
      baseOrientSpec (pre ++ x.setOrient (-x.ori) :: rest) =
        some (-orientProduct (pre ++ x :: rest), r) := by
  rw [← orientProduct_flip pre x rest hpre hx]
  cases pre with
  | nil =>
    refine ⟨runRef x rest, ?_, ?_⟩
    · simp only [List.nil_append, baseOrientSpec, hx, if_true]
    · simp only [List.nil_append, baseOrientSpec, (setOrient_neg x hx).1, if_true, runRef_setOrient]
  | cons a pre =>
    have ha := hpre a (List.mem_cons_self ..)
    refine ⟨runRef a (pre ++ x :: rest), ?_, ?_⟩
    · simp only [List.cons_append, baseOrientSpec, ha, if_true]
    · simp only [List.cons_append, baseOrientSpec, ha, if_true, runRef_flip_above a pre x rest hx]

theorem startSum_setStart (pre : List Node) (x : Node) (rest : Chain) (s : Int) :
    startSum (pre ++ x.setStart s :: rest) = startSum (pre ++ x :: rest) + (s - x.start) := by
  rw [startSum_append, startSum_append]
  simp only [startSum, Node.setStart]
  omega

theorem lastId_head (x x' : Node) (rest : Chain) (h : x'.id = x.id) : lastId x' rest = lastId x rest := by
  cases rest <;> simp [lastId, h]

end Biogo.Proofs.FeatChain
