/-
What a `ReadLine` loop that joins `isPrefix` fragments makes of an input — `Biogo.Spec.Bufio.lineInput`
for a buffer of `size` bytes, `Biogo.Go.Bytes.readLineInput` at the 4096 bytes of `bufio.NewReader` —
in terms of `splitParts`: the terminated lines, and what follows the last LF, as one more line
or as the fragments pending at the final error.
-/
import Biogo.Proofs.Bytes
import Biogo.Spec.Bufio

namespace Biogo.Go.Bufio
open Biogo.Spec.Bufio (lineInput endsPending endsPendingAux)
open Biogo.Go.Bytes (splitLines splitParts optLine splitLinesAux_parts splitParts_final)

theorem lineInput_parts (size : Nat) (e : Bool) (bs : Bytes) :
    lineInput size e bs =
      (if !e && !(splitParts bs []).2.isEmpty && endsPending size (splitParts bs []).2
       then ((splitParts bs []).1, (splitParts bs []).2)
       else ((splitParts bs []).1 ++ optLine (splitParts bs []).2, [])) := by
  have hsl : splitLines bs = (splitParts bs []).1 ++ optLine (splitParts bs []).2 := splitLinesAux_parts bs []
  have hfin := splitParts_final bs []
  unfold lineInput
  simp only [hsl]
  cases e with
  | true => simp
  | false =>
    simp only [Bool.false_eq_true, if_false, Bool.not_false, Bool.true_and]
    by_cases hf : (splitParts bs []).2 = []
    · -- nothing after the last LF: the input is empty or ends in LF
      simp only [hf, List.isEmpty_nil, Bool.not_true, Bool.false_and, Bool.false_eq_true, if_false, optLine,
        if_true, List.append_nil]
      rcases hfin.mp hf with ⟨rfl, _⟩ | hl
      · simp
      · rw [hl]
        cases (splitParts bs []).1.getLast? <;> simp
    · have hne : bs.getLast? ≠ some 10 := fun h => hf (hfin.mpr (.inr h))
      have hbs : bs ≠ [] := fun h => hf (hfin.mpr (.inl ⟨h, rfl⟩))
      have hopt : optLine (splitParts bs []).2 = [(splitParts bs []).2] := by simp [optLine, hf]
      have hfe : (splitParts bs []).2.isEmpty = false := by simp [hf]
      cases hb : bs.getLast? with
      | none => exact absurd (List.getLast?_eq_none_iff.mp hb) hbs
      | some b =>
        have hb10 : (b != 10) = true := by
          simp only [bne_iff_ne, ne_eq]; intro h; subst h; exact hne hb
        simp [hopt, hb10, hfe]

theorem endsPendingAux_default (fuel : Nat) (l : Bytes) :
    endsPendingAux 4096 fuel l = Biogo.Go.Bytes.endsPendingAux fuel l := by
  induction fuel generalizing l with
  | zero => rfl
  | succ f ih =>
    simp only [endsPendingAux, Biogo.Go.Bytes.endsPendingAux, Biogo.Go.Bytes.bufSize, ih]
    rfl

/-- at `bufio.NewReader`'s buffer size `lineInput` is the `readLineInput` of the FASTA/FASTQ models -/
theorem lineInput_default (wd : Bool) (bs : Bytes) :
    lineInput 4096 wd bs = Biogo.Go.Bytes.readLineInput wd bs := by
  simp only [lineInput, Biogo.Go.Bytes.readLineInput, endsPending, Biogo.Go.Bytes.endsPending,
    Biogo.Go.Bytes.bufSize, endsPendingAux_default]
  rfl

end Biogo.Go.Bufio

namespace Biogo.Go.Bytes

/-- What `ReadLine` makes of the input: the terminated lines, and what follows the last LF —
    as one more line, or as the fragments pending at `io.EOF`. -/
theorem readLineInput_parts (e : Bool) (bs : Bytes) :
    readLineInput e bs =
      (if !e && !(splitParts bs []).2.isEmpty && endsPending (splitParts bs []).2
       then ((splitParts bs []).1, (splitParts bs []).2)
       else ((splitParts bs []).1 ++ optLine (splitParts bs []).2, [])) := by
  rw [← Biogo.Go.Bufio.lineInput_default, Biogo.Go.Bufio.lineInput_parts]
  simp only [Biogo.Spec.Bufio.endsPending, endsPending, bufSize, Biogo.Go.Bufio.endsPendingAux_default]
  rfl

theorem readLineInput_length (e : Bool) (bs : Bytes) : (readLineInput e bs).1.length ≤ lineCount bs := by
  rw [readLineInput_parts, lineCount, splitLines, splitLinesAux_parts]
  split <;> simp

end Biogo.Go.Bytes
