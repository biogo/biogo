/-
`ReadSlice` and `ReadLine` of the byte-level `bufio.Reader` model compute `Biogo.Spec.Bufio.sliceOf`
and `lineOf` of the undelivered stream, whatever the chunking of the underlying reads.
-/
import Biogo.Proofs.Bufio

namespace Biogo.Go.Bufio
open Biogo.Spec.Bufio (sliceOf lineOf)

theorem sliceOf_found {size : Nat} {delim : UInt8} {fin : Err} {early : Bool} {st : Bytes} {i : Nat}
    (h : indexByte (st.take size) delim = some i) :
    sliceOf size delim fin early st = (st.take (i + 1), none, st.drop (i + 1)) := by
  simp only [sliceOf, h]

theorem sliceOf_none {size : Nat} {delim : UInt8} {fin : Err} {early : Bool} {st : Bytes}
    (h : indexByte (st.take size) delim = none) :
    sliceOf size delim fin early st =
      if st.length < size ∨ (st.length = size ∧ early = true) then (st, some fin, [])
      else (st.take size, some .bufferFull, st.drop size) := by
  simp only [sliceOf, h]

/-- whether the final error comes with the last bytes matters only for a stream that fills the buffer exactly -/
theorem sliceOf_early {size : Nat} {delim : UInt8} {fin : Err} {st : Bytes} (e e' : Bool)
    (h : st.length ≠ size ∨ e = e') : sliceOf size delim fin e st = sliceOf size delim fin e' st := by
  rcases h with h | h
  · simp only [sliceOf, h, false_and]
  · rw [h]

/-- the result `res` of a call on `b` beside `spec`, the same call computed on the stream (`sliceOf`): fragment, error and
    rest agree, and the reader returned is again one between calls -/
structure SliceRes (b : Reader) (spec : Bytes × Option Err × Bytes) (res : Bytes × Option Err × Reader) : Prop where
  line_eq : res.1 = spec.1
  err_eq : res.2.1 = spec.2.1
  stream_eq : res.2.2.stream = spec.2.2
  inv : Inv res.2.2
  cfg : SameCfg b res.2.2
  /-- for `ReadLine`, which after `bufferFull` puts a final CR back: `r` can step back, and `LInv.wd` still holds -/
  full : res.2.1 = some .bufferFull → 1 ≤ res.2.2.r ∧ (b.src.withData = true → res.2.2.src.rest ≠ [])

theorem SliceRes.of_cfg {b b₁ : Reader} {spec : Bytes × Option Err × Bytes} {res : Bytes × Option Err × Reader}
    (hc : SameCfg b b₁) (h : SliceRes b₁ spec res) : SliceRes b spec res :=
  ⟨h.line_eq, h.err_eq, h.stream_eq, h.inv, hc.trans h.cfg, fun he => by rw [← hc.2.2.1]; exact h.full he⟩

/-- the search start of the loop is an optimisation: the bytes before it hold no delimiter -/
theorem readSliceLoop_start (delim : UInt8) (fuel : Nat) (b : Reader) {s : Nat} (hs : s ≤ b.data.length)
    (hpre : indexByte (b.data.take s) delim = none) : readSliceLoop delim fuel b s = readSliceLoop delim fuel b 0 := by
  have hidx : indexByte b.data delim = (indexByte (b.data.drop s) delim).map (· + s) := by
    conv => lhs; rw [← List.take_append_drop s b.data, indexByte_append, hpre]
    rw [List.length_take, Nat.min_eq_left hs]
  cases fuel with
  | zero => rfl
  | succ fuel =>
    simp only [readSliceLoop, List.drop_zero, hidx]
    cases indexByte (b.data.drop s) delim <;> rfl

/-- The loop of `ReadSlice`.  A pending error without `withData` has come by a separate empty read,
    after a search of the buffer that found nothing; each round that does not return adds a byte
    or makes the final error pending. -/
theorem readSliceLoop_spec (delim : UInt8) : ∀ (fuel : Nat) (b : Reader), LInv b →
    (b.err.isSome = true → b.src.withData = true ∨ indexByte b.data delim = none) →
    b.size - b.data.length + (if b.err.isSome = true then 0 else 1) < fuel →
    SliceRes b (sliceOf b.size delim b.src.fin (b.err.isSome || b.src.withData) b.stream)
      (readSliceLoop delim fuel b 0) := by
  intro fuel
  induction fuel with
  | zero => intro b _ _ hf; omega
  | succ fuel ih =>
    intro b hinv herr hf
    have hfits := hinv.fits
    have hlen : b.data.length ≤ b.size := by omega
    have htake : b.stream.take b.size = b.data ++ b.src.rest.take (b.size - b.data.length) := by
      rw [Reader.stream, List.take_append, List.take_of_length_le hlen]
    simp only [readSliceLoop, List.drop_zero, Nat.add_zero]
    cases hd : indexByte b.data delim with
    | some i =>
      have hi : i < b.data.length := indexByte_lt hd
      have hspec : indexByte (b.stream.take b.size) delim = some i := by rw [htake, indexByte_append, hd]
      rw [sliceOf_found hspec]
      refine ⟨(List.take_append_of_le_length (by omega)).symm, rfl, (List.drop_append_of_le_length (by omega)).symm,
        ⟨⟨hinv.size_ge, ?_, hinv.prog, hinv.fin_ne, hinv.err_fin, ?_, hinv.noPanic⟩, ?_⟩, SameCfg.refl _, nofun⟩
      · show b.r + i + 1 + (b.data.drop (i + 1)).length ≤ b.size
        rw [List.length_drop]; omega
      · exact fun hw hr => (hinv.wd hw hr).imp id fun h => by show b.data.drop _ = []; rw [h]; rfl
      · exact fun he => (herr he).resolve_right fun h => absurd (hd.symm.trans h) nofun
    | none =>
      dsimp only
      -- without a delimiter in the buffer a call that returns hands out all of it
      have hall : Inv { b with r := b.w, data := [], err := none } :=
        ⟨⟨hinv.size_ge, hfits, hinv.prog, hinv.fin_ne, nofun, fun _ _ => Or.inr rfl, hinv.noPanic⟩, nofun⟩
      cases he : b.err with
      | some e =>
        obtain ⟨hefin, hrest⟩ := hinv.err_fin e he
        have hstream : b.stream = b.data := by rw [Reader.stream, hrest, List.append_nil]
        have hspec : indexByte (b.stream.take b.size) delim = none := by
          rw [hstream, List.take_of_length_le hlen]; exact hd
        have hcond : b.stream.length < b.size ∨ (b.stream.length = b.size ∧ ((some e).isSome || b.src.withData) = true) := by
          rw [hstream]
          exact (Nat.lt_or_ge b.data.length b.size).imp id fun h => ⟨by omega, rfl⟩
        rw [sliceOf_none hspec, if_pos hcond]
        refine ⟨hstream.symm, congrArg some hefin, by show [] ++ b.src.rest = []; rw [hrest]; rfl,
          hall, SameCfg.refl _, fun h => absurd (hefin.symm.trans (Option.some.inj h)) hinv.fin_ne⟩
      | none =>
        by_cases hfull : b.buffered ≥ b.size
        · have hleq : b.data.length = b.size := Nat.le_antisymm hlen hfull
          have hspec : indexByte (b.stream.take b.size) delim = none := by
            rw [htake, hleq, Nat.sub_self, List.take_zero, List.append_nil]; exact hd
          have hcond : ¬ (b.stream.length < b.size ∨
              (b.stream.length = b.size ∧ ((none : Option Err).isSome || b.src.withData) = true)) := by
            rw [Reader.stream, List.length_append]
            rintro (h | ⟨h1, h2⟩)
            · omega
            · rcases hinv.wd h2 (List.eq_nil_of_length_eq_zero (by omega)) with h | h
              · rw [he] at h; exact absurd h nofun
              · have := hinv.size_ge; rw [h] at hleq; simp only [List.length_nil] at hleq; omega
          rw [if_pos hfull, sliceOf_none hspec, if_neg hcond]
          refine ⟨by rw [htake, hleq, Nat.sub_self, List.take_zero, List.append_nil],
            rfl, by show [] ++ b.src.rest = (b.data ++ b.src.rest).drop b.size; rw [← hleq, List.drop_left]; rfl,
            hall, SameCfg.refl _, fun _ => ⟨by show 1 ≤ b.r + b.data.length; have := hinv.size_ge; omega, fun hw hr => hcond ?_⟩⟩
          exact Or.inr ⟨by rw [Reader.stream, hr, List.append_nil]; exact hleq, hw⟩
        · have hlt : b.data.length < b.size := Nat.lt_of_not_le hfull
          obtain ⟨hinv', hcfg, hst, p, hdata, herr', hp⟩ := fill_linv b hinv he hlt
          rw [he] at hf
          simp only [Option.isSome_none, Bool.false_eq_true, ↓reduceIte] at hf
          have hres := ih (fill b) hinv'
            (fun h => (herr' h).imp (fun hw => hcfg.2.2.1 ▸ hw) fun h0 => by rw [hdata, h0, List.append_nil]; exact hd)
            (by
              rw [hcfg.1, hdata, List.length_append]
              by_cases h0 : p = []
              · rw [if_pos (hp h0).1, h0]; exact Nat.lt_of_succ_lt_succ hf
              · have := List.length_pos_iff.mpr h0
                split <;> omega)
          -- `fill` has not changed what `ReadSlice` is to return
          rw [hcfg.1, hcfg.2.2.1, hcfg.2.2.2, hst] at hres
          rw [if_neg hfull, sliceOf_early _ ((fill b).err.isSome || b.src.withData),
            readSliceLoop_start delim fuel (fill b) (by rw [hdata, List.length_append]; exact Nat.le_add_right _ _)
              (by rw [hdata]; show indexByte ((b.data ++ p).take b.data.length) delim = none; rw [List.take_left]; exact hd)]
          · exact hres.of_cfg hcfg
          · by_cases h0 : p = []
            · exact Or.inl (by rw [Reader.stream, (hp h0).2, List.append_nil]; omega)
            · refine Or.inr ?_
              cases hs : (fill b).err.isSome
              · rfl
              · rw [(herr' hs).resolve_right h0]; rfl

/-- **`ReadSlice` is a function of the stream**: for every buffer size, every split of the stream
    between buffer and underlying reader, every chunking. -/
theorem readSlice_spec (delim : UInt8) (b : Reader) (h : Inv b) :
    SliceRes b (sliceOf b.size delim b.src.fin b.src.withData b.stream) (readSlice delim b) := by
  have hl := readSliceLoop_spec delim (b.size - b.buffered + 2) b h.toLInv (fun he => Or.inl (h.err_wd he))
    (by simp only [Reader.buffered]; split <;> omega)
  have he : (b.err.isSome || b.src.withData) = b.src.withData := by
    cases hi : b.err.isSome
    · rfl
    · rw [h.err_wd hi]; rfl
  exact he ▸ hl

/-- `b` is a reader between calls with `st` still to deliver, configured as `b₀`: the form in which
    every method's result is passed on to the next call -/
structure Reads (b₀ : Reader) (st : Bytes) (b : Reader) : Prop where
  inv : Inv b
  cfg : SameCfg b₀ b
  stream : b.stream = st

theorem Reads.init {b : Reader} (h : Inv b) : Reads b b.stream b := ⟨h, SameCfg.refl b, rfl⟩

theorem Reads.size_ge {b₀ b : Reader} {st : Bytes} (h : Reads b₀ st b) : 2 ≤ b₀.size := h.cfg.1 ▸ h.inv.size_ge

theorem Reads.fin_ne {b₀ b : Reader} {st : Bytes} (h : Reads b₀ st b) : b₀.src.fin ≠ .bufferFull :=
  h.cfg.2.2.2 ▸ h.inv.fin_ne

theorem readSlice_reads {b₀ b : Reader} {st : Bytes} (delim : UInt8) (h : Reads b₀ st b) {frag st' : Bytes} {e : Option Err}
    (hsl : sliceOf b₀.size delim b₀.src.fin b₀.src.withData st = (frag, e, st')) :
    (readSlice delim b).1 = frag ∧ (readSlice delim b).2.1 = e ∧ Reads b₀ st' (readSlice delim b).2.2 := by
  have hres := readSlice_spec delim b h.inv
  rw [h.cfg.1, h.cfg.2.2.1, h.cfg.2.2.2, h.stream, hsl] at hres
  exact ⟨hres.line_eq, hres.err_eq, hres.inv, h.cfg.trans hres.cfg, hres.stream_eq⟩

/-- **`ReadLine` is a function of the stream.** -/
theorem readLine_spec {b₀ b : Reader} {st : Bytes} (h : Reads b₀ st b) :
    (readLine b).1 = (lineOf b₀.size b₀.src.fin b₀.src.withData st).1 ∧
    Reads b₀ (lineOf b₀.size b₀.src.fin b₀.src.withData st).2 (readLine b).2 := by
  have hs := readSlice_spec 10 b h.inv
  rw [h.cfg.1, h.cfg.2.2.1, h.cfg.2.2.2, h.stream] at hs
  simp only [readLine, lineOf, beq_iff_eq, Bool.and_eq_true, decide_eq_true_eq]
  generalize readSlice 10 b = res at hs
  obtain ⟨line, err, b'⟩ := res
  generalize sliceOf b₀.size 10 b₀.src.fin b₀.src.withData st = spec at hs
  obtain ⟨sl, se, st'⟩ := spec
  obtain ⟨h1, h2, h3, h4, h5, h6⟩ := hs
  simp only at h1 h2 h3 h4 h5 h6
  subst h1 h2
  simp only
  by_cases hfull : err = some .bufferFull
  · obtain ⟨hr, hrest⟩ := h6 hfull
    simp only [hfull, ↓reduceIte]
    by_cases hcr : line.getLast? = some 13
    · -- the CR is put back: there is room before `r`, and the source is not exhausted
      simp only [hcr, ↓reduceIte]
      have hfits := h4.fits
      refine ⟨trivial, ⟨⟨h4.size_ge, ?_, h4.prog, h4.fin_ne, h4.err_fin, ?_, ?_⟩, h4.err_wd⟩, h.cfg.trans h5, by rw [← h3]; rfl⟩
      · show b'.r - 1 + (b'.data.length + 1) ≤ b'.size
        omega
      · exact fun hw hr2 => absurd hr2 (hrest (h5.2.2.1 ▸ hw))
      · show (b'.panicked || b'.r == 0) = false
        rw [h4.noPanic, Bool.false_or, beq_eq_false_iff_ne]
        omega
    · simp only [hcr, ↓reduceIte]
      exact ⟨trivial, h4, h.cfg.trans h5, h3⟩
  · simp only [hfull, ↓reduceIte]
    by_cases hlen : line.length = 0
    · simp only [hlen, ↓reduceIte]
      exact ⟨trivial, h4, h.cfg.trans h5, h3⟩
    · simp only [hlen, ↓reduceIte]
      by_cases hlf : line.getLast? = some 10
      · simp only [hlf, ↓reduceIte]
        exact ⟨trivial, h4, h.cfg.trans h5, h3⟩
      · simp only [hlf, ↓reduceIte]
        exact ⟨trivial, h4, h.cfg.trans h5, h3⟩

end Biogo.Go.Bufio
