/-
C14: from the abstract run of the tube state machine (`Proofs/FilterRun.lean`) to `filter` on
the k-mer index of the target (`Proofs/Kmer*.lean`) and the q-gram lemma (`Proofs/Filter.lean`).
-/
import Biogo.Model.Filter
import Biogo.Spec.Filter
import Biogo.Proofs.Kmer
import Biogo.Proofs.KmerIndex
import Biogo.Proofs.Filter
import Biogo.Proofs.FilterRun

namespace Biogo.Proofs.FilterComplete
open Biogo.Filter Biogo.Kmer Biogo.Spec.Kmer Biogo.Spec.Filter
open Biogo.Proofs.Kmer Biogo.Proofs.KmerIndex Biogo.Proofs.Filter Biogo.Proofs.FilterRun

def wordFn (lk : Lookup) (k : Nat) (s : List UInt8) (p : Nat) : Nat := (wordAt lk k s p).getD 0

theorem wordFn_lt {lk : Lookup} (hlk : FourLetter lk) (k : Nat) (q : List UInt8) (p : Nat) : wordFn lk k q p < 4 ^ k := by
  unfold wordFn
  cases h : wordAt lk k q p with
  | none => exact four_pow_pos k
  | some w => exact wordOf_some_lt hlk k _ _ h

theorem query_calls_any {lk : Lookup} (hlk : FourLetter lk) (k : Nat) (hk : 1 ≤ k) (hk2 : 2 * k ≤ wordBits)
    (q : List UInt8) :
    (forEachKmer lk k q 0 q.length).calls =
      (List.range (q.length + 1 - k)).filterMap fun p => (wordAt lk k q p).map fun w => (p, w) := by
  rw [forEachKmer_whole hlk k hk hk2]
  unfold allWindows
  rw [wordsFrom_eq_range lk k hk q 0]
  apply filterMap_congr
  intro j _
  simp [wordAt]

/-- the callback reads the positions `KmerPositions` returns -/
theorem kmerPositions_eq_targetPositions (ix : Index) (w : Nat) (hw : w ≤ kMask ix.k) :
    kmerPositions ix w = .ok (targetPositions ix w) := by
  unfold kmerPositions targetPositions
  rw [if_neg (Nat.not_lt.mpr hw)]
  simp only []
  generalize (if w > 0 then rd ix.finger (w - 1) else 0) = i
  by_cases h : i = rd ix.finger w
  · rw [if_pos h, ← h, Array.extract_empty_of_stop_le_start (Nat.le_refl _)]
  · rw [if_neg h]

/-- the k-mer index of the target as `New` + `Build` produce it -/
def builtIndex (lk : Lookup) (k : Nat) (t : List UInt8) : Index :=
  build lk { k, seq := t, finger := buildTable k (forEachKmer lk k t 0 t.length).calls, pos := #[], indexed := false }

theorem builtIndex_k (lk : Lookup) (k : Nat) (t : List UInt8) : (builtIndex lk k t).k = k := rfl
theorem builtIndex_seq (lk : Lookup) (k : Nat) (t : List UInt8) : (builtIndex lk k t).seq = t := rfl

theorem targetPositions_builtIndex {lk : Lookup} (hlk : FourLetter lk) (k : Nat) (hk1 : 1 ≤ k) (hk2 : 2 * k ≤ wordBits)
    (t : List UInt8) (hs : k ≤ t.length) (w : Nat) (hw : w < 4 ^ k) :
    targetPositions (builtIndex lk k t) w = occurrences lk k t w := by
  have h := kmerPositions_of_inv _ k hk2 (builtIndex lk k t) rfl
    (build_inv hlk k hk1 hk2 t hs _ rfl rfl (new_finger hlk k hk1 hk2 t)) w hw
  rw [kmerPositions_eq_targetPositions _ w (by rw [builtIndex_k, kMask_eq k hk2]; omega)] at h
  exact Except.ok.inj h

theorem mem_targetPositions {lk : Lookup} (hlk : FourLetter lk) (k : Nat) (hk1 : 1 ≤ k) (hk2 : 2 * k ≤ wordBits)
    (t : List UInt8) (hs : k ≤ t.length) (w : Nat) (hw : w < 4 ^ k) (x : Nat) :
    x ∈ targetPositions (builtIndex lk k t) w ↔ wordAt lk k t x = some w := by
  rw [targetPositions_builtIndex hlk k hk1 hk2 t hs w hw, mem_occurrences lk k hk1]

/-! ### the scan on the plain occurrences of the target

`build` fills two arrays by hundreds of single updates, which the kernel evaluates slowly; what the
scan reads from them is `occurrences`, which it evaluates at once.  Test vectors of `filter` on
`builtIndex` are evaluated in this form. -/

/-- `scanFrom` reading the target positions of a k-mer from `tp` instead of an index -/
def scanWith (rule : Rule) (lk : Lookup) (k tlen : Nat) (tp : Nat → List Nat) (p : Params) (query : List UInt8)
    (selfAlign complement : Bool) (tubes0 : Array Tube) : Except FErr (List Biogo.Filter.Hit) × Array Tube :=
  let c := mkCfg rule k tlen p selfAlign complement
  let it := forEachKmer lk k query 0 query.length
  let l0 : Loop := { st := { tubes := tubes0, hits := [] }, ticker := p.tubeOffset + p.maxError }
  let l := it.calls.foldl (fun l call => onKmer c l call.1 (tp call.2)) l0
  if it.err then (.error .iter, l.st.tubes)
  else
    let l := if rule.tickByPosition then tick c l (query.length + 1 - k) else l
    let st := tubeEnd c l.st (query.length - 1)
    let r := flushRange c query.length
    let st := flushLoop c ((r.2 + 1 - r.1).toNat) r.1 st
    (if st.panic then .error .panic else .ok st.hits.reverse, st.tubes)

theorem foldl_congr_mem {α β} {f g : β → α → β} (l : List α) (b : β) (h : ∀ b, ∀ a ∈ l, f b a = g b a) :
    l.foldl f b = l.foldl g b := by
  induction l generalizing b with
  | nil => rfl
  | cons a as ih =>
    rw [List.foldl_cons, List.foldl_cons, h b a (List.mem_cons_self ..)]
    exact ih _ fun b x hx => h b x (List.mem_cons_of_mem _ hx)

theorem scanFrom_builtIndex {lk : Lookup} (hlk : FourLetter lk) (k : Nat) (hk1 : 1 ≤ k) (hk2 : 2 * k ≤ wordBits)
    (t : List UInt8) (hs : k ≤ t.length) (rule : Rule) (p : Params) (q : List UInt8) (selfAlign complement : Bool)
    (tubes0 : Array Tube) :
    scanFrom rule lk (builtIndex lk k t) p q selfAlign complement tubes0 =
      scanWith rule lk k t.length (occurrences lk k t) p q selfAlign complement tubes0 := by
  show scanWith rule lk k t.length (targetPositions (builtIndex lk k t)) p q selfAlign complement tubes0 = _
  unfold scanWith
  simp only []
  rw [foldl_congr_mem (g := fun l call => onKmer _ l call.1 (occurrences lk k t call.2))]
  intro l call hcall
  rw [forEachKmer_whole hlk k hk1 hk2] at hcall
  rw [targetPositions_builtIndex hlk k hk1 hk2 t hs _ (mem_wordsFrom_bounds hlk k q 0 call hcall).1]

theorem filter_builtIndex {lk : Lookup} (hlk : FourLetter lk) (k : Nat) (hk1 : 1 ≤ k) (hk2 : 2 * k ≤ wordBits)
    (t : List UInt8) (hs : k ≤ t.length) (rule : Rule) (p : Params) (q : List UInt8) (selfAlign complement : Bool) :
    filter rule lk (builtIndex lk k t) p q selfAlign complement =
      if p.tubeOffset < p.maxError then .error .offsetLtError
      else if p.tubeOffset = 0 then .error .panic
      else (scanWith rule lk k t.length (occurrences lk k t) p q selfAlign complement
        (Array.replicate (mkCfg rule k t.length p selfAlign complement).cap default)).1 := by
  unfold filter
  simp only [scanFrom_builtIndex hlk k hk1 hk2 t hs]
  rfl

/-- the target positions the scan processes at query position `pos`: those of the word there, none
    where the window holds a letter outside the alphabet (no callback) -/
def tsOf (lk : Lookup) (ix : Index) (q : List UInt8) (pos : Nat) : List Nat :=
  match wordAt lk ix.k q pos with
  | some w => targetPositions ix w
  | none => []

theorem mem_tsOf_builtIndex {lk : Lookup} (hlk : FourLetter lk) (k : Nat) (hk1 : 1 ≤ k) (hk2 : 2 * k ≤ wordBits)
    (t q : List UInt8) (ht : k ≤ t.length) (pos x : Nat) :
    x ∈ tsOf lk (builtIndex lk k t) q pos ↔ ∃ w, wordAt lk k q pos = some w ∧ wordAt lk k t x = some w := by
  unfold tsOf
  rw [builtIndex_k]
  cases hwq : wordAt lk k q pos with
  | none => simp
  | some w => simp [mem_targetPositions hlk k hk1 hk2 t ht w (wordOf_some_lt hlk k _ _ hwq)]

theorem tsOf_lt {lk : Lookup} (hlk : FourLetter lk) (k : Nat) (hk1 : 1 ≤ k) (hk2 : 2 * k ≤ wordBits)
    (t q : List UInt8) (ht : k ≤ t.length) {pos x : Nat} (hx : x ∈ tsOf lk (builtIndex lk k t) q pos) :
    x < t.length := by
  obtain ⟨w, _, hw⟩ := (mem_tsOf_builtIndex hlk k hk1 hk2 t q ht pos x).mp hx
  have := wordOf_some_le lk k _ _ hw
  rw [List.length_drop] at this
  omega

theorem onKmer_pos {c : Cfg} (hrule : c.rule.tickByPosition = true) (l : Loop) (p : Nat) (ts : List Nat) :
    onKmer c l p ts = kmers c (tick c l p) p ts := by
  unfold onKmer; rw [if_pos hrule]

theorem tick_tick (c : Cfg) (hoff : 1 ≤ c.off) (p p' : Nat) (hp : p ≤ p') : ∀ (n : Nat) (l : Loop),
    p + 1 - l.ticker ≤ n → tick c (tick c l p) p' = tick c l p' := by
  intro n
  induction n with
  | zero => intro l h; rw [tick_done c l p (by omega)]
  | succ n ih =>
    intro l h
    by_cases hle : l.ticker ≤ p
    · rw [tick_unfold c hoff l p hle, tick_unfold c hoff l p' (by omega)]
      exact ih _ (by show p + 1 - (l.ticker + c.off) ≤ n; omega)
    · rw [tick_done c l p (by omega)]

/-- the loop over the callbacks — one for every position `< N` that has a word — followed by
    `tick(N)` is the position-by-position scan: the ticks that fall into positions without a callback
    are caught up by the next `tick` -/
theorem scan_calls {c : Cfg} (hoff : 1 ≤ c.off) (hrule : c.rule.tickByPosition = true) (W : Nat → Option Nat)
    (tp : Nat → List Nat) (l0 : Loop) (h0 : 1 ≤ l0.ticker) (N : Nat) :
    tick c (((List.range N).filterMap fun p => (W p).map fun w => (p, w)).foldl
        (fun l call => onKmer c l call.1 (tp call.2)) l0) N
      = scanN c (fun p => match W p with | some w => tp w | none => []) l0 N := by
  induction N with
  | zero =>
    rw [List.range_zero, List.filterMap_nil, List.foldl_nil, tick_done c l0 0 (by omega)]
    rfl
  | succ N ih =>
    rw [List.range_succ, List.filterMap_append, List.foldl_append, scanN_succ]
    cases hW : W N with
    | none =>
      simp only [List.filterMap_cons, hW, Option.map_none, List.filterMap_nil, List.foldl_nil]
      rw [← tick_tick c hoff N (N + 1) (by omega) _ _ (Nat.le_refl _), ih]
      rfl
    | some w =>
      simp only [List.filterMap_cons, hW, Option.map_some, List.filterMap_nil, List.foldl_cons, List.foldl_nil]
      rw [onKmer_pos hrule, ih]
      rfl

theorem filter_eq_run {lk : Lookup} (hlk : FourLetter lk) (rule : Rule) (ix : Index) (p : Params) (q : List UInt8)
    (selfAlign complement : Bool) (hrule : rule.tickByPosition = true) (hk : 1 ≤ ix.k) (hk2 : 2 * ix.k ≤ wordBits)
    (hkq : ix.k ≤ q.length) (he : p.maxError ≤ p.tubeOffset) (hoff : 1 ≤ p.tubeOffset) :
    let c := mkCfg rule ix.k ix.seq.length p selfAlign complement
    let st := runFilter c (tsOf lk ix q) (q.length - ix.k + 1) q.length
    filter rule lk ix p q selfAlign complement = if st.panic then .error .panic else .ok st.hits.reverse := by
  simp only []
  unfold filter
  rw [if_neg (by omega), if_neg (by omega)]
  unfold scanFrom
  simp only []
  rw [query_calls_any hlk ix.k hk hk2 q, forEachKmer_err lk ix.k q 0 q.length (by omega) (Nat.le_refl _)]
  simp only [Bool.false_eq_true, if_false, hrule, if_true]
  rw [scan_calls (c := mkCfg rule ix.k ix.seq.length p selfAlign complement) hoff hrule (wordAt lk ix.k q)
    (targetPositions ix) _ (by show 1 ≤ p.tubeOffset + p.maxError; omega) (q.length + 1 - ix.k)]
  rw [show q.length + 1 - ix.k = q.length - ix.k + 1 by omega]
  rfl

theorem sorted_head_le (l : List Nat) (h : l.Pairwise (· < ·)) (hne : l ≠ []) : ∀ x ∈ l, l.head hne ≤ x := by
  intro x hx
  cases l with
  | nil => exact absurd rfl hne
  | cons a as =>
    simp only [List.head_cons]
    rw [List.pairwise_cons] at h
    rcases List.mem_cons.mp hx with rfl | hx
    · exact Nat.le_refl _
    · exact Nat.le_of_lt (h.1 x hx)

theorem sorted_le_last (l : List Nat) (h : l.Pairwise (· < ·)) (hne : l ≠ []) : ∀ x ∈ l, x ≤ l.getLast hne := by
  induction l with
  | nil => exact absurd rfl hne
  | cons a as ih =>
    intro x hx
    rw [List.pairwise_cons] at h
    by_cases has : as = []
    · subst has; simp at hx; subst hx; simp
    · rw [List.getLast_cons has]
      rcases List.mem_cons.mp hx with rfl | hx
      · exact Nat.le_of_lt (h.1 _ (List.getLast_mem has))
      · exact ih h.2 has x hx

/-- query position `p` carries a shared k-mer of the match at `(a, b)` -/
def shPos (lk : Lookup) (k : Nat) (t q : List UInt8) (a b n : Nat) (p : Nat) : Bool :=
  decide (b ≤ p) && (decide (p - b < n + 1 - k) && sharedAt lk k t q a b (p - b))

theorem countP_range_shift (sh : Nat → Bool) (b j : Nat) (hlow : ∀ p, p < b → sh p = false) :
    (List.range (b + j)).countP sh = (List.range j).countP fun i => sh (b + i) := by
  induction j with
  | zero =>
    rw [Nat.add_zero, List.range_zero, List.countP_nil, List.countP_eq_zero]
    intro p hp; rw [List.mem_range] at hp; rw [hlow p hp]; simp
  | succ j ih =>
    rw [← Nat.add_assoc, List.range_succ, List.countP_append, ih, List.range_succ, List.countP_append]
    simp

theorem sharedKmers_sorted (lk : Lookup) (k : Nat) (t q : List UInt8) (a b n : Nat) :
    (sharedKmers lk k t q a b n).Pairwise (· < ·) := by
  rw [sharedKmers_eq]; exact List.pairwise_lt_range.filter _

theorem mem_sharedKmers (lk : Lookup) (k : Nat) (t q : List UInt8) (a b n i : Nat) :
    i ∈ sharedKmers lk k t q a b n ↔ i < n + 1 - k ∧ sharedAt lk k t q a b i = true := by
  rw [sharedKmers_eq, List.mem_filter, List.mem_range]

theorem shPos_iff {lk : Lookup} {k : Nat} {t q : List UInt8} {a b n p : Nat} :
    shPos lk k t q a b n p = true ↔ b ≤ p ∧ p - b ∈ sharedKmers lk k t q a b n := by
  unfold shPos
  rw [mem_sharedKmers]
  simp only [Bool.and_eq_true, decide_eq_true_eq]

theorem match_shared (lk : Lookup) (k : Nat) (t q : List UInt8) (a b n : Nat)
    (hne : sharedKmers lk k t q a b n ≠ []) :
    ∃ x₀ x₁, x₀ ≤ x₁ ∧ x₁ < n + 1 - k ∧
      Shared (shPos lk k t q a b n) (b + x₀) (b + x₁) (sharedKmers lk k t q a b n).length := by
  have hsorted := sharedKmers_sorted lk k t q a b n
  have hlast := (mem_sharedKmers lk k t q a b n _).mp (List.getLast_mem hne)
  refine ⟨_, _, sorted_head_le _ hsorted hne _ (List.getLast_mem hne), hlast.1, ?_⟩
  constructor
  · intro p hp
    obtain ⟨h1, hmem⟩ := shPos_iff.mp hp
    have := sorted_head_le _ hsorted hne _ hmem
    have := sorted_le_last _ hsorted hne _ hmem
    omega
  · exact shPos_iff.mpr ⟨Nat.le_add_right _ _, by rw [Nat.add_sub_cancel_left]; exact List.head_mem hne⟩
  · exact shPos_iff.mpr ⟨Nat.le_add_right _ _, by rw [Nat.add_sub_cancel_left]; exact List.getLast_mem hne⟩
  · unfold R
    rw [Nat.add_assoc, countP_range_shift _ b _ (by
      intro p hp; unfold shPos
      have : ¬ b ≤ p := by omega
      simp [this])]
    have hfun : (fun i => shPos lk k t q a b n (b + i)) =
        fun i => decide (i < n + 1 - k) && sharedAt lk k t q a b i := by
      funext i; unfold shPos; simp
    rw [hfun, countP_range_lt, Nat.min_eq_right (by omega)]
    have hafter := R_const (sharedAt lk k t q a b) (Nat.succ_le_of_lt hlast.1) fun x hx1 hx2 =>
      Bool.eq_false_iff.mpr fun hS => by
        have := sorted_le_last _ hsorted hne _ ((mem_sharedKmers lk k t q a b n _).mpr ⟨hx2, hS⟩)
        omega
    unfold R at hafter
    rw [← hafter]
    rw [sharedKmers_eq, List.countP_eq_length_filter]

def repaired : Rule := { retireSubMaxError := true, flushFromLastTick := true, tickByPosition := true }

def toSpec (h : Biogo.Filter.Hit) : Biogo.Spec.Filter.Hit := { from_ := h.from_, to := h.to, diagonal := h.diagonal }

theorem selfCut_eq (c : Cfg) (t q : Nat) : selfCut c t q = !requiredC c.selfAlign c.complement c.tlen t q := by
  unfold selfCut requiredC
  cases c.selfAlign <;> cases c.complement
  · rfl
  · rfl
  · exact (Bool.false_or _).trans ((decide_eq_decide.mpr (by omega)).trans (decide_not ..))
  · exact (Bool.or_false _).trans ((decide_eq_decide.mpr (by omega)).trans (decide_not ..))

theorem requiredC_diag {selfAlign complement : Bool} {tlen a b : Nat}
    (h : requiredC selfAlign complement tlen a b = true) (i : Nat) :
    requiredC selfAlign complement tlen (a + i) (b + i) = true := by
  unfold requiredC at h ⊢
  cases selfAlign <;> cases complement <;> simp at h ⊢ <;> omega

theorem match_events {lk : Lookup} (hlk : FourLetter lk) (k : Nat) (hk1 : 1 ≤ k) (hk2 : 2 * k ≤ wordBits)
    (t q : List UInt8) (ht : k ≤ t.length) (p : Params) (selfAlign complement : Bool) (a b n : Nat)
    (han : a + n ≤ t.length) (hreq : requiredC selfAlign complement t.length a b = true) :
    Events (mkCfg repaired k t.length p selfAlign complement) ((t.length - a + b) / p.tubeOffset)
      (shPos lk k t q a b n) (fun pos => a + (pos - b))
      (tsOf lk (builtIndex lk k t) q) := by
  constructor
  · exact fun pos x hx => tsOf_lt hlk k hk1 hk2 t q ht hx
  · intro pos hsh
    obtain ⟨hb, hsk⟩ := shPos_iff.mp hsh
    obtain ⟨w, hw1, hw2⟩ := sharedAt_words ((mem_sharedKmers lk k t q a b n _).mp hsk).2
    rw [show b + (pos - b) = pos by omega] at hw2
    exact (mem_tsOf_builtIndex hlk k hk1 hk2 t q ht pos _).mpr ⟨w, hw2, hw1⟩
  · intro pos hsh
    have := requiredC_diag hreq (pos - b)
    rw [Nat.add_sub_cancel' (shPos_iff.mp hsh).1] at this
    rw [selfCut_eq]
    exact congrArg (!·) this
  · intro pos hsh
    obtain ⟨hb, hsk⟩ := shPos_iff.mp hsh
    have := ((mem_sharedKmers lk k t q a b n _).mp hsk).1
    unfold tubeIndex diagIndex mkCfg
    simp only []
    congr 1
    omega

theorem thr_pos_imp {n k e : Nat} (h : 0 < minWordsPerFilterHit n k e) (hk : 1 ≤ k) :
    k * (e + 1) ≤ n ∧ e + 1 ≤ n ∧ k ≤ n := by
  have h1 := (thr_pos_iff n k e).mp h
  exact ⟨h1, Nat.le_trans (Nat.le_mul_of_pos_left _ hk) h1, Nat.le_trans (Nat.le_mul_of_pos_right _ (Nat.succ_pos e)) h1⟩

/-- the q-gram lemma against the threshold `Filter` computes -/
theorem minWords_le_sharedKmers (lk : Lookup) (k : Nat) (hk : 1 ≤ k) (t q : List UInt8) (a b n e : Nat)
    (hm : mismatches lk t q a b n ≤ e) :
    minWordsPerFilterHit n k e ≤ ((sharedKmers lk k t q a b n).length : Int) :=
  (minWords_le_iff n k e _).mpr (sharedKmers_bound lk k hk t q a b n e hm)

theorem match_of_offsets (rule : Rule) {k tlen : Nat} (p : Params) (selfAlign complement : Bool) {a b x₀ x₁ m : Nat}
    (hoff : 1 ≤ p.tubeOffset) (ha : a + p.minMatch ≤ tlen) (h01 : x₀ ≤ x₁) (hx₁ : x₁ < p.minMatch + 1 - k)
    (hm : minWordsPerFilterHit p.minMatch k p.maxError ≤ (m : Int)) (hm1 : 1 ≤ m) :
    Match (mkCfg rule k tlen p selfAlign complement) ((tlen - a + b) / p.tubeOffset) (b + x₀) (b + x₁) m := by
  have h1 : (tlen - a + b) / p.tubeOffset * p.tubeOffset ≤ tlen - a + b := Nat.div_mul_le_self _ _
  have h2 := lt_succ_div_mul (tlen - a + b) p.tubeOffset hoff
  refine ⟨hm, hm1, ?_, ?_, by omega, ?_⟩
  · show ((b + x₁ : Nat) : Int) - ((b + x₀ : Nat) : Int) ≤ (p.minMatch : Int) - k
    omega
  · show (tlen - a + b) / p.tubeOffset * p.tubeOffset ≤ tlen + (b + x₀)
    omega
  · show b + x₁ ≤ ((tlen - a + b) / p.tubeOffset + 1) * p.tubeOffset + p.maxError - 1
    omega

theorem covered_of_done {c : Cfg} {st : St} {a b n lo hi : Nat} (e : Nat) {l : List Biogo.Filter.Hit}
    (hd : Done c ((c.tlen - a + b) / c.off) lo hi st) (hl : ∀ x ∈ st.hits, x ∈ l)
    (hoff : 1 ≤ c.off) (ha : a ≤ c.tlen) (hlo : lo < b + n) (hhi : b < hi + c.k) :
    Covered (l.map toSpec) (c.off + e) n a b := by
  obtain ⟨x, hx, hxd, hxf, hxt⟩ := hd
  have h1 : (c.tlen - a + b) / c.off * c.off ≤ c.tlen - a + b := Nat.div_mul_le_self _ _
  have h2 := lt_succ_div_mul (c.tlen - a + b) c.off hoff
  rw [Nat.add_mul, Nat.one_mul] at h2
  have hd' : x.diagonal = (c.tlen : Int) - (((c.tlen - a + b) / c.off * c.off : Nat) : Int) := by rw [hxd]; simp
  generalize (c.tlen - a + b) / c.off * c.off = P at h1 h2 hd'
  refine ⟨toSpec x, List.mem_map.mpr ⟨x, hl x hx, rfl⟩, ?_⟩
  unfold covers toSpec
  simp only [Bool.and_eq_true, decide_eq_true_eq]
  refine ⟨⟨⟨?_, ?_⟩, ?_⟩, ?_⟩ <;> omega

/-- Completeness of the repaired filter, either strand, any query (letters outside the alphabet
    allowed; they count as mismatches in `EpsMatch`): every ε-match required on the strand
    (`requiredC`) is covered by a hit of `filter`. -/
theorem filter_complete_aux {lk : Lookup} (hlk : FourLetter lk) (t q : List UInt8) (k n e off : Nat)
    (selfAlign complement : Bool) (hk2' : 2 ≤ k) (hk2 : 2 * k ≤ wordBits) (ht : k ≤ t.length)
    (hthr : 0 < minWordsPerFilterHit n k e) (he : e ≤ off) (hoff : 1 ≤ off)
    (a b : Nat) (hm : EpsMatch lk t q n e a b) (hreq : requiredC selfAlign complement t.length a b = true) :
    ∃ hits, filter repaired lk (builtIndex lk k t) { minMatch := n, maxError := e, tubeOffset := off } q selfAlign complement
        = .ok hits ∧
      Covered (hits.map toSpec) (off + e) n a b := by
  have hk1 : 1 ≤ k := by omega
  obtain ⟨han, hbn, hmm⟩ := hm
  obtain ⟨hn1, hn2, hn3⟩ := thr_pos_imp hthr hk1
  let p : Params := { minMatch := n, maxError := e, tubeOffset := off }
  -- the shared k-mers: `m ≥ threshold` of them, the first at offset `x₀`, the last at `x₁`
  have hlen := minWords_le_sharedKmers lk k hk1 t q a b n e hmm
  have hne : sharedKmers lk k t q a b n ≠ [] := by
    intro h0; rw [h0] at hlen; simp at hlen; omega
  have hm1 : 1 ≤ (sharedKmers lk k t q a b n).length := List.length_pos_iff.mpr hne
  obtain ⟨x₀, x₁, h01, hx₁, hshared⟩ := match_shared lk k t q a b n hne
  -- the run of the tube of the match diagonal
  obtain ⟨hpanic, hdone⟩ :=
    run_complete (c := mkCfg repaired k t.length p selfAlign complement) ⟨hoff, he, rfl, rfl⟩
      ((t.length - a + b) / off) (b + x₀) (b + x₁) _ _ _ _ q.length
      hk2' ht (by show k ≤ q.length; omega) (by show e + 1 ≤ q.length; omega) hshared
      (match_events hlk k hk1 hk2 t q ht p selfAlign complement a b n han hreq)
      (match_of_offsets repaired p selfAlign complement hoff han h01 hx₁ hlen hm1)
      (by show b + x₁ + k ≤ q.length; omega)
  -- `filter` is that run
  have heq := filter_eq_run hlk repaired (builtIndex lk k t) p q selfAlign complement rfl hk1 hk2
    (by show k ≤ q.length; omega) he hoff
  change (runFilter _ _ (q.length - k + 1) _).panic = false at hpanic
  simp only [builtIndex_k, builtIndex_seq, hpanic, Bool.false_eq_true, if_false] at heq
  exact ⟨_, heq, covered_of_done (c := mkCfg repaired k t.length p selfAlign complement) e hdone (fun x hx => List.mem_reverse.mpr hx) hoff (by show a ≤ t.length; omega)
    (by omega) (by show b < b + x₁ + k; omega)⟩

def AllValid (lk : Lookup) (s : List UInt8) : Prop := ∀ b ∈ s, (lk b).isSome = true

theorem digits_of_valid (lk : Lookup) (l : List UInt8) (h : AllValid lk l) : ∃ ds, digits lk l = some ds := by
  induction l with
  | nil => exact ⟨[], rfl⟩
  | cons b bs ih =>
    obtain ⟨ds, hds⟩ := ih (fun x hx => h x (by simp [hx]))
    have hb := h b (by simp)
    cases hlk : lk b with
    | none => rw [hlk] at hb; simp at hb
    | some d => exact ⟨d :: ds, by simp [digits, hlk, hds]⟩

theorem wordAt_of_valid (lk : Lookup) (k : Nat) (q : List UInt8) (h : AllValid lk q) (p : Nat) (hp : p + k ≤ q.length) :
    ∃ w, wordAt lk k q p = some w := by
  obtain ⟨ds, hds⟩ := digits_of_valid lk ((q.drop p).take k)
    (fun x hx => h x (List.mem_of_mem_drop (List.mem_of_mem_take hx)))
  refine ⟨encode ds, ?_⟩
  unfold wordAt wordOf
  have : ((q.drop p).take k).length = k := by rw [List.length_take, List.length_drop]; omega
  simp [this, hds]

/-- on a query over the alphabet every position has a callback -/
theorem calls_events {lk : Lookup} (hlk : FourLetter lk) (ix : Index) (hk : 1 ≤ ix.k) (hk2 : 2 * ix.k ≤ wordBits)
    (q : List UInt8) (hq : AllValid lk q) :
    (forEachKmer lk ix.k q 0 q.length).calls.map (fun call => (call.1, targetPositions ix call.2)) =
      (List.range (q.length + 1 - ix.k)).map fun p => (p, tsOf lk ix q p) := by
  rw [query_calls_any hlk ix.k hk hk2 q, List.map_filterMap, ← List.filterMap_eq_map]
  apply filterMap_congr
  intro p hp
  obtain ⟨w, hw⟩ := wordAt_of_valid lk ix.k q hq p (by have := List.mem_range.mp hp; omega)
  simp [tsOf, hw]

def withTicker (c : Cfg) (b : Bool) : Cfg := { c with rule := { c.rule with tickByPosition := b } }

theorem tickLoop_wt (c : Cfg) (b : Bool) (passed : Nat) : ∀ (fuel : Nat) (st : St) (ticker : Nat),
    tickLoop (withTicker c b) passed fuel st ticker = tickLoop c passed fuel st ticker := by
  intro fuel
  induction fuel with
  | zero => intro st ticker; rfl
  | succ n ih => intro st ticker; rw [tickLoop, tickLoop, ih]; rfl

theorem flushLoop_wt (c : Cfg) (b : Bool) : ∀ (n ti : Nat) (s : St),
    flushLoop (withTicker c b) n ti s = flushLoop c n ti s := by
  intro n
  induction n with
  | zero => intro ti s; rfl
  | succ n ih => intro ti s; rw [flushLoop, flushLoop]; exact ih _ _

theorem stepPos_wt (c : Cfg) (b : Bool) (l : Loop) (p : Nat) (ts : List Nat) :
    stepPos (withTicker c b) l p ts = stepPos c l p ts := by
  unfold stepPos tick
  rw [tickLoop_wt]
  rfl

theorem scanN_wt (c : Cfg) (b : Bool) (ts : Nat → List Nat) (l0 : Loop) (N : Nat) :
    scanN (withTicker c b) ts l0 N = scanN c ts l0 N := by
  induction N with
  | zero => rfl
  | succ N ih => rw [scanN_succ, scanN_succ, ih, stepPos_wt]

/-- on a query over the alphabet the code before fix `0c69d0c` (callback-counting ticker) and the
    repaired code (ticker on the query position) compute the same `Filter` result -/
theorem filter_countdown_eq {lk : Lookup} (hlk : FourLetter lk) (rule : Rule) (hrule : rule.tickByPosition = true)
    (ix : Index) (p : Params) (q : List UInt8) (selfAlign complement : Bool)
    (hk : 1 ≤ ix.k) (hk2 : 2 * ix.k ≤ wordBits) (hq : AllValid lk q) (hkq : ix.k ≤ q.length)
    (he : p.maxError ≤ p.tubeOffset) (hoff : 1 ≤ p.tubeOffset) :
    filter { rule with tickByPosition := false } lk ix p q selfAlign complement =
      filter rule lk ix p q selfAlign complement := by
  have hnew := filter_eq_run hlk rule ix p q selfAlign complement hrule hk hk2 hkq he hoff
  simp only [] at hnew
  rw [hnew]
  unfold filter
  rw [if_neg (by omega), if_neg (by omega)]
  unfold scanFrom
  simp only []
  rw [forEachKmer_err lk ix.k q 0 q.length (by omega) (Nat.le_refl _)]
  simp only [Bool.false_eq_true, if_false]
  rw [show mkCfg { rule with tickByPosition := false } ix.k ix.seq.length p selfAlign complement
      = withTicker (mkCfg rule ix.k ix.seq.length p selfAlign complement) false from rfl]
  generalize hc : mkCfg rule ix.k ix.seq.length p selfAlign complement = c
  have hoff' : 1 ≤ c.off := by rw [← hc]; exact hoff
  -- with the countdown ticker the callback is `onKmerCount`, and the loop over the callbacks is `scanCount`
  have hfold : ∀ l0 : Loop, (forEachKmer lk ix.k q 0 q.length).calls.foldl
      (fun l call => onKmer (withTicker c false) l call.1 (targetPositions ix call.2)) l0 =
      scanCount (withTicker c false) (tsOf lk ix q) l0 (q.length + 1 - ix.k) := fun l0 => by
    unfold scanCount
    rw [← calls_events hlk ix hk hk2 q hq, List.foldl_map]
    rfl
  have heq := scanCount_eq (withTicker c false) hoff' (tsOf lk ix q)
    { st := { tubes := Array.replicate (withTicker c false).cap default, hits := [] },
      ticker := p.tubeOffset + p.maxError } (by show 1 ≤ p.tubeOffset + p.maxError; omega) (q.length + 1 - ix.k)
  rw [scanN_wt] at heq
  rw [hfold, heq.1, show q.length + 1 - ix.k = q.length - ix.k + 1 by omega]
  simp only [flushLoop_wt]
  subst hc
  rfl

end Biogo.Proofs.FilterComplete
