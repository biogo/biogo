/-
The BED and GFF reader models raise no runtime panic and make progress (C03, part feat).
`Safe r`: if `r` is a panic it carries an `error` value, which `handlePanic` turns into a
returned error; each parser is walked once, with `safe_bind` at a bind and `ite_elim` at a test.
`Consumes n r`: a reader call on at most `n` lines does not panic and, unless it answers `io.EOF`,
leaves fewer than `n` lines.  For BED no line panics, so `readLines` is a map over the lines (`readLines_eq`).
The equations for one step of the GFF reader (`read_meta`, `read_featureLine`, `commentMetaline_region`,
`commentMetaline_noargs`) stand here because the rejection theorems of C03 and the round trips of C02 both rest on them.
-/
import Biogo.Model.Bed
import Biogo.Model.Gff

namespace Biogo.BytesFeat

def Safe {ε α} (r : Res ε α) : Prop := ∀ p, r = .panic p → ∃ e, p = .error e

theorem safe_ok {ε α} (a : α) : Safe (Res.ok a : Res ε α) := by intro p h; cases h
theorem safe_ret {ε α} (e : ε) : Safe (Res.ret e : Res ε α) := by intro p h; cases h
theorem safe_panic_error {ε α} (e : ε) : Safe (Res.panic (.error e) : Res ε α) := by
  intro p h; cases h; exact ⟨e, rfl⟩

theorem safe_bind {ε α β} {r : Res ε α} {f : α → Res ε β} (hr : Safe r) (hf : ∀ a, Safe (f a)) :
    Safe (r >>= f) := by
  show Safe (Res.bind r f)
  cases r with
  | ok a => exact hf a
  | ret e => exact safe_ret e
  | panic p =>
    intro q h
    simp only [Res.bind] at h
    cases h
    exact hr p rfl

@[simp] theorem bind_ok {ε α β} (a : α) (f : α → Res ε β) : (Res.ok a >>= f) = f a := rfl
@[simp] theorem bind_ret {ε α β} (e : ε) (f : α → Res ε β) : (Res.ret e >>= f : Res ε β) = .ret e := rfl
@[simp] theorem bind_panic {ε α β} (p : PanicVal ε) (f : α → Res ε β) : (Res.panic p >>= f : Res ε β) = .panic p := rfl
@[simp] theorem pure_eq_ok {ε α} (a : α) : (pure a : Res ε α) = .ok a := rfl

theorem idx_of_getElem? {ε} {f : List Bytes} {i : Nat} {x : Bytes} (h : f[i]? = some x) :
    (idx f i : Res ε Bytes) = .ok x := by
  unfold idx; rw [h]

theorem idx_eq {ε} {f : List Bytes} {i : Nat} (h : i < f.length) : (idx f i : Res ε Bytes) = .ok f[i] :=
  idx_of_getElem? (List.getElem?_eq_getElem h)

theorem safe_idx {ε} {f : List Bytes} {i : Nat} (h : i < f.length) : Safe (idx f i : Res ε Bytes) := by
  rw [idx_eq h]
  exact safe_ok _

theorem ite_elim {α} (P : α → Prop) {c : Prop} [Decidable c] {a b : α} (ha : c → P a) (hb : ¬ c → P b) :
    P (if c then a else b) := by
  split
  · exact ha ‹_›
  · exact hb ‹_›

theorem handlePanic_no_panic {ε α} {r : Res ε α} (h : Safe r) : ∀ p, handlePanic r ≠ .panic p := by
  intro p hp
  cases r with
  | ok a => simp [handlePanic] at hp
  | ret e => simp [handlePanic] at hp
  | panic q =>
    obtain ⟨e, rfl⟩ := h q rfl
    simp [handlePanic] at hp

theorem handlePanic_ret_of_not_ok {ε α} {r : Res ε α} (hs : Safe r) (hn : ∀ a, r ≠ .ok a) :
    ∃ e, handlePanic r = .ret e := by
  cases r with
  | ok a => exact absurd rfl (hn a)
  | ret e => exact ⟨e, rfl⟩
  | panic p =>
    obtain ⟨e, rfl⟩ := hs p rfl
    exact ⟨e, rfl⟩

theorem bind_not_ok {ε α β} {r : Res ε α} {f : α → Res ε β} (hn : ∀ a, r ≠ .ok a) : ∀ b, (r >>= f) ≠ .ok b := by
  intro b
  cases r with
  | ok a => exact absurd rfl (hn a)
  | ret e => intro h; cases h
  | panic p => intro h; cases h

theorem bind_not_ok_right {ε α β} {r : Res ε α} {f : α → Res ε β} (hf : ∀ a b, f a ≠ .ok b) :
    ∀ b, (r >>= f) ≠ .ok b := by
  intro b
  cases r with
  | ok a => exact hf a b
  | ret e => intro h; cases h
  | panic p => intro h; cases h

end Biogo.BytesFeat

namespace Biogo.Bed
open Biogo.BytesFeat

theorem safe_mustAtoi (f : Bytes) (c : Nat) : Safe (mustAtoi f c) := by
  unfold mustAtoi; split
  · exact safe_ok _
  · exact safe_panic_error _

theorem safe_mustAtob (f : Bytes) (c : Nat) : Safe (mustAtob f c) := by
  unfold mustAtob; split
  · exact safe_ok _
  · exact safe_panic_error _

theorem safe_mustAtos (f : Bytes) (c : Nat) : Safe (mustAtos f c) := by
  unfold mustAtos
  split
  · exact ite_elim _ (fun _ => safe_ok _) fun _ => ite_elim _ (fun _ => safe_ok _) fun _ =>
      ite_elim _ (fun _ => safe_ok _) fun _ => safe_panic_error _
  · exact safe_panic_error _

theorem mustAtos_not_ok {x : Bytes} (hbad : x ≠ [43] ∧ x ≠ [46] ∧ x ≠ [45]) (c : Nat) : ∀ r, mustAtos x c ≠ .ok r := by
  intro r
  unfold mustAtos
  split
  · rw [if_neg (by simpa using hbad.1), if_neg (by simpa using hbad.2.1), if_neg (by simpa using hbad.2.2)]
    nofun
  · nofun

theorem safe_mustAtoRgb (f : Bytes) (c : Nat) : Safe (mustAtoRgb f c) := by
  unfold mustAtoRgb
  simp only []
  split
  · exact safe_ok _
  · apply safe_bind (safe_mustAtoi _ _)
    intro v; split
    · exact safe_ok _
    · exact safe_panic_error _
  · exact safe_panic_error _
  · apply safe_bind (safe_mustAtob _ _); intro r
    apply safe_bind (safe_mustAtob _ _); intro g
    apply safe_bind (safe_mustAtob _ _); intro b
    exact safe_ok _

theorem safe_mustAtoaLoop (c : Nat) (ps : List Bytes) : Safe (mustAtoaLoop c ps) := by
  induction ps with
  | nil => exact safe_ok _
  | cons p ps ih =>
    unfold mustAtoaLoop
    split
    · exact safe_ok _
    · apply safe_bind (safe_mustAtoi _ _); intro v
      apply safe_bind ih; intro rest
      exact safe_ok _

theorem safe_mustAtoa (f : Bytes) (c : Nat) : Safe (mustAtoa f c) := safe_mustAtoaLoop c _

theorem safe_parse3 {f : List Bytes} (h : 3 ≤ f.length) : Safe (parse3 f) := by
  unfold parse3
  apply safe_bind (safe_idx (by omega)); intro _
  apply safe_bind (safe_bind (safe_idx (by omega)) (fun _ => safe_mustAtoi _ _)); intro _
  apply safe_bind (safe_bind (safe_idx (by omega)) (fun _ => safe_mustAtoi _ _)); intro _
  exact safe_ok _

theorem safe_parse4 {f : List Bytes} (h : 4 ≤ f.length) : Safe (parse4 f) := by
  unfold parse4
  apply safe_bind (safe_parse3 (by omega)); intro _
  apply safe_bind (safe_idx (by omega)); intro _
  exact safe_ok _

theorem safe_parse5 {f : List Bytes} (h : 5 ≤ f.length) : Safe (parse5 f) := by
  unfold parse5
  apply safe_bind (safe_parse4 (by omega)); intro _
  apply safe_bind (safe_bind (safe_idx (by omega)) (fun _ => safe_mustAtoi _ _)); intro _
  exact safe_ok _

theorem safe_parse6 {f : List Bytes} (h : 6 ≤ f.length) : Safe (parse6 f) := by
  unfold parse6
  apply safe_bind (safe_parse5 (by omega)); intro _
  apply safe_bind (safe_bind (safe_idx (by omega)) (fun _ => safe_mustAtos _ _)); intro _
  exact safe_ok _

theorem safe_parse12 {f : List Bytes} (h : 12 ≤ f.length) : Safe (parse12 f) := by
  unfold parse12
  apply safe_bind (safe_parse6 (by omega)); intro _
  apply safe_bind (safe_bind (safe_idx (by omega)) (fun _ => safe_mustAtoi _ _)); intro _
  apply safe_bind (safe_bind (safe_idx (by omega)) (fun _ => safe_mustAtoi _ _)); intro _
  apply safe_bind (safe_bind (safe_idx (by omega)) (fun _ => safe_mustAtoRgb _ _)); intro _
  apply safe_bind (safe_bind (safe_idx (by omega)) (fun _ => safe_mustAtoi _ _)); intro _
  apply safe_bind (safe_bind (safe_idx (by omega)) (fun _ => safe_mustAtoa _ _)); intro _
  apply safe_bind (safe_bind (safe_idx (by omega)) (fun _ => safe_mustAtoa _ _)); intro _
  split
  · exact safe_ret _
  · exact safe_ok _

theorem validWidth_cases {n : Nat} (h : validWidth n = true) : n = 3 ∨ n = 4 ∨ n = 5 ∨ n = 6 ∨ n = 12 := by
  simpa only [validWidth, Bool.or_eq_true, beq_iff_eq, or_assoc] using h

theorem safe_parseBody (n : Nat) (hn : validWidth n = true) (line : Bytes) : Safe (parseBody n line) := by
  unfold parseBody
  simp only []
  apply ite_elim _ (fun _ => safe_ret _)
  intro hlen
  rcases validWidth_cases hn with rfl | rfl | rfl | rfl | rfl
  · exact safe_parse3 (by omega)
  · exact safe_parse4 (by omega)
  · exact safe_parse5 (by omega)
  · exact safe_parse6 (by omega)
  · exact safe_parse12 (by omega)

theorem parseBed_no_panic (n : Nat) (hn : validWidth n = true) (line : Bytes) :
    ∀ p, parseBed n line ≠ .panic p :=
  handlePanic_no_panic (safe_parseBody n hn line)

theorem readLine_no_panic (n : Nat) (hn : validWidth n = true) (line : Bytes) (k : Nat) :
    ∀ p, readLine n line k ≠ .panicked p := by
  intro p h
  unfold readLine at h
  split at h
  · cases h
  · cases h
  · rename_i q hq
    exact parseBed_no_panic n hn line q hq

theorem readLines_eq (n : Nat) (hn : validWidth n = true) (ls : List Bytes) (k : Nat) :
    readLines n ls k = ls.mapIdx (fun i l => readLine n l (k + i + 1)) ++ [.eof] := by
  induction ls generalizing k with
  | nil => rfl
  | cons l ls ih =>
    have hnp := readLine_no_panic n hn l (k + 1)
    rw [readLines, List.mapIdx_cons, ih]
    split
    · rename_i p hp; exact absurd hp (hnp p)
    · simp only [Nat.add_zero, List.cons_append, List.cons.injEq, true_and, List.append_cancel_right_eq]
      exact List.mapIdx_eq_mapIdx_iff.mpr fun i _ => by rw [Nat.add_right_comm k 1 i, Nat.add_assoc k i 1, Nat.add_assoc]

end Biogo.Bed

namespace Biogo.Gff
open Biogo.BytesFeat

theorem safe_mustAtoi {f : List Bytes} {i : Nat} (h : i < f.length) : Safe (mustAtoi f i) := by
  unfold mustAtoi
  apply safe_bind (safe_idx h); intro x
  split
  · exact safe_ok _
  · exact safe_panic_error _

theorem safe_mustAtoPos {f : List Bytes} {i : Nat} (h : i < f.length) : Safe (mustAtoPos f i) := by
  unfold mustAtoPos
  apply safe_bind (safe_mustAtoi h); intro v
  split
  · exact safe_ok _
  · exact safe_panic_error _

theorem safe_mustAtofPtr (o : Oracles) {f : List Bytes} {i : Nat} (h : i < f.length) :
    Safe (mustAtofPtr o f i) := by
  unfold mustAtofPtr
  apply safe_bind (safe_idx h); intro x
  split
  · exact safe_ok _
  · split
    · exact safe_ok _
    · exact safe_panic_error _

theorem safe_mustAtoFr {f : List Bytes} {i : Nat} (h : i < f.length) : Safe (mustAtoFr f i) := by
  unfold mustAtoFr
  apply safe_bind (safe_idx h); intro x
  split
  · exact safe_ok _
  · split
    · exact safe_ok _
    · exact safe_panic_error _

theorem safe_mustAtos {f : List Bytes} {i : Nat} (h : i < f.length) : Safe (mustAtos f i) := by
  unfold mustAtos
  apply safe_bind (safe_idx h); intro x
  split
  · exact ite_elim _ (fun _ => safe_ok _) fun _ => ite_elim _ (fun _ => safe_ok _) fun _ =>
      ite_elim _ (fun _ => safe_ok _) fun _ => safe_panic_error _
  · exact safe_panic_error _

theorem mustAtos_not_ok {F : List Bytes} {i : Nat} {x : Bytes} (hx : F[i]? = some x)
    (hbad : x ≠ [43] ∧ x ≠ [46] ∧ x ≠ [45]) : ∀ r, mustAtos F i ≠ .ok r := by
  intro r
  rw [mustAtos, idx_of_getElem? hx, bind_ok]
  split
  · rw [if_neg (by simpa using hbad.1), if_neg (by simpa using hbad.2.1), if_neg (by simpa using hbad.2.2)]
    nofun
  · nofun

theorem safe_splitAnnotAux (col : Nat) (f acc : Bytes) : Safe (splitAnnotAux col f acc) := by
  induction f generalizing acc with
  | nil => exact safe_ok _
  | cons b r ih =>
    unfold splitAnnotAux
    split
    · exact safe_ok _
    · split
      · exact ih _
      · exact safe_panic_error _

theorem safe_attrLoop (col : Nat) (ps : List Bytes) : Safe (attrLoop col ps) := by
  induction ps with
  | nil => exact safe_ok _
  | cons p ps ih =>
    unfold attrLoop
    simp only []
    split
    · exact ih
    · apply safe_bind (safe_splitAnnotAux _ _ _); intro tv
      split
      · exact safe_panic_error _
      · apply safe_bind ih; intro rest
        exact safe_ok _

theorem safe_mustAtoa {f : List Bytes} {i : Nat} (h : i < f.length) : Safe (mustAtoa f i) := by
  unfold mustAtoa
  apply safe_bind (safe_idx h); intro x
  exact safe_attrLoop _ _

theorem safe_parseFeature (o : Oracles) (line : Bytes) : Safe (parseFeature o line) := by
  unfold parseFeature
  simp only []
  apply ite_elim _
  · intro _; exact safe_ret _
  · intro h7
    apply safe_bind (safe_idx (by omega)); intro _
    apply safe_bind (safe_idx (by omega)); intro _
    apply safe_bind (safe_idx (by omega)); intro _
    apply safe_bind (safe_mustAtoPos (by omega)); intro _
    apply safe_bind (safe_mustAtoi (by omega)); intro _
    apply safe_bind (safe_mustAtofPtr o (by omega)); intro _
    apply safe_bind (safe_mustAtos (by omega)); intro _
    apply safe_bind (safe_mustAtoFr (by omega)); intro _
    apply ite_elim _
    · intro _; exact safe_ok _
    · intro h8
      apply safe_bind (safe_mustAtoa (by omega)); intro _
      apply ite_elim _
      · intro _; exact safe_ok _
      · intro h9
        apply safe_bind (safe_idx (by omega)); intro _
        exact safe_ok _

def MetaStep.Safe : MetaStep → Prop
  | .done r => BytesFeat.Safe r
  | _ => True

theorem commentMetaline_safe (o : Oracles) (md : Meta) (line : Bytes) : (commentMetaline o md line).Safe := by
  have bad : MetaStep.Safe (.done (.ret .metaline)) := safe_ret _
  unfold commentMetaline
  simp only []
  split
  · exact bad
  · apply ite_elim _ <;> intro _
    · apply ite_elim _ (fun _ => bad)
      intro hlen
      have hi := safe_mustAtoi (f := splitOn 32 line) (i := 1) (by omega)
      split
      · exact ite_elim _ (fun _ => safe_ret _) (fun _ => trivial)
      · exact safe_ret _
      · rename_i p hp
        intro q hq
        cases hq
        exact hi p hp
    apply ite_elim _ <;> intro _
    · exact ite_elim _ (fun _ => bad) (fun _ => trivial)
    apply ite_elim _ <;> intro _
    · exact ite_elim _ (fun _ => bad) fun _ => ite_elim _ (fun _ => trivial) (fun _ => safe_ret _)
    apply ite_elim _ <;> intro _
    · split
      · exact bad
      · split <;> trivial
    apply ite_elim _ <;> intro _
    · apply ite_elim _ (fun _ => bad)
      intro hlen
      apply safe_bind (safe_idx (by omega)); intro _
      apply safe_bind (safe_mustAtoPos (by omega)); intro _
      apply safe_bind (safe_mustAtoi (by omega)); intro _
      exact safe_ok _
    apply ite_elim _ <;> intro _
    · split
      · exact bad
      · trivial
    · exact safe_ret _

theorem commentMetaline_region (o : Oracles) (md : Meta) (line : Bytes) (args : List Bytes)
    (h : splitOn 32 line = ofString "sequence-region" :: args) :
    commentMetaline o md line =
      if (ofString "sequence-region" :: args).length ≤ 3 then .done (.ret .metaline)
      else .done (do
        let name ← idx (ofString "sequence-region" :: args) 1
        let start ← mustAtoPos (ofString "sequence-region" :: args) 2
        let stop ← mustAtoi (ofString "sequence-region" :: args) 3
        pure (Item.region name md.moltype start stop)) := by
  have k : (ofString "sequence-region" == ofString "gff-version") = false ∧
      (ofString "sequence-region" == ofString "source-version") = false ∧
      (ofString "sequence-region" == ofString "date") = false ∧
      (ofString "sequence-region" == ofString "Type") = false ∧
      (ofString "sequence-region" == ofString "type") = false := by decide +kernel
  simp only [commentMetaline, h, k, Bool.false_eq_true, if_false, Bool.or_self, beq_self_eq_true, if_true]

theorem commentMetaline_noargs (o : Oracles) (md : Meta) (line k : Bytes) (h : splitOn 32 line = [k])
    (hk : k = ofString "gff-version" ∨ k = ofString "source-version" ∨ k = ofString "date" ∨ k = ofString "Type" ∨
      k = ofString "type" ∨ isSeqKeyword k = true) :
    commentMetaline o md line = .done (.ret .metaline) := by
  simp only [commentMetaline, h, List.length_singleton, Nat.le_refl, if_true, Bool.or_eq_true, beq_iff_eq]
  apply ite_elim (· = _) (fun _ => rfl); intro n1
  apply ite_elim (· = _) (fun _ => rfl); intro n2
  apply ite_elim (· = _) (fun _ => rfl); intro n3
  apply ite_elim (· = _) (fun _ => rfl); intro n4
  apply ite_elim (· = _) (fun _ => rfl); intro n5
  apply ite_elim (· = _) (fun _ => rfl); intro n6
  simp_all

theorem resToCall_no_panic {r : Res Item} (h : Safe r) (line : Nat) : ∀ p, resToCall r line ≠ .panicked p := by
  intro p hp
  unfold resToCall at hp
  split at hp
  · cases hp
  · cases hp
  · rename_i q hq
    exact handlePanic_no_panic h q hq

theorem read_nil (o : Oracles) (st : St) : read o [] st = (.eof, [], st) := by rw [read]

theorem read_meta (o : Oracles) (rest : Bytes) (ls : List Bytes) (st : St) :
    read o ((35 :: 35 :: rest) :: ls) st =
      match commentMetaline o st.md rest with
      | .continue_ md => read o ls { line := st.line + 1, md := md }
      | .done r => (resToCall r (st.line + 1), ls, { st with line := st.line + 1 })
      | .metaSeq moltype id => metaSeq moltype id ls { st with line := st.line + 1 } [] := by
  rw [read]
  simp only [List.isEmpty_cons, Bool.false_eq_true, if_false, hasPrefix, List.isPrefixOf, beq_self_eq_true, Bool.true_and,
    if_true, List.drop_succ_cons, List.drop_zero]
  cases commentMetaline o st.md rest <;> rfl

theorem read_featureLine (o : Oracles) (line : Bytes) (ls : List Bytes) (st : St) (h1 : line.isEmpty = false)
    (h2 : hasPrefix [35, 35] line = false) (h3 : line.head? ≠ some 35) :
    read o (line :: ls) st =
      (resToCall ((parseFeature o line).bind fun f => .ok (Item.feature f)) (st.line + 1), ls,
        { st with line := st.line + 1 }) := by
  rw [read]
  simp only [h1, h2, Bool.false_eq_true, if_false, beq_false_of_ne h3]

def Consumes (n : Nat) (r : Call × List Bytes × St) : Prop :=
  (∀ p, r.1 ≠ .panicked p) ∧ (r.1 = .eof ∨ r.2.1.length < n)

theorem Consumes.mono {n m : Nat} {r : Call × List Bytes × St} (h : Consumes n r) (hnm : n ≤ m) : Consumes m r :=
  h.imp_right (Or.imp_right fun h => Nat.lt_of_lt_of_le h hnm)

theorem consumes_rest {c : Call} (h : ∀ p, c ≠ .panicked p) (ls : List Bytes) (st : St) {n : Nat}
    (hn : ls.length < n) : Consumes n (c, ls, st) :=
  ⟨h, .inr hn⟩

theorem metaSeq_consumes (mt id : Bytes) (ls : List Bytes) (st : St) (body : Bytes) :
    Consumes (ls.length + 1) (metaSeq mt id ls st body) := by
  induction ls generalizing st body with
  | nil => exact ⟨nofun, .inl rfl⟩
  | cons l ls ih =>
    have step := fun st body => (ih st body).mono (Nat.le_succ _)
    have stop : ∀ c st', (∀ p, c ≠ .panicked p) → Consumes ((l :: ls).length + 1) (c, ls, st') :=
      fun c st' h => consumes_rest h ls st' (Nat.lt_succ_of_lt (Nat.lt_succ_self _))
    rw [metaSeq]
    refine ite_elim _ (fun _ => step _ _) fun _ => ite_elim _ (fun _ => stop _ _ ?_) fun _ =>
      ite_elim _ (fun _ => ite_elim _ (fun _ => stop _ _ ?_) fun _ => stop _ _ ?_) fun _ => step _ _
    all_goals nofun

theorem read_consumes (o : Oracles) (ls : List Bytes) (st : St) : Consumes ls.length (read o ls st) := by
  induction ls generalizing st with
  | nil => exact ⟨nofun, .inl rfl⟩
  | cons l ls ih =>
    have step := fun st => (ih st).mono (Nat.le_succ _)
    rw [read]
    refine ite_elim _ (fun _ => step _) fun _ => ite_elim _ (fun _ => ?_) fun _ => ite_elim _ (fun _ => step _) fun _ =>
      consumes_rest (resToCall_no_panic (safe_bind (safe_parseFeature o l) fun _ => safe_ok _) _) _ _
        (Nat.lt_succ_self _)
    have hsafe := commentMetaline_safe o st.md (l.drop 2)
    cases hr : commentMetaline o st.md (l.drop 2) with
    | continue_ md => exact step _
    | done r => rw [hr] at hsafe; exact consumes_rest (resToCall_no_panic hsafe _) _ _ (Nat.lt_succ_self _)
    | metaSeq mt id => exact metaSeq_consumes _ _ _ _ _

theorem read_no_panic (o : Oracles) (ls : List Bytes) (st : St) : ∀ p, (read o ls st).1 ≠ .panicked p :=
  (read_consumes o ls st).1

theorem readCalls_spec (o : Oracles) : ∀ (fuel : Nat) (ls : List Bytes) (st : St), ls.length < fuel →
    (readCalls o fuel ls st).1.length ≤ ls.length + 1 ∧
    (readCalls o fuel ls st).1.getLast? = some .eof ∧
    (∀ p, Call.panicked p ∉ (readCalls o fuel ls st).1) := by
  intro fuel
  induction fuel with
  | zero => intro ls st h; omega
  | succ fuel ih =>
    intro ls st hfuel
    unfold readCalls
    obtain ⟨hnp, hlen⟩ := read_consumes o ls st
    generalize read o ls st = res at hnp hlen
    obtain ⟨c, ls', st'⟩ := res
    cases c with
    | eof => simp
    | panicked p => exact absurd rfl (hnp p)
    | item _ | err _ _ =>
      have h : ls'.length < ls.length := hlen.resolve_left nofun
      obtain ⟨h1, h2, h3⟩ := ih ls' st' (by omega)
      refine ⟨by simp only [List.length_cons]; omega, by rw [List.getLast?_cons, h2]; rfl, ?_⟩
      intro p hp
      rcases List.mem_cons.mp hp with hp | hp
      · cases hp
      · exact h3 p hp

end Biogo.Gff
