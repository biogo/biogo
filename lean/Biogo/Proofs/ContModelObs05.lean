/-
The model's observations satisfy `Laws.RevCompSpec` / `Laws.RowRevCompSpec` (the declarative
statements the executable laws of C05 are proved to imply): `RevComp` on a linear sequence, a
column-stored alignment, a multi and a set; `Row(r).RevComp()` on a column-stored alignment.
-/
import Biogo.Proofs.ContLawsSound
import Biogo.Proofs.ContSepWorld
import Biogo.Proofs.ContRow

namespace Biogo.Containers
open Biogo.Containers.Laws

theorem model_revcomp_lin (cx : Ctx) (h : Cells) (l : Lin) (hv : l.Valid h) :
    RevCompSpec cx.comp (viewObj cx h (.lin l)) (viewObj cx (l.revComp cx h).1 (.lin (l.revComp cx h).2)) := by
  obtain ⟨s1, s2, s3, s4⟩ := Lin.revComp_spec cx h l hv
  have hq : (l.revComp cx h).2.q = l.q := rfl
  have hkind : (viewObj cx h (.lin l)).kind = if l.q then "qlin" else "lin" := rfl
  refine ⟨by simp only [viewObj, hq], rfl, rfl, ?_, ?_⟩
  · intro i rb ra hb ha
    obtain ⟨_, rfl⟩ := LTS.getElem?_singleton_some hb
    obtain ⟨_, rfl⟩ := LTS.getElem?_singleton_some ha
    exact ⟨s1, rfl⟩
  · have hn1 : ¬ ((viewObj cx h (.lin l)).kind = "aln" ∨ (viewObj cx h (.lin l)).kind = "qaln") := by
      rw [hkind]; cases l.q <;> decide
    have hn2 : ¬ (viewObj cx h (.lin l)).kind = "multi" := by rw [hkind]; cases l.q <;> decide
    rw [if_neg hn1, if_neg hn2]
    intro i rb ra hb ha
    obtain ⟨_, rfl⟩ := LTS.getElem?_singleton_some hb
    obtain ⟨_, rfl⟩ := LTS.getElem?_singleton_some ha
    exact ⟨s2, s3, s4⟩

theorem model_revcomp_aln (cx : Ctx) (h : Cells) (a : Aln) (n : Nat) (hc : ColsCapWF h n a.cols) :
    RevCompSpec cx.comp (viewObj cx h (.aln a)) (viewObj cx (a.revComp cx h).1 (.aln (a.revComp cx h).2)) := by
  obtain ⟨_, s2, s3, s4, s5, s6, _⟩ := Aln.revComp_spec cx h a n hc.toColsWF
  have hq : (a.revComp cx h).2.q = a.q := rfl
  have hcols : (a.revComp cx h).2.cols = a.cols := rfl
  have hrows : (a.revComp cx h).2.rows = a.rows := rfl
  have hkind : (viewObj cx h (.aln a)).kind = if a.q then "qaln" else "aln" := rfl
  refine ⟨by simp only [viewObj, hq], by simp only [viewObj, hrows], by simp [viewObj, hrows], ?_, ?_⟩
  · intro i rb ra hb ha
    simp only [viewObj, hrows] at hb ha
    rw [LTS.getElem?_map_range] at hb ha
    obtain ⟨hi, rfl⟩ := hb
    obtain ⟨_, rfl⟩ := ha
    exact ⟨s2 i (Aln.lt_of_lt_rows hc hi), by simp only [s6]⟩
  · have h1 : (viewObj cx h (.aln a)).kind = "aln" ∨ (viewObj cx h (.aln a)).kind = "qaln" := by
      rw [hkind]; cases a.q <;> simp
    rw [if_pos h1]
    exact ⟨s3, s4, s5⟩

theorem All2.linRowV_pair {R : Lin → Lin → Prop} {h h' : Cells} {rows rows' : List Lin} (hall : All2 R rows rows')
    {i : Nat} {rb ra : RowV} (hb : (rows.map (linRowV h))[i]? = some rb) (ha : (rows'.map (linRowV h'))[i]? = some ra) :
    ∃ l l', rb = linRowV h l ∧ ra = linRowV h' l' ∧ R l l' := by
  rw [List.getElem?_map, Option.map_eq_some_iff] at hb ha
  obtain ⟨l, hl, rfl⟩ := hb
  obtain ⟨l', hl', rfl⟩ := ha
  exact ⟨l, l', rfl, rfl, hall.get i l l' hl hl'⟩

theorem model_revcomp_multi (cx : Ctx) (h : Cells) (m : Multi) (hwf : RowsWF h m.rows) (hr : m.InRange) :
    RevCompSpec cx.comp (viewObj cx h (.multi m)) (viewObj cx (m.revComp cx h).1 (.multi (m.revComp cx h).2)) := by
  obtain ⟨hall, _⟩ := Multi.revComp_rows cx h m hwf
  obtain ⟨sp1, sp2, _⟩ := Multi.span_mirror m (m.revComp cx h).2 hr
    (hall.imp fun a b hab => ⟨hab.2.2.1, hab.2.2.2.1⟩)
  have hlen : (m.revComp cx h).2.rows.length = m.rows.length := hall.length_eq.symm
  refine ⟨rfl, by simp only [viewObj, Multi.nrows, hlen], by simp [viewObj, hlen], ?_, ?_⟩
  · intro i rb ra hb ha
    obtain ⟨l, l', rfl, rfl, r1, _, _, _, _, r6⟩ := hall.linRowV_pair hb ha
    exact ⟨r1, r6⟩
  · have hk : (viewObj cx h (.multi m)).kind = "multi" := rfl
    have hn1 : ¬ ((viewObj cx h (.multi m)).kind = "aln" ∨ (viewObj cx h (.multi m)).kind = "qaln") := by
      rw [hk]; decide
    rw [if_neg hn1, if_pos hk]
    refine ⟨?_, sp1, sp2⟩
    intro i rb ra hb ha
    obtain ⟨l, l', rfl, rfl, _, r2, r3, r4, _, _⟩ := hall.linRowV_pair hb ha
    exact ⟨r2, r3, r4⟩

theorem Multi.setRevComp_rows (cx : Ctx) (h : Cells) (m : Multi) (hwf : RowsWF h m.rows) :
    All2 (fun r r' =>
        r'.letters (m.setRevComp cx h).1 = (r.letters h).reverse.map (compQL cx.comp)
        ∧ r'.strand = -r.strand ∧ r'.start = r.start ∧ r'.«end» = r.«end» ∧ r'.q = r.q ∧ r'.name = r.name)
      m.rows (m.setRevComp cx h).2.rows ∧
    RowsWF (m.setRevComp cx h).1 (m.setRevComp cx h).2.rows := by
  rw [Multi.setRevComp_thread]
  exact inPlaceRows_spec (fun h r => r.revComp cx h) (inPlace_revComp cx)
    (fun bl r al r' => al = bl.reverse.map (compQL cx.comp) ∧ r'.strand = -r.strand ∧ r'.start = r.start ∧
      r'.«end» = r.«end» ∧ r'.q = r.q ∧ r'.name = r.name)
    (fun h r hv => ⟨(Lin.revComp_spec cx h r hv).1, rfl, rfl, rfl, rfl, rfl⟩) m.rows h hwf

theorem model_revcomp_set (cx : Ctx) (h : Cells) (m : Multi) (hwf : RowsWF h m.rows) :
    RevCompSpec cx.comp (viewObj cx h (.set m)) (viewObj cx (m.setRevComp cx h).1 (.set (m.setRevComp cx h).2)) := by
  obtain ⟨hall, _⟩ := Multi.setRevComp_rows cx h m hwf
  have hlen : (m.setRevComp cx h).2.rows.length = m.rows.length := hall.length_eq.symm
  refine ⟨rfl, by simp only [viewObj, Multi.nrows, hlen], by simp [viewObj, hlen], ?_, ?_⟩
  · intro i rb ra hb ha
    obtain ⟨l, l', rfl, rfl, r1, _, _, _, _, r6⟩ := hall.linRowV_pair hb ha
    exact ⟨r1, r6⟩
  · have hk : (viewObj cx h (.set m)).kind = "set" := rfl
    have hn1 : ¬ ((viewObj cx h (.set m)).kind = "aln" ∨ (viewObj cx h (.set m)).kind = "qaln") := by
      rw [hk]; decide
    have hn2 : ¬ (viewObj cx h (.set m)).kind = "multi" := by rw [hk]; decide
    rw [if_neg hn1, if_neg hn2]
    intro i rb ra hb ha
    obtain ⟨l, l', rfl, rfl, _, r2, r3, r4, _, _⟩ := hall.linRowV_pair hb ha
    exact ⟨r2, r3, r4⟩

theorem model_rowRevComp_aln (cx : Ctx) (h : Cells) (a : Aln) (n : Nat) (hc : ColsCapWF h n a.cols) (r : Nat)
    (hr : r < a.rows) :
    RowRevCompSpec cx.comp (viewObj cx h (.aln a)) (viewObj cx (a.rowRevComp cx h r).1 (.aln (a.rowRevComp cx h r).2)) r := by
  have hrn : r < n := Aln.lt_of_lt_rows hc hr
  obtain ⟨s1, s2, _, _⟩ := Aln.rowRevComp_spec cx h a n hc.toColsWF r hrn
  have hrows : (a.rowRevComp cx h r).2.rows = a.rows := rfl
  have hsub : ∀ i, (a.rowRevComp cx h r).2.subs.getD i ⟨0, 0, 0⟩ =
      if r = i then (fun (s : Ann) => ({ s with strand := -s.strand } : Ann)) (a.subs.getD i ⟨0, 0, 0⟩)
      else a.subs.getD i ⟨0, 0, 0⟩ := by
    intro i
    have hmod := LTS.getElem?_modify_if a.subs r i fun s => { s with strand := -s.strand }
    show (Aln.modSub a.subs r _).getD i _ = _
    simp only [Aln.modSub, List.getD_eq_getElem?_getD, hmod]
    by_cases e : r = i
    · simp only [e, if_true]
      cases hx : a.subs[i]? with
      | none => simp
      | some s => simp
    · simp only [e, if_false]
  refine ⟨by simp [viewObj, hrows], ?_⟩
  intro j rb hb
  simp only [viewObj] at hb
  rw [LTS.getElem?_map_range] at hb
  obtain ⟨hi, rfl⟩ := hb
  refine ⟨_, by simp only [viewObj, hrows]; rw [LTS.getElem?_map_range]; exact ⟨hi, rfl⟩, ?_⟩
  by_cases e : j = r
  · rw [if_pos e]
    subst e
    simp only [hsub, if_true, revCompCells, s1, Aln.len]
    exact ⟨trivial, trivial, trivial, trivial, rfl⟩
  · rw [if_neg e]
    have e' : ¬ r = j := fun x => e x.symm
    simp only [hsub, e', if_false, s2 j e, Aln.len]
    rfl

/-- **revcomp_spec, on observations, every kind of object of a well-formed world**: the
    observation after `RevComp` of object `k` is related to the observation before by
    `RevCompSpec` (for a multi under `Multi.InRange`: at least one row, coordinates inside the
    Go int range) -/
theorem model_revcomp (cx : Ctx) (w : World) (hw : WorldWF w) (k : Nat) (o : Obj) (hk : w.objs[k]? = some o)
    (hrange : ∀ m, o = .multi m → m.InRange) :
    ∃ b a, (w.view cx)[k]? = some b ∧ ((apply cx w (.revComp k)).1.view cx)[k]? = some a ∧
      RevCompSpec cx.comp b a := by
  have hwf := hw.obj k o hk
  have hklt : k < w.objs.length := (List.getElem?_eq_some_iff.mp hk).1
  have hb : (w.view cx)[k]? = some (viewObj cx w.cells o) := by
    simp only [World.view, List.getElem?_map, hk, Option.map_some]
  have hset : ∀ (h' : Cells) (o' : Obj), ((w.setObj k h' o').view cx)[k]? = some (viewObj cx h' o') := by
    intro h' o'
    simp only [World.view, World.setObj, List.getElem?_map, List.getElem?_set, hklt, if_true, Option.map_some]
  cases o with
  | lin l =>
    refine ⟨_, _, hb, ?_, model_revcomp_lin cx w.cells l (CapValid.toValid hwf)⟩
    simp only [apply, hk]; exact hset _ _
  | aln a =>
    obtain ⟨_, n, hc, _⟩ := hwf
    refine ⟨_, _, hb, ?_, model_revcomp_aln cx w.cells a n hc⟩
    simp only [apply, hk]; exact hset _ _
  | multi m =>
    refine ⟨_, _, hb, ?_, model_revcomp_multi cx w.cells m (RowsCapWF.toRowsWF hwf) (hrange m rfl)⟩
    simp only [apply, hk]; exact hset _ _
  | set m =>
    refine ⟨_, _, hb, ?_, model_revcomp_set cx w.cells m (RowsCapWF.toRowsWF hwf)⟩
    simp only [apply, hk]; exact hset _ _

end Biogo.Containers
