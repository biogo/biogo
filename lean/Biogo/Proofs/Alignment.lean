/-
How the projections and the linear score of `Biogo.Spec.Alignment` act on concatenation, on
reversal and on runs of gap columns; the three classes in table coordinates; the row-major index of
a flattened table (`flatten_get`).  Shared by the linear and affine aligners and the
PALS kernel.
-/
import Biogo.Spec.Alignment

namespace Biogo.Spec.Alignment

theorem projR_append (a b : Aln) : projR (a ++ b) = projR a ++ projR b := by
  induction a with
  | nil => rfl
  | cons c a ih => cases c <;> simp [projR, ih]

theorem projQ_append (a b : Aln) : projQ (a ++ b) = projQ a ++ projQ b := by
  induction a with
  | nil => rfl
  | cons c a ih => cases c <;> simp [projQ, ih]

theorem scoreLin_append (S : Matrix) (a b : Aln) : scoreLin S (a ++ b) = scoreLin S a + scoreLin S b := by
  induction a with
  | nil => simp [scoreLin]
  | cons c a ih => simp only [List.cons_append, scoreLin, ih]; omega

theorem projR_reverse (a : Aln) : projR a.reverse = (projR a).reverse := by
  induction a with
  | nil => rfl
  | cons c a ih => cases c <;> simp [projR, projR_append, ih]

theorem projQ_reverse (a : Aln) : projQ a.reverse = (projQ a).reverse := by
  induction a with
  | nil => rfl
  | cons c a ih => cases c <;> simp [projQ, projQ_append, ih]

theorem scoreLin_reverse (S : Matrix) (a : Aln) : scoreLin S a.reverse = scoreLin S a := by
  induction a with
  | nil => rfl
  | cons c a ih => simp only [List.reverse_cons, scoreLin_append, scoreLin, ih]; omega

theorem projR_map_u (l : List Nat) : projR (l.map Col.u) = l := by
  induction l with | nil => rfl | cons a l ih => simp [projR, ih]

theorem projQ_map_u (l : List Nat) : projQ (l.map Col.u) = [] := by
  induction l with | nil => rfl | cons a l ih => simp [projQ, ih]

theorem projR_map_l (l : List Nat) : projR (l.map Col.l) = [] := by
  induction l with | nil => rfl | cons a l ih => simp [projR, ih]

theorem projQ_map_l (l : List Nat) : projQ (l.map Col.l) = l := by
  induction l with | nil => rfl | cons a l ih => simp [projQ, ih]

theorem isFitted_iff {a : Aln} {r q : List Nat} {e : Nat} (he : e ≤ r.length) :
    IsFitted a r q e ↔ projR a <:+ r.take e ∧ projQ a = q := by
  constructor
  · rintro ⟨i, _, _, hR, hQ⟩
    exact ⟨hR ▸ List.drop_suffix _ _, hQ⟩
  · rintro ⟨hR, hQ⟩
    refine ⟨(r.take e).length - (projR a).length, ?_, he, List.suffix_iff_eq_drop.mp hR, hQ⟩
    have := List.length_take_le e r; omega

theorem isLocal_iff {a : Aln} {r q : List Nat} :
    IsLocal a r q ↔ ∃ i j, i ≤ r.length ∧ j ≤ q.length ∧ projR a <:+ r.take i ∧ projQ a <:+ q.take j := by
  constructor
  · rintro ⟨r₁, r₂, r₃, q₁, q₂, q₃, rfl, rfl, hR, hQ⟩
    refine ⟨(r₁ ++ r₂).length, (q₁ ++ q₂).length, by simp, by simp, ?_, ?_⟩
    · rw [List.take_left, hR]; exact List.suffix_append r₁ r₂
    · rw [List.take_left, hQ]; exact List.suffix_append q₁ q₂
  · rintro ⟨i, j, _, _, ⟨r₁, hr⟩, ⟨q₁, hq⟩⟩
    exact ⟨r₁, projR a, r.drop i, q₁, projQ a, q.drop j, by rw [hr, List.take_append_drop],
      by rw [hq, List.take_append_drop], rfl, rfl⟩

theorem IsLocal.mem {a : Aln} {r q : List Nat} (h : IsLocal a r q) :
    (∀ x ∈ projR a, x ∈ r) ∧ ∀ y ∈ projQ a, y ∈ q := by
  obtain ⟨i, j, _, _, hR, hQ⟩ := isLocal_iff.mp h
  exact ⟨fun x hx => List.mem_of_mem_take (hR.subset hx), fun y hy => List.mem_of_mem_take (hQ.subset hy)⟩

theorem IsFitted.mem {a : Aln} {r q : List Nat} {e : Nat} (h : IsFitted a r q e) :
    (∀ x ∈ projR a, x ∈ r) ∧ ∀ y ∈ projQ a, y ∈ q := by
  have he : e ≤ r.length := let ⟨_, _, he, _⟩ := h; he
  obtain ⟨hR, hQ⟩ := (isFitted_iff he).mp h
  exact ⟨fun x hx => List.mem_of_mem_take (hR.subset hx), fun y hy => hQ ▸ hy⟩

theorem flatten_get {α} (c : Nat) : ∀ (L : List (List α)) (i j : Nat),
    (∀ row ∈ L, row.length = c) → j < c →
    L.flatten[i * c + j]? = (L[i]?).bind (·[j]?) := by
  intro L
  induction L with
  | nil => intro i j _ _; simp
  | cons row L ih =>
    intro i j hl hj
    have hrow : row.length = c := hl row List.mem_cons_self
    subst hrow
    cases i with
    | zero =>
      simp only [List.flatten_cons, Nat.zero_mul, Nat.zero_add, List.getElem?_cons_zero, Option.bind_some]
      rw [List.getElem?_append_left hj]
    | succ i =>
      simp only [List.flatten_cons, List.getElem?_cons_succ]
      rw [List.getElem?_append_right
        (Nat.le_trans (Nat.le_mul_of_pos_left _ (Nat.succ_pos i)) (Nat.le_add_right _ _)),
        Nat.succ_mul, Nat.add_right_comm, Nat.add_sub_cancel]
      exact ih i j (fun r hr => hl r (List.mem_cons_of_mem _ hr)) hj

theorem flatten_length {α} (c : Nat) : ∀ (L : List (List α)), (∀ row ∈ L, row.length = c) →
    L.flatten.length = L.length * c := by
  intro L
  induction L with
  | nil => simp
  | cons row L ih =>
    intro hl
    simp only [List.flatten_cons, List.length_append, List.length_cons]
    rw [ih (fun r hr => hl r (by simp [hr])), hl row (by simp), Nat.succ_mul]; omega

theorem toArray_getD {α} (l : List α) (p : Nat) (d : α) : l.toArray.getD p d = (l[p]?).getD d := by
  by_cases h : p < l.length <;> simp [Array.getD, h]

end Biogo.Spec.Alignment
