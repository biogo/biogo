/-
Helper lemmas for C18.  The order on exact probabilities is transitive, so a table whose
adjacent entries are ordered is ordered between any two positions (`Prob.antitone_of_adjacent`).
A statement about every entry of a table is decided in one pass over the table
(`forall_getD_of_zipIdx`): looking every index up separately makes the kernel walk the list once
per index.  An offset clause without conversion encodes a score at most its threshold as
score + offset and decodes by subtracting it, whatever the tables (`phred_offset`).  Core-only.
-/
import Biogo.Model.Quality
import Biogo.Spec.Quality

namespace Biogo.Quality

theorem frac_le_trans {a b c x y z : Nat} (hy : 0 < y)
    (h1 : a * y ≤ b * x) (h2 : b * z ≤ c * y) : a * z ≤ c * x := by
  have h3 : a * z * y ≤ c * x * y := by
    calc a * z * y = a * y * z := Nat.mul_right_comm a z y
      _ ≤ b * x * z := Nat.mul_le_mul_right z h1
      _ = b * z * x := Nat.mul_right_comm b x z
      _ ≤ c * y * x := Nat.mul_le_mul_right x h2
      _ = c * x * y := Nat.mul_right_comm c y x
  exact Nat.le_of_mul_le_mul_right h3 hy

theorem Prob.le_trans {a b c : Prob} (h1 : a.le b = true) (h2 : b.le c = true) : a.le c = true := by
  cases a <;> cases b <;> cases c <;> simp only [Prob.le, decide_eq_true_eq] at * <;> try contradiction
  rename_i m1 k1 m2 k2 m3 k3
  exact frac_le_trans (Nat.pow_pos (by decide)) h1 h2

theorem Prob.antitone_of_adjacent {f : Nat → Prob} {lo hi : Nat}
    (h : ∀ n, lo ≤ n → n < hi → (f (n + 1)).le (f n) = true) {i j : Nat} (hlo : lo ≤ i) (hij : i < j)
    (hj : j ≤ hi) : (f j).le (f i) = true := by
  obtain ⟨d, rfl⟩ : ∃ d, j = i + 1 + d := ⟨j - (i + 1), by omega⟩
  induction d with
  | zero => exact h i hlo (by omega)
  | succ d ih => exact Prob.le_trans (h (i + 1 + d) (by omega) (by omega)) (ih (by omega) (by omega))

/-- table index of a Phred score -/
theorem phred_index (q : Nat) (h : q < 256) : (UInt8.ofNat q).toNat = q := by
  simp [UInt8.toNat_ofNat']; omega

/-- table index of the Solexa score `n - 128` is `n` -/
theorem solexa_index (n : Nat) (h : n < 256) :
    ((Int8.ofInt ((n : Int) - 128)).toInt + 128).toNat = n := by
  have : (Int8.ofInt ((n : Int) - 128)).toInt = (n : Int) - 128 := by
    rw [Int8.toInt_ofInt]
    simp only [Int8.size, Int.bmod]
    omega
  rw [this]; omega

theorem offsetU_ofNat {thr off floor q : Nat} (hq : q ≤ thr) (ht : thr < 256) (hf : floor ≤ q + off)
    (hb : q + off < 256) : offsetU thr off floor (UInt8.ofNat q) = UInt8.ofNat (q + off) := by
  have h1 : UInt8.ofNat q ≤ UInt8.ofNat thr := (UInt8.ofNat_le_iff_le (Nat.lt_of_le_of_lt hq ht) ht).mpr hq
  have h2 : ¬ UInt8.ofNat (q + off) < UInt8.ofNat floor := by
    rw [UInt8.ofNat_lt_iff_lt hb (Nat.lt_of_le_of_lt hf hb)]; omega
  rw [offsetU, if_pos h1, ← UInt8.ofNat_add, raise, if_neg h2]

open Spec in
/-- what `phred_offset` needs of encoding `e`: offset clauses that use no conversion table, and
    printable scores that the threshold, the floor and the special scores leave alone -/
def phredOffsetOK (S : Source) (e : Int) : Bool :=
  match findEnc S.phredEnc e, findDec S.decPhred e with
  | some (.offset false thr off floor), some (.sub false off') =>
    off == docOffset e && off' == off && thr < 256 &&
    (List.range 256).all fun q => !printablePhred e q ||
      (q ≤ thr && floor ≤ q + off && (S.phredSpecial.lookup (q : Int)).isNone)
  | _, _ => false

open Spec in
/-- a printable score is encoded as score + offset and decoded by subtracting it again, whatever
    the conversion tables -/
theorem phred_offset {S : Source} {e : Int} (h : phredOffsetOK S e = true) (T : Tables) {q : Nat}
    (hq : q < 256) (hp : printablePhred e q = true) :
    encodePhred S T e (UInt8.ofNat q) = UInt8.ofNat (q + docOffset e) ∧
    decodePhred S T e (UInt8.ofNat (q + docOffset e)) = some (UInt8.ofNat q) := by
  unfold phredOffsetOK at h
  split at h
  · rename_i thr off floor off' he hd
    simp only [Bool.and_eq_true, beq_iff_eq, decide_eq_true_eq, List.all_eq_true, List.mem_range,
      Bool.or_eq_true, Bool.not_eq_true', Option.isNone_iff_eq_none] at h
    obtain ⟨⟨⟨rfl, rfl⟩, ht⟩, hall⟩ := h
    obtain ⟨⟨h1, h2⟩, h3⟩ := (hall q hq).resolve_left (by simp [hp])
    have hb : q + docOffset e < 256 := by
      simp only [printablePhred, Bool.and_eq_true, decide_eq_true_eq] at hp; omega
    constructor
    · rw [encodePhred, phred_index q hq, h3]; simp only [he]
      exact offsetU_ofNat h1 ht h2 hb
    · rw [decodePhred]; simp only [hd]
      rw [UInt8.ofNat_add, UInt8.add_sub_cancel]
  · cases h

theorem getD_drop' {α} (l : List α) (n j : Nat) (d : α) :
    (l.drop n).getD j d = l.getD (n + j) d := by
  simp [List.getD_eq_getElem?_getD, List.getElem?_drop]

theorem forall_getD_of_zipIdx {α} {l : List α} {P : Nat → α → Prop}
    (h : ∀ x ∈ l.zipIdx, P x.2 x.1) {n : Nat} (hn : n < l.length) (d : α) : P n (l.getD n d) := by
  have hx : l[n]? = some l[n] := List.getElem?_eq_getElem hn
  simpa [List.getD_eq_getElem?_getD, hx] using h (l[n], n) (List.mem_zipIdx_iff_getElem?.mpr hx)

theorem forall_getD_of_zipIdx₂ {α β} {l₁ : List α} {l₂ : List β} {P : Nat → α → β → Prop}
    (h : ∀ x ∈ (l₁.zip l₂).zipIdx, P x.2 x.1.1 x.1.2) {n : Nat} (h₁ : n < l₁.length)
    (h₂ : n < l₂.length) (d₁ : α) (d₂ : β) : P n (l₁.getD n d₁) (l₂.getD n d₂) := by
  have hx : (l₁.zip l₂)[n]? = some (l₁[n], l₂[n]) :=
    List.getElem?_zip_eq_some.mpr ⟨List.getElem?_eq_getElem h₁, List.getElem?_eq_getElem h₂⟩
  simpa [List.getD_eq_getElem?_getD, h₁, h₂] using
    h ((l₁[n], l₂[n]), n) (List.mem_zipIdx_iff_getElem?.mpr hx)

variable {T : Tables}

theorem forall_probPhred (hl : T.phredE.length = 256) {P : Nat → Prob → Prop}
    (h : ∀ x ∈ T.phredE.zipIdx, P x.2 x.1) {q : Nat} (hq : q < 256) :
    P q (T.probPhred (UInt8.ofNat q)) := by
  rw [Tables.probPhred, phred_index q hq]; exact forall_getD_of_zipIdx h (hl ▸ hq) _

theorem forall_probSolexa (hl : T.solexaE.length = 256) {P : Nat → Prob → Prop}
    (h : ∀ x ∈ T.solexaE.zipIdx, P x.2 x.1) {n : Nat} (hn : n < 256) :
    P n (T.probSolexa (Int8.ofInt ((n : Int) - 128))) := by
  rw [Tables.probSolexa, solexa_index n hn]; exact forall_getD_of_zipIdx h (hl ▸ hn) _

theorem forall_toSolexa (hl : T.phredSolexa.length = 256) {P : Nat → Int8 → Prop}
    (h : ∀ x ∈ T.phredSolexa.zipIdx, P x.2 (Int8.ofInt x.1)) {q : Nat} (hq : q < 256) :
    P q (T.toSolexa (UInt8.ofNat q)) := by
  rw [Tables.toSolexa, phred_index q hq]
  exact forall_getD_of_zipIdx (P := fun n v => P n (Int8.ofInt v)) h (hl ▸ hq) _

theorem forall_toPhred (hl : T.solexaPhred.length = 256) {P : Nat → UInt8 → Prop}
    (h : ∀ x ∈ T.solexaPhred.zipIdx, P x.2 (UInt8.ofNat x.1)) {n : Nat} (hn : n < 256) :
    P n (T.toPhred (Int8.ofInt ((n : Int) - 128))) := by
  rw [Tables.toPhred, solexa_index n hn]
  exact forall_getD_of_zipIdx (P := fun n v => P n (UInt8.ofNat v)) h (hl ▸ hn) _

end Biogo.Quality
