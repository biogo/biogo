/-
Helper lemmas for the `Int64` model of `feat.OneToZero` / `feat.ZeroToOne` (C20): the bit-exact
functions seen through `Int64.toInt` are the unbounded ones, except for `ZeroToOne` at
`math.MaxInt64`.  Core-only.
-/
import Biogo.Model.Feat

namespace Biogo.Proofs.Feat64
open Biogo.Feat

theorem eq_zero_iff64 (p : Int64) : p = 0 ↔ p.toInt = 0 := by
  rw [← Int64.toInt_zero]; exact Int64.toInt_inj.symm

theorem pos_iff64 (p : Int64) : p > 0 ↔ p.toInt > 0 := by
  show 0 < p ↔ _
  rw [Int64.lt_iff_toInt_lt, Int64.toInt_zero]

theorem nonneg_iff64 (p : Int64) : p ≥ 0 ↔ p.toInt ≥ 0 := by
  show 0 ≤ p ↔ _
  rw [Int64.le_iff_toInt_le, Int64.toInt_zero]

theorem ne_max_iff64 (p : Int64) : p ≠ Int64.maxValue ↔ p.toInt ≠ 2 ^ 63 - 1 := by
  rw [← Int64.toInt_maxValue]
  exact not_congr Int64.toInt_inj.symm

/-- `pos++` does not wrap below `MaxInt64` … -/
theorem toInt_add_one64 (p : Int64) (h : p.toInt ≠ 2 ^ 63 - 1) : (p + 1).toInt = p.toInt + 1 := by
  have h1 := Int64.le_toInt p
  have h2 := Int64.toInt_lt p
  rw [Int64.toInt_add, Int64.toInt_one, Int.bmod_eq_of_le] <;> omega

/-- … and `pos--` does not above `MinInt64` -/
theorem toInt_sub_one64 (p : Int64) (h : p.toInt ≠ -2 ^ 63) : (p - 1).toInt = p.toInt - 1 := by
  have h1 := Int64.le_toInt p
  have h2 := Int64.toInt_lt p
  rw [Int64.toInt_sub, Int64.toInt_one, Int.bmod_eq_of_le] <;> omega

theorem toInt_zeroToOne64 (p : Int64) (hp : p ≠ Int64.maxValue) :
    (zeroToOne64 p).toInt = zeroToOne p.toInt := by
  unfold zeroToOne64 zeroToOne
  by_cases h : p ≥ 0
  · rw [if_pos h, if_pos ((nonneg_iff64 p).mp h), toInt_add_one64 p ((ne_max_iff64 p).mp hp)]
  · rw [if_neg h, if_neg (mt (nonneg_iff64 p).mpr h)]

theorem toInt_oneToZero64 (p : Int64) :
    (oneToZero64 p).map Int64.toInt = oneToZero p.toInt := by
  unfold oneToZero64 oneToZero
  by_cases h0 : p = 0
  · rw [if_pos h0, if_pos ((eq_zero_iff64 p).mp h0)]; rfl
  · rw [if_neg h0, if_neg (mt (eq_zero_iff64 p).mpr h0)]
    by_cases h : p > 0
    · have h' := (pos_iff64 p).mp h
      rw [if_pos h, if_pos h']
      show Except.ok (p - 1).toInt = _
      rw [toInt_sub_one64 p (by omega)]
    · rw [if_neg h, if_neg (mt (pos_iff64 p).mpr h)]; rfl

theorem except_toInt_ok {x : Except Panic Int64} {p : Int64}
    (h : x.map Int64.toInt = .ok p.toInt) : x = .ok p := by
  cases x with
  | error e => simp [Except.map] at h
  | ok r =>
    simp only [Except.map, Except.ok.injEq] at h
    rw [Int64.toInt_inj.mp h]

end Biogo.Proofs.Feat64
