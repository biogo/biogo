/-
`FittedAffine` after the repairs of K1 and K3 (model `Biogo.AlignAff.fitAlign`: fill with the
`up ↔ left` transitions, end row and start layer taken from the best of the three layers of the
last column): the total of the returned pairs is the optimum of the affine score over *all*
alignments of the whole query with a reference segment ending at the reported end, when gap-open
and the scores of a reference letter against a gap are not positive.

The table holds, whatever the matrix, the optimum over the fitted alignments that do not begin with a gap
in the query (`FittedClass.fit_rcell true`): reference letters before the first query letter are skipped, never
aligned with gaps.  The signs are used only to show that dropping such a gap (`dropU`) never lowers the score.
-/
import Biogo.Proofs.FittedClass

namespace Biogo.Proofs.FittedFull
open Biogo.Spec.Alignment Biogo.AlignAff Biogo.Spec.AffineOpt
open Biogo.Proofs.AffineOpt Biogo.Proofs.AlignAffTable
open Biogo.Proofs.FittedAffine Biogo.Proofs.FittedClass
open Biogo.Spec.FittedRestricted (firstKind)
open Biogo.Spec.AffPairs (lastEnd)

def dropU : Aln → Aln
  | .u _ :: a => dropU a
  | a => a

theorem projQ_dropU : ∀ a, projQ (dropU a) = projQ a
  | [] => rfl
  | .u _ :: a => projQ_dropU a
  | .m _ _ :: _ => rfl
  | .l _ :: _ => rfl

theorem projR_dropU : ∀ a, projR (dropU a) <:+ projR a
  | [] => List.suffix_refl _
  | .u x :: a => (projR_dropU a).trans (List.suffix_cons x _)
  | .m _ _ :: _ => List.suffix_refl _
  | .l _ :: _ => List.suffix_refl _

theorem firstKind_dropU : ∀ a, firstKind (dropU a) ≠ some .u
  | [] => nofun
  | .u _ :: a => firstKind_dropU a
  | .m _ _ :: _ => nofun
  | .l _ :: _ => nofun

theorem scoreAffFrom_dropU (S : Matrix) (o : Int) (ho : o ≤ 0) (hg : ∀ x, S x 0 ≤ 0) :
    ∀ (a : Aln) (p : Kind), p ≠ .l → scoreAffFrom S o p a ≤ scoreAffFrom S o .m (dropU a)
  | [], _, _ => Int.le_refl _
  | .u x :: a, p, _ => by
    have := scoreAffFrom_dropU S o ho hg a .u (by decide)
    have := hg x
    have h1 : (if Kind.u ≠ Kind.m ∧ Kind.u ≠ p then o else 0) ≤ 0 := by split <;> omega
    show (if Kind.u ≠ Kind.m ∧ Kind.u ≠ p then o else 0) + S x 0 + scoreAffFrom S o .u a ≤
      scoreAffFrom S o .m (dropU a)
    omega
  -- nothing is dropped, and the first column opens a gap after `p` iff it does at the start
  | .m _ _ :: _, _, _ => Int.le_refl _
  | .l _ :: _, p, hp => by
    cases p with
    | l => exact absurd rfl hp
    | _ => exact Int.le_refl _

theorem adm_dropU (S : Matrix) (o : Int) (ho : o ≤ 0) (hg : ∀ x, S x 0 ≤ 0) {rp qp : List Nat} (hq : qp ≠ [])
    (a : Aln) (h : Adm (flFit true) rp qp a) :
    ∃ a', (Adm (flFit true) rp qp a' ∧ StartOK true rp a') ∧ scoreAff S o a ≤ scoreAff S o a' := by
  have hadm : Adm (flFit true) rp qp (dropU a) :=
    ⟨(projR_dropU a).trans h.1, by rw [projQ_dropU]; exact h.2.1, Or.inl rfl⟩
  refine ⟨dropU a, ⟨hadm, ?_⟩, scoreAffFrom_dropU S o ho hg a .m (by decide)⟩
  have hne := adm_ne_nil hadm hq
  have hu := firstKind_dropU a
  cases hd : dropU a with
  | nil => exact absurd hd hne
  | cons c t =>
    rw [hd] at hu
    cases c with
    | m x y => exact Or.inl rfl
    | u x => exact absurd rfl hu
    | l y => exact Or.inr ⟨rfl, Or.inl rfl⟩

theorem fit_cellBest (S : Matrix) (o : Int) (ho : o ≤ 0) (hg : ∀ x, S x 0 ≤ 0) (r q : List Nat) (i j : Nat)
    (hi : i ≤ r.length) (hj : j < q.length) :
    IsOpt (Adm (flFit true) (r.take i) (q.take (j + 1))) (scoreAff S o) (cellBest (fitAt true S o r q i (j + 1))) :=
  isOpt_of_dominated (fun _ h => h.1) (adm_dropU S o ho hg (take_ne_nil q j hj))
    (isOpt_congr (fun _ => ⟨fun ⟨_, hk⟩ => ⟨hk.1.1, hk.2⟩, fun ha => ⟨_, ⟨ha.1, rfl⟩, ha.2⟩⟩)
      (isOpt_kinds kinds_mul (fit_rcell true S o r q i j hi hj)))

/-- The pairs reported by the model of `FittedAffine` end at a row `e ≥ 1`, and their total is
    the best of the three layers of the last column of that row. -/
theorem fitAlign_value (S : Matrix) (o : Int) (r q : List Nat) (hr : r ≠ []) (hq : q ≠ []) :
    ∃ ps, fitAlign S o r q = .ok ps ∧ 1 ≤ (lastEnd ps).1 ∧ (lastEnd ps).1 ≤ r.length ∧
      cellBest (fitAt true S o r q (lastEnd ps).1 q.length) = some (total ps) := by
  obtain ⟨hE1, hE, hLay, _⟩ := fitStart_spec true true S o r q hr hq
  obtain ⟨ps, hps, hend, hv⟩ := fitAlignT_value true true S o r q hr hq
  simp only [if_true] at hE1 hE hLay hend hv
  rw [hLay, cellBest_layer, ← hend, fitTable_at true S o r q _ _ (Nat.le_refl _)] at hv
  exact ⟨ps, hps, hend ▸ hE1, hend ▸ hE, hv⟩

/-- **FittedAffine, C08 at full strength**: the total of the returned pairs is the maximum of
    the affine score over all alignments of the whole query with a reference segment ending at
    the reported end. -/
theorem fitAlign_total (S : Matrix) (o : Int) (ho : o ≤ 0) (hg : ∀ x, S x 0 ≤ 0) (r q : List Nat)
    (hr : r ≠ []) (hq : q ≠ []) :
    ∃ ps, fitAlign S o r q = .ok ps ∧ 1 ≤ (lastEnd ps).1 ∧ (lastEnd ps).1 ≤ r.length ∧
      IsOpt (fun a => IsFitted a r q (lastEnd ps).1 ∧ (true = true ∨ NoAdj a)) (scoreAff S o) (some (total ps)) := by
  obtain ⟨ps, hps, he1, heR, hx⟩ := fitAlign_value S o r q hr hq
  obtain ⟨C', hC'⟩ := Nat.exists_eq_add_one_of_ne_zero (mt List.length_eq_zero_iff.mp hq)
  have hopt := fit_cellBest S o ho hg r q _ C' heR (by omega)
  rw [← hC', List.take_length, hx] at hopt
  exact ⟨ps, hps, he1, heR, isOpt_congr (adm_fitted_iff true r q _ heR) hopt⟩

end Biogo.Proofs.FittedFull
