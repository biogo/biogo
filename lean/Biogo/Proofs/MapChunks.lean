/-
`concurrent.Map` cuts its input into chunks that partition it — for every length, thread count
and maximum chunk size (both at least 1).
-/
import Biogo.Model.Processor

namespace Biogo.Processor

theorem tiles_chunksFrom (n chunk : Nat) (hc : 0 < chunk) :
    ∀ fuel s, n ≤ fuel + s * chunk → tiles n (min (s * chunk) n) (chunksFrom n chunk fuel s) = true := by
  intro fuel
  induction fuel with
  | zero =>
    intro s h
    simp only [chunksFrom, tiles]
    simp; omega
  | succ fuel ih =>
    intro s h
    simp only [chunksFrom]
    split
    · rename_i hlt
      have h1 : chunk * s = s * chunk := Nat.mul_comm _ _
      have h2 : chunk * (s + 1) = (s + 1) * chunk := Nat.mul_comm _ _
      have h3 : (s + 1) * chunk = s * chunk + chunk := Nat.succ_mul _ _
      have hnext := ih (s + 1) (by omega)
      simp only [tiles, Bool.and_eq_true, beq_iff_eq, decide_eq_true_eq]
      refine ⟨⟨by omega, by omega⟩, ?_⟩
      rw [h2]; exact hnext
    · rename_i hge
      simp only [tiles]
      simp; omega

theorem tiles_chunks (n chunk : Nat) (hc : 0 < chunk) : tiles n 0 (chunks n chunk) = true := by
  have := tiles_chunksFrom n chunk hc n 0 (by omega)
  simpa [chunks] using this

theorem tiles_join {α : Type} (xs : List α) :
    ∀ (cs : List (Nat × Nat)) (pos : Nat), tiles xs.length pos cs = true →
      cs.flatMap (slice xs) = xs.drop pos := by
  intro cs
  induction cs with
  | nil =>
    intro pos h
    simp [tiles] at h
    simp [h]
  | cons p rest ih =>
    intro pos h
    obtain ⟨a, b⟩ := p
    simp only [tiles, Bool.and_eq_true, beq_iff_eq, decide_eq_true_eq] at h
    obtain ⟨⟨ha, hab⟩, hrest⟩ := h
    subst ha
    rw [List.flatMap_cons, ih b hrest]
    simp only [slice]
    have : xs.drop b = (xs.drop a).drop (b - a) := by
      rw [List.drop_drop]; congr 1; omega
    rw [this, List.take_append_drop]

theorem tiles_bounds (n : Nat) :
    ∀ (cs : List (Nat × Nat)) (pos : Nat), tiles n pos cs = true →
      ∀ p ∈ cs, pos ≤ p.1 ∧ p.1 < p.2 ∧ p.2 ≤ n := by
  intro cs
  induction cs with
  | nil => intro pos _ p hp; cases hp
  | cons q rest ih =>
    intro pos h p hp
    obtain ⟨a, b⟩ := q
    simp only [tiles, Bool.and_eq_true, beq_iff_eq, decide_eq_true_eq] at h
    obtain ⟨⟨ha, hab⟩, hrest⟩ := h
    subst ha
    cases hp with
    | head =>
      refine ⟨Nat.le_refl _, hab, ?_⟩
      -- the end of the first chunk is at most n because the rest tiles up to n
      cases rest with
      | nil => simp [tiles] at hrest; omega
      | cons q2 rest2 =>
        have := ih b hrest q2 (List.mem_cons_self ..)
        omega
    | tail _ hmem =>
      have := ih b hrest p hmem
      omega

theorem chunkSize_pos (n threads maxChunk : Nat) (hn : 0 < n) (ht : 0 < threads) (hm : 0 < maxChunk) :
    0 < chunkSize n threads maxChunk := by
  unfold chunkSize
  have : 0 < (n + threads - 1) / threads := Nat.div_pos (by omega) ht
  omega

theorem chunks_zero (chunk : Nat) : chunks 0 chunk = [] := rfl

end Biogo.Processor
