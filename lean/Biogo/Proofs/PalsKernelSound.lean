/-
Soundness of the kernel model `Biogo.PalsKernel` (C15): every cell of the banded x-drop table is
the score of a path of kernel moves from the basis (`Reach`), hence the cell `traceCore` reports is
one (`traceCore_sound`); a path is an alignment of the letters it consumes (`Reach.aln`); the
mirrored run is an alignment of the original regions (`traceReverse_ok`: the model's
`traceReverse` keeps the contract `RevOK`, `traceForward_ok`: `traceForward` keeps `FwdOK`); so the hit
`alignRecursion` assembles from the two satisfies `HitOK` (`Proofs.PalsKernel.assemble_ok`), and with
it every hit `AlignTraps` of the model emits (`emittedWith_okQ`, `emittedWith_hitOK`).  Only the
direction "a reported score is attained by some alignment" is proved — no optimality within the
band.  Core Lean only.
-/
import Biogo.Model.PalsKernel
import Biogo.Spec.PalsKernel
import Biogo.Proofs.Alignment
import Biogo.Proofs.PalsKernel
import Biogo.Proofs.PalsMerge

namespace Biogo.Proofs.PalsKernelSound
open Biogo.PalsKernel
open Biogo.PalsMerge (Trap)

theorem Row.at_push_lt (r : Row) (x : Int) (j : Int) (h0 : r.lo ≤ j) (h1 : j < r.lo + r.vals.size) :
    (⟨r.lo, r.vals.push x⟩ : Row).at j = r.at j := by
  unfold Row.at
  simp only
  have : (j - r.lo).toNat < r.vals.size := by omega
  have h2 : (j - r.lo).toNat < (r.vals.push x).size := by rw [Array.size_push]; omega
  simp only [Array.getD, this, h2, dite_true]
  exact Array.getElem_push_lt this

theorem Row.at_push_eq (r : Row) (x : Int) : (⟨r.lo, r.vals.push x⟩ : Row).at (r.lo + r.vals.size) = x := by
  unfold Row.at
  simp only
  have : (r.lo + r.vals.size - r.lo).toNat = r.vals.size := by omega
  rw [this]
  simp [Array.getD]

/-- `Reach c v mid lo hi i j s`: some path of the kernel's moves leads from a basis cell
    `(mid, j0)`, `lo ≤ j0 ≤ hi`, to the cell `(i, j)` and scores `s` -/
inductive Reach (c : Costs) (v : View) (mid lo hi : Int) : Int → Int → Int → Prop
  | basis (j : Int) : lo ≤ j → j ≤ hi → Reach c v mid lo hi mid j 0
  | diag {i j s : Int} : Reach c v mid lo hi i j s →
      Reach c v mid lo hi (i + 1) (j + 1)
        ((if isMatch (v.qAt i) (v.tAt (j + 1)) then s + c.matchCost else s) - c.diffCost)
  | up {i j s : Int} : Reach c v mid lo hi i j s → Reach c v mid lo hi (i + 1) j (s - c.diffCost)
  | left {i j s : Int} : Reach c v mid lo hi i j s → Reach c v mid lo hi i (j + 1) (s - c.diffCost)

def RowOK (c : Costs) (v : View) (mid lo hi : Int) (i : Int) (r : Row) : Prop :=
  ∀ j, r.lo ≤ j → j < r.lo + r.vals.size → Reach c v mid lo hi i j (r.at j)

/-- first alternative: still the initial best, whose column `jinit` (`View.bestAtExtended`) may lie right of `hi` -/
def BestOK (c : Costs) (v : View) (mid lo hi jinit : Int) (b : Best) : Prop :=
  (mid ≤ b.i ∧ b.i ≤ v.qlen ∧ lo ≤ b.j ∧ b.j ≤ v.tlen ∧ 0 ≤ b.score) ∧
  ((b.i = mid ∧ b.score = 0 ∧ b.j = jinit) ∨ Reach c v mid lo hi b.i b.j b.score)

/-- a best cell in the row being written (`i1`) is a written cell with that score: pruning keeps it (`SOK.diagBest`) -/
def BestRow (b : Best) (i1 : Int) (r : Row) : Prop :=
  b.i ≤ i1 ∧ (b.i = i1 → r.lo ≤ b.j ∧ b.j < r.lo + r.vals.size ∧ r.at b.j = b.score)

theorem BestRow.push {b : Best} {i1 : Int} {r : Row} (h : BestRow b i1 r) (x : Int) :
    BestRow b i1 ⟨r.lo, r.vals.push x⟩ := by
  refine ⟨h.1, fun e => ?_⟩
  obtain ⟨h1, h2, h3⟩ := h.2 e
  refine ⟨h1, by simp only [Array.size_push]; omega, ?_⟩
  rw [Row.at_push_lt r x b.j h1 h2]; exact h3

section
variable {c : Costs} {v : View} {mid lo hi jinit : Int}

theorem Reach.diag' {i j s : Int} (h : Reach c v mid lo hi i (j - 1) s) :
    Reach c v mid lo hi (i + 1) j ((if isMatch (v.qAt i) (v.tAt j) then s + c.matchCost else s) - c.diffCost) := by
  have := Reach.diag h
  rwa [Int.sub_add_cancel] at this

theorem Reach.left' {i j s : Int} (h : Reach c v mid lo hi i (j - 1) s) :
    Reach c v mid lo hi i j (s - c.diffCost) := by
  have := Reach.left h
  rwa [Int.sub_add_cancel] at this

theorem RowOK.push {i : Int} {r : Row} (h : RowOK c v mid lo hi i r) (x : Int)
    (hx : Reach c v mid lo hi i (r.lo + r.vals.size) x) : RowOK c v mid lo hi i ⟨r.lo, r.vals.push x⟩ := by
  intro j h0 h1
  simp only [Array.size_push] at h1
  by_cases hj : j < r.lo + r.vals.size
  · rw [Row.at_push_lt r x j h0 hj]; exact h j h0 hj
  · obtain rfl : j = r.lo + r.vals.size := by omega
    rw [Row.at_push_eq]; exact hx

/-- a row under construction: the cells `clo … j - 1` are written, the last of them holds `last` -/
structure RowPart (c : Costs) (v : View) (mid lo hi : Int) (i clo : Int) (vals : Array Int) (j last : Int)
    (b : Best) : Prop where
  size : clo + vals.size = j
  row : RowOK c v mid lo hi i ⟨clo, vals⟩
  last : Reach c v mid lo hi i (j - 1) last
  best : BestRow b i ⟨clo, vals⟩

theorem RowPart.push {i clo j last x : Int} {vals : Array Int} {b : Best}
    (h : RowPart c v mid lo hi i clo vals j last b) (hx : Reach c v mid lo hi i j x) :
    RowPart c v mid lo hi i clo (vals.push x) (j + 1) x b :=
  ⟨by rw [Array.size_push]; have := h.size; omega, RowOK.push h.row x (by rw [h.size]; exact hx),
    by rw [Int.add_sub_cancel]; exact hx, h.best.push x⟩

theorem RowPart.first {i j x : Int} {b : Best} (hx : Reach c v mid lo hi i j x) (hb : b.i < i) :
    RowPart c v mid lo hi i j #[x] (j + 1) x b :=
  ⟨by simp, RowOK.push (r := ⟨j, #[]⟩) (fun k h0 h1 => by simp at h0 h1; omega) x (by simpa using hx),
    by rw [Int.add_sub_cancel]; exact hx, ⟨by omega, fun e => by omega⟩⟩

/-- the cell `(i + 1, j)` being pushed becomes the best one if `p`, a test that implies its score is
    not below the best so far -/
theorem RowPart.update {b : Best} {i j last sc clo : Int} {vals : Array Int} (p : Prop) [Decidable p]
    (h : RowPart c v mid lo hi (i + 1) clo vals j last b) (hb : BestOK c v mid lo hi jinit b)
    (hp : p → b.score ≤ sc) (hr : Reach c v mid lo hi (i + 1) j sc)
    (b1 : mid ≤ i) (b2 : i + 1 ≤ v.qlen) (b3 : lo ≤ j) (b4 : j ≤ v.tlen)
    (b' : Best) (hb' : b' = if p then ⟨sc, i + 1, j⟩ else b) :
    BestOK c v mid lo hi jinit b' ∧ RowPart c v mid lo hi (i + 1) clo (vals.push sc) (j + 1) sc b' ∧
      (b' = b ∨ b'.i = i + 1) := by
  subst hb'
  split
  · rename_i hp'
    have := hb.1.2.2.2.2
    have := hp hp'
    have := h.size
    refine ⟨⟨⟨by simp only []; omega, b2, b3, b4, by simp only []; omega⟩, Or.inr hr⟩,
      { h.push hr with best := ⟨Int.le_refl _, fun _ => ⟨by simp only []; omega, by simp only [Array.size_push]; omega, ?_⟩⟩ },
      Or.inr rfl⟩
    simp only []
    rw [← h.size]; exact Row.at_push_eq ⟨clo, vals⟩ _
  · exact ⟨hb, h.push hr, Or.inl rfl⟩

theorem innerLoop_ok (prev : Row) (i : Int) (hprev : RowOK c v mid lo hi i prev) (clo high : Int)
    (hhigh : high < prev.lo + prev.vals.size) (b1 : mid ≤ i) (b2 : i + 1 ≤ v.qlen) (b4 : high ≤ v.tlen) :
    ∀ (n : Nat) (j cost score : Int) (vals : Array Int) (best : Best),
      (n : Int) = high + 1 - j → prev.lo ≤ j - 1 → lo ≤ j - 1 → score = prev.at (j - 1) →
      RowPart c v mid lo hi (i + 1) clo vals j cost best → BestOK c v mid lo hi jinit best →
      let r := innerLoop c v prev i n j cost score vals best
      RowPart c v mid lo hi (i + 1) clo r.2.2.1 (high + 1) r.1 r.2.2.2 ∧ r.2.1 = prev.at high ∧
      BestOK c v mid lo hi jinit r.2.2.2 ∧ (r.2.2.2 = best ∨ r.2.2.2.i = i + 1) := by
  intro n
  induction n with
  | zero =>
    intro j cost score vals best hn _ _ hs hp hb
    obtain rfl : j = high + 1 := by omega
    rw [Int.add_sub_cancel] at hs
    exact ⟨hp, hs, hb, Or.inl rfl⟩
  | succ n ih =>
    intro j cost score vals best hn h1 b3 hs hp hb
    have hup : Reach c v mid lo hi i j (prev.at j) := hprev j (by omega) (by omega)
    have hdiag : Reach c v mid lo hi i (j - 1) score := by rw [hs]; exact hprev (j - 1) h1 (by omega)
    unfold innerLoop
    extract_lets temp up d r1 r2 cost' best' r
    have hnew : Reach c v mid lo hi (i + 1) j cost' := by
      unfold cost' r2
      split
      · exact Reach.left' hp.last
      · unfold r1
        split
        · exact Reach.up hup
        · exact Reach.diag' hdiag
    clear_value cost'
    obtain ⟨ub, up', ukeep⟩ := hp.update (cost' ≥ best.score) hb (fun h => h) hnew b1 b2 (by omega) (by omega) best' rfl
    have step := ih (j + 1) cost' up (vals.push cost') best'
      (by omega) (by omega) (by omega) (by rw [Int.add_sub_cancel]) up' ub
    extract_lets at step
    refine ⟨step.1, step.2.1, step.2.2.1, ?_⟩
    rcases step.2.2.2 with e | e
    · rw [e]; exact ukeep
    · exact Or.inr e

theorem extendLoop_ok (x maxScore : Int) (i clo : Int) (b : Best) :
    ∀ (n : Nat) (j score : Int) (vals : Array Int), RowPart c v mid lo hi i clo vals j score b →
      let r := extendLoop c x maxScore v.tlen n j score vals
      (∃ last, RowPart c v mid lo hi i clo r.1 r.2 last b) ∧ j ≤ r.2 ∧ (r.2 ≤ v.tlen + 1 ∨ r.2 = j) := by
  intro n
  induction n with
  | zero =>
    intro j score vals h
    simp only [extendLoop]
    exact ⟨⟨score, h⟩, Int.le_refl _, Or.inr trivial⟩
  | succ n ih =>
    intro j score vals h
    unfold extendLoop
    split
    · exact ⟨⟨score, h⟩, Int.le_refl _, Or.inr rfl⟩
    · rename_i hj
      simp only []
      split
      · exact ⟨⟨score, h⟩, Int.le_refl _, Or.inr rfl⟩
      · have step := ih (j + 1) (score - c.diffCost) (vals.push (score - c.diffCost)) (h.push (Reach.left' h.last))
        exact ⟨step.1, by omega, Or.inl (by omega)⟩

/-- the cell right of `high` (no cell above it) and the gap extension -/
def tailCells (c : Costs) (v : View) (x i high cost score : Int) (vals : Array Int) (best : Best) :
    Array Int × Best × Int :=
  let j := high + 1
  if j ≤ v.tlen then
    let d := if isMatch (v.qAt i) (v.tAt j) then score + c.matchCost else score
    let ratchet := if cost > d then cost else d
    let sc := ratchet - c.diffCost
    let best' : Best := if sc > best.score then ⟨sc, i + 1, j⟩ else best
    let (vals', je) := extendLoop c x best'.score v.tlen (v.tlen - j).toNat (j + 1) sc (vals.push sc)
    (vals', best', je)
  else (vals, best, j)

theorem tailCells_ok (x i high cost score clo : Int) (vals : Array Int) (best : Best)
    (hp : RowPart c v mid lo hi (i + 1) clo vals (high + 1) cost best)
    (hscore : Reach c v mid lo hi i high score) (hbest : BestOK c v mid lo hi jinit best)
    (b1 : mid ≤ i) (b2 : i + 1 ≤ v.qlen) (b3 : lo ≤ high) (b4 : high ≤ v.tlen) :
    let t := tailCells c v x i high cost score vals best
    (∃ last, RowPart c v mid lo hi (i + 1) clo t.1 t.2.2 last t.2.1) ∧ high + 1 ≤ t.2.2 ∧ t.2.2 ≤ v.tlen + 1 ∧
    BestOK c v mid lo hi jinit t.2.1 ∧ (t.2.1 = best ∨ t.2.1.i = i + 1) := by
  unfold tailCells
  extract_lets j d ratchet sc best' t
  by_cases hj : j ≤ v.tlen
  · have hnew : Reach c v mid lo hi (i + 1) j sc := by
      unfold sc ratchet
      split
      · exact Reach.left' hp.last
      · exact Reach.diag hscore
    clear_value sc
    obtain ⟨hb', hp', hkeep⟩ := hp.update (sc > best.score) hbest Int.le_of_lt hnew b1 b2 (by omega) hj best' rfl
    have ext := extendLoop_ok x best'.score (i + 1) clo best' (v.tlen - j).toNat (j + 1) sc (vals.push sc) hp'
    simp only [] at ext
    rw [show t = _ from if_pos hj]
    generalize extendLoop c x best'.score v.tlen (v.tlen - j).toNat (j + 1) sc (vals.push sc) = r at ext ⊢
    obtain ⟨vals', je⟩ := r
    refine ⟨ext.1, by show j ≤ je; omega, ?_, hb', hkeep⟩
    rcases ext.2.2 with h | h
    · exact h
    · show je ≤ v.tlen + 1; omega
  · rw [show t = (vals, best, j) from if_neg hj]
    exact ⟨⟨cost, hp⟩, Int.le_refl _, by show high + 1 ≤ v.tlen + 1; omega, hbest, Or.inl rfl⟩

theorem pruneLow_spec (r : Row) (bound : Int) : ∀ (n : Nat) (low high : Int),
    low ≤ pruneLow r bound n low high ∧
    ∀ j, low ≤ j → j ≤ high → ¬ r.at j < bound → pruneLow r bound n low high ≤ j := by
  intro n
  induction n with
  | zero => intro low high; exact ⟨Int.le_refl _, fun j h _ _ => h⟩
  | succ n ih =>
    intro low high
    unfold pruneLow
    split
    · rename_i hc
      simp only [Bool.and_eq_true, decide_eq_true_eq] at hc
      obtain ⟨i1, i2⟩ := ih (low + 1) high
      refine ⟨by omega, fun j h1 h2 h3 => i2 j ?_ h2 h3⟩
      have : low ≠ j := by intro e; subst e; exact h3 hc.2
      omega
    · exact ⟨Int.le_refl _, fun j h _ _ => h⟩

theorem pruneHigh_spec (r : Row) (bound : Int) : ∀ (n : Nat) (low high : Int),
    pruneHigh r bound n low high ≤ high ∧
    ∀ j, low ≤ j → j ≤ high → ¬ r.at j < bound → j ≤ pruneHigh r bound n low high := by
  intro n
  induction n with
  | zero => intro low high; exact ⟨Int.le_refl _, fun j _ h _ => h⟩
  | succ n ih =>
    intro low high
    unfold pruneHigh
    split
    · rename_i hc
      simp only [Bool.and_eq_true, decide_eq_true_eq] at hc
      obtain ⟨i1, i2⟩ := ih low (high - 1)
      refine ⟨by omega, fun j h1 h2 h3 => i2 j h1 ?_ h3⟩
      have : high ≠ j := by intro e; subst e; exact h3 hc.2
      omega
    · exact ⟨Int.le_refl _, fun j _ h _ => h⟩

def pruneBoth (v : View) (row : Row) (bound low high : Int) : Int × Int :=
  if v.pruneHighFirst then
    let h := pruneHigh row bound (high + 1 - low).toNat low high
    (pruneLow row bound (h + 1 - low).toNat low h, h)
  else
    let l := pruneLow row bound (high + 1 - low).toNat low high
    (l, pruneHigh row bound (high + 1 - l).toNat l high)

theorem pruneBoth_spec (row : Row) (bound low high : Int) :
    low ≤ (pruneBoth v row bound low high).1 ∧ (pruneBoth v row bound low high).2 ≤ high ∧
    ∀ j, low ≤ j → j ≤ high → ¬ row.at j < bound →
      (pruneBoth v row bound low high).1 ≤ j ∧ j ≤ (pruneBoth v row bound low high).2 := by
  unfold pruneBoth
  split
  · have hh := pruneHigh_spec row bound (high + 1 - low).toNat low high
    have hl := pruneLow_spec row bound ((pruneHigh row bound (high + 1 - low).toNat low high) + 1 - low).toNat low
      (pruneHigh row bound (high + 1 - low).toNat low high)
    exact ⟨hl.1, hh.1, fun j h1 h2 h3 => ⟨hl.2 j h1 (hh.2 j h1 h2 h3) h3, hh.2 j h1 h2 h3⟩⟩
  · have hl := pruneLow_spec row bound (high + 1 - low).toNat low high
    have hh := pruneHigh_spec row bound (high + 1 - pruneLow row bound (high + 1 - low).toNat low high).toNat
      (pruneLow row bound (high + 1 - low).toNat low high) high
    exact ⟨hl.1, hh.1, fun j h1 h2 h3 => ⟨hl.2 j h1 h2 h3, hh.2 j (hl.2 j h1 h2 h3) h2 h3⟩⟩

/-- `rowStep`'s update of `maxLeft`, `maxRight` -/
theorem widen_spec (l r a b : Int) :
    (∀ d, l ≤ d → d ≤ r → (if b < l then b else l) ≤ d ∧ d ≤ (if a > r then a else r)) ∧
    ∀ d, b ≤ d → d ≤ a → (if b < l then b else l) ≤ d ∧ d ≤ (if a > r then a else r) :=
  ⟨fun d _ _ => by omega, fun d _ _ => by omega⟩

/-- what the row loop keeps -/
structure SOK (c : Costs) (v : View) (mid lo hi jinit : Int) (i : Int) (s : TState) : Prop where
  row : RowOK c v mid lo hi i s.row
  lowIn : s.row.lo ≤ s.low
  highIn : s.high < s.row.lo + s.row.vals.size
  cols : lo ≤ s.row.lo ∧ s.row.lo + s.row.vals.size ≤ v.tlen + 1
  best : BestOK c v mid lo hi jinit s.best
  bestI : s.best.i ≤ i
  diagBest : s.maxLeft ≤ s.best.i - s.best.j ∧ s.best.i - s.best.j ≤ s.maxRight
  diagBasis : ∀ j0, lo ≤ j0 → j0 ≤ hi → s.maxLeft ≤ mid - j0 ∧ mid - j0 ≤ s.maxRight

theorem rowStep_eq (c : Costs) (v : View) (s : TState) (i : Int) :
    rowStep c v s i =
      (let r := innerLoop c v s.row i (s.high - s.low).toNat (s.low + 1) (s.row.at s.low - c.diffCost)
                  (s.row.at s.low) #[s.row.at s.low - c.diffCost] s.best
       let t := tailCells c v (v.xf i) i s.high r.1 r.2.1 r.2.2.1 r.2.2.2
       let row : Row := ⟨s.low, t.1⟩
       let p := pruneBoth v row (t.2.1.score - v.xf i) s.low (t.2.2 - 1)
       { row := row, low := p.1, high := p.2, best := t.2.1
         maxRight := if (i + 1) - p.1 > s.maxRight then (i + 1) - p.1 else s.maxRight
         maxLeft := if (i + 1) - p.2 < s.maxLeft then (i + 1) - p.2 else s.maxLeft }) := by
  unfold rowStep tailCells pruneBoth
  simp only []

theorem rowStep_ok (s : TState) (i : Int) (h : SOK c v mid lo hi jinit i s) (hlh : s.low ≤ s.high)
    (hi1 : mid ≤ i) (hi2 : i < v.qlen) (hx : 0 ≤ v.xf i) : SOK c v mid lo hi jinit (i + 1) (rowStep c v s i) := by
  obtain ⟨hrow, hlow, hhigh, hcols, hbest, hbi, hdb, hds⟩ := h
  have h0 : Reach c v mid lo hi i s.low (s.row.at s.low) := hrow s.low hlow (by omega)
  rw [rowStep_eq]
  extract_lets r t row p
  have inner := innerLoop_ok (jinit := jinit) s.row i hrow s.low s.high hhigh hi1 (by omega) (by omega)
    (s.high - s.low).toNat (s.low + 1) (s.row.at s.low - c.diffCost) (s.row.at s.low)
    #[s.row.at s.low - c.diffCost] s.best (by omega) (by omega) (by omega) (by rw [Int.add_sub_cancel])
    (RowPart.first (Reach.up h0) (by omega)) hbest
  extract_lets at inner
  obtain ⟨ipart, isc, ibest, ikeep⟩ := inner
  clear_value r
  have hscore : Reach c v mid lo hi i s.high r.2.1 := by rw [isc]; exact hrow s.high (by omega) hhigh
  have tl := tailCells_ok (jinit := jinit) (v.xf i) i s.high r.1 r.2.1 s.low r.2.2.1 r.2.2.2
    ipart hscore ibest hi1 (by omega) (by omega) (by omega)
  extract_lets at tl
  obtain ⟨⟨_, tpart⟩, tge, tle, tbest, tkeep⟩ := tl
  have tsz := tpart.size
  clear_value t
  have keep : t.2.1 = s.best ∨ t.2.1.i = i + 1 := by
    rcases tkeep with e | e
    · rw [e]; exact ikeep
    · exact Or.inr e
  obtain ⟨pb1, pb2, pkeep⟩ : s.low ≤ p.1 ∧ p.2 ≤ t.2.2 - 1 ∧ ∀ j, s.low ≤ j → j ≤ t.2.2 - 1 →
      ¬ row.at j < t.2.1.score - v.xf i → p.1 ≤ j ∧ j ≤ p.2 := pruneBoth_spec row (t.2.1.score - v.xf i) s.low (t.2.2 - 1)
  obtain ⟨wold, wnew⟩ := widen_spec s.maxLeft s.maxRight (i + 1 - p.1) (i + 1 - p.2)
  refine ⟨tpart.row, pb1, by show p.2 < s.low + t.1.size; omega, ⟨by show lo ≤ s.low; omega, by show s.low + t.1.size ≤ _; omega⟩,
    tbest, tpart.best.1, ?_, fun j0 h1 h2 => wold _ (hds j0 h1 h2).1 (hds j0 h1 h2).2⟩
  rcases keep with e | e
  · rw [e]; exact wold _ hdb.1 hdb.2
  · -- the best cell is a cell of the new row, not pruned since it holds the best score
    obtain ⟨q1, q2, q3⟩ := tpart.best.2 e
    dsimp only at q1 q2
    have := pkeep t.2.1.j q1 (by omega) (by rw [q3]; omega)
    exact wnew (t.2.1.i - t.2.1.j) (by omega) (by omega)

theorem rowLoop_ok (hx : ∀ i, 0 ≤ v.xf i) : ∀ (n : Nat) (i : Int) (s : TState), SOK c v mid lo hi jinit i s → mid ≤ i →
    ∃ i', SOK c v mid lo hi jinit i' (rowLoop c v n i s) := by
  intro n
  induction n with
  | zero => intro i s h _; exact ⟨i, h⟩
  | succ n ih =>
    intro i s h hi
    unfold rowLoop
    split
    · rename_i hc
      simp only [Bool.and_eq_true, decide_eq_true_eq] at hc
      exact ih (i + 1) _ (rowStep_ok s i h hc.1 hi hc.2 (hx i)) (by omega)
    · exact ⟨i, h⟩

theorem basisTail_ok (i clo : Int) : ∀ (n : Nat) (last : Int) (vals : Array Int),
    RowOK c v mid lo hi i ⟨clo, vals⟩ → Reach c v mid lo hi i (clo + vals.size - 1) last →
    RowOK c v mid lo hi i ⟨clo, basisTail c n last vals⟩ ∧ (basisTail c n last vals).size = vals.size + n := by
  intro n
  induction n with
  | zero => intro last vals h _; exact ⟨h, rfl⟩
  | succ n ih =>
    intro last vals h hl
    unfold basisTail
    have hnew : Reach c v mid lo hi i (clo + vals.size) (last - c.diffCost) := Reach.left' hl
    have step := ih (last - c.diffCost) (vals.push (last - c.diffCost)) (RowOK.push h _ hnew)
      (by rw [Array.size_push]
          have : clo + ((vals.size + 1 : Nat) : Int) - 1 = clo + vals.size := by omega
          rw [this]; exact hnew)
    refine ⟨step.1, ?_⟩
    rw [step.2, Array.size_push]; omega

theorem zeros_ok (h : lo ≤ hi) : RowOK c v mid lo hi mid ⟨lo, Array.replicate (hi + 1 - lo).toNat 0⟩ := by
  intro j h0 h1
  simp only [Array.size_replicate] at h1
  dsimp only at h0
  have hat : (⟨lo, Array.replicate (hi + 1 - lo).toNat 0⟩ : Row).at j = 0 := by
    unfold Row.at
    simp only [Array.getD]
    split
    · simp
    · rfl
  rw [hat]
  exact Reach.basis j (by omega) (by omega)

/-- **soundness of the trace program**: the cell it reports lies in the table, its score is
    non-negative and — unless nothing was found (`maxI = mid`, score 0) — the score of a path of
    kernel moves from the zero basis `(mid, [low, high])`; the reported cell and every basis cell
    lie within the recorded diagonal range -/
theorem traceCore_sound (c : Costs) (v : View) (mid low high : Int) (h : low ≤ high) (hh : high ≤ v.tlen)
    (hq : mid ≤ v.qlen) (hg : 0 ≤ c.maxIGap) (hx : ∀ i, 0 ≤ v.xf i) :
    let o := traceCore c v mid low high
    (mid ≤ o.maxI ∧ o.maxI ≤ v.qlen ∧ low ≤ o.maxJ ∧ o.maxJ ≤ v.tlen ∧ 0 ≤ o.maxScore) ∧
    ((o.maxI = mid ∧ o.maxScore = 0 ∧ (v.bestAtExtended = false → o.maxJ = low)) ∨
      Reach c v mid low high o.maxI o.maxJ o.maxScore) ∧
    (o.maxLeft ≤ o.maxI - o.maxJ ∧ o.maxI - o.maxJ ≤ o.maxRight) ∧
    (∀ j0, low ≤ j0 → j0 ≤ high → o.maxLeft ≤ mid - j0 ∧ mid - j0 ≤ o.maxRight) := by
  unfold traceCore
  simp only []
  generalize hh' : (if high + c.maxIGap > v.tlen then v.tlen else high + c.maxIGap) = high'
  have hh1 : high ≤ high' ∧ high' ≤ v.tlen := by omega
  have bt := basisTail_ok (c := c) (v := v) (mid := mid) (lo := low) (hi := high) mid low (high' - high).toNat 0
    (Array.replicate (high + 1 - low).toNat 0) (zeros_ok h)
    (by simp only [Array.size_replicate]; exact Reach.basis _ (by omega) (by omega))
  have s0 : SOK c v mid low high (if v.bestAtExtended then high' else low) mid
      { row := ⟨low, basisTail c (high' - high).toNat 0 (Array.replicate (high + 1 - low).toNat 0)⟩,
        low := low, high := high', best := ⟨0, mid, if v.bestAtExtended then high' else low⟩,
        maxRight := mid - low, maxLeft := mid - high' } := by
    refine ⟨bt.1, Int.le_refl _, ?_, ⟨Int.le_refl _, ?_⟩, ⟨⟨Int.le_refl _, hq, ?_, ?_, Int.le_refl _⟩, Or.inl ⟨rfl, rfl, rfl⟩⟩,
      Int.le_refl _, ?_, ?_⟩
    · simp only [bt.2, Array.size_replicate]; omega
    · simp only [bt.2, Array.size_replicate]; omega
    · simp only []; omega
    · simp only []; omega
    · simp only []; omega
    · intro j0 h1 h2; simp only []; omega
  obtain ⟨i', hs⟩ := rowLoop_ok hx (v.qlen - mid).toNat mid _ s0 (Int.le_refl _)
  refine ⟨hs.best.1, ?_, hs.diagBest, hs.diagBasis⟩
  rcases hs.best.2 with ⟨e1, e2, e3⟩ | hr
  · refine Or.inl ⟨e1, e2, fun hb => ?_⟩
    rw [e3, hb]; rfl
  · exact Or.inr hr

end

open Biogo.Spec.Alignment

/-- the kernel's scoring as a matrix: `MatchCost - DiffCost` for a match, `-DiffCost` for a mismatch
    and for a letter against a gap (row / column 0) -/
def kS (c : Costs) : Matrix := fun r q => if isMatch q r then c.matchCost - c.diffCost else -c.diffCost

/-- a letter against a gap costs `DiffCost`: 0 is not a valid letter -/
theorem kS_gap (c : Costs) (x : Nat) : kS c x 0 = -c.diffCost ∧ kS c 0 x = -c.diffCost := by
  unfold kS isMatch
  constructor
  · simp [validLetter]
  · by_cases e : x = 0
    · subst e; simp [validLetter]
    · simp [e]

/-- with `f = v.qAt` the query letters a path consumes between the rows `a` and `b`, with
    `f j = v.tAt (j + 1)` the target letters between the columns -/
def seg (f : Int → Nat) (a b : Int) : List Nat := (List.range (b - a).toNat).map fun (k : Nat) => f (a + (k : Int))

theorem seg_self (f : Int → Nat) (a : Int) : seg f a a = [] := by simp [seg]

theorem seg_succ (f : Int → Nat) (a b : Int) (h : a ≤ b) : seg f a (b + 1) = seg f a b ++ [f b] := by
  unfold seg
  have : (b + 1 - a).toNat = (b - a).toNat + 1 := by omega
  rw [this, List.range_succ, List.map_append, List.map_singleton]
  have e : a + (((b - a).toNat : Nat) : Int) = b := by omega
  rw [e]

/-- a path of kernel moves is an alignment of the letters it consumes, scored by `kS` -/
theorem Reach.aln {c : Costs} {v : View} {mid lo hi i j s : Int} (h : Reach c v mid lo hi i j s) :
    ∃ (j0 : Int) (a : Aln), lo ≤ j0 ∧ j0 ≤ hi ∧ j0 ≤ j ∧ mid ≤ i ∧
      IsGlobal a (seg (fun j => v.tAt (j + 1)) j0 j) (seg v.qAt mid i) ∧ scoreLin (kS c) a = s := by
  induction h with
  | basis j h1 h2 =>
    exact ⟨j, [], h1, h2, Int.le_refl _, Int.le_refl _, ⟨by rw [seg_self]; rfl, by rw [seg_self]; rfl⟩, rfl⟩
  | @diag i j s _ ih =>
    obtain ⟨j0, a, h1, h2, h3, h4, ⟨g1, g2⟩, hs⟩ := ih
    refine ⟨j0, a ++ [.m (v.tAt (j + 1)) (v.qAt i)], h1, h2, by omega, by omega, ⟨?_, ?_⟩, ?_⟩
    · rw [projR_append, g1, seg_succ _ j0 j h3]; rfl
    · rw [projQ_append, g2, seg_succ _ mid i h4]; rfl
    · rw [scoreLin_append, hs]
      simp only [scoreLin, colScore, kS]
      split <;> omega
  -- query rows here, reference rows in `Spec/Alignment`: `Reach.up` is a column `.l`, `Reach.left` a `.u`
  | @up i j s _ ih =>
    obtain ⟨j0, a, h1, h2, h3, h4, ⟨g1, g2⟩, hs⟩ := ih
    refine ⟨j0, a ++ [.l (v.qAt i)], h1, h2, h3, by omega, ⟨?_, ?_⟩, ?_⟩
    · rw [projR_append, g1]; simp [projR]
    · rw [projQ_append, g2, seg_succ _ mid i h4]; rfl
    · rw [scoreLin_append, hs]
      simp only [scoreLin, colScore, (kS_gap c _).2]
      omega
  | @left i j s _ ih =>
    obtain ⟨j0, a, h1, h2, h3, h4, ⟨g1, g2⟩, hs⟩ := ih
    refine ⟨j0, a ++ [.u (v.tAt (j + 1))], h1, h2, by omega, h4, ⟨?_, ?_⟩, ?_⟩
    · rw [projR_append, g1, seg_succ _ j0 j h3]; rfl
    · rw [projQ_append, g2]; simp [projQ]
    · rw [scoreLin_append, hs]
      simp only [scoreLin, colScore, (kS_gap c _).1]
      omega

open Biogo.Spec.PalsKernel (slice)

theorem fwdView_qAt (c : Costs) (s : Seqs) (i : Int) : (fwdView c s).qAt i = s.query.getD i.toNat 0 := rfl
theorem fwdView_tAt (c : Costs) (s : Seqs) (j : Int) : (fwdView c s).tAt j = s.target.getD (j - 1).toNat 0 := rfl
theorem revView_qAt (c : Costs) (s : Seqs) (bottom x0 i : Int) :
    (revView c s bottom x0).qAt i = s.query.getD (s.qlen - 1 - i).toNat 0 := rfl
theorem revView_tAt (c : Costs) (s : Seqs) (bottom x0 j : Int) :
    (revView c s bottom x0).tAt j = s.target.getD (s.tlen - j).toNat 0 := rfl

theorem getD_toList (a : Array Nat) (k : Nat) (h : k < a.size) : a.getD k 0 = a.toList[k]'(by simpa using h) := by
  simp [Array.getD, h]

theorem seg_eq_slice (f : Int → Nat) (arr : Array Nat) (a b : Int) (h0 : 0 ≤ a) (hb : b ≤ arr.size)
    (hf : ∀ j, a ≤ j → j < b → f j = arr.getD j.toNat 0) : seg f a b = slice arr.toList a b := by
  apply List.ext_getElem
  · simp only [seg, slice, List.length_map, List.length_range, List.length_take, List.length_drop,
      Array.length_toList]
    omega
  · intro k h1 _
    simp only [seg, List.length_map, List.length_range] at h1
    simp only [seg, slice, List.getElem_map, List.getElem_range, List.getElem_take, List.getElem_drop]
    rw [hf _ (by omega) (by omega), getD_toList _ _ (by omega)]
    congr 1
    omega

theorem seg_eq_slice_reverse (f : Int → Nat) (arr : Array Nat) (n a b : Int) (hn : n = arr.size) (h0 : 0 ≤ a)
    (hb : b ≤ n) (hf : ∀ j, a ≤ j → j < b → f j = arr.getD (n - 1 - j).toNat 0) :
    seg f a b = (slice arr.toList (n - b) (n - a)).reverse := by
  subst hn
  have hlen : (slice arr.toList (arr.size - b) (arr.size - a)).length = (b - a).toNat := by
    simp only [slice, List.length_take, List.length_drop, Array.length_toList]
    omega
  apply List.ext_getElem
  · rw [List.length_reverse, hlen]
    simp only [seg, List.length_map, List.length_range]
  · intro k h1 _
    simp only [seg, List.length_map, List.length_range] at h1
    rw [List.getElem_reverse]
    simp only [hlen]
    simp only [seg, slice, List.getElem_map, List.getElem_range, List.getElem_take, List.getElem_drop]
    rw [hf _ (by omega) (by omega), getD_toList _ _ (by omega)]
    congr 1
    omega

theorem seg_fwdView_tAt (c : Costs) (s : Seqs) (a b : Int) (h0 : 0 ≤ a) (hb : b ≤ s.tlen) :
    seg (fun j => (fwdView c s).tAt (j + 1)) a b = slice s.target.toList a b :=
  seg_eq_slice _ s.target a b h0 hb fun j _ _ => by simp only [fwdView_tAt]; congr 1; omega

theorem seg_fwdView_qAt (c : Costs) (s : Seqs) (a b : Int) (h0 : 0 ≤ a) (hb : b ≤ s.qlen) :
    seg (fwdView c s).qAt a b = slice s.query.toList a b :=
  seg_eq_slice _ s.query a b h0 hb fun _ _ _ => rfl

theorem seg_revView_tAt (c : Costs) (s : Seqs) (bottom x0 a b : Int) (h0 : 0 ≤ a) (hb : b ≤ s.tlen) :
    seg (fun j => (revView c s bottom x0).tAt (j + 1)) a b =
      (slice s.target.toList (s.tlen - b) (s.tlen - a)).reverse :=
  seg_eq_slice_reverse _ s.target s.tlen a b rfl h0 hb fun j _ _ => by simp only [revView_tAt]; congr 1; omega

theorem seg_revView_qAt (c : Costs) (s : Seqs) (bottom x0 a b : Int) (h0 : 0 ≤ a) (hb : b ≤ s.qlen) :
    seg (revView c s bottom x0).qAt a b = (slice s.query.toList (s.qlen - b) (s.qlen - a)).reverse :=
  seg_eq_slice_reverse _ s.query s.qlen a b rfl h0 hb fun _ _ _ => rfl

open Biogo.Spec.PalsKernel (RevOK HitOK FwdOK clamp)

theorem clamp_mem (x lo hi : Int) (h : lo ≤ hi) : lo ≤ clamp x lo hi ∧ clamp x lo hi ≤ hi := by
  unfold clamp; omega

theorem clampBounds_eq (tlen low high : Int) (h : 0 ≤ tlen) :
    clampBounds tlen low high = (clamp low 0 tlen, max (clamp low 0 tlen) (clamp high 0 tlen)) := by
  have e : (if (if low < 0 then 0 else low) > tlen then tlen else if low < 0 then 0 else low) = clamp low 0 tlen := by
    unfold clamp; omega
  unfold clampBounds
  simp only [e]
  have := clamp_mem low 0 tlen h
  generalize clamp low 0 tlen = l at *
  congr 1
  unfold clamp; omega

theorem clampBounds_id (tlen a : Int) (h0 : 0 ≤ a) (h1 : a ≤ tlen) : clampBounds tlen a a = (a, a) := by
  rw [clampBounds_eq tlen a a (by omega)]
  unfold clamp
  congr 1 <;> omega

/-- **`traceReverse` of the model keeps `RevOK`** (scoring `kS`) -/
theorem traceReverse_ok (c : Costs) (s : Seqs) (top a bottom xfactor : Int)
    (ha : 0 ≤ a ∧ a ≤ s.tlen) (ht : 0 ≤ top ∧ top ≤ s.qlen) (hg : 0 ≤ c.maxIGap) (hb : 0 ≤ c.blockCost)
    (hx : 0 ≤ xfactor) :
    let r := traceReverse c s top a a bottom xfactor
    RevOK (kS c) s.target.toList s.query.toList top a ⟨r.maxJ, r.maxI, r.maxScore, r.maxLeft, r.maxRight⟩ := by
  unfold traceReverse
  rw [clampBounds_id s.tlen a ha.1 ha.2]
  simp only []
  generalize hx0 : (if top - 1 ≤ bottom then c.blockCost else xfactor) = x0
  have hx0' : 0 ≤ x0 := by omega
  have snd := traceCore_sound c (revView c s bottom x0) (s.qlen - top) (s.tlen - a) (s.tlen - a)
    (Int.le_refl _) (by show s.tlen - a ≤ s.tlen; omega) (by show s.qlen - top ≤ s.qlen; omega) hg
    (by intro i; show 0 ≤ (if s.qlen - 1 - i ≥ bottom then x0 else c.blockCost); omega)
  simp only [] at snd
  generalize traceCore c (revView c s bottom x0) (s.qlen - top) (s.tlen - a) (s.tlen - a) = o at snd ⊢
  obtain ⟨⟨b1, b2, b3, b4, b5⟩, hpath, ⟨d1, d2⟩, dbasis⟩ := snd
  change o.maxI ≤ s.qlen at b2
  change o.maxJ ≤ s.tlen at b4
  refine ⟨by simp only []; omega, by simp only []; omega, b5, ?_, by simp only []; omega, ?_⟩
  · intro hlt
    simp only [] at hlt
    rcases hpath with ⟨e, _⟩ | hr
    · omega
    · -- the path runs on the mirrored view: its alignment reversed is one of the original regions
      obtain ⟨j0, aln, h1, h2, h3, h4, ⟨g1, g2⟩, hs⟩ := hr.aln
      have ej : j0 = s.tlen - a := by omega
      subst ej
      refine ⟨aln.reverse, ⟨?_, ?_⟩, by rw [scoreLin_reverse]; exact hs⟩
      · rw [projR_reverse, g1, seg_revView_tAt c s bottom x0 _ _ (by omega) b4, List.reverse_reverse]
        simp only []
        congr 1; omega
      · rw [projQ_reverse, g2, seg_revView_qAt c s bottom x0 _ _ (by omega) b2, List.reverse_reverse]
        simp only []
        congr 1; omega
  · have := dbasis (s.tlen - a) (Int.le_refl _) (Int.le_refl _)
    simp only []; omega

/-- **`traceForward` of the model keeps `FwdOK`** (scoring `kS`): the start column can be taken
    inside the zero basis, the gap letters of a start beyond `high` being columns of the alignment -/
theorem traceForward_ok (c : Costs) (s : Seqs) (mid low high : Int) (hm0 : 0 ≤ mid) (hm : mid ≤ s.qlen)
    (hg : 0 ≤ c.maxIGap) (hb : 0 ≤ c.blockCost) :
    let o := traceForward c s mid low high
    FwdOK (kS c) c.diffCost c.maxIGap s.target.toList s.query.toList mid low high ⟨o.maxJ, o.maxI, o.maxScore⟩ := by
  unfold traceForward
  have ht : (0 : Int) ≤ s.tlen := by unfold Seqs.tlen; omega
  have hl := clamp_mem low 0 s.tlen ht
  have hh := clamp_mem high 0 s.tlen ht
  rw [clampBounds_eq s.tlen low high ht]
  simp only []
  have snd := traceCore_sound c (fwdView c s) mid (clamp low 0 s.tlen) (max (clamp low 0 s.tlen) (clamp high 0 s.tlen))
    (by omega) (by show _ ≤ s.tlen; omega) hm hg (fun _ => hb)
  simp only [] at snd
  generalize traceCore c (fwdView c s) mid _ _ = o at snd ⊢
  obtain ⟨⟨b1, b2, b3, b4, b5⟩, hpath, _, _⟩ := snd
  change o.maxJ ≤ s.tlen at b4
  refine ⟨⟨b1, b2⟩, ⟨by simp only []; omega, b4⟩, b5, ?_⟩
  rw [show (s.target.toList.length : Int) = s.tlen from rfl]
  simp only []
  have hlh : clamp low 0 s.tlen ≤ max (clamp low 0 s.tlen) (clamp high 0 s.tlen) := by omega
  generalize clamp low 0 s.tlen = l at *
  generalize max l (clamp high 0 s.tlen) = h at *
  -- the start column lies in the basis `[l, h]`, so no gap penalty is due
  have hz : ∀ j0, j0 ≤ h → max 0 (j0 - h) = 0 := fun j0 _ => by omega
  rcases hpath with ⟨ei, es, ej⟩ | hr
  · -- nothing found: the empty alignment at the basis cell `(mid, l)`
    have ej' := ej rfl
    refine ⟨l, [], Int.le_refl _, by omega, by omega, ⟨?_, ?_⟩, ?_⟩
    · rw [ej']; simp [slice, projR]
    · rw [ei]; simp [slice, projQ]
    · rw [hz l (by omega), es]; simp [scoreLin]
  · obtain ⟨j0, aln, h1, h2, h3, h4, ⟨g1, g2⟩, hs⟩ := hr.aln
    refine ⟨j0, aln, h1, by omega, h3, ⟨?_, ?_⟩, ?_⟩
    · rw [g1]; exact seg_fwdView_tAt c s _ _ (by omega) b4
    · rw [g2]; exact seg_fwdView_qAt c s _ _ hm0 b2
    · rw [hz j0 h2, hs]; simp

/-- `HitOK` under the kernel's own scoring `kS`: the PALS scoring only where the query letter is valid (`kS_eq_palsS`) -/
def HitP (c : Costs) (s : Seqs) (kh : Biogo.PalsKernel.KHit) : Prop :=
  HitOK (kS c) s.target.toList s.query.toList ⟨kh.h, kh.lowDiagonal, kh.highDiagonal⟩

/-- what `alignRecursion` keeps of its hit list: `HitP`, and the acceptance test passed (for `alignTraps_sound`) -/
def HitQ (c : Costs) (s : Seqs) (minLen num den : Int) (kh : Biogo.PalsKernel.KHit) : Prop :=
  HitP c s kh ∧ Biogo.PalsOracle.accept minLen c.rMatchCost num den kh.h = true ∧ kh.errNum = kh.h.errNum

/-- all soundness asks of the costs: x-drop allowances (`blockCost + 2·x·diffCost`) and basis extension are ≥ 0 -/
structure CostsOK (c : Costs) : Prop where
  gap : 0 ≤ c.maxIGap
  block : 0 ≤ c.blockCost
  diff : 0 ≤ c.diffCost

theorem reverseLoop_is_trace (c : Costs) (ok : CostsOK c) (s : Seqs) (mid : Int) (lowEnd : TraceOut) :
    ∀ (n : Nat) (x : Int) (r : TraceOut), 0 ≤ x →
      (∃ xf, 0 ≤ xf ∧ r = traceReverse c s lowEnd.maxI lowEnd.maxJ lowEnd.maxJ (mid + c.maxIGap) xf) →
      ∃ xf, 0 ≤ xf ∧ reverseLoop c s mid lowEnd n x r =
        traceReverse c s lowEnd.maxI lowEnd.maxJ lowEnd.maxJ (mid + c.maxIGap) xf := by
  intro n
  induction n with
  | zero => intro x r _ h; exact h
  | succ n ih =>
    intro x r hx h
    unfold reverseLoop
    split
    · refine ih (x + 1) _ (by omega) ⟨c.blockCost + 2 * x * c.diffCost, ?_, rfl⟩
      have := ok.block
      have := Int.mul_nonneg (Int.mul_nonneg (by omega : (0 : Int) ≤ 2) hx) ok.diff
      omega
    · exact h

theorem alignRecursion_ok (c : Costs) (ok : CostsOK c) (s : Seqs) (traps : Array Trap) (slot : Nat)
    (minLen num den : Int) (split : Bool) (hml : 0 ≤ minLen) :
    ∀ (fuel : Nat) (t : Trap) (st : AState), (∀ kh ∈ st.hits, HitQ c s minLen num den kh) →
      0 ≤ t.bottom → t.bottom ≤ t.top → t.top ≤ s.qlen →
      ∀ kh ∈ (alignRecursion c s traps slot minLen num den split fuel t st).hits, HitQ c s minLen num den kh := by
  intro fuel
  induction fuel with
  | zero => intro t st h _ _ _; exact h
  | succ fuel ih =>
    intro t st hst hb0 hbt htq
    -- a recursive call, made under a condition that puts its trapezoid within the query rows
    have call : ∀ (p : Prop) [Decidable p] (t' : Trap) (st' : AState),
        (∀ kh ∈ st'.hits, HitQ c s minLen num den kh) → (p → 0 ≤ t'.bottom ∧ t'.bottom ≤ t'.top ∧ t'.top ≤ s.qlen) →
        ∀ kh ∈ (if p then alignRecursion c s traps slot minLen num den split fuel t' st' else st').hits,
          HitQ c s minLen num den kh := by
      intro p _ t' st' h hp
      split
      · rename_i hc; exact ih t' st' h (hp hc).1 (hp hc).2.1 (hp hc).2.2
      · exact h
    have hgap := ok.gap
    unfold alignRecursion
    extract_lets mid lowEnd r1 highEnd h lowTop highBottom cov st1 st2 st3 sideBottom sideTop leftRight rightLeft st4
    have hmid : t.bottom ≤ mid ∧ mid ≤ t.top := Biogo.Proofs.PalsMerge.tdiv_mid t.bottom t.top hbt
    -- the forward end keeps `FwdOK`, the reverse end is a `traceReverse` from it and keeps `RevOK`
    have fok : FwdOK (kS c) c.diffCost c.maxIGap s.target.toList s.query.toList mid (mid - t.right) (mid - t.left)
        ⟨lowEnd.maxJ, lowEnd.maxI, lowEnd.maxScore⟩ :=
      traceForward_ok c s mid (mid - t.right) (mid - t.left) (by omega) (by omega) ok.gap ok.block
    have f1 : mid ≤ lowEnd.maxI := fok.rows.1
    obtain ⟨xf, hxf, hrev⟩ : ∃ xf, 0 ≤ xf ∧
        highEnd = traceReverse c s lowEnd.maxI lowEnd.maxJ lowEnd.maxJ (mid + c.maxIGap) xf :=
      reverseLoop_is_trace c ok s mid lowEnd (s.query.size + 2) 2 r1 (by omega)
        ⟨_, by have := ok.block; have := ok.diff; omega, rfl⟩
    have rok := traceReverse_ok c s lowEnd.maxI lowEnd.maxJ (mid + c.maxIGap) xf fok.cols ⟨by omega, fok.rows.2⟩
      ok.gap ok.block hxf
    rw [← hrev] at rok
    have h1 : ∀ kh ∈ st1.hits, HitQ c s minLen num den kh := by
      unfold st1
      split
      · rename_i hacc
        exact Array.forall_mem_push.mpr ⟨⟨Biogo.Proofs.PalsKernel.assemble_ok _ _ _ _ _ _ _ _ _ _ fok rok, hacc, rfl⟩, hst⟩
      · exact hst
    have elt : lowTop = highEnd.maxI - c.maxIGap := rfl
    have ehb : highBottom = lowEnd.maxI + c.maxIGap := rfl
    clear_value st1 lowTop highBottom h highEnd lowEnd mid
    have h2 : ∀ kh ∈ st2.hits, HitQ c s minLen num den kh := call _ _ st1 h1 fun hc => by
      simp only [Bool.and_eq_true, decide_eq_true_eq] at hc
      exact ⟨hb0, by simp only []; omega, by simp only []; omega⟩
    have h3 : ∀ kh ∈ st3.hits, HitQ c s minLen num den kh := call _ _ st2 h2 fun hc =>
      ⟨by simp only []; omega, by simp only []; omega, htq⟩
    clear_value st2 st3
    -- the two diagonal-wise calls of `split = true`: rows within those of `t`
    cases split with
    | false => exact h3
    | true =>
      have hsb : t.bottom ≤ sideBottom ∧ sideTop ≤ t.top := by unfold sideBottom sideTop; omega
      clear_value sideBottom sideTop
      have side : sideTop - sideBottom > minLen → 0 ≤ sideBottom ∧ sideBottom ≤ sideTop ∧ sideTop ≤ s.qlen :=
        fun _ => by omega
      have h4 : ∀ kh ∈ st4.hits, HitQ c s minLen num den kh := call _ _ st3 h3 fun hc => by
        simp only [Bool.and_eq_true, decide_eq_true_eq] at hc
        exact side hc.1.1
      exact call _ _ st4 h4 fun hc => by
        simp only [Bool.and_eq_true, decide_eq_true_eq] at hc
        exact side hc.1.1

def TrapsIn (qlen : Int) (traps : Array Trap) : Prop :=
  ∀ t ∈ traps, 0 ≤ t.bottom ∧ t.bottom ≤ t.top ∧ t.top ≤ qlen

theorem alignLoop_ok (c : Costs) (ok : CostsOK c) (s : Seqs) (traps : Array Trap) (k minLen num den : Int) (split : Bool)
    (hml : 0 ≤ minLen) (htr : TrapsIn s.qlen traps) :
    ∀ (n i : Nat) (st : AState), (∀ kh ∈ st.hits, HitQ c s minLen num den kh) →
      ∀ kh ∈ (alignLoop c s traps k minLen num den split n i st).hits, HitQ c s minLen num den kh := by
  intro n
  induction n with
  | zero => intro i st h; exact h
  | succ n ih =>
    intro i st h
    unfold alignLoop
    split
    · exact h
    · rename_i t ht
      have hmem : t ∈ traps := Array.mem_of_getElem? ht
      obtain ⟨t1, t2, t3⟩ := htr t hmem
      apply ih
      split
      · exact alignRecursion_ok c ok s traps i minLen num den split hml _ t st h t1 t2 t3
      · exact h

/-- **every hit the kernel model emits is under contract** (scoring `kS`) and passed the acceptance
    test, for the recursion of the source and for the one that also splits by diagonals -/
theorem emittedWith_okQ (split : Bool) (c : Costs) (ok : CostsOK c) (s : Seqs) (traps : List Trap) (k minLen num den : Int)
    (hml : 0 ≤ minLen) (htr : TrapsIn s.qlen traps.toArray) :
    ∀ kh ∈ emittedWith split c s traps k minLen num den, HitQ c s minLen num den kh := by
  intro kh hk
  unfold emittedWith at hk
  simp only [] at hk
  refine alignLoop_ok c ok s traps.toArray k minLen num den split hml htr _ 0 _ ?_ kh (Array.mem_toList_iff.mp hk)
  intro kh h
  exact absurd h (Array.not_mem_empty kh)

theorem emitted_ok (c : Costs) (ok : CostsOK c) (s : Seqs) (traps : List Trap) (k minLen num den : Int)
    (hml : 0 ≤ minLen) (htr : TrapsIn s.qlen traps.toArray) :
    ∀ kh ∈ emitted c s traps k minLen num den, HitP c s kh :=
  fun kh hk => (emittedWith_okQ false c ok s traps k minLen num den hml htr kh hk).1

theorem validLetter_ne_zero {x : Nat} (h : validLetter x = true) : x ≠ 0 := by
  intro e; subst e; simp [validLetter] at h

/-- the kernel tests the query letter only: where that is valid, or a gap, `kS` is the PALS scoring -/
theorem kS_eq_palsS (c : Costs) (r q : Nat) (hq : q = 0 ∨ validLetter q = true) :
    kS c r q = Biogo.PalsOracle.palsS (c.matchCost - c.diffCost) c.diffCost r q := by
  rcases hq with rfl | hq
  · rw [(kS_gap c r).1]; simp [Biogo.PalsOracle.palsS]
  · have := validLetter_ne_zero hq
    unfold kS Biogo.PalsOracle.palsS isMatch
    by_cases e : q = r
    · subst e; simp [hq, this]
    · have e' : ¬ r = q := fun h => e h.symm
      simp [e, e']

theorem scoreLin_kS_pals (c : Costs) (a : Aln) (hQ : ∀ x ∈ projQ a, validLetter x = true) :
    scoreLin (kS c) a = scoreLin (Biogo.PalsOracle.palsS (c.matchCost - c.diffCost) c.diffCost) a := by
  induction a with
  | nil => rfl
  | cons col a ih =>
    cases col with
    | m r q =>
      simp only [scoreLin, colScore, kS_eq_palsS c r q (Or.inr (hQ q (by simp [projQ]))),
        ih (fun x hx => hQ x (by simp [projQ, hx]))]
    | u r =>
      simp only [scoreLin, colScore, kS_eq_palsS c r 0 (Or.inl rfl), ih (fun x hx => hQ x (by simpa [projQ] using hx))]
    | l q =>
      simp only [scoreLin, colScore, kS_eq_palsS c 0 q (Or.inr (hQ q (by simp [projQ]))),
        ih (fun x hx => hQ x (by simp [projQ, hx]))]

theorem mem_slice {l : List Nat} {b e : Int} {x : Nat} (h : x ∈ slice l b e) : x ∈ l := by
  unfold slice at h
  exact List.mem_of_mem_drop (List.mem_of_mem_take h)

/-- **for a query of valid letters every hit the kernel model emits satisfies the contract `HitOK`
    under the PALS scoring** (`+(MatchCost − DiffCost) / −DiffCost`); the target may hold any letters,
    a match being a letter of the target equal to a valid one of the query -/
theorem emittedWith_hitOK (split : Bool) (c : Costs) (ok : CostsOK c)
    (s : Seqs) (hvq : ∀ x ∈ s.query.toList, validLetter x = true)
    (traps : List Trap) (k minLen num den : Int) (hml : 0 ≤ minLen) (htr : TrapsIn s.qlen traps.toArray) :
    ∀ kh ∈ emittedWith split c s traps k minLen num den,
      HitOK (Biogo.PalsOracle.palsS (c.matchCost - c.diffCost) c.diffCost) s.target.toList s.query.toList
        ⟨kh.h, kh.lowDiagonal, kh.highDiagonal⟩ := by
  intro kh hk
  have hp : HitOK (kS c) _ _ _ := (emittedWith_okQ split c ok s traps k minLen num den hml htr kh hk).1
  refine { hp with path := fun hlt => ?_ }
  obtain ⟨aln, hg, hs⟩ := hp.path hlt
  exact ⟨aln, hg, by rw [← hs, scoreLin_kS_pals c aln (fun x hx => hvq x (mem_slice (hg.2 ▸ hx)))]⟩

end Biogo.Proofs.PalsKernelSound
