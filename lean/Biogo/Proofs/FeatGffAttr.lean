/-
GFF, the attribute column (C02): `mustAtoa` recovers the attributes from what `Attributes.Format`
prints (`attrLoop_attrsText`).  At the end of a line `TrimSpace` takes away the space that follows a
last tag without value (`attrsTrim`); every piece is trimmed by the parser anyway, so that space makes
no difference (`attrLoop_append_space`).
-/
import Biogo.Proofs.FeatBedRound

namespace Biogo.Gff
open Biogo.BytesFeat Biogo.FeatIO

/-- stated over `n < 256` because a bounded `∀` over `Nat` is decidable in core, one over `UInt8` is not -/
theorem alphaNum_facts_nat : ∀ n, n < 256 → alphaNum (UInt8.ofNat n) = true →
    isSpaceByte (UInt8.ofNat n) = false ∧ UInt8.ofNat n < 128 ∧ isAsciiSpace (UInt8.ofNat n) = false ∧
    UInt8.ofNat n ≠ 59 := by decide +kernel

theorem alphaNum_facts (b : UInt8) (h : alphaNum b = true) :
    isSpaceByte b = false ∧ b < 128 ∧ isAsciiSpace b = false ∧ b ≠ 59 := by
  have := alphaNum_facts_nat b.toNat b.toNat_lt
  simp only [UInt8.ofNat_toNat] at this
  exact this h

theorem tagOK_unpack {t : Bytes} (h : tagOK t = true) :
    t ≠ [] ∧ (∀ b ∈ t, alphaNum b = true) ∧ Plain t ∧ (59 : UInt8) ∉ t := by
  simp only [tagOK, Bool.and_eq_true, Bool.not_eq_true', List.isEmpty_eq_false_iff, List.all_eq_true] at h
  exact ⟨h.1, h.2, fun b hb => (alphaNum_facts b (h.2 b hb)).2.imp_right And.left,
    fun hb => (alphaNum_facts _ (h.2 _ hb)).2.2.2 rfl⟩

theorem tag_ends {t : Bytes} (h : tagOK t = true) : startsWithSpace t = false ∧ endsWithSpace t = false :=
  ends_of_ascii t (tagOK_unpack h).1 (tagOK_unpack h).2.2.1

theorem valueOK_unpack {v : Bytes} (h : valueOK v = true) :
    (59 : UInt8) ∉ v ∧ (9 : UInt8) ∉ v ∧ (10 : UInt8) ∉ v ∧ trimmed v = true ∧
    (∀ b r, v = b :: r → isSpaceByte b = false) := by
  simp only [valueOK, Bool.and_eq_true, Bool.not_eq_true'] at h
  obtain ⟨⟨⟨⟨h1, h2⟩, h3⟩, h4⟩, h5⟩ := h
  refine ⟨not_mem_of_contains h1, not_mem_of_contains h2, not_mem_of_contains h3, h4, ?_⟩
  intro b r e; subst e; simpa using h5

theorem splitAnnotAux_tag (col : Nat) (t rest acc : Bytes) (h : ∀ b ∈ t, alphaNum b = true) :
    splitAnnotAux col (t ++ rest) acc = splitAnnotAux col rest (t.reverse ++ acc) := by
  induction t generalizing acc with
  | nil => rfl
  | cons b r ih =>
    have hb := h b (by simp)
    have hs := (alphaNum_facts b hb).1
    rw [List.cons_append, splitAnnotAux]
    simp only [hs, Bool.false_eq_true, if_false, hb, if_true]
    rw [ih _ (fun c hc => h c (List.mem_cons_of_mem _ hc))]
    simp

theorem splitAnnot_pair (col : Nat) (t v : Bytes) (ht : tagOK t = true) (hv : valueOK v = true) (hne : v ≠ []) :
    splitAnnot (t ++ 32 :: v) col = .ok (t, some v) := by
  obtain ⟨_, hall, _⟩ := tagOK_unpack ht
  unfold splitAnnot
  rw [splitAnnotAux_tag col t _ [] hall, splitAnnotAux]
  cases v with
  | nil => exact absurd rfl hne
  | cons b r =>
    have hb := (valueOK_unpack hv).2.2.2.2 b r rfl
    have hd : List.dropWhile isSpaceByte (b :: r) = b :: r := by simp [List.dropWhile, hb]
    have h32 : isSpaceByte 32 = true := by decide
    simp only [h32, if_true, hd]
    simp

theorem splitAnnot_tag (col : Nat) (t : Bytes) (ht : tagOK t = true) :
    splitAnnot t col = .ok (t, none) := by
  obtain ⟨_, hall, _⟩ := tagOK_unpack ht
  unfold splitAnnot
  have := splitAnnotAux_tag col t [] [] hall
  simp only [List.append_nil] at this
  rw [this]
  simp [splitAnnotAux]

/-- `tag value` as `Attributes.Format` prints one attribute -/
def piece (a : Attr) : Bytes := a.tag ++ 32 :: a.value

theorem attrOK_unpack {a : Attr} (h : attrOK a = true) : tagOK a.tag = true ∧ valueOK a.value = true := by
  simpa [attrOK] using h

theorem attrLoop_piece (col : Nat) (a : Attr) (ha : attrOK a = true) (ps : List Bytes) :
    attrLoop col (piece a :: ps) = (attrLoop col ps >>= fun rest => .ok (a :: rest)) := by
  obtain ⟨ht, hv⟩ := attrOK_unpack ha
  obtain ⟨htne, _, htp, _⟩ := tagOK_unpack ht
  have htag : a.tag.isEmpty = false := List.isEmpty_eq_false_iff.mpr htne
  have key : ∃ v : Option Bytes, (trimSpace (piece a)).isEmpty = false ∧
      splitAnnot (trimSpace (piece a)) col = .ok (a.tag, v) ∧ v.getD [] = a.value := by
    by_cases hve : a.value = []
    · have htrim : trimSpace (piece a) = a.tag := by
        simp only [piece, hve]
        rw [trimSpace_append_space 32 (by decide), trimSpace_ascii _ htp]
      exact ⟨none, by rw [htrim, htag], by rw [htrim, splitAnnot_tag col a.tag ht], hve.symm⟩
    · have htrim : trimSpace (piece a) = piece a :=
        trimSpace_of_trimmed _ (trimmed_append a.tag a.value 32 htne hve (tag_ends ht).1
          (trimmed_iff.mp (valueOK_unpack hv).2.2.2.1).2 (by decide))
      refine ⟨some a.value, ?_, ?_, rfl⟩
      · rw [htrim]; simp [piece, htne]
      · rw [htrim]; exact splitAnnot_pair col a.tag a.value ht hv hve
  obtain ⟨v, hne, hs, hv'⟩ := key
  rw [attrLoop]
  simp only [hne, Bool.false_eq_true, if_false, hs, bind_ok, htag, hv']

theorem piece_no_semicolon {a : Attr} (ha : attrOK a = true) : (59 : UInt8) ∉ piece a := by
  obtain ⟨ht, hv⟩ := attrOK_unpack ha
  unfold piece
  simp only [List.mem_append, List.mem_cons, not_or]
  exact ⟨(tagOK_unpack ht).2.2.2, by decide, (valueOK_unpack hv).1⟩

theorem attrLoop_leading_space (col : Nat) (p : Bytes) (ps : List Bytes) :
    attrLoop col ((32 :: p) :: ps) = attrLoop col (p :: ps) := by
  rw [attrLoop, attrLoop]
  have : trimSpace (32 :: p) = trimSpace p := by
    unfold trimSpace
    rw [trimLeft_space p (by decide)]
  rw [this]

theorem attrsText_cons (a a2 : Attr) (rest : List Attr) :
    attrsText (a :: a2 :: rest) = piece a ++ 59 :: 32 :: attrsText (a2 :: rest) := by
  simp [attrsText, joinWithS, piece]

theorem attrLoop_attrsText (col : Nat) (as : List Attr) (has : ∀ a ∈ as, attrOK a = true) :
    attrLoop col (splitOn 59 (attrsText as)) = .ok as := by
  induction as with
  | nil => simp [attrsText, joinWithS, splitOn, attrLoop, trimSpace, trimLeft, trimRight_nil]
  | cons a rest ih =>
    have ha := has a (by simp)
    cases rest with
    | nil =>
      rw [show attrsText [a] = piece a from rfl, splitOn_nosep 59 _ (piece_no_semicolon ha), attrLoop_piece col a ha]
      simp [attrLoop]
    | cons a2 rest2 =>
      obtain ⟨p, ps, hsp, hsp2⟩ := splitOn_cons_ne 59 32 (attrsText (a2 :: rest2)) (by decide)
      rw [attrsText_cons, splitOn_field 59 (piece a) _ (piece_no_semicolon ha), hsp2, attrLoop_piece col a ha,
        attrLoop_leading_space, ← hsp, ih (fun x hx => has x (List.mem_cons_of_mem _ hx))]
      rfl

theorem attrLoop_append_space (col : Nat) (X : Bytes) :
    attrLoop col (splitOn 59 (X ++ [32])) = attrLoop col (splitOn 59 X) := by
  obtain ⟨init, last, h1, h2⟩ := splitOn_concat 59 32 (by decide) X
  rw [h1, h2]
  clear h1 h2
  induction init with
  | nil => rw [List.nil_append, List.nil_append, attrLoop.eq_2, attrLoop.eq_2, trimSpace_append_space 32 (by decide)]
  | cons p ps ih => rw [List.cons_append, List.cons_append, attrLoop.eq_2, attrLoop.eq_2, ih]

/-- the attribute column as it stands at the end of a trimmed line: `Attributes.Format`'s output
    without the final space that follows a last tag with an empty value -/
def attrsTrim : List Attr → Bytes
  | [] => []
  | [a] => if a.value = [] then a.tag else piece a
  | a :: a2 :: rest => piece a ++ 59 :: 32 :: attrsTrim (a2 :: rest)

theorem attrsText_eq (as : List Attr) : attrsText as = attrsTrim as ∨ attrsText as = attrsTrim as ++ [32] := by
  induction as with
  | nil => left; simp [attrsText, attrsTrim, joinWithS]
  | cons a rest ih =>
    cases rest with
    | nil =>
      simp only [attrsText, attrsTrim, List.map_cons, List.map_nil, joinWithS]
      by_cases h : a.value = []
      · right; simp [h]
      · left; simp [h, piece]
    | cons a2 rest2 =>
      rw [attrsText_cons]
      rcases ih with h | h
      · left; rw [h]; rfl
      · right; rw [h]; simp [attrsTrim]

theorem attrLoop_attrsTrim (col : Nat) (as : List Attr) (has : ∀ a ∈ as, attrOK a = true) :
    attrLoop col (splitOn 59 (attrsTrim as)) = .ok as := by
  rw [← attrLoop_attrsText col as has]
  rcases attrsText_eq as with h | h <;> rw [h]
  exact (attrLoop_append_space col _).symm

theorem piece_ne_nil (a : Attr) : piece a ≠ [] := by
  unfold piece; cases a.tag <;> simp

theorem attrsTrim_end (as : List Attr) (hne : as ≠ []) (has : ∀ a ∈ as, attrOK a = true) :
    attrsTrim as ≠ [] ∧ endsWithSpace (attrsTrim as) = false := by
  induction as with
  | nil => exact absurd rfl hne
  | cons a rest ih =>
    cases rest with
    | nil =>
      obtain ⟨ht, hv⟩ := attrOK_unpack (has a (by simp))
      simp only [attrsTrim]
      by_cases h : a.value = []
      · simp only [h, if_true]
        exact ⟨(tagOK_unpack ht).1, (tag_ends ht).2⟩
      · simp only [h, if_false]
        refine ⟨piece_ne_nil a, ?_⟩
        unfold piece
        exact endsWithSpace_append a.tag 32 a.value h (trimmed_iff.mp (valueOK_unpack hv).2.2.2.1).2 (by decide)
    | cons a2 rest2 =>
      obtain ⟨h1, h2⟩ := ih (by simp) (fun x hx => has x (List.mem_cons_of_mem _ hx))
      simp only [attrsTrim]
      refine ⟨by simp, ?_⟩
      have : piece a ++ 59 :: 32 :: attrsTrim (a2 :: rest2) = (piece a ++ [59]) ++ 32 :: attrsTrim (a2 :: rest2) := by simp
      rw [this]
      exact endsWithSpace_append _ 32 _ h1 h2 (by decide)

theorem attrsText_chars (as : List Attr) (c : UInt8) (h : c ∈ attrsText as) :
    c = 59 ∨ c = 32 ∨ ∃ a ∈ as, c ∈ a.tag ∨ c ∈ a.value := by
  rcases mem_joinWithS h with h | ⟨p, hp, hc⟩
  · simp only [List.mem_cons, List.not_mem_nil, or_false] at h
    exact h.elim .inl fun h => .inr (.inl h)
  · obtain ⟨a, ha, rfl⟩ := List.mem_map.mp hp
    rcases List.mem_append.mp hc with hc | hc
    · exact .inr (.inr ⟨a, ha, .inl hc⟩)
    · rcases List.mem_cons.mp hc with hc | hc
      · exact .inr (.inl hc)
      · exact .inr (.inr ⟨a, ha, .inr hc⟩)

theorem attrsText_clean (as : List Attr) (has : ∀ a ∈ as, attrOK a = true) : Clean (attrsText as) := by
  have key : ∀ k : UInt8, k ≠ 59 → k ≠ 32 → isAsciiSpace k = true → (∀ a ∈ as, k ∉ a.value) → k ∉ attrsText as := by
    intro k h59 h32 hk hv h
    rcases attrsText_chars as k h with e | e | ⟨a, ha, hc | hc⟩
    · exact h59 e
    · exact h32 e
    · exact (tagOK_unpack (attrOK_unpack (has a ha)).1).2.2.1.not_mem hk hc
    · exact hv a ha hc
  exact ⟨key 9 (by decide) (by decide) (by decide) fun a ha => (valueOK_unpack (attrOK_unpack (has a ha)).2).2.1,
    key 10 (by decide) (by decide) (by decide) fun a ha => (valueOK_unpack (attrOK_unpack (has a ha)).2).2.2.1⟩

theorem attrsTrim_clean (as : List Attr) (has : ∀ a ∈ as, attrOK a = true) : Clean (attrsTrim as) := by
  have hc := attrsText_clean as has
  rcases attrsText_eq as with h | h
  · rw [← h]; exact hc
  · rw [h] at hc
    exact ⟨fun m => hc.1 (List.mem_append_left _ m), fun m => hc.2 (List.mem_append_left _ m)⟩

end Biogo.Gff
