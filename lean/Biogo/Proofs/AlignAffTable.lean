/-
The tables of `Biogo.Model.AlignAff`.  Their entries: `max2`, `max3` are one semilattice operation on
`V` (`vmax`, `none` = −∞ at the bottom), and the model's recurrences are the reference table's in other
words (`gapLayer_eq`, `cellBest_layer`).  Their cells: the flat array `table[i*c+j]`
against the rows it is built from, the recurrence each cell satisfies (`scanRow` / `fillRows`,
and for the reference table `optRows_*`), and induction over the cells in the order of the fill
(`table_induction`).
-/
import Biogo.Model.AlignAff
import Biogo.Spec.AffineOpt
import Biogo.Proofs.Alignment

namespace Biogo.Proofs.AlignAffTable
open Biogo.AlignAff Biogo.Spec.AffineOpt

def vmax : V → V → V
  | none, b => b
  | a, none => a
  | some x, some y => some (max x y)

theorem max2_eq (a b : V) : max2 a b = vmax a b := by
  rcases a with _ | x <;> rcases b with _ | y <;> simp [max2, vgt, vmax]
  by_cases h : y < x <;> simp [h] <;> omega

theorem max3_eq_max2 (a b c : V) : max3 a b c = max2 c (max2 b a) := rfl

theorem vmax_comm (a b : V) : vmax a b = vmax b a := by
  rcases a with _ | x <;> rcases b with _ | y <;> simp [vmax, Int.max_comm]

theorem max3_eq (a b c : V) : max3 a b c = vmax (vmax a b) c := by
  rw [max3_eq_max2, max2_eq, max2_eq, vmax_comm c, vmax_comm b]

theorem max2_none_left (v : V) : max2 none v = v := by cases v <;> rfl

theorem max3_none (a b : V) : max3 a b none = max2 a b := by
  rw [max3_eq, max2_eq]; cases vmax a b <;> rfl

/-- `a ≤ b` with `none` = −∞ -/
def vle : V → V → Prop
  | none, _ => True
  | some _, none => False
  | some x, some y => x ≤ y

theorem max2_spec (a b : V) : (max2 a b = a ∨ max2 a b = b) ∧ vle a (max2 a b) ∧ vle b (max2 a b) := by
  rw [max2_eq]
  rcases a with _ | x <;> rcases b with _ | y <;> simp [vmax, vle] <;> omega

theorem max3_sel (a b c : V) : max3 a b c = a ∨ max3 a b c = b ∨ max3 a b c = c := by
  rw [max3_eq_max2]
  rcases (max2_spec c (max2 b a)).1 with h | h
  · exact Or.inr (Or.inr h)
  · rw [h]
    exact (max2_spec b a).1.symm.imp_right Or.inl

theorem vadd_max2 (a b : V) (s : Int) : max2 (vadd a s) (vadd b s) = vadd (max2 a b) s := by
  simp only [max2_eq]
  rcases a with _ | x <;> rcases b with _ | y <;> simp [vmax, vadd] <;> omega

theorem vle_some {v : V} {x : Int} (h : vle (some x) v) : ∃ y, v = some y ∧ x ≤ y := by
  cases v with
  | none => exact absurd h (by simp [vle])
  | some y => exact ⟨y, rfl, h⟩

theorem vmax_some (x : Int) (u : V) : ∃ z, vmax (some x) u = some z ∧ x ≤ z := by
  rcases u with _ | y
  · exact ⟨x, rfl, Int.le_refl _⟩
  · exact ⟨max x y, rfl, Int.le_max_left _ _⟩

theorem max2_some_left {a b : V} {w : Int} (h : a = some w) : ∃ z, max2 a b = some z :=
  let ⟨z, e, _⟩ := vmax_some w b; ⟨z, by rw [h, max2_eq, e]⟩

theorem max2_some_right {a b : V} {w : Int} (h : b = some w) : ∃ z, max2 a b = some z :=
  let ⟨z, e, _⟩ := vmax_some w a; ⟨z, by rw [h, max2_eq, vmax_comm, e]⟩

theorem vadd_some {a : V} {x w : Int} (h : a = some w) : vadd a x = some (w + x) := by rw [h]; rfl

theorem gapLayer_eq (fl : Flags) (o g : Int) (pd ps po : V) :
    gapLayer fl.cross o g pd ps po = gapVal fl o g pd ps po := by
  cases h : fl.cross <;> simp [gapLayer, gapVal, h, max3_none]

theorem cellBest_layer (e : Cell) : e.get (bestLayer e) = cellBest e := by
  unfold cellBest max3 bestLayer
  cases h1 : vgt e.u e.d <;> simp only [Bool.false_eq_true, if_false, if_true]
  · cases h2 : vgt e.l e.d <;> simp [Cell.get]
  · cases h2 : vgt e.l e.u <;> simp [Cell.get]

theorem getD_of_lt {α} (l : List α) (d : α) (i : Nat) (h : i < l.length) : l.getD i d = l[i] := by
  rw [List.getD_eq_getElem?_getD, List.getElem?_eq_getElem h, Option.getD_some]

theorem flatten_getD {α} (d : α) (c : Nat) (rows : List (List α)) (i j : Nat) (hlen : ∀ row ∈ rows, row.length = c)
    (hj : j < c) : rows.flatten.getD (i * c + j) d = (rows.getD i []).getD j d := by
  simp only [List.getD_eq_getElem?_getD, Biogo.Spec.Alignment.flatten_get c rows i j hlen hj]
  cases rows[i]? <;> simp

theorem mkTable_at (c : Nat) (rows : List (List Cell)) (i j : Nat)
    (hlen : ∀ row ∈ rows, row.length = c) (hj : j < c) :
    (mkTable c rows).at i j = rowAt rows i j := by
  have h := flatten_getD noCell c rows i j hlen hj
  simp only [Table.at, mkTable, rowAt, Array.getD_eq_getD_getElem?, List.getElem?_toArray]
  simpa [List.getD_eq_getElem?_getD] using h

theorem scanRow_length (f : Cell → Cell → Cell → Nat → Cell) :
    ∀ (ys : List Nat) (prev : List Cell) (lc : Cell), ys.length + 1 ≤ prev.length →
      (scanRow f prev lc ys).length = ys.length := by
  intro ys
  induction ys with
  | nil => intro prev lc _; cases prev with
    | nil => rfl
    | cons a t => cases t <;> rfl
  | cons y ys ih =>
    intro prev lc h
    match prev, h with
    | pd :: pu :: rest, h =>
      simp only [scanRow, List.length_cons]
      rw [ih (pu :: rest) _ (by simpa using h)]
    | [], h => simp at h
    | [_], h => simp at h

theorem scanRow_getD (f : Cell → Cell → Cell → Nat → Cell) (d : Cell) :
    ∀ (ys : List Nat) (prev : List Cell) (lc : Cell) (j : Nat), ys.length + 1 ≤ prev.length →
      j < ys.length →
      (lc :: scanRow f prev lc ys).getD (j + 1) d =
        f (prev.getD j d) (prev.getD (j + 1) d) ((lc :: scanRow f prev lc ys).getD j d) (ys.getD j 0) := by
  intro ys
  induction ys with
  | nil => intro prev lc j _ hj; simp at hj
  | cons y ys ih =>
    intro prev lc j h hj
    match prev, h with
    | pd :: pu :: rest, h =>
      cases j with
      | zero => simp [scanRow]
      | succ j =>
        have := ih (pu :: rest) (f pd pu lc y) j (by simpa using h) (by simpa using hj)
        simp only [scanRow, List.getD_cons_succ] at this ⊢
        exact this
    | [], h => simp at h
    | [_], h => simp at h

theorem fillRows_getD (first : Bool → Cell → Nat → Cell) (f : Nat → Cell → Cell → Cell → Nat → Cell)
    (q : List Nat) :
    ∀ (xs : List Nat) (b : Bool) (prev : List Cell) (i : Nat), i < xs.length →
      (prev :: fillRows first f q b prev xs).getD (i + 1) [] =
        (let prevRow := (prev :: fillRows first f q b prev xs).getD i []
         let fc := first (if i = 0 then b else false) (prevRow.headD noCell) (xs.getD i 0)
         fc :: scanRow (f (xs.getD i 0)) prevRow fc q) := by
  intro xs
  induction xs with
  | nil => intro b prev i hi; simp at hi
  | cons x xs ih =>
    intro b prev i hi
    cases i with
    | zero => simp [fillRows]
    | succ i =>
      have := ih false (first b (prev.headD noCell) x :: scanRow (f x) prev (first b (prev.headD noCell) x) q) i
        (by simpa using hi)
      simp only [fillRows, List.getD_cons_succ] at this ⊢
      rw [this]
      simp

theorem fillRows_length (first : Bool → Cell → Nat → Cell) (f : Nat → Cell → Cell → Cell → Nat → Cell)
    (q : List Nat) : ∀ (xs : List Nat) (b : Bool) (prev : List Cell),
      (fillRows first f q b prev xs).length = xs.length := by
  intro xs
  induction xs with
  | nil => intro b prev; rfl
  | cons x xs ih => intro b prev; simp [fillRows, ih]

theorem fillRows_rowlen (first : Bool → Cell → Nat → Cell) (f : Nat → Cell → Cell → Cell → Nat → Cell)
    (q : List Nat) : ∀ (xs : List Nat) (b : Bool) (prev : List Cell), prev.length = q.length + 1 →
      ∀ row ∈ fillRows first f q b prev xs, row.length = q.length + 1 := by
  intro xs
  induction xs with
  | nil => intro b prev _ row hrow; simp [fillRows] at hrow
  | cons x xs ih =>
    intro b prev hp row hrow
    simp only [fillRows, List.mem_cons] at hrow
    have hl : (first b (prev.headD noCell) x :: scanRow (f x) prev (first b (prev.headD noCell) x) q).length
        = q.length + 1 := by
      rw [List.length_cons, scanRow_length (f x) q prev _ (by omega)]
    rcases hrow with rfl | hrow
    · exact hl
    · exact ih false _ hl row hrow

theorem rows_all_len (first : Bool → Cell → Nat → Cell) (f : Nat → Cell → Cell → Cell → Nat → Cell)
    (q r : List Nat) (r0 : List Cell) (h0 : r0.length = q.length + 1) :
    ∀ row ∈ r0 :: fillRows first f q true r0 r, row.length = q.length + 1 := by
  intro row hrow
  rcases List.mem_cons.mp hrow with rfl | h
  · exact h0
  · exact fillRows_rowlen first f q r true r0 h0 row h

theorem rows_getD_len (first : Bool → Cell → Nat → Cell) (f : Nat → Cell → Cell → Cell → Nat → Cell)
    (q r : List Nat) (r0 : List Cell) (h0 : r0.length = q.length + 1) (i : Nat) (hi : i ≤ r.length) :
    ((r0 :: fillRows first f q true r0 r).getD i []).length = q.length + 1 := by
  have hl : i < (r0 :: fillRows first f q true r0 r).length := by
    rw [List.length_cons, fillRows_length]; omega
  rw [getD_of_lt _ _ i hl]
  exact rows_all_len first f q r r0 h0 _ (List.getElem_mem hl)

theorem rows_inner (first : Bool → Cell → Nat → Cell) (f : Nat → Cell → Cell → Cell → Nat → Cell)
    (q r : List Nat) (r0 : List Cell) (h0 : r0.length = q.length + 1) (i j : Nat)
    (hi : i < r.length) (hj : j < q.length) :
    rowAt (r0 :: fillRows first f q true r0 r) (i + 1) (j + 1) =
      f (r.getD i 0) (rowAt (r0 :: fillRows first f q true r0 r) i j)
        (rowAt (r0 :: fillRows first f q true r0 r) i (j + 1))
        (rowAt (r0 :: fillRows first f q true r0 r) (i + 1) j) (q.getD j 0) := by
  have hrow := fillRows_getD first f q r true r0 i hi
  have hlen := rows_getD_len first f q r r0 h0 i (by omega)
  simp only [rowAt]
  have key := scanRow_getD (f (r.getD i 0)) noCell q
    ((r0 :: fillRows first f q true r0 r).getD i [])
    (first (if i = 0 then true else false) (((r0 :: fillRows first f q true r0 r).getD i []).headD noCell) (r.getD i 0))
    j (by omega) hj
  rw [hrow]
  exact key

theorem rows_first (first : Bool → Cell → Nat → Cell) (f : Nat → Cell → Cell → Cell → Nat → Cell)
    (q r : List Nat) (r0 : List Cell) (i : Nat) (hi : i < r.length) :
    rowAt (r0 :: fillRows first f q true r0 r) (i + 1) 0 =
      first (if i = 0 then true else false) (rowAt (r0 :: fillRows first f q true r0 r) i 0) (r.getD i 0) := by
  have hrow := fillRows_getD first f q r true r0 i hi
  simp only [rowAt]
  rw [hrow]
  simp only [List.getD_cons_zero]
  congr 1
  cases (r0 :: fillRows first f q true r0 r).getD i [] <;> rfl

theorem row0Tail_getD (fl : Flags) (S : Biogo.Spec.Alignment.Matrix) (o : Int) :
    ∀ (ys : List Nat) (lc : Cell) (j : Nat), j < ys.length →
      (lc :: optRow0Tail fl S o lc ys).getD (j + 1) noCell =
        { d := emptyAt fl.freeQ, u := none,
          l := gapVal fl o (S 0 (ys.getD j 0))
            ((lc :: optRow0Tail fl S o lc ys).getD j noCell).d
            ((lc :: optRow0Tail fl S o lc ys).getD j noCell).l
            ((lc :: optRow0Tail fl S o lc ys).getD j noCell).u } := by
  intro ys
  induction ys with
  | nil => intro lc j hj; simp at hj
  | cons y ys ih =>
    intro lc j hj
    cases j with
    | zero => simp [optRow0Tail]
    | succ j =>
      have := ih { d := emptyAt fl.freeQ, u := none, l := gapVal fl o (S 0 y) lc.d lc.l lc.u } j
        (by simpa using hj)
      simp only [optRow0Tail, List.getD_cons_succ] at this ⊢
      exact this

theorem optRows_row0 (fl : Flags) (S : Biogo.Spec.Alignment.Matrix) (o : Int) (r q : List Nat)
    (j : Nat) (hj : j < q.length) :
    rowAt (optRows fl S o r q) 0 (j + 1) =
      { d := emptyAt fl.freeQ, u := none,
        l := gapVal fl o (S 0 (q.getD j 0)) (rowAt (optRows fl S o r q) 0 j).d
          (rowAt (optRows fl S o r q) 0 j).l (rowAt (optRows fl S o r q) 0 j).u } := by
  simp only [rowAt, optRows, List.getD_cons_zero]
  exact row0Tail_getD fl S o q origin j hj

theorem optRows_origin (fl : Flags) (S : Biogo.Spec.Alignment.Matrix) (o : Int) (r q : List Nat) :
    rowAt (optRows fl S o r q) 0 0 = origin := by
  simp [rowAt, optRows]

theorem optRow0_length (fl : Flags) (S : Biogo.Spec.Alignment.Matrix) (o : Int) (q : List Nat) :
    (origin :: optRow0Tail fl S o origin q).length = q.length + 1 := by
  have h : ∀ (ys : List Nat) (lc : Cell), (optRow0Tail fl S o lc ys).length = ys.length := by
    intro ys
    induction ys with
    | nil => intro lc; rfl
    | cons y ys ih => intro lc; simp only [optRow0Tail, List.length_cons, ih]
  rw [List.length_cons, h]

theorem optRows_col0 (fl : Flags) (S : Biogo.Spec.Alignment.Matrix) (o : Int) (r q : List Nat)
    (i : Nat) (hi : i < r.length) :
    rowAt (optRows fl S o r q) (i + 1) 0 =
      optFirst fl S o (if i = 0 then true else false) (rowAt (optRows fl S o r q) i 0) (r.getD i 0) :=
  rows_first _ _ q r _ i hi

theorem optRows_cell (fl : Flags) (S : Biogo.Spec.Alignment.Matrix) (o : Int) (r q : List Nat)
    (i j : Nat) (hi : i < r.length) (hj : j < q.length) :
    rowAt (optRows fl S o r q) (i + 1) (j + 1) =
      optCell fl S o (r.getD i 0) (rowAt (optRows fl S o r q) i j) (rowAt (optRows fl S o r q) i (j + 1))
        (rowAt (optRows fl S o r q) (i + 1) j) (q.getD j 0) :=
  rows_inner _ _ q r _ (optRow0_length fl S o q) i j hi hj

theorem mem_flatten_iff_rowAt (rows : List (List Cell)) (R C : Nat) (hlen : rows.length = R + 1)
    (hrow : ∀ i, i ≤ R → (rows.getD i []).length = C + 1) (c : Cell) :
    c ∈ rows.flatten ↔ ∃ i j, i ≤ R ∧ j ≤ C ∧ c = rowAt rows i j := by
  rw [List.mem_flatten]
  constructor
  · rintro ⟨row, hr, hc⟩
    obtain ⟨i, hi, rfl⟩ := List.mem_iff_getElem.mp hr
    obtain ⟨j, hj, rfl⟩ := List.mem_iff_getElem.mp hc
    have := hrow i (by omega)
    rw [getD_of_lt rows [] i hi] at this
    exact ⟨i, j, by omega, by omega, by rw [rowAt, getD_of_lt rows [] i hi, getD_of_lt _ noCell j hj]⟩
  · rintro ⟨i, j, hi, hj, rfl⟩
    have hi' : i < rows.length := by omega
    have := hrow i hi
    rw [getD_of_lt rows [] i hi'] at this
    rw [rowAt, getD_of_lt rows [] i hi', getD_of_lt _ noCell j (by omega)]
    exact ⟨rows[i], List.getElem_mem hi', List.getElem_mem _⟩

theorem rowAt_some_lt {rows : List (List Cell)} {i j : Nat} {k : Biogo.Spec.Alignment.Kind} {v : Int}
    (h : (rowAt rows i j).get k = some v) : i < rows.length ∧ j < (rows.getD i []).length := by
  have hj : j < (rows.getD i []).length := Nat.lt_of_not_le fun hle => by
    rw [rowAt, List.getD_eq_getElem?_getD, List.getElem?_eq_none hle] at h
    cases k <;> cases h
  refine ⟨Nat.lt_of_not_le fun hle => ?_, hj⟩
  rw [List.getD_eq_getElem?_getD, List.getElem?_eq_none hle] at hj
  exact Nat.not_lt_zero _ hj

theorem take_succ_getD (l : List Nat) (i : Nat) (h : i < l.length) : l.take (i + 1) = l.take i ++ [l.getD i 0] := by
  rw [List.take_add_one, List.getD_eq_getElem?_getD, List.getElem?_eq_getElem h]
  rfl

/-- induction over the cells `(i, j)`, `i ≤ R`, `j ≤ C`, in the order a fill visits them: the
    origin, the first row, the first column, then each inner cell from its three neighbours -/
theorem table_induction {P : Nat → Nat → Prop} (R C : Nat) (h00 : P 0 0)
    (hrow : ∀ j, j < C → P 0 j → P 0 (j + 1)) (hcol : ∀ i, i < R → P i 0 → P (i + 1) 0)
    (hin : ∀ i j, i < R → j < C → P i j → P i (j + 1) → P (i + 1) j → P (i + 1) (j + 1)) :
    ∀ i, i ≤ R → ∀ j, j ≤ C → P i j := by
  intro i
  induction i with
  | zero =>
    intro _ j
    induction j with
    | zero => intro _; exact h00
    | succ j ih => intro hj; exact hrow j hj (ih (by omega))
  | succ i ihi =>
    intro hi j
    induction j with
    | zero => intro _; exact hcol i hi (ihi (by omega) 0 (Nat.zero_le _))
    | succ j ihj =>
      intro hj
      exact hin i j hi hj (ihi (by omega) j (by omega)) (ihi (by omega) (j + 1) hj) (ihj (by omega))

end Biogo.Proofs.AlignAffTable
