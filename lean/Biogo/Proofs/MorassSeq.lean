/-
C13, fault lists: invariants of the sorter model that hold whatever the caller's
program is and whatever faults are injected, and that say what state a `Clear` finds:

* `Low`      — a chunk buffer is never lost entirely (both modes): `pool`, the writers that hold a
               buffer, `writable` and the caller's `chunk` together hold at least one;
* `StrB 1`   — in sequential mode there is exactly one buffer in circulation;
* `Quiet`    — in sequential mode every `write()` activation has ended whenever the caller is
               between two calls (the hand-off is synchronous);
* `Consts`   — chunk size and AutoClear never change (nor does AutoClean: `step_settings`).

Together: in sequential mode a successful `Clear` always leaves a `Fresh` sorter with no live
writer (`clear_restores`), whatever happened before — reported errors, abandoned cycles, faults.
Such a state is one from which `Proofs/MorassHistory.lean` runs a history (`fresh_history`).
-/
import Biogo.Model.MorassConc
import Biogo.Proofs.MorassConc
import Biogo.Proofs.MorassCycle
import Biogo.Proofs.MorassStep

namespace Biogo.MorassConc
open Biogo.Morass Biogo.Interleave

def tokens (s : CState) : Nat := s.m.pool + cnt holding s + s.writable.buf.length + chunkTok s

def Low (s : CState) : Prop := 1 ≤ tokens s

theorem Low_init (conc : Bool) (c : Nat) (ac acl : Bool) (prog : List Op) (flt : Fault) (reuse : Bool) :
    Low (initState conc c ac acl prog flt reuse) := by
  cases conc <;> simp [Low, tokens, initState, cnt, chunkTok, b2n]

theorem cnt_zero_of_done {s : CState} (p : Writer → Bool) (hp : ∀ w, w.pc = .done → p w = false)
    (hpc : s.pc ≠ .finWrite) (hq : ∀ w ∈ s.writers, w.pc = .done) : cnt p s = 0 := by
  rw [cnt_notFW p hpc]
  exact List.countP_eq_zero.mpr (fun w hw => by simp [hp w (hq w hw)])

def mtok (m : Morass.State) : Nat := m.pool + b2n m.chunk.isSome

theorem tokens_quiet {s : CState} (hs : Str s) (hpc : s.pc = .idle) (hq : ∀ w ∈ s.writers, w.pc = .done) :
    tokens s = mtok s.m := by
  have hne : s.pc ≠ .finWrite := by rw [hpc]; simp
  unfold tokens
  rw [cnt_zero_of_done holding (fun _ h => (done_false h).2.2) hne hq, wb_nil_of_done hs hne hq,
    chunkTok_idle (by rw [hpc]; simp)]
  rfl

theorem clear_pos (m : Morass.State) (h : 1 ≤ mtok m) : 1 ≤ mtok (clear m) := by
  unfold clear
  split
  · simp [mtok, b2n]
  · rename_i hp
    have hp0 : m.pool = 0 := by omega
    unfold mtok at h ⊢
    cases hc : m.chunk with
    | none => simp [hc, hp0, b2n] at h
    | some ch => simp [b2n]

theorem clearF_pos (s : CState) (h : 1 ≤ mtok s.m) : 1 ≤ mtok (clearF s).1.m := by
  rcases clearF_spec s with ⟨_, e⟩ | ⟨_, e⟩ <;> rw [e]
  · exact h
  · exact clear_pos _ h

theorem pullF_pos (s : CState) (h : 1 ≤ mtok s.m) : 1 ≤ mtok (pullF s).1.m := by
  rcases pullF_cases s with ⟨s1, hs1, e⟩ | ⟨h1, h2, _⟩
  · have h1 : 1 ≤ mtok s1.m := by
      rcases hs1 with rfl | rfl
      · exact h
      · show 1 ≤ s.m.pool + 1 + b2n (none : Option (List Elem)).isSome
        omega
    rw [e, atEof_m]
    cases s.m.autoClear
    · exact h1
    · exact clearF_pos s1 h1
  · unfold mtok; rw [h1, h2]; exact h

/-- a caller block that ends between calls and spawns nothing -/
theorem Low_idle {s t : CState} (hl : Low s) (hfrom : s.pc ≠ .finWrite) (hpc : t.pc = .idle)
    (hwr : t.writers = s.writers) (hwb : t.writable = s.writable)
    (htok : 1 ≤ s.m.pool + chunkTok s → 1 ≤ mtok t.m) : Low t := by
  have hc : cnt holding t = cnt holding s := cnt_eq_of holding hwr hfrom (by rw [hpc]; simp)
  have hk : chunkTok t = b2n t.m.chunk.isSome := chunkTok_idle (by rw [hpc]; simp)
  unfold Low tokens at hl ⊢
  rw [hc, hwb, hk]
  unfold mtok at htok
  by_cases h1 : 1 ≤ s.m.pool + chunkTok s
  · have := htok h1; omega
  · omega

/-- a caller block that only moves the caller to the hand-over step of the same call -/
theorem Low_move {s t : CState} (hl : Low s) (hfrom : s.pc = .idle) (hpc : t.pc = .pushSend ∨ t.pc = .finSend)
    (hwr : t.writers = s.writers) (hwb : t.writable = s.writable) (hpool : t.m.pool = s.m.pool)
    (hch : t.m.chunk.isSome = s.m.chunk.isSome) : Low t := by
  have h1 : t.pc ≠ .finWrite := by rcases hpc with h | h <;> rw [h] <;> simp
  have h2 : t.pc ≠ .pushRecv := by rcases hpc with h | h <;> rw [h] <;> simp
  unfold Low tokens
  rw [cnt_eq_of holding hwr (by rw [hfrom]; simp) h1, chunkTok_idle h2, hwb, hpool, hch,
    ← chunkTok_idle (s := s) (by rw [hfrom]; simp)]
  exact hl

/-- an activation `w` (spawned, or the caller's own) makes one block and becomes `w'`: the buffer it
    holds or receives is counted on one side or the other -/
theorem Low_effect {s s' t : CState} {w w' : Writer} (hl : Low s) (E : WEffect s s' w w')
    (hc : cnt holding t + b2n (holding w) = cnt holding s + b2n (holding w'))
    (hm : t.m = s'.m) (hwb : t.writable = s'.writable) (htok : chunkTok t = chunkTok s) : Low t := by
  have a3 := E.tokEq
  unfold Low tokens at hl ⊢
  rw [htok, hm, hwb]
  omega

theorem Low_CStep {s t : CState} (hs : Str s) (hl : Low s) (h : CStep s t) : Low t := by
  have hidle : ∀ (s1 : CState) (r : Res) (x : Option Elem), s.pc = .idle → s1.writers = s.writers →
      s1.writable = s.writable → (1 ≤ mtok s.m → 1 ≤ mtok s1.m) → Low (finishOp s1 r x) := by
    intro s1 r x hpc hw hb hm
    apply Low_idle (t := finishOp s1 r x) hl (by rw [hpc]; simp) rfl hw hb
    intro h1
    rw [chunkTok_idle (by rw [hpc]; simp)] at h1
    exact hm h1
  -- the chunk just handed over is in `writable`
  have sent : ∀ {t : CState} {ch : List Elem}, t.writable.buf = s.writable.buf ++ [ch] → Low t := by
    intro t ch hb
    unfold Low tokens
    rw [hb, List.length_append, List.length_singleton]
    omega
  cases h with
  | pushErr _ _ _ hpc | pushNil _ _ hpc | finErr _ _ hpc | finNil _ hpc | reject _ hpc | finEmpty _ _ _ _ _ hpc =>
    exact hidle _ _ _ hpc rfl rfl id
  | pushFull _ _ _ hpc => exact Low_move hl hpc (Or.inl rfl) rfl rfl rfl rfl
  | finDisk _ _ hpc => exact Low_move hl hpc (Or.inr rfl) rfl rfl rfl rfl
  | pushRoom e rest ch hpc hprog herr hch hfull =>
    refine hidle _ _ _ hpc rfl rfl fun _ => ?_
    simp [mtok, push, herr, hch, hfull, b2n]
  | finFast rest ch hpc hprog herr hch hlt =>
    refine hidle _ _ _ hpc rfl rfl fun _ => ?_
    simp [mtok, finalise, herr, hch, hlt, b2n]
  | pull rest hpc hprog =>
    have f := pullF_frame s
    exact hidle _ _ _ hpc f.writers f.writable (pullF_pos s)
  | clear rest hpc hprog =>
    have f := clearF_frame s
    exact hidle _ _ _ hpc f.writers f.writable (clearF_pos s)
  | send _ _ _ _ hsend | fsend _ _ _ _ hsend => exact sent (Chan.send_buf hsend).1
  | recvErr _ _ _ hpc | recvOk _ _ hpc =>
    -- the caller holds the buffer it has just received
    refine Low_idle hl (by rw [hpc]; simp) rfl rfl rfl fun _ => ?_
    simp [finishOp, mtok, b2n]
  | fwrite w s' hpc hw =>
    have E := inl_effect hs hpc hw
    refine Low_effect hl E ?_ rfl rfl ?_
    · by_cases hd : w.pc = .done
      · simp [cnt, hd, (done_false hd).2.2, E.writers, hpc, b2n]
      · simp [cnt, hd, E.writers, hpc, b2n]; omega
    · by_cases hd : w.pc = .done <;> simp [chunkTok, hd, E.chunk, hpc] <;> cases s.m.chunk.isSome <;> rfl
  | waitErr _ hpc | waitOk _ _ _ hpc =>
    refine Low_idle hl (by rw [hpc]; simp) rfl rfl rfl fun h1 => ?_
    rw [chunkTok_idle (by rw [hpc]; simp)] at h1; exact h1

theorem Low_wactor {s s' : CState} {k : Nat} {w w' : Writer} (hs : Str s) (hl : Low s)
    (hk : s.writers[k]? = some w) (hw : wstep s w = some (w', s')) :
    Low { s' with writers := s'.writers.set k w' } := by
  have E := writer_effect hs hk hw
  exact Low_effect hl E (cnt_set holding hk (congrArg (List.set · k w') E.writers) E.pc E.inl) rfl rfl
    (by simp [chunkTok, E.chunk, E.pc])

theorem Low_step {s t : CState} {i : Nat} (hs : Str s) (hl : Low s) (h : step s i = some t) : Low t := by
  rcases step_blocks h with ⟨_, hcs⟩ | ⟨k, w, w', s', _, hk, hw, rfl⟩
  · exact Low_CStep hs hl hcs
  · exact Low_wactor hs hl hk hw

theorem reach_Low {conc : Bool} {c : Nat} {ac acl : Bool} {prog : List Op} {flt : Fault} {reuse : Bool} {s : CState}
    (h : Reach (sys conc c ac acl prog flt reuse) s) : Low s :=
  inv_of_reach' (sys conc c ac acl prog flt reuse) Low (Low_init conc c ac acl prog flt reuse)
    (fun _ _ _ hr hl hst => Low_step (reach_Str hr) hl hst) s h

theorem Str1_init (c : Nat) (ac acl : Bool) (prog : List Op) (flt : Fault) (reuse : Bool) :
    StrB 1 (initState false c ac acl prog flt reuse) := by
  refine ⟨rfl, rfl, ?_, fun h => by simp [initState] at h, rfl, fun h => by simp [initState] at h⟩
  simp [initState, cnt, chunkTok, b2n]

theorem reach_Str1 {c : Nat} {ac acl : Bool} {prog : List Op} {flt : Fault} {reuse : Bool} {s : CState}
    (h : Reach (sys false c ac acl prog flt reuse) s) : StrB 1 s :=
  inv_of_reach _ (StrB 1) (Str1_init c ac acl prog flt reuse) (fun _ _ _ hs hst => Str_step hs hst) s h

theorem Str_of_Str1 {s : CState} (h : StrB 1 s) : Str s :=
  ⟨h.wg, h.chan, Nat.le_trans h.cap (by omega), h.recv, h.wcap, h.inlLive⟩

/-- the caller is between two calls, or at the hand-over of a full chunk before it has sent it -/
def AtRest (s : CState) : Prop := s.pc = .idle ∨ s.pc = .pushSend ∨ s.pc = .finSend

def Quiet (s : CState) : Prop := AtRest s → ∀ w ∈ s.writers, w.pc = .done

theorem done_of_not {w : Writer} (h1 : atRecv w = false) (h2 : holding w = false) : w.pc = .done := by
  cases hpc : w.pc <;> simp [atRecv, holding, hpc] at h1 h2 ⊢

theorem all_done_of_counts {s : CState} (hpc : s.pc ≠ .finWrite) (h1 : cnt atRecv s = 0) (h2 : cnt holding s = 0) :
    ∀ w ∈ s.writers, w.pc = .done := by
  rw [cnt_notFW _ hpc] at h1 h2
  intro w hw
  have a := List.countP_eq_zero.mp h1 w hw
  have b := List.countP_eq_zero.mp h2 w hw
  exact done_of_not (by simpa using a) (by simpa using b)

/-- sequential mode: when `Push` gets a buffer back from `pool` every writer has ended -/
theorem quiet_of_pool {s : CState} (hs : StrB 1 s) (hpc : s.pc = .pushRecv) (hpool : s.m.pool ≠ 0) :
    ∀ w ∈ s.writers, w.pc = .done := by
  have hcap := hs.cap
  have hchan := hs.chan
  apply all_done_of_counts (by rw [hpc]; simp) <;> omega

theorem Quiet_CStep {s t : CState} (hs : StrB 1 s) (hq : Quiet s) (h : CStep s t) : Quiet t := by
  have keep : ∀ {t : CState}, s.pc = .idle → t.writers = s.writers → Quiet t :=
    fun hpc hw _ w hm => hq (Or.inl hpc) w (hw ▸ hm)
  cases h with
  | pull _ hpc => exact keep hpc (pullF_frame s).writers
  | clear _ hpc => exact keep hpc (clearF_frame s).writers
  | pushErr _ _ _ hpc | pushNil _ _ hpc | pushFull _ _ _ hpc | pushRoom _ _ _ hpc | finErr _ _ hpc | finNil _ hpc
  | finFast _ _ hpc | finDisk _ _ hpc | finEmpty _ _ _ _ _ hpc | reject _ hpc => exact keep hpc rfl
  -- inside a call past the hand-over the caller is not at rest
  | send | fsend => exact fun hr => by rcases hr with hr | hr | hr <;> cases hr
  | fwrite w => intro hr; by_cases hd : w.pc = .done <;> simp [AtRest, hd] at hr
  | recvErr _ _ _ hpc hpool | recvOk _ _ hpc hpool => exact fun _ => quiet_of_pool (s := s) hs hpc hpool
  | waitErr _ hpc hwg | waitOk _ _ _ hpc hwg =>
    exact fun _ => all_done_of_wg (s := s) (Str_of_Str1 hs) (by rw [hpc]; nofun) hwg

theorem Quiet_step {s t : CState} {i : Nat} (hs : StrB 1 s) (hq : Quiet s) (h : step s i = some t) : Quiet t := by
  rcases step_blocks h with ⟨_, hcs⟩ | ⟨k, w, w', s', _, hk, hw, rfl⟩
  · exact Quiet_CStep hs hq hcs
  · -- a writer that can move is not done, so the caller is not at rest
    intro hr
    have hpc : s'.pc = s.pc := (wstep_frame hw).pc
    have hd := hq (show AtRest s by unfold AtRest; rw [← hpc]; exact hr) w (List.mem_of_getElem? hk)
    rw [wstep_done_none s hd] at hw; cases hw

theorem reach_Quiet {c : Nat} {ac acl : Bool} {prog : List Op} {flt : Fault} {reuse : Bool} {s : CState}
    (h : Reach (sys false c ac acl prog flt reuse) s) : Quiet s :=
  inv_of_reach' _ Quiet (fun _ w hw => by simp [sys, initState] at hw)
    (fun _ _ _ hr hq hst => Quiet_step (reach_Str1 hr) hq hst) s h

def Consts (c : Nat) (ac : Bool) (s : CState) : Prop := s.m.chunkSize = c ∧ s.m.autoClear = ac

theorem step_settings {s t : CState} {i : Nat} (h : step s i = some t) :
    t.m.chunkSize = s.m.chunkSize ∧ t.m.autoClear = s.m.autoClear ∧ t.autoClean = s.autoClean := by
  rcases step_blocks h with ⟨_, hcs⟩ | ⟨k, w, w', s', _, _, hw, rfl⟩
  · exact (CStep_shape hcs).1
  · exact ⟨(wstep_frame hw).cs, (wstep_frame hw).ac, (wstep_frame hw).acl⟩

theorem reach_Consts {conc : Bool} {c : Nat} {ac acl : Bool} {prog : List Op} {flt : Fault} {reuse : Bool} {s : CState}
    (h : Reach (sys conc c ac acl prog flt reuse) s) : Consts c ac s :=
  inv_of_reach _ (Consts c ac) ⟨rfl, rfl⟩
    (fun _ _ _ hk hst => ⟨(step_settings hst).1.trans hk.1, (step_settings hst).2.1.trans hk.2⟩) s h

theorem autoClean_const {conc : Bool} {c : Nat} {ac acl : Bool} {prog : List Op} {flt : Fault} {reuse : Bool} {s : CState}
    (h : Reach (sys conc c ac acl prog flt reuse) s) : s.autoClean = acl :=
  inv_of_reach _ (fun s => s.autoClean = acl) rfl (fun _ _ _ ha hst => (step_settings hst).2.2.trans ha) s h

structure SeqInv (c : Nat) (ac : Bool) (s : CState) : Prop where
  str1 : StrB 1 s
  low : Low s
  quiet : Quiet s
  consts : Consts c ac s

theorem reach_SeqInv {c : Nat} {ac acl : Bool} {prog : List Op} {flt : Fault} {reuse : Bool} {s : CState}
    (h : Reach (sys false c ac acl prog flt reuse) s) : SeqInv c ac s :=
  ⟨reach_Str1 h, reach_Low h, reach_Quiet h, reach_Consts h⟩

/-- **A successful `Clear` that finds no live writer leaves a fresh sorter** (either mode),
    whatever came before it (reported errors, cycles given up half-way, any faults). -/
theorem clear_restores_of_quiet {c : Nat} {ac : Bool} {sp : CState} (hs : Str sp) (hl : Low sp)
    (hk : Consts c ac sp) (hpc : sp.pc = .idle) (hq : ∀ w ∈ sp.writers, w.pc = .done)
    (hok : (clearF sp).2 = .ok) :
    Fresh c ac 1 (finishOp (clearF sp).1 .ok none).m ∧ (∀ w ∈ (finishOp (clearF sp).1 .ok none).writers, w.pc = .done) := by
  have hm : (clearF sp).1.m = clear sp.m := by
    rcases clearF_spec sp with ⟨h1, _⟩ | ⟨_, h2⟩
    · rw [hok] at h1; cases h1
    · exact h2
  have hfr := clearF_frame sp
  refine ⟨?_, ?_⟩
  · show Fresh c ac 1 (clearF sp).1.m
    rw [hm]
    -- the caller's share of the buffers: at least one, at most two
    have hcap : tokens sp ≤ 2 := hs.cap
    have hlow : 1 ≤ tokens sp := hl
    rw [tokens_quiet hs hpc hq, mtok] at hcap hlow
    apply clear_fresh_of hk.1 hk.2 (by omega)
    intro hp0 hnone
    rw [hp0, hnone] at hlow
    simp [b2n] at hlow
  · show ∀ w ∈ (clearF sp).1.writers, _
    rw [hfr.writers]; exact hq

/-- **Sequential mode: a successful `Clear` always leaves a fresh sorter with no live writer**,
    whatever came before it. -/
theorem clear_restores {c : Nat} {ac : Bool} {sp : CState} (hi : SeqInv c ac sp) (hpc : sp.pc = .idle)
    (hok : (clearF sp).2 = .ok) :
    Fresh c ac 1 (finishOp (clearF sp).1 .ok none).m ∧ (∀ w ∈ (finishOp (clearF sp).1 .ok none).writers, w.pc = .done) :=
  clear_restores_of_quiet (Str_of_Str1 hi.str1) hi.low hi.consts hpc (hi.quiet (Or.inl hpc)) hok

end Biogo.MorassConc
