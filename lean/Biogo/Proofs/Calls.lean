/-
The calls of a reader up to `io.EOF`, without a budget: `Calls call eof a rs` says what calling
`call` again and again from `a` returns.  The fuelled histories of the reader models
(`readAllAux`) compute it under any budget of at least `rs.length` calls, so that totality, "the
reader sees its input only through …" and "a layout reads back as its records" are statements
about `Calls`, and budgets are met once per reader.
-/
import Biogo.Go.Bytes

namespace Biogo
open Biogo.Go.Bytes  -- `Panic`; without it `Panic` is auto-bound

/-- calling `call` from `a` until it returns `io.EOF` (`eof`) never panics and returns `rs`, call
    by call; the last entry, and only the last, is `io.EOF` -/
inductive Calls {α ρ : Type} (call : α → Except Panic (ρ × α)) (eof : ρ → Prop) : α → List ρ → Prop
  | last {a a' : α} {r : ρ} : call a = .ok (r, a') → eof r → Calls call eof a [r]
  | more {a a' : α} {r : ρ} {rs : List ρ} :
      call a = .ok (r, a') → ¬ eof r → Calls call eof a' rs → Calls call eof a (r :: rs)

namespace Calls
variable {α β ρ : Type} {call : α → Except Panic (ρ × α)} {call' : β → Except Panic (ρ × β)} {eof : ρ → Prop}

theorem congr {a b : α} {rs : List ρ} (h : call a = call b) : Calls call eof b rs → Calls call eof a rs
  | .last h1 h2 => .last (h.trans h1) h2
  | .more h1 h2 h3 => .more (h.trans h1) h2 h3

theorem getLast {a : α} {rs : List ρ} (h : Calls call eof a rs) : ∃ r, rs.getLast? = some r ∧ eof r := by
  induction h with
  | last _ he => exact ⟨_, rfl, he⟩
  | more _ _ h ih =>
    obtain ⟨r, h1, h2⟩ := ih
    exact ⟨r, by cases h with | last | more => rw [List.getLast?_cons_cons, h1], h2⟩

theorem sim (R : α → β → Prop)
    (hR : ∀ a b r a', R a b → call a = .ok (r, a') → ∃ b', call' b = .ok (r, b') ∧ R a' b')
    {a : α} {rs : List ρ} (h : Calls call eof a rs) : ∀ b, R a b → Calls call' eof b rs := by
  induction h with
  | last hc he => intro b hab; obtain ⟨b', h1, _⟩ := hR _ b _ _ hab hc; exact .last h1 he
  | more hc he _ ih => intro b hab; obtain ⟨b', h1, h2⟩ := hR _ b _ _ hab hc; exact .more h1 he (ih b' h2)

section total
variable (m : α → Nat) (Q : ρ → Prop)
  (h : ∀ a, ∃ r a', call a = .ok (r, a') ∧ Q r ∧ (¬ eof r → m a' < m a))
include h

theorem exists_of_progress (a : α) : ∃ rs, Calls call eof a rs := by
  generalize hn : m a = n
  induction n using Nat.strongRecOn generalizing a with
  | _ n ih =>
    obtain ⟨r, a', hc, _, hd⟩ := h a
    by_cases he : eof r
    · exact ⟨[r], .last hc he⟩
    · obtain ⟨rs, hrs⟩ := ih (m a') (hn ▸ hd he) a' rfl
      exact ⟨r :: rs, .more hc he hrs⟩

theorem bound {a : α} {rs : List ρ} (hc : Calls call eof a rs) : rs.length ≤ m a + 1 ∧ ∀ r ∈ rs, Q r := by
  induction hc with
  | @last a _ r hc _ =>
    obtain ⟨_, _, hc', hq, _⟩ := h a
    cases hc.symm.trans hc'
    exact ⟨Nat.le_add_left 1 _, by simpa using hq⟩
  | @more a _ r rs hc he _ ih =>
    obtain ⟨_, _, hc', hq, hd⟩ := h a
    cases hc.symm.trans hc'
    have := hd he
    exact ⟨by rw [List.length_cons]; omega, List.forall_mem_cons.mpr ⟨hq, ih.2⟩⟩

end total

end Calls

end Biogo
