/-
The repair of K5 is conservative: on every input on which the layer-blind traceback (the
`switch` before the repair, `aware = false`) never takes a `case` of another layer — its ghost
flag stays `false` — the layer-aware traceback (`aware = true`) goes through exactly the same
states, so the three aligners return exactly the same pairs.
-/
import Biogo.Proofs.TraceSum

namespace Biogo.Proofs.TraceLegacy
open Biogo.Spec.Alignment Biogo.AlignAff Biogo.Proofs.TraceSum

theorem loop_tie_mono (aware cross sw : Bool) (T : Table) (S : Matrix) (o : Int) (r q : List Nat) (R C : Nat) :
    ∀ (fuel : Nat) (st st' : TB), st.tie = true → tbLoop aware cross sw T S o r q R C fuel st = .ok st' →
      st'.tie = true :=
  tbLoop_ind (P := fun s => s.tie = true) fun s v mv pl _ ht _ => by rw [move_tie, ht]; rfl

theorem loop_legacy_agree (cross sw : Bool) (T : Table) (S : Matrix) (o : Int) (r q : List Nat) (R C : Nat) :
    ∀ (fuel : Nat) (st st' : TB), tbLoop false cross sw T S o r q R C fuel st = .ok st' → st'.tie = false →
      tbLoop true cross sw T S o r q R C fuel st = .ok st' := by
  intro fuel
  induction fuel with
  | zero => intro st st' hl _; exact hl
  | succ fuel ih =>
    intro st st' hl ht
    rcases tbLoop_succ_ok hl with ⟨rfl, hs⟩ | ⟨v, mv, pl, add, hfire, hl'⟩
    · exact tbLoop_of_stopped hs _
    · -- the step taken belongs to the current layer, or the flag would be raised for good
      have hlay : mv = st.layer := by
        cases hm : (stepOf T R C st v mv pl).tie with
        | true => rw [loop_tie_mono false cross sw T S o r q R C _ _ _ hm hl'] at ht; cases ht
        | false =>
          rw [move_tie, Bool.or_eq_false_iff, decide_eq_false_iff_not, Decidable.not_not] at hm
          exact hm.2.symm
      rw [tbLoop_fire (hfire.aware hlay)]
      exact ih _ _ hl' ht

/-- **The repair of K5 changes nothing else**: if the traceback before the repair returns
    `ps` without ever taking a `case` of another layer, the repaired traceback returns `ps`
    (all three affine aligners, every matrix, gap-open value and pair of sequences). -/
theorem alignT_legacy_agree (w : Which) (S : Matrix) (o : Int) (r q : List Nat) (ps : List Pair)
    (h : alignT false w S o r q = .ok (ps, false)) : alignT true w S o r q = .ok (ps, false) := by
  cases w with
  | nw =>
    obtain ⟨st, hl, ht, hps⟩ := nwAlignT_ok.1 h
    exact nwAlignT_ok.2 ⟨st, loop_legacy_agree true false _ S o r q _ _ _ _ st hl ht, ht, hps⟩
  | sw =>
    obtain ⟨st, hl, ht, hps⟩ := (swAlignT_ok rfl).1 h
    exact (swAlignT_ok rfl).2 ⟨st, loop_legacy_agree true true _ S o r q _ _ _ _ st hl ht, ht, hps⟩
  | fit =>
    obtain ⟨st, hl, ht, hps⟩ := (fitAlignT_ok rfl).1 h
    exact (fitAlignT_ok rfl).2 ⟨st, loop_legacy_agree true false _ S o r q _ _ _ _ st hl ht, ht, hps⟩

end Biogo.Proofs.TraceLegacy
