/-
The loops of `fastq.Reader.Read` and `fasta.Reader.Read` run lazily over the byte-level
`bufio.Reader` model (`Biogo.Go.Bufio.runLazy`: one `ReadLine` at a time, as the Go code does)
compute the line-level reader models of C01–C04.
-/
import Biogo.Proofs.BufioLazy
import Biogo.Proofs.Fastq

namespace Biogo.Fastq
open Biogo.Go.Bytes
open Biogo.Go.Bufio (Reader runLazy runDrained ReadsLines)
open Biogo.Spec.Bufio (lineInput)

abbrev Out := Except Panic Ret

/-- the body of the loop of `fastq.Reader.Read` on a complete line (`bytes.TrimSpace`, then the
    `switch`): go round again with a new state, or return -/
def lazyBody (cfg : Cfg) (st : LoopSt) (raw : Bytes) : LoopSt ⊕ Out :=
  match step cfg st (trimSpace raw) with
  | .error p => .inr (.error p)
  | .ok (.inl st') => .inl st'
  | .ok (.inr ret) => .inr (.ok ret)

/-- `if err != nil { if t != nil && state == quality && err == io.EOF { err = nil; break }; return nil, err }`
    for `io.EOF`, `line` holding the fragments collected so far -/
def lazyAtErr (cfg : Cfg) (st : LoopSt) (line : Bytes) (_e : Biogo.Go.Bufio.Err) : LoopSt ⊕ Out :=
  .inr (if st.t.isSome && st.state == .quality then (finish cfg { st with err := none } line ([], [])).map (·.1)
        else .ok ⟨none, some .eof⟩)

theorem loop_drained (cfg : Cfg) (pend : Bytes) (lines : List Bytes) : ∀ (st : LoopSt) (fuel : Nat) (ret : Ret)
    (rest : List Bytes) (p : Bytes), lines.length + 1 < fuel → loop cfg pend st lines = .ok (ret, rest, p) →
    runDrained (lazyBody cfg) (lazyAtErr cfg) .eof fuel st lines pend = some (.ok ret, rest, p) := by
  induction lines with
  | nil =>
    intro st fuel ret rest p hf h
    obtain ⟨f, rfl⟩ : ∃ f, fuel = f + 1 := ⟨fuel - 1, by omega⟩
    rw [loop] at h
    simp only [runDrained, lazyAtErr]
    split at h
    · rename_i hc
      rw [finish_rest] at h
      rw [if_pos hc]
      cases hfin : finish cfg { st with err := none } pend ([], []) with
      | error e => rw [hfin] at h; exact nomatch h
      | ok v => rw [hfin] at h; cases h; rfl
    · rename_i hc
      rw [if_neg hc]
      cases h; rfl
  | cons raw rest0 ih =>
    intro st fuel ret rest p hf h
    obtain ⟨f, rfl⟩ : ∃ f, fuel = f + 1 := ⟨fuel - 1, by omega⟩
    rw [loop_step] at h
    simp only [runDrained, lazyBody]
    cases hs : step cfg st (trimSpace raw) with
    | error e => rw [hs] at h; exact nomatch h
    | ok v =>
      rw [hs] at h
      cases v with
      | inl st' =>
        simp only at h ⊢
        exact ih st' f ret rest p (by simp only [List.length_cons] at hf; omega) h
      | inr r => cases h; rfl

/-- one call of `fastq.Reader.Read`, the lines pulled from the `bufio.Reader` as the loop goes; fuel: a round per line
    (no more lines than bytes, `ReadsLines.length_le`) and the one that meets `io.EOF`, with two to spare -/
def readLazy (cfg : Cfg) (b : Reader) : Option (Out × Reader) :=
  runLazy (lazyBody cfg) (lazyAtErr cfg) (b.stream.length + 3) {} b

/-- **One call of `Read`, lazily over the byte-level model, is one call of the model's `read`**
    on the lines the reader has to deliver, and leaves a reader that has to deliver what `read` leaves. -/
theorem readLazy_spec (cfg : Cfg) {b₀ b : Reader} {ls : List Bytes} {pend : Bytes} (hr : ReadsLines b₀ (ls, pend) b)
    (hfin : b₀.src.fin = .eof) :
    ∃ ret li b', read cfg ls pend = .ok (ret, li) ∧ readLazy cfg b = some (.ok ret, b') ∧ ReadsLines b₀ li b' := by
  obtain ⟨ret, rest, p, hread, _, _⟩ := read_total cfg ls pend
  have hlen := hr.length_le
  have hd := loop_drained cfg pend ls {} (b.stream.length + 3) ret rest p (by simp only at hlen; omega) hread
  obtain ⟨b', h1, h2⟩ := Biogo.Go.Bufio.runLazy_of_drained _ _ _ _ hr (hfin ▸ hd)
  exact ⟨ret, (rest, p), b', hread, h1, h2⟩

/-- the call history of a reader, every call run lazily over the byte-level model -/
def readAllLazy (cfg : Cfg) : Nat → Reader → List Call
  | 0, _ => [.unfinished]
  | fuel + 1, b =>
    match readLazy cfg b with
    | none => [.unfinished]
    | some (.error p, _) => [.panic p]
    | some (.ok ret, b') => if ret.e = some .eof then [.ret ret] else .ret ret :: readAllLazy cfg fuel b'

/-- **The whole call history, lazily over the byte-level model, is the model's history** on the
    lines the reader has to deliver. -/
theorem readAllLazy_eq (cfg : Cfg) {b₀ : Reader} (hfin : b₀.src.fin = .eof) : ∀ (fuel : Nat) (b : Reader) (ls : List Bytes)
    (pend : Bytes), ReadsLines b₀ (ls, pend) b → readAllLazy cfg fuel b = readAllAux cfg fuel ls pend := by
  intro fuel
  induction fuel with
  | zero => intro b _ _ _; rfl
  | succ f ih =>
    intro b ls pend hr
    obtain ⟨ret, ⟨rest, p⟩, b', h1, h2, h3⟩ := readLazy_spec cfg hr hfin
    simp only [readAllLazy, readAllAux, h1, h2]
    split
    · rfl
    · rw [ih b' rest p h3]

end Biogo.Fastq

namespace Biogo.Fasta
open Biogo.Go.Bytes
open Biogo.Go.Bufio (Reader runLazy runDrained ReadsLines)
open Biogo.Spec.Bufio (lineInput)

/-- what one call of `Read` returns (the pair and the reader's persistent fields), or a panic -/
abbrev Out := Except Panic (Ret × St)

/-- the body of the loop of `fasta.Reader.Read` on a complete line: `bytes.TrimSpace`, blank lines
    skipped, header / sequence / badly formed line -/
def lazyBody (cfg : Cfg) (st : St) (raw : Bytes) : St ⊕ Out :=
  let line := trimSpace raw
  if line.length == 0 then .inl st
  else if hasPrefix line cfg.idPrefix then
    match header cfg line with
    | .error p => .inr (.error p)
    | .ok (w', e') =>
      match st.working with
      | none => .inl { working := some w', err := e' }
      | some w => .inr (.ok (⟨some w.toRec, st.err⟩, deferred { working := some w', err := e' }))
  else if hasPrefix line cfg.seqPrefix then
    match st.working with
    | none => .inr (.ok (⟨none, some (.badLine line)⟩, deferred st))
    | some w =>
      match sliceFrom line cfg.seqPrefix.length with
      | .error p => .inr (.error p)
      | .ok body => .inl { st with working := some { w with letters := w.letters.appendList (removeSpaces body) } }
  else .inr (.ok (⟨none, some (.badLine line)⟩, deferred st))

/-- `ReadLine` returned `io.EOF`: with fragments collected (`len(line) > 0`, fix `02b768f`) they are
    processed as a line; otherwise the pending record, or `io.EOF`, is returned -/
def lazyAtErr (cfg : Cfg) (st : St) (line : Bytes) (_e : Biogo.Go.Bufio.Err) : St ⊕ Out :=
  if line.length == 0 then
    match st.working with
    | none => .inr (.ok (⟨none, some .eof⟩, deferred st))
    | some w => .inr (.ok (⟨some w.toRec, st.err⟩, deferred { st with working := none }))
  else lazyBody cfg st line

theorem lazyBody_eq_step (cfg : Cfg) (st : St) (raw : Bytes) :
    lazyBody cfg st raw = match step cfg st (trimSpace raw) with
      | .error p => .inr (.error p)
      | .ok (.inl st') => .inl st'
      | .ok (.inr v) => .inr (.ok v) := by
  unfold lazyBody step
  simp only []
  -- both sides branch on the same tests and run the same fallible steps
  generalize trimSpace raw = line
  generalize (line.length == 0) = blank
  generalize hasPrefix line cfg.idPrefix = isId
  generalize hasPrefix line cfg.seqPrefix = isSeq
  cases blank
  · cases isId
    · cases isSeq
      · rfl
      · cases st.working with
        | none => rfl
        | some w => cases sliceFrom line cfg.seqPrefix.length <;> rfl
    · cases header cfg line <;> cases st.working <;> rfl
  · rfl

theorem read_cons_ok {cfg : Cfg} {st st' : St} {raw : Bytes} {tl rest : List Bytes} {ret : Ret}
    (h : read cfg st (raw :: tl) = .ok (ret, st', rest)) :
    (∃ st1, lazyBody cfg st raw = .inl st1 ∧ read cfg st1 tl = .ok (ret, st', rest)) ∨
    (lazyBody cfg st raw = .inr (.ok (ret, st')) ∧ rest = tl) := by
  revert h
  rw [read_cons, lazyBody_eq_step]
  rcases step cfg st (trimSpace raw) with p | s1 | ⟨r, s⟩ <;> intro h
  · exact absurd h nofun
  · exact .inl ⟨s1, rfl, h⟩
  · cases h; exact .inr ⟨rfl, rfl⟩

/-- fragments pending at `io.EOF`, as the line the FASTA reader makes of them (`Biogo.Go.Bytes.optLine` with
    `= []` for `.isEmpty`, as `fastaOverBufio` spells it) -/
def optLine (pend : Bytes) : List Bytes := if pend = [] then [] else [pend]

theorem read_nil_drained (cfg : Cfg) (st : St) (fuel : Nat) {ret : Ret} {st' : St} {rest : List Bytes}
    (h : read cfg st [] = .ok (ret, st', rest)) :
    runDrained (lazyBody cfg) (lazyAtErr cfg) .eof (fuel + 1) st [] [] = some (.ok (ret, st'), [], []) ∧ rest = [] := by
  unfold read at h
  simp only [runDrained, lazyAtErr, List.length_nil, beq_self_eq_true, ↓reduceIte]
  cases hw : st.working <;>
  · rw [hw] at h
    cases h
    exact ⟨rfl, rfl⟩

theorem read_drained (cfg : Cfg) (pend : Bytes) (lines : List Bytes) : ∀ (st : St) (fuel : Nat) (ret : Ret) (st' : St)
    (rest : List Bytes), lines.length + 2 < fuel → read cfg st (lines ++ optLine pend) = .ok (ret, st', rest) →
    ∃ rest' pend', runDrained (lazyBody cfg) (lazyAtErr cfg) .eof fuel st lines pend = some (.ok (ret, st'), rest', pend') ∧
      rest = rest' ++ optLine pend' := by
  induction lines with
  | nil =>
    intro st fuel ret st' rest hf h
    obtain ⟨f, rfl⟩ : ∃ f, fuel = f + 2 := ⟨fuel - 2, by simp at hf; omega⟩
    by_cases hp : pend = []
    · subst hp
      obtain ⟨hd, rfl⟩ := read_nil_drained cfg st (f + 1) h
      exact ⟨[], [], hd, rfl⟩
    · have hl : (pend.length == 0) = false := by
        rw [beq_eq_false_iff_ne]; exact fun h0 => hp (List.eq_nil_of_length_eq_zero h0)
      simp only [optLine, hp, ↓reduceIte, List.nil_append] at h
      simp only [runDrained, lazyAtErr, hl, Bool.false_eq_true, ↓reduceIte]
      rcases read_cons_ok h with ⟨st1, hb, h1⟩ | ⟨hb, rfl⟩
      · -- the line was consumed without returning: the next `ReadLine` reports `io.EOF` again
        obtain ⟨hd, rfl⟩ := read_nil_drained cfg st1 f h1
        exact ⟨[], [], by rw [hb]; exact hd, rfl⟩
      · exact ⟨[], [], by rw [hb], rfl⟩
  | cons raw rest0 ih =>
    intro st fuel ret st' rest hf h
    obtain ⟨f, rfl⟩ : ∃ f, fuel = f + 1 := ⟨fuel - 1, by omega⟩
    rw [runDrained]
    rcases read_cons_ok h with ⟨st1, hb, h1⟩ | ⟨hb, rfl⟩
    · rw [hb]
      exact ih st1 f ret st' rest (by simp only [List.length_cons] at hf; omega) h1
    · rw [hb]
      exact ⟨rest0, pend, rfl, rfl⟩

/-- one call of `fasta.Reader.Read`, the lines pulled from the `bufio.Reader` as the loop goes;
    `st` = the fields `working` / `err` that persist between calls; fuel: as for FASTQ and a round more, the loop
    going on after `io.EOF` when fragments were pending (`lazyAtErr`) -/
def readLazy (cfg : Cfg) (st : St) (b : Reader) : Option (Out × Reader) :=
  runLazy (lazyBody cfg) (lazyAtErr cfg) (b.stream.length + 4) st b

/-- **One call of `Read`, lazily over the byte-level model, is one call of the model's `read`**
    on the lines the reader has to deliver (fragments pending at `io.EOF` as a last line). -/
theorem readLazy_spec (cfg : Cfg) (st : St) {b₀ b : Reader} {ls : List Bytes} {pend : Bytes}
    (hr : ReadsLines b₀ (ls, pend) b) (hfin : b₀.src.fin = .eof) :
    ∃ ret st' li b', read cfg st (ls ++ optLine pend) = .ok (ret, st', li.1 ++ optLine li.2) ∧
      readLazy cfg st b = some (.ok (ret, st'), b') ∧ ReadsLines b₀ li b' := by
  obtain ⟨⟨ret, st', rest⟩, hread⟩ := read_total_cfg cfg (ls ++ optLine pend) st
  have hlen := hr.length_le
  obtain ⟨rest', pend', hd, rfl⟩ := read_drained cfg _ _ st (b.stream.length + 4) ret st' rest
    (by simp only at hlen; omega) hread
  obtain ⟨b', h1, h2⟩ := Biogo.Go.Bufio.runLazy_of_drained _ _ _ _ hr (hfin ▸ hd)
  exact ⟨ret, st', (rest', pend'), b', hread, h1, h2⟩

/-- the call history of a reader, every call run lazily over the byte-level model -/
def readAllLazy (cfg : Cfg) : Nat → St → Reader → List Call
  | 0, _, _ => [.unfinished]
  | fuel + 1, st, b =>
    match readLazy cfg st b with
    | none => [.unfinished]
    | some (.error p, _) => [.panic p]
    | some (.ok (ret, st'), b') => if ret.e = some .eof then [.ret ret] else .ret ret :: readAllLazy cfg fuel st' b'

/-- **The whole call history, lazily over the byte-level model, is the model's history.** -/
theorem readAllLazy_eq (cfg : Cfg) {b₀ : Reader} (hfin : b₀.src.fin = .eof) : ∀ (fuel : Nat) (st : St) (b : Reader)
    (ls : List Bytes) (pend : Bytes), ReadsLines b₀ (ls, pend) b →
    readAllLazy cfg fuel st b = readAllAux cfg fuel st (ls ++ optLine pend) := by
  intro fuel
  induction fuel with
  | zero => intro st b _ _ _; rfl
  | succ f ih =>
    intro st b ls pend hr
    obtain ⟨ret, st', ⟨rest, p⟩, b', h1, h2, h3⟩ := readLazy_spec cfg st hr hfin
    simp only [readAllLazy, readAllAux, h1, h2]
    split
    · rfl
    · rw [ih st' b' rest p h3]

end Biogo.Fasta
