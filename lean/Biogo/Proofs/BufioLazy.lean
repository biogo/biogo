/-
Pulling lines from the byte-level `bufio.Reader` model one at a time, as the loops of
`fasta.Reader.Read` / `fastq.Reader.Read` do, is the same as running the loop body over the
drained line-level view `lineInput`.
-/
import Biogo.Proofs.BufioImage
import Biogo.Go.BufioLoop

namespace Biogo.Go.Bufio

/-- `runLazy`'s outcome beside `runDrained`'s: out of fuel together, or the reader left delivers the lines left -/
def Agree {ρ : Type} (b₀ : Reader) : Option (ρ × Reader) → Option (ρ × List Bytes × Bytes) → Prop
  | some (r, b'), some (r', li) => r = r' ∧ ReadsLines b₀ li b'
  | none, none => True
  | _, _ => False

/-- **lazy = drained**, for every loop body, every buffer size, every chunking. -/
theorem runLazy_drained {σ ρ : Type} (body : σ → Bytes → σ ⊕ ρ) (atErr : σ → Bytes → Err → σ ⊕ ρ) {b₀ : Reader} :
    ∀ (fuel : Nat) (s : σ) (b : Reader) (ls : List Bytes) (pend : Bytes), ReadsLines b₀ (ls, pend) b →
      Agree b₀ (runLazy body atErr fuel s b) (runDrained body atErr b₀.src.fin fuel s ls pend) := by
  intro fuel
  induction fuel with
  | zero => intro s b _ _ _; exact trivial
  | succ fuel ih =>
    intro s b ls pend hr
    -- `nextLine` takes the first of the lines, as `runDrained` does
    obtain ⟨b', h⟩ := nextLine_spec hr
    rw [runLazy]
    cases ls with
    | nil =>
      rw [h.1, runDrained]
      dsimp only
      cases atErr s pend b₀.src.fin with
      | inl s' => exact ih s' b' [] [] h.2
      | inr r => exact ⟨rfl, h.2⟩
    | cons l ls =>
      rw [h.1, runDrained]
      dsimp only
      cases body s l with
      | inl s' => exact ih s' b' ls pend h.2
      | inr r => exact ⟨rfl, h.2⟩

theorem runLazy_of_drained {σ ρ : Type} (body : σ → Bytes → σ ⊕ ρ) (atErr : σ → Bytes → Err → σ ⊕ ρ) (fuel : Nat)
    (s : σ) {b₀ b : Reader} {ls : List Bytes} {pend : Bytes} (hr : ReadsLines b₀ (ls, pend) b) {r : ρ} {li : List Bytes × Bytes}
    (h : runDrained body atErr b₀.src.fin fuel s ls pend = some (r, li)) :
    ∃ b', runLazy body atErr fuel s b = some (r, b') ∧ ReadsLines b₀ li b' := by
  have ha := runLazy_drained body atErr fuel s b ls pend hr
  rw [h] at ha
  generalize runLazy body atErr fuel s b = x at ha ⊢
  obtain _ | ⟨r', b'⟩ := x
  · exact ha.elim
  · obtain ⟨rfl, h2⟩ := ha
    exact ⟨b', rfl, h2⟩

end Biogo.Go.Bufio
