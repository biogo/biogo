/-
The promise protocol with the condition variable spelled out (Biogo.PromiseCond) refines the
protocol of Biogo.Promise, never loses a wake-up (with Broadcast), blocks only sleeping Waits on
an empty promise, and terminates.
-/
import Biogo.Model.PromiseCond
import Biogo.Proofs.PromiseAll

namespace Biogo.PromiseCond
open Biogo.LTS Biogo.Promise

variable {c : FCfg} {s s' : FSt} {i : Nat}

inductive FStepKind (c : FCfg) (s : FSt) (i : Nat) (s' : FSt) : Prop
  | atomic (call : Call) (b : Option Res) (ret : Ret)
      (hcall : c.calls[i]? = some call) (hnw : call ≠ .wait) (hpc : s.pcs[i]? = some .start)
      (hmu : s.mu = none) (heq : atomicCall c.flags s.box call = (b, ret))
      (hs' : s' = { s with box := b,
                           pcs := if places c.flags call then wake c.wake (s.pcs.set i (.done ret))
                                  else s.pcs.set i (.done ret) })
  | take (pc : FPc) (r : Res)
      (hcall : c.calls[i]? = some .wait) (hpc : s.pcs[i]? = some pc) (hsw : pc = .start ∨ pc = .woken)
      (hmu : s.mu = none) (hbox : s.box = some r)
      (hs' : s' = { box := none, mu := some i, pcs := s.pcs.set i (.borrowed r) })
  | sleep (pc : FPc)
      (hcall : c.calls[i]? = some .wait) (hpc : s.pcs[i]? = some pc) (hsw : pc = .start ∨ pc = .woken)
      (hmu : s.mu = none) (hbox : s.box = none)
      (hs' : s' = { s with pcs := s.pcs.set i .sleeping })
  | put (r : Res)
      (hcall : c.calls[i]? = some .wait) (hpc : s.pcs[i]? = some (.borrowed r))
      (hs' : s' = { box := some r, mu := none, pcs := s.pcs.set i (.done (.res r)) })

theorem fstep_atomic {call : Call} (hcall : c.calls[i]? = some call) (hnw : call ≠ .wait)
    (hpc : s.pcs[i]? = some .start) (hmu : s.mu = none) :
    fstep c s i = some { s with
      box := (atomicCall c.flags s.box call).1,
      pcs := if places c.flags call then wake c.wake (s.pcs.set i (.done (atomicCall c.flags s.box call).2))
             else s.pcs.set i (.done (atomicCall c.flags s.box call).2) } := by
  cases call <;> first | exact absurd rfl hnw | simp [fstep, hcall, hpc, hmu]

theorem fstep_cases (h : fstep c s i = some s') : FStepKind c s i s' := by
  cases hcall : c.calls[i]? with
  | none => simp [fstep, hcall] at h
  | some call =>
    cases hpc : s.pcs[i]? with
    | none => simp [fstep, hcall, hpc] at h
    | some pc =>
      by_cases hw : call = .wait
      · subst hw
        cases pc with
        | borrowed r =>
          simp [fstep, hcall, hpc] at h
          exact .put r hcall hpc h.symm
        | done ret => simp [fstep, hcall, hpc] at h
        | sleeping => simp [fstep, hcall, hpc] at h
        | start | woken =>
          simp only [fstep, hcall, hpc] at h
          cases hmu : s.mu <;> cases hbox : s.box <;> simp [hmu, hbox] at h
          · exact .sleep _ hcall hpc (by simp) hmu hbox (by rw [← h, hmu, hbox])
          · exact .take _ _ hcall hpc (by simp) hmu hbox h.symm
      · cases pc with
        | start =>
          cases hmu : s.mu with
          | some j => cases call <;> first | exact absurd rfl hw | simp [fstep, hcall, hpc, hmu] at h
          | none =>
            rw [fstep_atomic hcall hw hpc hmu] at h
            exact .atomic call _ _ hcall hw hpc hmu rfl (Option.some.inj h).symm
        | _ => cases call <;> first | exact absurd rfl hw | simp [fstep, hcall, hpc] at h

/-- waking replaces `sleeping` by `woken` and nothing else: a function that does not tell the two
    apart does not see it -/
theorem map_wake {β : Type} (f : FPc → β) (hf : f .woken = f .sleeping) (w : Wake) (pcs : List FPc) :
    (wake w pcs).map f = pcs.map f := by
  cases w with
  | broadcast =>
    show (pcs.map wakePc).map f = pcs.map f
    rw [List.map_map]
    exact List.map_congr_left fun pc _ => by cases pc <;> first | rfl | exact hf
  | signal =>
    show (wakeOne pcs).map f = pcs.map f
    induction pcs with
    | nil => rfl
    | cons pc rest ih => cases pc <;> simp [wakeOne, ih, hf]

theorem abs_get {pc : FPc} (h : s.pcs[i]? = some pc) : (abs s).pcs[i]? = some (absPc pc) := by
  simp [abs, h]

/-- the step that does not change the abstract state is a Wait going to sleep -/
theorem abs_step (h : fstep c s i = some s') :
    Promise.step (absCfg c) (abs s) i = some (abs s') ∨ abs s' = abs s := by
  cases fstep_cases h with
  | atomic call b ret hcall hnw hpc hmu heq hs' =>
    left
    have hpc' : (abs s).pcs[i]? = some .start := abs_get hpc
    rw [step_atomic (c := absCfg c) hcall hnw hpc' hmu]
    have heq' : atomicCall (absCfg c).flags (abs s).box call = (b, ret) := heq
    rw [heq', hs']
    simp only [abs]
    congr 2
    split
    · rw [map_wake absPc rfl, List.map_set]; rfl
    · rw [List.map_set]; rfl
  | take pc r hcall hpc hsw hmu hbox hs' =>
    left
    have hpc' : (abs s).pcs[i]? = some .start := by
      rw [abs_get hpc]; rcases hsw with e | e <;> subst e <;> rfl
    rw [step_take (c := absCfg c) rfl hcall hpc' hmu hbox, hs']
    simp only [abs, List.map_set]; rfl
  | sleep pc hcall hpc hsw hmu hbox hs' =>
    right
    rw [hs']
    simp only [abs]
    congr 1
    exact map_set_same absPc s.pcs i pc .sleeping hpc (by rcases hsw with e | e <;> subst e <;> rfl)
  | put r hcall hpc hs' =>
    left
    have hpc' : (abs s).pcs[i]? = some (.borrowed r) := abs_get hpc
    rw [step_put (c := absCfg c) rfl hcall hpc', hs']
    simp only [abs, List.map_set]; rfl

theorem abs_init (c : FCfg) : abs (finit c) = Promise.init (absCfg c) := by
  simp [abs, finit, Promise.init, absCfg, absPc]

theorem abs_reach : ∀ s, Reach (fsys c) s → Reach (Promise.sys (absCfg c)) (abs s) := by
  intro s hr
  induction hr with
  | init =>
    have : abs (fsys c).init = (Promise.sys (absCfg c)).init := abs_init c
    rw [this]; exact .init
  | step _ hs ih =>
    rcases abs_step hs with h | h
    · exact .step ih h
    · rw [h]; exact ih

theorem ginv_abs_step (hG : GInv (absCfg c) (abs s)) (h : fstep c s i = some s') :
    GInv (absCfg c) (abs s') := by
  rcases abs_step h with h' | h'
  · exact ginv_step rfl hG h'
  · rw [h']; exact hG

def NoSleeper (s : FSt) : Prop := ∀ (j : Nat), s.pcs[j]? = some .sleeping → s.box = none ∧ s.mu = none

theorem not_sleeping_wakeAll (pcs : List FPc) (j : Nat) : (wakeAll pcs)[j]? ≠ some .sleeping := by
  rw [wakeAll, List.getElem?_map]
  cases pcs[j]? with
  | none => nofun
  | some pc => cases pc <;> nofun

theorem atomic_some_places (f : Flags) (call : Call) (hnw : call ≠ .wait) (r : Res)
    (h : (atomicCall f none call).1 = some r) : places f call = true := by
  cases call with
  | fulfill v => rfl
  | fail v e => rfl
  | recover v =>
    cases hrc : f.recoverable <;> cases v <;> simp [atomicCall, recover, hrc, places] at h ⊢
  | brk => simp [atomicCall, brk] at h
  | wait => exact absurd rfl hnw

theorem noSleeper_step (hw : c.wake = .broadcast) (hG : GInv (absCfg c) (abs s)) (hI : NoSleeper s)
    (h : fstep c s i = some s') : NoSleeper s' := by
  intro j hj
  cases fstep_cases h with
  | atomic call b ret hcall hnw hpc hmu heq hs' =>
    rw [hs'] at hj ⊢
    simp only at hj ⊢
    refine ⟨?_, hmu⟩
    cases hpl : places c.flags call with
    | true =>
      rw [hpl, hw] at hj
      exact absurd hj (not_sleeping_wakeAll _ j)
    | false =>
      rw [hpl] at hj
      rcases getElem?_set_cases hj with ⟨_, e⟩ | ⟨_, hj⟩
      · cases e
      · -- a sleeper exists, so the box was empty; a call that does not place leaves it empty
        have hb0 := (hI j hj).1
        cases hb : b with
        | none => rfl
        | some r =>
          have := atomic_some_places c.flags call hnw r (by rw [← hb0, heq, hb])
          rw [hpl] at this; cases this
  | take pc r hcall hpc hsw hmu hbox hs' =>
    rw [hs'] at hj
    rcases getElem?_set_cases hj with ⟨_, e⟩ | ⟨_, hj⟩
    · cases e
    · have := (hI j hj).1; rw [hbox] at this; cases this
  | sleep pc hcall hpc hsw hmu hbox hs' =>
    rw [hs']; exact ⟨hbox, hmu⟩
  | put r hcall hpc hs' =>
    rw [hs'] at hj
    rcases getElem?_set_cases hj with ⟨_, e⟩ | ⟨_, hj⟩
    · cases e
    · -- a sleeper while somebody has borrowed: impossible (the mutex was held)
      have hmu : s.mu = some i := (hG.mutex.bor i r (abs_get hpc)).1
      have := (hI j hj).2
      rw [hmu] at this; cases this

theorem noSleeper_reach (hw : c.wake = .broadcast) : ∀ s, Reach (fsys c) s → NoSleeper s :=
  inv_induction' (S := fsys c) NoSleeper
    (by intro j h; simp [fsys, finit, List.getElem?_replicate] at h)
    (fun s _ _ hr hI h => noSleeper_step hw (ginv_reach (c := absCfg c) rfl _ (abs_reach s hr)) hI h)

/-- asleep on the condition variable, or woken and not yet running -/
def FPc.parked : FPc → Bool
  | .sleeping | .woken => true
  | _ => false

def WaitOnly (c : FCfg) (s : FSt) : Prop :=
  ∀ (j : Nat) (pc : FPc), s.pcs[j]? = some pc → pc.parked = true → c.calls[j]? = some .wait

theorem waitOnly_step (hI : WaitOnly c s) (h : fstep c s i = some s') : WaitOnly c s' := by
  have keep : ∀ (pc0 : FPc) (j : Nat) (pc : FPc), pc0.parked = false →
      (s.pcs.set i pc0)[j]? = some pc → pc.parked = true → c.calls[j]? = some .wait := by
    intro pc0 j pc hne hj hsw
    rcases getElem?_set_cases hj with ⟨_, e⟩ | ⟨_, hj⟩
    · rw [e, hne] at hsw; cases hsw
    · exact hI j pc hj hsw
  intro j pc hj hsw
  cases fstep_cases h with
  | atomic call b ret hcall hnw hpc hmu heq hs' =>
    rw [hs'] at hj
    simp only at hj
    split at hj
    · -- waking does not change who is parked
      have hm := congrArg (·[j]?) (map_wake FPc.parked rfl c.wake (s.pcs.set i (.done ret)))
      simp only [List.getElem?_map, hj, Option.map_some] at hm
      cases h1 : (s.pcs.set i (.done ret))[j]? with
      | none => rw [h1] at hm; cases hm
      | some pc1 =>
        rw [h1] at hm
        exact keep _ j pc1 rfl h1 ((Option.some.inj hm).symm.trans hsw)
    · exact keep _ j pc rfl hj hsw
  | take pc0 r hcall hpc hsw0 hmu hbox hs' =>
    rw [hs'] at hj
    exact keep _ j pc rfl hj hsw
  | sleep pc0 hcall hpc hsw0 hmu hbox hs' =>
    rw [hs'] at hj
    rcases getElem?_set_cases hj with ⟨e, _⟩ | ⟨_, hj⟩
    · rw [e]; exact hcall
    · exact hI j pc hj hsw
  | put r hcall hpc hs' =>
    rw [hs'] at hj
    exact keep _ j pc rfl hj hsw

theorem waitOnly_reach : ∀ s, Reach (fsys c) s → WaitOnly c s :=
  inv_induction (S := fsys c) (WaitOnly c)
    (by intro j pc h hsw; simp [fsys, finit, List.getElem?_replicate] at h; rw [← h.2] at hsw; cases hsw)
    (fun _ _ _ hI h => waitOnly_step hI h)

/-- every blocked call is a Wait asleep on the condition variable — hence, with Broadcast
    (`NoSleeper`), the promise is empty -/
theorem fstuck_shape (hG : GInv (absCfg c) (abs s)) (hW : WaitOnly c s) (hstuck : ∀ i, fstep c s i = none) :
    s.mu = none ∧
    ∀ (i : Nat) (pc : FPc), s.pcs[i]? = some pc → pc.isDone = false →
      c.calls[i]? = some .wait ∧ pc = .sleeping := by
  have hmu : s.mu = none := by
    cases hm : s.mu with
    | none => rfl
    | some j =>
      -- the holder's abstract pc is `borrowed r`, so is the concrete one: it can put the message back
      obtain ⟨r, hr⟩ := hG.mutex.mu_bor j hm
      have hcall : c.calls[j]? = some .wait := hG.bor_wait j r hr
      simp only [abs, List.getElem?_map] at hr
      cases hpc : s.pcs[j]? with
      | none => rw [hpc] at hr; cases hr
      | some pc =>
        have := hstuck j
        rw [hpc] at hr
        cases pc <;> simp [absPc] at hr
        simp [fstep, hcall, hpc] at this
  refine ⟨hmu, ?_⟩
  intro i pc hpc hnd
  have hlt : i < c.calls.length := hG.len ▸ lt_of_getElem? (abs_get hpc)
  have hcall : c.calls[i]? = some c.calls[i] := by simp [hlt]
  have hst := hstuck i
  cases pc with
  | done ret => simp [FPc.isDone] at hnd
  | borrowed r =>
    have : s.mu = some i := (hG.mutex.bor i r (abs_get hpc)).1
    rw [hmu] at this; cases this
  | sleeping => exact ⟨hW i _ hpc rfl, rfl⟩
  | start =>
    exfalso
    by_cases hw : c.calls[i] = .wait
    · cases hb : s.box <;> simp [fstep, hcall, hw, hpc, hmu, hb] at hst
    · rw [fstep_atomic hcall hw hpc hmu] at hst; cases hst
  | woken =>
    exfalso
    have hw := hW i _ hpc rfl
    cases hb : s.box <;> simp [fstep, hw, hpc, hmu, hb] at hst

/-- rank of a pc, `n` = number of calls: a call at its start outweighs one wake-up of every
    other call -/
def frank (n : Nat) : FPc → Nat
  | .start => n + 3 | .woken => 3 | .sleeping => 2 | .borrowed _ => 1 | .done _ => 0

def fmu (c : FCfg) (s : FSt) : Nat := (s.pcs.map (frank c.calls.length)).sum

def FPc.isSleeping : FPc → Bool
  | .sleeping => true
  | _ => false

/-- a wake-up raises the rank of a sleeper by one -/
theorem frank_wake (w : Wake) (n : Nat) (pcs : List FPc) :
    ((wake w pcs).map (frank n)).sum ≤ (pcs.map (frank n)).sum + pcs.countP FPc.isSleeping := by
  cases w with
  | broadcast =>
    show ((pcs.map wakePc).map (frank n)).sum ≤ _
    induction pcs with
    | nil => simp
    | cons x xs ih =>
      cases x <;> simp [wakePc, frank, FPc.isSleeping, List.countP_cons] at ih ⊢ <;> omega
  | signal =>
    show ((wakeOne pcs).map (frank n)).sum ≤ _
    induction pcs with
    | nil => simp [wakeOne]
    | cons x xs ih =>
      cases x <;> simp [wakeOne, frank, FPc.isSleeping, List.countP_cons] at ih ⊢ <;> omega

theorem fmu_step (hG : GInv (absCfg c) (abs s)) (h : fstep c s i = some s') :
    fmu c s' < fmu c s := by
  have hlen : s.pcs.length = c.calls.length := (List.length_map absPc).symm.trans hG.len
  cases fstep_cases h with
  | atomic call b ret hcall hnw hpc hmu heq hs' =>
    have hlt := lt_of_getElem? hpc
    have hset := sum_map_set (frank c.calls.length) s.pcs i _ (.done ret) hpc
    have hget' : (s.pcs.set i (.done ret))[i]? = some (.done ret) := by simp [hlt]
    have hcnt := countP_lt_length_of FPc.isSleeping (s.pcs.set i (.done ret)) i _ hget' rfl
    have hw := frank_wake c.wake c.calls.length (s.pcs.set i (.done ret))
    simp only [List.length_set] at hcnt
    simp only [frank] at hset
    rw [hs']
    simp only [fmu]
    split
    · omega
    · omega
  | take pc r hcall hpc hsw hmu hbox hs' =>
    have hset := sum_map_set (frank c.calls.length) s.pcs i _ (.borrowed r) hpc
    rw [hs']; simp only [fmu]
    rcases hsw with e | e <;> subst e <;> simp only [frank] at hset <;> omega
  | sleep pc hcall hpc hsw hmu hbox hs' =>
    have hset := sum_map_set (frank c.calls.length) s.pcs i _ .sleeping hpc
    rw [hs']; simp only [fmu]
    rcases hsw with e | e <;> subst e <;> simp only [frank] at hset <;> omega
  | put r hcall hpc hs' =>
    have hset := sum_map_set (frank c.calls.length) s.pcs i _ (.done (.res r)) hpc
    rw [hs']; simp only [fmu]
    simp only [frank] at hset; omega

end Biogo.PromiseCond
