/-
Lemmas for the column-stored alignments (alignment.Seq / alignment.QSeq), read row by row
(`rowVec`: one row across the columns): a write to one cell changes one entry of one row; under
RevComp — a two-pointer loop over columns with an inner loop over rows — every row goes through
the two-pointer loop on its letters, so the list of columns is reversed with every letter
complemented; its loops write cells of the columns only; `Delete` and `Clone` column by column.
Core-only.
-/
import Biogo.Proofs.ContAnnHeap

namespace Biogo.Containers
open Biogo.Go

def ColValid (h : Cells) (n : Nat) (c : Slice) : Prop :=
  c.arr < h.arrays.length ∧ c.off + c.len ≤ (h.arr c.arr).length ∧ c.len = n

theorem ColValid.length_read {h : Cells} {n : Nat} {c : Slice} (hv : ColValid h n c) :
    (h.read c).length = n :=
  hv.2.2 ▸ Containers.length_read h c hv.2.1

theorem ColValid.congr {h h' : Cells} {n : Nat} {c : Slice} (hv : ColValid h n c)
    (hl : h'.arrays.length = h.arrays.length) (ha : ∀ b, (h'.arr b).length = (h.arr b).length) :
    ColValid h' n c := ⟨by rw [hl]; exact hv.1, by rw [ha]; exact hv.2.1, hv.2.2⟩

theorem swapCols_eq (f : QL → QL) (h : Cells) (ci cj : Slice) :
    Aln.swapCols f h ci cj = (List.range ci.len).foldl (fun h r => Aln.rowSwap f h ci cj r) h := rfl

theorem writesOnly_rowSwap (f : QL → QL) (h : Cells) (ci cj : Slice) (r : Nat) :
    WritesOnly (fun b => ci.arr = b ∨ cj.arr = b) h (Aln.rowSwap f h ci cj r) := by
  unfold Aln.rowSwap
  cases h.get? ci r with
  | none => exact .refl _ _
  | some x =>
    cases h.get? cj r with
    | none => exact .refl _ _
    | some y =>
      exact ((WritesOnly.set h ci r (f y)).mono fun _ => Or.inl).trans ((WritesOnly.set _ cj r (f x)).mono fun _ => Or.inr)

theorem writesOnly_swapCols (f : QL → QL) (h : Cells) (ci cj : Slice) :
    WritesOnly (fun b => ci.arr = b ∨ cj.arr = b) h (Aln.swapCols f h ci cj) :=
  WritesOnly.foldl _ (fun h r => writesOnly_rowSwap f h ci cj r) _ h

theorem writesOnly_mapCol (f : QL → QL) (h : Cells) (c : Slice) : WritesOnly (c.arr = ·) h (Aln.mapCol f h c) :=
  WritesOnly.foldl _ (fun h r => writesOnly_hModAt f h c r) _ h

/-- the columns of an alignment: allocated, `n` rows each, pairwise different arrays -/
def ColsWF (h : Cells) (n : Nat) (cols : List Slice) : Prop :=
  (∀ c ∈ cols, ColValid h n c) ∧ cols.Pairwise (fun x y => x.arr ≠ y.arr)

theorem ColsWF.congr {h h' : Cells} {n : Nat} {cols : List Slice} (hw : ColsWF h n cols)
    (hl : h'.arrays.length = h.arrays.length) (ha : ∀ b, (h'.arr b).length = (h.arr b).length) :
    ColsWF h' n cols := ⟨fun c hc => (hw.1 c hc).congr hl ha, hw.2⟩

def rowVec (h : Cells) (cols : List Slice) (r : Nat) : List QL := cols.map fun c => h.get c r zeroQL

theorem Aln.rowLetters_eq_rowVec (h : Cells) (a : Aln) (r : Nat) :
    a.rowLetters h r = (rowVec h a.cols r).map (Lin.shown a.q) := by
  simp only [Aln.rowLetters, rowVec, List.map_map]; rfl

theorem get_congr_arr {h h' : Cells} {s : Slice} (e : h'.arr s.arr = h.arr s.arr) (i : Nat) (d : QL) :
    h'.get s i d = h.get s i d := by
  simp only [Heap.get, Heap.get?, e]

theorem pairwise_ne_getElem? {α β : Type} {f : α → β} {l : List α} (hp : l.Pairwise (fun a b => f a ≠ f b))
    {i j : Nat} {a b : α} (hij : i ≠ j) (hi : l[i]? = some a) (hj : l[j]? = some b) : f a ≠ f b := by
  obtain ⟨hil, rfl⟩ := List.getElem?_eq_some_iff.mp hi
  obtain ⟨hjl, rfl⟩ := List.getElem?_eq_some_iff.mp hj
  rcases Nat.lt_or_gt_of_ne hij with h | h
  · exact List.pairwise_iff_getElem.mp hp i j hil hjl h
  · exact (List.pairwise_iff_getElem.mp hp j i hjl hil h).symm

theorem rowVec_set (h : Cells) (n : Nat) (cols : List Slice) (hw : ColsWF h n cols) (i : Nat) (ci : Slice)
    (hi : cols[i]? = some ci) (r : Nat) (hr : r < n) (v : QL) (r' : Nat) :
    rowVec (h.set ci r v) cols r' = if r' = r then (rowVec h cols r').set i v else rowVec h cols r' := by
  have hvi := hw.1 ci (List.mem_of_getElem? hi)
  have hentry : ∀ (k : Nat) (hk : k < cols.length),
      (h.set ci r v).get cols[k] r' zeroQL = if i = k ∧ r' = r then v else h.get cols[k] r' zeroQL := by
    intro k hk
    by_cases eik : i = k
    · have hck : cols[k] = ci := by
        subst eik; exact Option.some.inj ((List.getElem?_eq_getElem hk).symm.trans hi)
      rw [hck]
      simp only [Heap.get, Heap.get?_eq_read]
      rw [Heap.read_set_same h ci r v hvi.1, List.getElem?_set]
      have hlen := hvi.length_read
      by_cases err : r' = r
      · subst err
        have : r' < (h.read ci).length := by omega
        simp [this, eik]
      · have : ¬ r = r' := fun e => err e.symm
        simp [this, err]
    · have hne : ci.arr ≠ cols[k].arr := pairwise_ne_getElem? hw.2 eik hi (List.getElem?_eq_getElem hk)
      rw [get_congr_arr (Heap.arr_set_other h ci r v _ hne), if_neg (fun e => eik e.1)]
  apply List.ext_getElem
  · split <;> simp only [rowVec, List.length_map, List.length_set]
  · intro k h1 _
    have hk : k < cols.length := by simpa only [rowVec, List.length_map] using h1
    simp only [rowVec, List.getElem_map, hentry k hk]
    by_cases err : r' = r
    · simp only [err, and_true, if_true, List.getElem_set, List.getElem_map]
    · simp only [err, and_false, if_false, List.getElem_map]

theorem ColsWF.writesOnly {P : Nat → Prop} {h h' : Cells} {n : Nat} {cols : List Slice} (hw : ColsWF h n cols)
    (hs : WritesOnly P h h') : ColsWF h' n cols := hw.congr hs.size hs.arrlen

theorem rowVec_getElem? (h : Cells) (cols : List Slice) (r i : Nat) (ci : Slice) (hi : cols[i]? = some ci) :
    (rowVec h cols r)[i]? = some (h.get ci r zeroQL) := by
  simp only [rowVec, List.getElem?_map, hi, Option.map_some]

theorem get?_of_colValid {h : Cells} {n : Nat} {c : Slice} (hv : ColValid h n c) {r : Nat} (hr : r < n) :
    h.get? c r = some (h.get c r zeroQL) := by
  simp only [Heap.get, Heap.get?_eq_read]
  have := hv.length_read
  have hlt : r < (h.read c).length := by omega
  rw [List.getElem?_eq_getElem hlt]; rfl

theorem rowVec_rowSwap (f : QL → QL) (h : Cells) (n : Nat) (cols : List Slice) (hw : ColsWF h n cols)
    (i j : Nat) (ci cj : Slice) (hi : cols[i]? = some ci) (hj : cols[j]? = some cj)
    (r : Nat) (hr : r < n) :
    rowVec (Aln.rowSwap f h ci cj r) cols r = swapAt f (rowVec h cols r) i j ∧
    ∀ r', r' ≠ r → rowVec (Aln.rowSwap f h ci cj r) cols r' = rowVec h cols r' := by
  have hvi := hw.1 ci (List.mem_of_getElem? hi)
  have hvj := hw.1 cj (List.mem_of_getElem? hj)
  have hsw : Aln.rowSwap f h ci cj r
      = (h.set ci r (f (h.get cj r zeroQL))).set cj r (f (h.get ci r zeroQL)) := by
    simp only [Aln.rowSwap, get?_of_colValid hvi hr, get?_of_colValid hvj hr]
  have hw1 : ColsWF (h.set ci r (f (h.get cj r zeroQL))) n cols :=
    hw.writesOnly (WritesOnly.set h ci r _)
  rw [hsw]
  refine ⟨?_, ?_⟩
  · rw [rowVec_set _ n cols hw1 j cj hj r hr _ r, rowVec_set h n cols hw i ci hi r hr _ r]
    simp only [if_true, swapAt, rowVec_getElem? h cols r i ci hi, rowVec_getElem? h cols r j cj hj]
  · intro r' hne
    rw [rowVec_set _ n cols hw1 j cj hj r hr _ r', rowVec_set h n cols hw i ci hi r hr _ r']
    simp only [hne, if_false]

theorem rowVec_hModAt (f : QL → QL) (h : Cells) (n : Nat) (cols : List Slice) (hw : ColsWF h n cols)
    (i : Nat) (ci : Slice) (hi : cols[i]? = some ci) (r : Nat) (hr : r < n) :
    rowVec (hModAt f h ci r) cols r = modAt f (rowVec h cols r) i ∧
    ∀ r', r' ≠ r → rowVec (hModAt f h ci r) cols r' = rowVec h cols r' := by
  have hvi := hw.1 ci (List.mem_of_getElem? hi)
  have hm : hModAt f h ci r = h.set ci r (f (h.get ci r zeroQL)) := by
    simp only [hModAt, get?_of_colValid hvi hr]
  rw [hm]
  refine ⟨?_, ?_⟩
  · rw [rowVec_set h n cols hw i ci hi r hr _ r]
    simp only [if_true, modAt, rowVec_getElem? h cols r i ci hi]
  · intro r' hne
    rw [rowVec_set h n cols hw i ci hi r hr _ r']
    simp only [hne, if_false]

theorem rowVec_length (h : Cells) (cols : List Slice) (r : Nat) : (rowVec h cols r).length = cols.length := by
  simp [rowVec]

theorem rowVec_foldRange (step : Cells → Nat → Cells) (φ : List QL → List QL) {P : Nat → Prop} (n : Nat) (cols : List Slice)
    (hwr : ∀ h k, WritesOnly P h (step h k))
    (hstep : ∀ h k, ColsWF h n cols → k < n →
      rowVec (step h k) cols k = φ (rowVec h cols k) ∧ ∀ r', r' ≠ k → rowVec (step h k) cols r' = rowVec h cols r')
    (h : Cells) (hw : ColsWF h n cols) :
    ∀ k, k ≤ n → ∀ r, rowVec ((List.range k).foldl step h) cols r = if r < k then φ (rowVec h cols r) else rowVec h cols r := by
  intro k
  induction k with
  | zero => intro _ r; rfl
  | succ k ih =>
    intro hk r
    obtain ⟨s1, s2⟩ := hstep _ k (hw.writesOnly (WritesOnly.foldl _ hwr (List.range k) h)) hk
    rw [List.range_succ, List.foldl_append]
    simp only [List.foldl_cons, List.foldl_nil]
    by_cases e : r = k
    · subst e
      rw [s1, ih (Nat.le_of_succ_le hk) r, if_neg (Nat.lt_irrefl _), if_pos (Nat.lt_succ_self _)]
    · rw [s2 r e, ih (Nat.le_of_succ_le hk) r]
      have : r < k + 1 ↔ r < k := by omega
      simp only [this]

theorem rowVec_swapCols (f : QL → QL) (h : Cells) (n : Nat) (cols : List Slice) (hw : ColsWF h n cols)
    (i j : Nat) (ci cj : Slice) (hi : cols[i]? = some ci) (hj : cols[j]? = some cj) (r : Nat) (hr : r < n) :
    rowVec (Aln.swapCols f h ci cj) cols r = swapAt f (rowVec h cols r) i j := by
  rw [swapCols_eq, (hw.1 ci (List.mem_of_getElem? hi)).2.2]
  exact (rowVec_foldRange _ (swapAt f · i j) n cols (fun h r => writesOnly_rowSwap f h ci cj r)
    (fun h k hw hk => rowVec_rowSwap f h n cols hw i j ci cj hi hj k hk) h hw n (Nat.le_refl _) r).trans (if_pos hr)

theorem rowVec_mapCol (f : QL → QL) (h : Cells) (n : Nat) (cols : List Slice) (hw : ColsWF h n cols)
    (i : Nat) (ci : Slice) (hi : cols[i]? = some ci) (r : Nat) (hr : r < n) :
    rowVec (Aln.mapCol f h ci) cols r = modAt f (rowVec h cols r) i := by
  have heq : Aln.mapCol f h ci = (List.range ci.len).foldl (fun h r => hModAt f h ci r) h := rfl
  rw [heq, (hw.1 ci (List.mem_of_getElem? hi)).2.2]
  exact (rowVec_foldRange _ (modAt f · i) n cols (fun h r => writesOnly_hModAt f h ci r)
    (fun h k hw hk => rowVec_hModAt f h n cols hw i ci hi k hk) h hw n (Nat.le_refl _) r).trans (if_pos hr)

theorem writesOnly_colLoop (f : QL → QL) (cols : List Slice) :
    ∀ (fuel i j1 : Nat) (h : Cells), WritesOnly (· ∈ cols.map (·.arr)) h (Aln.colLoop f cols fuel i j1 h) := by
  intro fuel
  induction fuel with
  | zero => intro i j1 h; exact .refl _ h
  | succ fuel ih =>
    intro i j1 h
    unfold Aln.colLoop
    split
    · split
      · rename_i ci cj hi hj
        exact ((writesOnly_swapCols f h ci cj).mono fun b hb =>
          hb.elim (· ▸ List.mem_map_of_mem (List.mem_of_getElem? hi)) (· ▸ List.mem_map_of_mem (List.mem_of_getElem? hj))).trans (ih _ _ _)
      · exact .refl _ h
    · split
      · split
        · rename_i ci hi
          exact (writesOnly_mapCol f h ci).mono fun b hb => hb ▸ List.mem_map_of_mem (List.mem_of_getElem? hi)
        · exact .refl _ h
      · exact .refl _ h

theorem writesOnly_rowLoop (f : QL → QL) (mid : Bool) (cols : List Slice) (r : Nat) :
    ∀ (fuel i j1 : Nat) (h : Cells), WritesOnly (· ∈ cols.map (·.arr)) h (Aln.rowLoop f mid cols r fuel i j1 h) := by
  intro fuel
  induction fuel with
  | zero => intro i j1 h; exact .refl _ h
  | succ fuel ih =>
    intro i j1 h
    unfold Aln.rowLoop
    split
    · split
      · rename_i ci cj hi hj
        exact ((writesOnly_rowSwap f h ci cj r).mono fun b hb =>
          hb.elim (· ▸ List.mem_map_of_mem (List.mem_of_getElem? hi)) (· ▸ List.mem_map_of_mem (List.mem_of_getElem? hj))).trans (ih _ _ _)
      · exact .refl _ h
    · split
      · split
        · rename_i ci hi
          exact (writesOnly_hModAt f h ci r).mono fun b hb => hb ▸ List.mem_map_of_mem (List.mem_of_getElem? hi)
        · exact .refl _ h
      · exact .refl _ h

/-- **under `alignment.Seq.RevComp` every row goes through the two-pointer loop** -/
theorem rowVec_colLoop (f : QL → QL) (n : Nat) (cols : List Slice) (r : Nat) (hr : r < n) :
    ∀ (fuel i j1 : Nat) (h : Cells), ColsWF h n cols → j1 ≤ cols.length →
      rowVec (Aln.colLoop f cols fuel i j1 h) cols r = twoPtr f true fuel i j1 (rowVec h cols r) := by
  intro fuel
  induction fuel with
  | zero => intro i j1 h _ _; rfl
  | succ fuel ih =>
    intro i j1 h hw hj1
    unfold Aln.colLoop twoPtr
    by_cases h1 : i + 1 < j1
    · simp only [h1, if_true]
      have hil : i < cols.length := by omega
      have hjl : j1 - 1 < cols.length := by omega
      have hi := List.getElem?_eq_getElem hil
      have hj := List.getElem?_eq_getElem hjl
      rw [hi, hj]
      simp only
      rw [ih _ _ _ (hw.writesOnly (writesOnly_swapCols f h _ _)) (by omega),
        rowVec_swapCols f h n cols hw i (j1 - 1) _ _ hi hj r hr]
    · simp only [h1, if_false]
      by_cases h2 : (i + 1 == j1) = true
      · simp only [h2, if_true, Bool.true_and]
        have hil : i < cols.length := by have := beq_iff_eq.mp h2; omega
        rw [List.getElem?_eq_getElem hil]
        simp only
        exact rowVec_mapCol f h n cols hw i _ (List.getElem?_eq_getElem hil) r hr
      · simp only [h2, Bool.false_eq_true, if_false, Bool.and_false]

theorem rowVec_eq_reads (h : Cells) (cols : List Slice) (r : Nat) :
    rowVec h cols r = (cols.map h.read).map fun col => col[r]?.getD zeroQL := by
  simp only [rowVec, List.map_map, Heap.get, Heap.get?_eq_read]; rfl

theorem cols_of_rows (f : QL → QL) (h h' : Cells) (n : Nat) (cols : List Slice) (hw : ColsWF h n cols)
    (hw' : ColsWF h' n cols) (hrow : ∀ r, r < n → rowVec h' cols r = (rowVec h cols r).reverse.map f) :
    cols.map h'.read = (cols.map h.read).reverse.map (List.map f) := by
  apply List.ext_getElem (by simp)
  intro k hk _
  have hk : k < cols.length := by simpa using hk
  have hk' : cols.length - 1 - k < cols.length := by omega
  simp only [List.getElem_map, List.getElem_reverse, List.length_map]
  have l1 := (hw'.1 _ (List.getElem_mem hk)).length_read
  have l2 := (hw.1 _ (List.getElem_mem hk')).length_read
  apply List.ext_getElem (by rw [l1, List.length_map, l2])
  intro r hr _
  rw [l1] at hr
  have e : (rowVec h' cols r)[k]? = ((rowVec h cols r).reverse.map f)[k]? := congrArg (·[k]?) (hrow r hr)
  rw [rowVec_getElem? h' cols r k _ (List.getElem?_eq_getElem hk), List.getElem?_map,
    List.getElem?_reverse (by rw [rowVec_length]; exact hk), rowVec_length,
    rowVec_getElem? h cols r _ _ (List.getElem?_eq_getElem hk'), Option.map_some, Option.some.injEq,
    Heap.get, Heap.get, Heap.get?_eq_read, Heap.get?_eq_read,
    List.getElem?_eq_getElem (l1 ▸ hr), List.getElem?_eq_getElem (l2 ▸ hr)] at e
  simpa using e

/-- **revcomp_spec (alignment.Seq, alignment.QSeq).** After `RevComp` every row `r < Rows()` reads as the
    reverse complement of what it read (qualities travelling), each row having gone through the two-pointer
    loop; hence the list of columns is the reversed list with every letter complemented; the alignment's
    strand is negated and its coordinates are unchanged. -/
theorem Aln.revComp_spec (cx : Ctx) (h : Cells) (a : Aln) (n : Nat) (hw : ColsWF h n a.cols) :
    (a.revComp cx h).2.cols.map (a.revComp cx h).1.read
        = (a.cols.map h.read).reverse.map (List.map (compQL cx.comp)) ∧
    (∀ r, r < n → (a.revComp cx h).2.rowLetters (a.revComp cx h).1 r
        = (a.rowLetters h r).reverse.map (compQL cx.comp)) ∧
    (a.revComp cx h).2.strand = -a.strand ∧ (a.revComp cx h).2.start = a.start ∧
    (a.revComp cx h).2.«end» = a.«end» ∧ (a.revComp cx h).2.subs = a.subs ∧
    ColsWF (a.revComp cx h).1 n (a.revComp cx h).2.cols := by
  have hw' : ColsWF (a.revComp cx h).1 n a.cols := hw.writesOnly (writesOnly_colLoop _ a.cols _ _ _ h)
  -- every row goes through the two-pointer loop; the columns follow by transposition
  have hrow : ∀ r, r < n → rowVec (a.revComp cx h).1 a.cols r = (rowVec h a.cols r).reverse.map (compQL cx.comp) := by
    intro r hr
    have := twoPtr_spec (compQL cx.comp) (rowVec h a.cols r)
    rw [rowVec_length] at this
    exact (rowVec_colLoop (compQL cx.comp) n a.cols r hr (loopFuel a.cols.length) 0 a.cols.length h hw (Nat.le_refl _)).trans this
  refine ⟨cols_of_rows _ h _ n a.cols hw hw' hrow, fun r hr => ?_, rfl, rfl, rfl, rfl, hw'⟩
  have hq : (a.revComp cx h).2.q = a.q := rfl
  have hc : (a.revComp cx h).2.cols = a.cols := rfl
  rw [Aln.rowLetters_eq_rowVec, Aln.rowLetters_eq_rowVec, hc, hq, hrow r hr, ← List.map_reverse, List.map_map, List.map_map]
  exact List.map_congr_left fun c _ => shown_compQL a.q cx.comp c

/-- **revcomp_involutive (alignment.Seq, alignment.QSeq)** -/
theorem Aln.revComp_twice (cx : Ctx) (h : Cells) (a : Aln) (n : Nat) (hw : ColsWF h n a.cols)
    (hinv : ∀ c ∈ a.cols, ∀ x ∈ h.read c, cx.comp (cx.comp x.L) = x.L) :
    let r1 := a.revComp cx h
    let r2 := r1.2.revComp cx r1.1
    r2.2.cols.map r2.1.read = a.cols.map h.read ∧
    (∀ r, r2.2.rowLetters r2.1 r = a.rowLetters h r) ∧
    r2.2.strand = a.strand ∧ r2.2.start = a.start ∧ r2.2.«end» = a.«end» := by
  intro r1 r2
  obtain ⟨m1, _, s1, b1, e1, _, w1⟩ := Aln.revComp_spec cx h a n hw
  obtain ⟨m2, _, s2, b2, e2, _, _⟩ := Aln.revComp_spec cx r1.1 r1.2 n w1
  have hm : r2.2.cols.map r2.1.read = a.cols.map h.read := by
    rw [m2, m1, ← List.map_reverse, List.reverse_reverse, List.map_map]
    conv => rhs; rw [← List.map_id (a.cols.map h.read)]
    apply List.map_congr_left
    intro col hcol
    obtain ⟨c, hc, rfl⟩ := List.mem_map.mp hcol
    simp only [Function.comp, List.map_map, id]
    conv => rhs; rw [← List.map_id (h.read c)]
    apply List.map_congr_left
    intro x hx
    simp only [Function.comp, compQL, id]
    rw [hinv c hc x hx]
  refine ⟨hm, ?_, by rw [s2, s1]; omega, by rw [b2, b1], by rw [e2, e1]⟩
  intro r
  have hq : r2.2.q = a.q := rfl
  rw [Aln.rowLetters_eq_rowVec, Aln.rowLetters_eq_rowVec, rowVec_eq_reads, rowVec_eq_reads, hm, hq]

theorem delCol_inPlace (h : Cells) (c : Slice) (i : Nat)
    (hv : c.arr < h.arrays.length ∧ c.off + c.len ≤ (h.arr c.arr).length ∧ c.len ≤ c.cap) :
    WritesOnly (c.arr = ·) h (Aln.delCol h c i).1 ∧
    (i < c.len → (Aln.delCol h c i).2 = { c with len := c.len - 1 } ∧
      (Aln.delCol h c i).1.read (Aln.delCol h c i).2 = (h.read c).eraseIdx i) ∧
    (c.len ≤ i → Aln.delCol h c i = (h, c)) := by
  have hd : Aln.delCol h c i = delSlice h c i := rfl
  rw [hd]
  by_cases hic : i < c.len
  · obtain ⟨e, hread, hwr⟩ := delSlice_eq h c i hv.1 hv.2.2 hv.2.1 hic
    exact ⟨hwr, fun _ => ⟨e, hread⟩, fun hle => absurd hic (Nat.not_lt.mpr hle)⟩
  · have e := delSlice_of_le h c i (Nat.le_of_not_lt hic)
    rw [e]; exact ⟨.refl _ h, fun hlt => absurd hlt hic, fun _ => rfl⟩

/-- the loop of `Delete(i)` over the columns -/
theorem delCols_spec (i n : Nat) (hi : i < n) (cols : List Slice) (h : Cells)
    (hw : ColsWF h n cols) (hcap : ∀ c ∈ cols, c.len ≤ c.cap) :
    All2 (fun c c' => (thread (fun h c => Aln.delCol h c i) cols h).1.read c' = (h.read c).eraseIdx i ∧
        c' = { c with len := n - 1 }) cols (thread (fun h c => Aln.delCol h c i) cols h).2 ∧
    WritesOnly (fun b => ∃ c ∈ cols, c.arr = b) h (thread (fun h c => Aln.delCol h c i) cols h).1 := by
  have hV : ∀ (h h' : Cells) (s : Slice), s.arr < h.arrays.length ∧ s.off + s.len ≤ (h.arr s.arr).length ∧ s.len ≤ s.cap →
      h.arrays.length ≤ h'.arrays.length → h'.arr s.arr = h.arr s.arr →
      s.arr < h'.arrays.length ∧ s.off + s.len ≤ (h'.arr s.arr).length ∧ s.len ≤ s.cap :=
    fun _ _ _ hv hl ha => ⟨Nat.lt_of_lt_of_le hv.1 hl, by rw [ha]; exact hv.2.1, hv.2.2⟩
  have hv0 : ∀ c ∈ cols, c.arr < h.arrays.length ∧ c.off + c.len ≤ (h.arr c.arr).length ∧ c.len ≤ c.cap :=
    fun c hc => ⟨(hw.1 c hc).1, (hw.1 c hc).2.1, hcap c hc⟩
  obtain ⟨hall, _, _⟩ := thread_spec (fun h c => Aln.delCol h c i) id id _ (fun _ _ hv => hv.1) hV
    (fun h c hv => by
      obtain ⟨hwr, h1, h2⟩ := delCol_inPlace h c i hv
      by_cases hic : i < c.len
      · rw [(h1 hic).1]
        exact ⟨hwr.within, Or.inl rfl, by rw [hwr.size]; exact hv.1,
          by rw [hwr.arrlen]; exact Nat.le_trans (Nat.add_le_add_left (Nat.sub_le _ _) _) hv.2.1,
          Nat.le_trans (Nat.sub_le _ _) hv.2.2⟩
      · rw [h2 (Nat.le_of_not_lt hic)]; exact ⟨.refl _ h, Or.inl rfl, hv⟩)
    (fun bl c al c' => i < c.len → al = bl.eraseIdx i ∧ c' = { c with len := c.len - 1 })
    (fun h c hv hic => ⟨((delCol_inPlace h c i hv).2.1 hic).2, ((delCol_inPlace h c i hv).2.1 hic).1⟩)
    cols h hv0 hw.2
  refine ⟨hall.imp_mem fun c c' hc hcc => ?_,
    thread_inPlace _ id _ hV (fun h c hv => (delCol_inPlace h c i hv).1) cols h hv0 hw.2⟩
  have hlen := (hw.1 c hc).2.2
  exact hlen ▸ hcc.1 (hlen ▸ hi)

theorem Aln.delete_thread (h : Cells) (a : Aln) (i : Nat) :
    a.delete h i = ((thread (fun h c => Aln.delCol h c i) a.cols h).1,
      { a with cols := (thread (fun h c => Aln.delCol h c i) a.cols h).2, subs := a.subs.eraseIdx i }) :=
  congrArg (fun p : Cells × List Slice => (p.1, ({ a with cols := p.2, subs := a.subs.eraseIdx i } : Aln)))
    (foldl_thread_nil (fun h c => Aln.delCol h c i) a.cols h)

/-- the loop of `Clone`: every column copied into a new backing array -/
theorem cloneCols_spec (cx : Ctx) (cols : List Slice) (h : Cells) :
    All2 (fun c c' => CapValidG (thread (fun (h : Cells) c => h.ofList (h.read c) (cx.grow 0 c.len) zeroQL) cols h).1 c' ∧
        h.arrays.length ≤ c'.arr ∧
        ∀ n, ColValid h n c →
          (thread (fun (h : Cells) c => h.ofList (h.read c) (cx.grow 0 c.len) zeroQL) cols h).1.read c' = h.read c ∧ c'.len = n)
      cols (thread (fun (h : Cells) c => h.ofList (h.read c) (cx.grow 0 c.len) zeroQL) cols h).2 ∧
    (thread (fun (h : Cells) c => h.ofList (h.read c) (cx.grow 0 c.len) zeroQL) cols h).2.Pairwise (fun a b => a.arr ≠ b.arr) ∧
    Extends h (thread (fun (h : Cells) c => h.ofList (h.read c) (cx.grow 0 c.len) zeroQL) cols h).1 := by
  obtain ⟨hall, hpw, hext⟩ := thread_ofList (fun (h : Cells) (c : Slice) => h.read c) (fun c => cx.grow 0 c.len) zeroQL
    (fun _ s => s) id (fun _ _ => rfl)
    (fun h c => c.arr < h.arrays.length) (fun _ _ _ e hq => Nat.lt_of_lt_of_le hq e.size)
    (fun h h' c e hq => read_congr_arr _ _ _ (e.old _ hq)) cols h
  exact ⟨hall.imp fun c c' hcc => ⟨hcc.2.1, hcc.2.2.1, fun n hv =>
    ⟨(hcc.2.2.2 hv.1).1, (hcc.2.2.2 hv.1).2.trans hv.length_read⟩⟩, hpw, hext⟩

theorem Aln.clone_thread (cx : Ctx) (h : Cells) (a : Aln) :
    a.clone cx h = ((thread (fun (h : Cells) c => h.ofList (h.read c) (cx.grow 0 c.len) zeroQL) a.cols h).1,
      { a with cols := (thread (fun (h : Cells) c => h.ofList (h.read c) (cx.grow 0 c.len) zeroQL) a.cols h).2 }) :=
  congrArg (fun p : Cells × List Slice => (p.1, ({ a with cols := p.2 } : Aln)))
    (foldl_thread_nil (fun (h : Cells) c => h.ofList (h.read c) (cx.grow 0 c.len) zeroQL) a.cols h)

end Biogo.Containers
