/-
The traceback loop of the affine aligners (`Biogo.AlignAff.tbLoop`), iteration by iteration:
`Fires` says that the loop body runs and which `case` of the switch it takes, `Stopped` that the
loop is left; `tbLoop_ind` carries whatever every iteration preserves to the state the loop
returns, and `tbLoop_run` shows that it returns when what is preserved guarantees a matching `case`.
First use: the reported scores telescope — whatever has been reported so far plus the
value of the current cell and layer is the value the traceback started from (`Good`), provided some
`case` of the switch matches in every inner cell (`Covered`; `exists_cand_of_inner` for the recurrence `nwCell`).
`nwAlignT_ok`, `swAlignT_ok`, `fitAlignT_ok` say what each aligner is around its run of the loop.
-/
import Biogo.Model.AlignAff
import Biogo.Proofs.AlignAffTable

namespace Biogo.Proofs.TraceSum
open Biogo.Spec.Alignment Biogo.AlignAff Biogo.Proofs.AlignAffTable

theorem vadd_eq_some {a : V} {x v : Int} (h : vadd a x = some v) : ∃ w, a = some w ∧ w + x = v := by
  cases a with
  | none => cases h
  | some w => exact ⟨w, rfl, by simpa [vadd] using h⟩

theorem total_cons (p : Pair) (ps : List Pair) : total (p :: ps) = p.score + total ps := by
  simp [total, List.sum_cons]

theorem move_sum (st : TB) (e : Bool) (mv pl : Kind) (v pv : Int) :
    total (st.move e mv pl v pv).aln + (st.move e mv pl v pv).score
      = total st.aln + st.score + (v - pv) := by
  unfold TB.move
  simp only []
  split
  · simp only [TB.emit, total_cons]; omega
  · omega

theorem ite_emit_i (c : Prop) [Decidable c] (st : TB) : (if c then st.emit else st).i = st.i := by
  split <;> rfl

theorem ite_emit_j (c : Prop) [Decidable c] (st : TB) : (if c then st.emit else st).j = st.j := by
  split <;> rfl

theorem move_i (st : TB) (e : Bool) (mv pl : Kind) (v pv : Int) :
    (st.move e mv pl v pv).i = if mv = .l then st.i else st.i - 1 := by
  unfold TB.move
  simp only [ite_emit_i]

theorem move_j (st : TB) (e : Bool) (mv pl : Kind) (v pv : Int) :
    (st.move e mv pl v pv).j = if mv = .u then st.j else st.j - 1 := by
  unfold TB.move
  simp only [ite_emit_j]

theorem move_layer (st : TB) (e : Bool) (mv pl : Kind) (v pv : Int) :
    (st.move e mv pl v pv).layer = pl := rfl

theorem move_last (st : TB) (e : Bool) (mv pl : Kind) (v pv : Int) :
    (st.move e mv pl v pv).last = mv := rfl

theorem move_tie (st : TB) (e : Bool) (mv pl : Kind) (v pv : Int) :
    (st.move e mv pl v pv).tie = (st.tie || decide (st.layer ≠ mv)) := rfl

theorem predOf_eq (T : Table) (i j : Nat) (mv : Kind) :
    predOf T i j mv = T.at (if mv = .l then i else i - 1) (if mv = .u then j else j - 1) := by
  cases mv <;> rfl

theorem caseHit_vadd {aware : Bool} {T : Table} {st : TB} {v : Int} {cd : Kind × Kind × Int}
    (h : caseHit aware T st v cd = true) :
    vadd ((predOf T st.i st.j cd.1).get cd.2.1) cd.2.2 = some v := by
  simp only [caseHit, Bool.and_eq_true, beq_iff_eq] at h
  exact h.2

theorem caseHit_layer {T : Table} {st : TB} {v : Int} {cd : Kind × Kind × Int}
    (h : caseHit true T st v cd = true) : cd.1 = st.layer := by
  simp only [caseHit, Bool.and_eq_true, Bool.not_true, Bool.false_or, decide_eq_true_eq] at h
  exact h.1

theorem caseHit_of {aware : Bool} {T : Table} {st : TB} {v : Int} {cd : Kind × Kind × Int}
    (hl : cd.1 = st.layer) (h : vadd ((predOf T st.i st.j cd.1).get cd.2.1) cd.2.2 = some v) :
    caseHit aware T st v cd = true := by
  simp only [caseHit, Bool.and_eq_true, beq_iff_eq, Bool.or_eq_true, decide_eq_true_eq]
  exact ⟨Or.inr hl, h⟩

/-- the loop is left in `st`: the loop condition fails or (local aligner) the current value is 0 -/
def Stopped (sw : Bool) (T : Table) (st : TB) : Prop :=
  st.i = 0 ∨ st.j = 0 ∨ (sw = true ∧ (T.at st.i st.j).get st.layer = some 0)

/-- the loop body runs in `st` on the current value `v`, and `(mv, pl, add)` is the first `case`
    of the switch that matches -/
structure Fires (aware cross sw : Bool) (T : Table) (S : Matrix) (o : Int) (r q : List Nat) (st : TB) (v : Int)
    (mv pl : Kind) (add : Int) : Prop where
  hi : 0 < st.i
  hj : 0 < st.j
  val : (T.at st.i st.j).get st.layer = some v
  go : ¬ (sw = true ∧ v = 0)
  first : (cands cross sw S o (r.getD (st.i - 1) 0) (q.getD (st.j - 1) 0)).find? (caseHit aware T st v)
    = some (mv, pl, add)

abbrev stepOf (T : Table) (R C : Nat) (st : TB) (v : Int) (mv pl : Kind) : TB :=
  st.move (decide (st.i = R ∧ st.j = C)) mv pl v (vget ((predOf T st.i st.j mv).get pl))

theorem stepOf_lt (T : Table) (R C : Nat) (st : TB) (v : Int) (mv pl : Kind) (hi : 0 < st.i) (hj : 0 < st.j) :
    (stepOf T R C st v mv pl).i + (stepOf T R C st v mv pl).j < st.i + st.j := by
  rw [move_i, move_j]
  cases mv <;> simp <;> omega

theorem find?_strengthen {α} {p p' : α → Bool} (himp : ∀ a, p' a = true → p a = true) {l : List α} {x : α}
    (h : l.find? p = some x) (hx : p' x = true) : l.find? p' = some x := by
  obtain ⟨_, as, bs, rfl, has⟩ := List.find?_eq_some_iff_append.1 h
  refine List.find?_eq_some_iff_append.2 ⟨hx, as, bs, rfl, fun a ha => ?_⟩
  cases hp' : p' a with
  | false => rfl
  | true => have := has a ha; rw [himp a hp'] at this; cases this

theorem Fires.aware {cross sw : Bool} {T : Table} {S : Matrix} {o : Int}
    {r q : List Nat} {st : TB} {v : Int} {mv pl : Kind} {add : Int}
    (h : Fires false cross sw T S o r q st v mv pl add) (hlay : mv = st.layer) :
    Fires true cross sw T S o r q st v mv pl add :=
  ⟨h.hi, h.hj, h.val, h.go, find?_strengthen (fun _ hc => caseHit_of (caseHit_layer hc) (caseHit_vadd hc)) h.first
    (caseHit_of hlay (caseHit_vadd (List.find?_some h.first)))⟩

section
variable {aware cross sw : Bool} {T : Table} {S : Matrix} {o : Int} {r q : List Nat} {R C : Nat}
  {st : TB} {v : Int} {mv pl : Kind} {add : Int}

theorem Fires.mem (h : Fires aware cross sw T S o r q st v mv pl add) :
    (mv, pl, add) ∈ cands cross sw S o (r.getD (st.i - 1) 0) (q.getD (st.j - 1) 0) :=
  List.mem_of_find?_eq_some h.first

theorem Fires.pred (h : Fires aware cross sw T S o r q st v mv pl add) :
    ∃ pv, (predOf T st.i st.j mv).get pl = some pv ∧ pv + add = v :=
  vadd_eq_some (caseHit_vadd (List.find?_some h.first))

theorem Fires.layer (h : Fires true cross sw T S o r q st v mv pl add) : mv = st.layer :=
  caseHit_layer (List.find?_some h.first)

theorem tbLoop_of_stopped (h : Stopped sw T st) (fuel : Nat) :
    tbLoop aware cross sw T S o r q R C fuel st = .ok st := by
  cases fuel with
  | zero => rfl
  | succ n =>
    rw [tbLoop]
    by_cases h0 : st.i = 0 ∨ st.j = 0
    · rw [if_pos h0]
    · obtain ⟨hs, hv⟩ := (h.resolve_left (fun e => h0 (Or.inl e))).resolve_left (fun e => h0 (Or.inr e))
      rw [if_neg h0, hv]
      exact if_pos ⟨hs, rfl⟩

theorem tbLoop_fire (h : Fires aware cross sw T S o r q st v mv pl add) (fuel : Nat) :
    tbLoop aware cross sw T S o r q R C (fuel + 1) st =
      tbLoop aware cross sw T S o r q R C fuel (stepOf T R C st v mv pl) := by
  rw [tbLoop, if_neg (by have := h.hi; have := h.hj; omega)]
  simp only [h.val, if_neg h.go, h.first]

theorem tbLoop_succ_ok {fuel : Nat} {st' : TB}
    (h : tbLoop aware cross sw T S o r q R C (fuel + 1) st = .ok st') :
    (st' = st ∧ Stopped sw T st) ∨
    ∃ v mv pl add, Fires aware cross sw T S o r q st v mv pl add ∧
      tbLoop aware cross sw T S o r q R C fuel (stepOf T R C st v mv pl) = .ok st' := by
  rw [tbLoop] at h
  by_cases h0 : st.i = 0 ∨ st.j = 0
  · rw [if_pos h0] at h; cases h
    exact Or.inl ⟨rfl, h0.elim Or.inl (fun e => Or.inr (Or.inl e))⟩
  rw [if_neg h0] at h
  simp only [] at h
  cases hv : (T.at st.i st.j).get st.layer with
  | none => rw [hv] at h; cases h
  | some v =>
    rw [hv] at h
    simp only [] at h
    by_cases hsw : sw = true ∧ v = 0
    · rw [if_pos hsw] at h; cases h
      exact Or.inl ⟨rfl, Or.inr (Or.inr ⟨hsw.1, by rw [hv, hsw.2]⟩)⟩
    rw [if_neg hsw] at h
    cases hf : (cands cross sw S o (r.getD (st.i - 1) 0) (q.getD (st.j - 1) 0)).find?
        (caseHit aware T st v) with
    | none => rw [hf] at h; cases h
    | some cd =>
      obtain ⟨mv, pl, add⟩ := cd
      rw [hf] at h
      exact Or.inr ⟨v, mv, pl, add, ⟨by omega, by omega, hv, hsw, hf⟩, h⟩

theorem tbLoop_ind {P : TB → Prop}
    (step : ∀ st v mv pl add, P st → Fires aware cross sw T S o r q st v mv pl add →
      P (stepOf T R C st v mv pl)) :
    ∀ (fuel : Nat) (st st' : TB), P st → tbLoop aware cross sw T S o r q R C fuel st = .ok st' → P st' := by
  intro fuel
  induction fuel with
  | zero => intro st st' hp h; cases h; exact hp
  | succ fuel ih =>
    intro st st' hp h
    rcases tbLoop_succ_ok h with ⟨rfl, _⟩ | ⟨v, mv, pl, add, hf, h'⟩
    · exact hp
    · exact ih _ _ (step st v mv pl add hp hf) h'

/-- with enough fuel the loop is only left where the code leaves it -/
theorem tbLoop_stopped :
    ∀ (fuel : Nat) (st st' : TB), tbLoop aware cross sw T S o r q R C fuel st = .ok st' →
      st.i + st.j ≤ fuel → Stopped sw T st' := by
  intro fuel
  induction fuel with
  | zero => intro st st' h hf; cases h; exact Or.inl (by omega)
  | succ fuel ih =>
    intro st st' h hf
    rcases tbLoop_succ_ok h with ⟨rfl, hs⟩ | ⟨v, mv, pl, add, hfire, h'⟩
    · exact hs
    · have := stepOf_lt T R C st v mv pl hfire.hi hfire.hj
      exact ih _ _ h' (by omega)

end

theorem Stopped.border {T : Table} {st : TB} (h : Stopped false T st) : st.i = 0 ∨ st.j = 0 := by
  rcases h with e | e | e
  · exact Or.inl e
  · exact Or.inr e
  · cases e.1

theorem gapLayer_sel (cross : Bool) (o g : Int) (pd ps po : V) (v : Int)
    (h : gapLayer cross o g pd ps po = some v) :
    vadd pd (o + g) = some v ∨ vadd ps g = some v ∨ (cross = true ∧ vadd po (o + g) = some v) := by
  cases cross with
  | false =>
    rcases (max2_spec (vadd pd (o + g)) (vadd ps g)).1 with e | e
    · exact Or.inl (e ▸ h)
    · exact Or.inr (Or.inl (e ▸ h))
  | true =>
    rcases max3_sel (vadd pd (o + g)) (vadd ps g) (vadd po (o + g)) with e | e | e
    · exact Or.inl (e ▸ h)
    · exact Or.inr (Or.inl (e ▸ h))
    · exact Or.inr (Or.inr ⟨rfl, e ▸ h⟩)

theorem max3_get (c : Cell) : ∃ k, max3 c.d c.u c.l = c.get k := by
  rcases max3_sel c.d c.u c.l with e | e | e
  · exact ⟨.m, e⟩
  · exact ⟨.u, e⟩
  · exact ⟨.l, e⟩

theorem mem_cands_diag (cross sw : Bool) (S : Matrix) (o : Int) (x y : Nat) (k : Kind) :
    (Kind.m, k, S x y) ∈ cands cross sw S o x y :=
  List.mem_append_right _ (by cases sw <;> cases k <;> simp)

theorem mem_cands_gap (cross sw : Bool) (S : Matrix) (o : Int) (x y : Nat) :
    (Kind.u, Kind.u, S x 0) ∈ cands cross sw S o x y ∧ (Kind.l, Kind.l, S 0 y) ∈ cands cross sw S o x y ∧
    (Kind.u, Kind.m, o + S x 0) ∈ cands cross sw S o x y ∧ (Kind.l, Kind.m, o + S 0 y) ∈ cands cross sw S o x y := by
  refine ⟨?_, ?_, ?_, ?_⟩ <;> exact List.mem_append_left _ (List.mem_append_left _ (by simp))

theorem mem_cands_cross (sw : Bool) (S : Matrix) (o : Int) (x y : Nat) :
    (Kind.u, Kind.l, o + S x 0) ∈ cands true sw S o x y ∧ (Kind.l, Kind.u, o + S 0 y) ∈ cands true sw S o x y := by
  constructor <;> exact List.mem_append_left _ (List.mem_append_right _ (by simp))

theorem exists_cand_of_inner (cross sw : Bool) (T : Table) (S : Matrix) (o : Int) (x y i j : Nat) (k : Kind) (v : Int)
    (h : (nwCell cross S o x (T.at i j) (T.at i (j + 1)) (T.at (i + 1) j) y).get k = some v) :
    ∃ cd ∈ cands cross sw S o x y, cd.1 = k ∧
      vadd ((predOf T (i + 1) (j + 1) cd.1).get cd.2.1) cd.2.2 = some v := by
  obtain ⟨huu, hll, hum, hlm⟩ := mem_cands_gap cross sw S o x y
  cases k with
  | m =>
    obtain ⟨k', hk'⟩ := max3_get (T.at i j)
    exact ⟨(.m, k', S x y), mem_cands_diag cross sw S o x y k', rfl, hk' ▸ h⟩
  | u =>
    rcases gapLayer_sel cross o _ _ _ _ v h with e | e | ⟨rfl, e⟩
    · exact ⟨_, hum, rfl, e⟩
    · exact ⟨_, huu, rfl, e⟩
    · exact ⟨_, (mem_cands_cross sw S o x y).1, rfl, e⟩
  | l =>
    rcases gapLayer_sel cross o _ _ _ _ v h with e | e | ⟨rfl, e⟩
    · exact ⟨_, hlm, rfl, e⟩
    · exact ⟨_, hll, rfl, e⟩
    · exact ⟨_, (mem_cands_cross sw S o x y).2, rfl, e⟩

/-- every value of an inner cell comes from a predecessor cell through a `case` of the switch *for its own
    layer* (unless the local aligner stops on it), so the layer-aware switch finds one as well as the layer-blind -/
def Covered (cross sw : Bool) (T : Table) (S : Matrix) (o : Int) (r q : List Nat) (R C : Nat) : Prop :=
  ∀ i j, i < R → j < C → ∀ k v, (T.at (i + 1) (j + 1)).get k = some v → ¬ (sw = true ∧ v = 0) →
    ∃ cd ∈ cands cross sw S o (r.getD i 0) (q.getD j 0), cd.1 = k ∧
      vadd ((predOf T (i + 1) (j + 1) cd.1).get cd.2.1) cd.2.2 = some v

def Good (T : Table) (R C : Nat) (B : Int) (st : TB) : Prop :=
  st.i ≤ R ∧ st.j ≤ C ∧ ∃ v, (T.at st.i st.j).get st.layer = some v ∧ total st.aln + st.score + v = B

theorem good_step {aware cross sw : Bool} {T : Table} {S : Matrix} {o : Int} {r q : List Nat} {R C : Nat} {B : Int}
    {st : TB} {v : Int} {mv pl : Kind} {add : Int} (hg : Good T R C B st)
    (hf : Fires aware cross sw T S o r q st v mv pl add) : Good T R C B (stepOf T R C st v mv pl) := by
  obtain ⟨hi, hj, v', hv', hsum⟩ := hg
  obtain ⟨pv, hpv, hadd⟩ := hf.pred
  cases hv'.symm.trans hf.val
  refine ⟨?_, ?_, pv, ?_, ?_⟩
  · rw [move_i]; split <;> omega
  · rw [move_j]; split <;> omega
  · rw [move_i, move_j, move_layer, ← predOf_eq]; exact hpv
  · rw [move_sum, hpv]; simp only [vget]; omega

section
variable {aware cross sw : Bool} {T : Table} {S : Matrix} {o : Int} {r q : List Nat} {R C : Nat} {B : Int} {st : TB}

theorem Good.fires (H : Covered cross sw T S o r q R C)
    (hg : Good T R C B st) (hs : ¬ Stopped sw T st) :
    ∃ v mv pl add, Fires aware cross sw T S o r q st v mv pl add := by
  obtain ⟨hi, hj, v, hv, _⟩ := hg
  have hgo : ¬ (sw = true ∧ v = 0) := fun h => hs (Or.inr (Or.inr ⟨h.1, by rw [hv, h.2]⟩))
  have hi0 : 0 < st.i := Nat.pos_of_ne_zero fun e => hs (Or.inl e)
  have hj0 : 0 < st.j := Nat.pos_of_ne_zero fun e => hs (Or.inr (Or.inl e))
  have hi1 : st.i - 1 + 1 = st.i := Nat.sub_add_cancel hi0
  have hj1 : st.j - 1 + 1 = st.j := Nat.sub_add_cancel hj0
  obtain ⟨cd, hmem, hcdk, hcd⟩ :=
    H (st.i - 1) (st.j - 1) (by omega) (by omega) st.layer v (by rw [hi1, hj1]; exact hv) hgo
  rw [hi1, hj1] at hcd
  cases hfind : (cands cross sw S o (r.getD (st.i - 1) 0) (q.getD (st.j - 1) 0)).find?
      (caseHit aware T st v) with
  | none => exact absurd (caseHit_of hcdk hcd) (List.find?_eq_none.1 hfind cd hmem)
  | some found => exact ⟨v, found.1, found.2.1, found.2.2, hi0, hj0, hv, hgo, hfind⟩

end

theorem tbLoop_run {aware cross sw : Bool} {T : Table} {S : Matrix} {o : Int} {r q : List Nat} {R C : Nat}
    {P : TB → Prop}
    (step : ∀ st v mv pl add, P st → Fires aware cross sw T S o r q st v mv pl add → P (stepOf T R C st v mv pl))
    (fires : ∀ st, P st → ¬ Stopped sw T st → ∃ v mv pl add, Fires aware cross sw T S o r q st v mv pl add) :
    ∀ (fuel : Nat) (st : TB), P st → st.i + st.j ≤ fuel →
      ∃ st', tbLoop aware cross sw T S o r q R C fuel st = .ok st' ∧ P st' ∧ Stopped sw T st' := by
  intro fuel
  induction fuel with
  | zero => intro st hp hf; exact ⟨st, rfl, hp, Or.inl (by omega)⟩
  | succ fuel ih =>
    intro st hp hf
    by_cases hs : Stopped sw T st
    · exact ⟨st, tbLoop_of_stopped hs _, hp, hs⟩
    obtain ⟨v, mv, pl, add, hfire⟩ := fires st hp hs
    have := stepOf_lt T R C st v mv pl hfire.hi hfire.hj
    obtain ⟨st', h1, h2⟩ := ih _ (step st v mv pl add hp hfire) (by omega)
    exact ⟨st', by rw [tbLoop_fire hfire]; exact h1, h2⟩

theorem nwAlignT_ok {aware cross : Bool} {S : Matrix} {o : Int} {r q : List Nat} {ps : List Pair} {t : Bool} :
    nwAlignT aware cross S o r q = .ok (ps, t) ↔
      ∃ st, tbLoop aware cross false (nwTable cross S o r q) S o r q r.length q.length (r.length + q.length)
          { i := r.length, j := q.length, layer := bestLayer ((nwTable cross S o r q).at r.length q.length),
            last := .m, score := 0, maxI := r.length, maxJ := q.length, aln := [] } = .ok st ∧
        st.tie = t ∧
        (if st.i ≠ st.j then
          ⟨0, st.i, 0, st.j, vget (((nwTable cross S o r q).at st.i st.j).get (if st.i = 0 then .l else .u))⟩ ::
            st.emit.aln
         else st.emit.aln) = ps := by
  unfold nwAlignT
  simp only []
  generalize tbLoop aware cross false _ S o r q _ _ _ _ = x
  cases x with
  | error e => exact ⟨nofun, fun ⟨_, h, _⟩ => nomatch h⟩
  | ok st =>
    simp only []
    constructor
    · intro h
      refine ⟨st, rfl, ?_⟩
      split at h
      · cases h; exact ⟨rfl, if_pos ‹_›⟩
      · cases h; exact ⟨rfl, if_neg ‹_›⟩
    · rintro ⟨_, ⟨rfl⟩, rfl, rfl⟩
      split <;> rfl

theorem swAlignT_ok {aware cross : Bool} {S : Matrix} {o : Int} {r q : List Nat} {ps : List Pair} {t : Bool}
    {s : Int} {mi mj : Nat} (hbest : swBest (swRows cross S o r q) = (s, mi, mj)) :
    swAlignT aware cross S o r q = .ok (ps, t) ↔
      ∃ st, tbLoop aware cross true (swTable cross S o r q) S o r q r.length q.length (mi + mj)
          { i := mi, j := mj, layer := .m, last := .m, score := 0, maxI := mi, maxJ := mj, aln := [] } = .ok st ∧
        st.tie = t ∧ st.emit.aln = ps := by
  unfold swAlignT
  simp only [hbest]
  generalize tbLoop aware cross true _ S o r q _ _ _ _ = x
  cases x with
  | error e => exact ⟨nofun, fun ⟨_, h, _⟩ => nomatch h⟩
  | ok st =>
    simp only []
    constructor
    · intro h; cases h; exact ⟨st, rfl, rfl, rfl⟩
    · rintro ⟨_, ⟨rfl⟩, rfl, rfl⟩; rfl

theorem fitAlignT_ok {aware cross ends : Bool} {S : Matrix} {o : Int} {r q : List Nat} {ps : List Pair} {t : Bool}
    {e : Nat} {lay : Kind}
    (hstart : (if ends then fitEnd3 (fitTable cross S o r q) q.length r.length 1 (0, .m, none)
      else (fitEnd (fitTable cross S o r q) q.length r.length 1 (0, none), Kind.m)) = (e, lay)) :
    fitAlignT aware cross ends S o r q = .ok (ps, t) ↔
      ∃ st, tbLoop aware cross false (fitTable cross S o r q) S o r q r.length q.length (e + q.length)
          { i := e, j := q.length, layer := lay, last := lay, score := 0, maxI := e, maxJ := q.length, aln := [] }
            = .ok st ∧
        st.tie = t ∧
        (if st.j ≠ 0 then ⟨st.i, st.i, 0, st.j, vget ((fitTable cross S o r q).at st.i st.j).l⟩ :: st.emit.aln
         else st.emit.aln) = ps := by
  unfold fitAlignT
  simp only [hstart]
  generalize tbLoop aware cross false _ S o r q _ _ _ _ = x
  cases x with
  | error e => exact ⟨nofun, fun ⟨_, h, _⟩ => nomatch h⟩
  | ok st =>
    simp only []
    constructor
    · intro h
      refine ⟨st, rfl, ?_⟩
      split at h
      · cases h; exact ⟨rfl, if_pos ‹_›⟩
      · cases h; exact ⟨rfl, if_neg ‹_›⟩
    · rintro ⟨_, ⟨rfl⟩, rfl, rfl⟩
      split <;> rfl

end Biogo.Proofs.TraceSum
