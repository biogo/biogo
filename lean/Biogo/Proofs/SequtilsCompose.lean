/-
Compose of the heap model: the first loop makes one scratch copy per feature, the second appends
them to the result, reversing in place the copies of reverse features (core only).
-/
import Biogo.Proofs.SequtilsStitch

namespace Biogo.Sequtils

variable {α : Type} [Inhabited α]

/-- the `seg` of `composeSpec`: what the scratch copy made for `f` has to show -/
def segOf (xs : List α) (offset : Int) (f : Feat) : List α :=
  lettersAt xs offset (segPositions offset (offset + xs.length) f)

/-- what the first loop hands the second for a pair (feature, copy): a buffer made since `h0` that shows the segment -/
def Scratch (seg : Feat → List α) (h0 h : Heap α) (p : Feat × Sl) : Prop :=
  Building h0 h p.2 ∧ read h p.2 = seg p.1

theorem composeCopy_wf (sl : Sl) (offset pLen : Int) :
    ∀ (fs : List Feat) (h : Heap α) (r : Heap α × List Sl), composeCopy sl offset pLen h fs = .ok r →
      ∀ f ∈ fs, f.s ≤ f.e := by
  intro fs
  induction fs with
  | nil => exact fun _ _ _ _ hf => nomatch hf
  | cons f fs ih =>
    intro h r hr
    unfold composeCopy at hr
    dsimp only at hr
    split at hr
    · cases hr
    rename_i hf
    -- whichever way the copy is made, the loop goes on and answers
    have hrec : ∃ (hc : Heap α) (r' : Heap α × List Sl), composeCopy sl offset pLen hc fs = .ok r' := by
      split at hr
      · cases hr
      split at hr
      · split at hr
        · cases hr
        split at hr
        · cases hr
        exact ⟨_, _, ‹_›⟩
      · split at hr
        · cases hr
        exact ⟨_, _, ‹_›⟩
    obtain ⟨hc, r', hrec⟩ := hrec
    intro g hg
    rcases List.mem_cons.mp hg with rfl | hg
    · exact Int.not_lt.mp hf
    · exact ih hc r' hrec g hg

theorem composeCopy_correct (h0 : Heap α) (src : Seq) (wf : WF h0 src.sl) :
    ∀ (fs : List Feat) (h : Heap α), Keeps h0 h → (∀ f ∈ fs, f.s ≤ f.e) →
      ∃ h2 ts, composeCopy src.sl src.offset src.sl.len h fs = .ok (h2, ts) ∧
        Keeps h h2 ∧ ts.length = fs.length ∧
        (∀ p ∈ fs.zip ts, Scratch (segOf (read h0 src.sl) src.offset) h h2 p) ∧
        List.Pairwise (fun p q : Feat × Sl => p.2.arr ≠ q.2.arr) (fs.zip ts) := by
  have hseg : ∀ f, segOf (read h0 src.sl) src.offset f =
      lettersAt (read h0 src.sl) src.offset (intRange (max f.s src.offset) (min f.e src.stop)) := by
    intro f
    rw [segOf, segPositions, stop_eq h0 src wf]
  have hstop : src.stop = src.offset + src.sl.len := rfl
  intro fs
  induction fs with
  | nil => exact fun h _ _ => ⟨h, [], rfl, Keeps.refl _, rfl, fun _ hp => (nomatch hp), List.Pairwise.nil⟩
  | cons f fs ih =>
    intro h hk hwf
    unfold composeCopy
    dsimp only
    -- `d`: the length of the clipped feature, negative when it lies outside the sequence
    rw [if_neg (Int.not_lt.mpr (hwf f List.mem_cons_self)),
      show (↑src.sl.len + src.offset : Int) = src.stop from Int.add_comm _ _]
    generalize hd : min f.e src.stop - max f.s src.offset = d
    obtain ⟨h1, t, hmk⟩ := mk_ne_panic h (max 0 d) (max 0 d) (Int.le_max_left _ _) (Int.le_refl _)
    obtain ⟨-, l1, b1, e1⟩ := mk_spec h _ _ h1 t hmk
    rw [hmk]
    dsimp only
    -- the state after the optional copy: `hc`, in which `t` shows the segment
    have main : ∀ (hc : Heap α), Building h hc t → read hc t = segOf (read h0 src.sl) src.offset f →
        ∃ h2 ts', composeCopy src.sl src.offset src.sl.len hc fs = .ok (h2, ts') ∧
          Keeps h h2 ∧ (t :: ts').length = (f :: fs).length ∧
          (∀ p ∈ (f :: fs).zip (t :: ts'), Scratch (segOf (read h0 src.sl) src.offset) h h2 p) ∧
          List.Pairwise (fun p q : Feat × Sl => p.2.arr ≠ q.2.arr) ((f :: fs).zip (t :: ts')) := by
      intro hc bc rc
      obtain ⟨h2, ts', hrec, i1, i2, i3, i4⟩ :=
        ih hc (hk.trans bc.keeps) (fun g hg => hwf g (List.mem_cons_of_mem _ hg))
      refine ⟨h2, ts', hrec, bc.keeps.trans i1, by rw [List.length_cons, List.length_cons, i2], ?_, ?_⟩
      · intro p hp
        rw [List.zip_cons_cons, List.mem_cons] at hp
        rcases hp with rfl | hp
        · exact ⟨bc.after i1, by rw [i1.read bc.wf.1]; exact rc⟩
        · exact ⟨(i3 p hp).1.of_keeps bc.keeps, (i3 p hp).2⟩
      · rw [List.zip_cons_cons, List.pairwise_cons]
        -- `t` lies in `hc`, the later copies are allocated after it
        exact ⟨fun p hp => Nat.ne_of_lt (Nat.lt_of_lt_of_le bc.wf.1 (i3 p hp).1.fresh), i4⟩
    split
    · rename_i hpos
      -- a non-empty clipped interval gives slice bounds in order
      obtain ⟨x, hx, rx, lx⟩ := read_clip h0 h1 src f.s f.e wf (hk.trans b1.keeps) (by
        rw [clip_lo, clip_hi, ← hstop]
        generalize min f.e src.stop = B at hd ⊢
        generalize max f.s src.offset = A at hd ⊢
        omega)
      rw [hd] at lx
      obtain ⟨bc, ec⟩ := b1.copy x (by rw [lx, l1]; omega)
      obtain ⟨h2, ts', hrec, inv⟩ := main _ bc (by rw [ec, rx, hseg])
      rw [hx]
      dsimp only
      rw [hrec]
      exact ⟨h2, t :: ts', rfl, inv⟩
    · rename_i hnpos
      have hz : (max 0 d).toNat = 0 := by omega
      obtain ⟨h2, ts', hrec, inv⟩ := main h1 b1 (by
        rw [e1, hz, hseg, intRange_empty _ _ (Int.le_of_sub_nonpos (by rw [hd]; omega))]
        rfl)
      rw [hrec]
      exact ⟨h2, t :: ts', rfl, inv⟩

/-- `c` is the result under construction; the copies are buffers apart from it and from each other -/
theorem composeAppend_spec (seg : Feat → List α) (h0 : Heap α) (rev : Option (α → α)) :
    ∀ (pairs : List (Feat × Sl)) (h : Heap α) (c : Sl) (h' : Heap α) (c' : Sl),
      Building h0 h c → (∀ p ∈ pairs, Scratch seg h0 h p ∧ p.2.arr ≠ c.arr) →
      List.Pairwise (fun p q : Feat × Sl => p.2.arr ≠ q.2.arr) pairs →
      composeAppend rev (h, c) pairs = .ok (h', c') →
      read h' c' = read h c ++ pairs.flatMap (fun p =>
          if p.1.o = orientReverse then revComp (rev.getD id) (seg p.1) else seg p.1) ∧
      Building h0 h' c' := by
  intro pairs
  induction pairs with
  | nil =>
    intro h c h' c' b _ _ hr
    simp only [composeAppend, Except.ok.injEq, Prod.mk.injEq] at hr
    obtain ⟨rfl, rfl⟩ := hr
    exact ⟨(List.append_nil _).symm, b⟩
  | cons p rest ih =>
    intro h c h' c' b hg hd hr
    obtain ⟨f, t⟩ := p
    obtain ⟨⟨bt, rt⟩, hct⟩ := hg (f, t) List.mem_cons_self
    rw [List.pairwise_cons] at hd
    -- appending `t`, which shows `sg` in a heap `hx` that differs from `h` at most in the array of `t`
    have step : ∀ (hx : Heap α) (sg : List α), Frame h hx t.arr → Building h0 hx t → read hx t = sg →
        composeAppend rev (append hx c t) rest = .ok (h', c') →
        read h' c' = read h c ++ (sg ++ rest.flatMap (fun p =>
          if p.1.o = orientReverse then revComp (rev.getD id) (seg p.1) else seg p.1)) ∧
        Building h0 h' c' := by
      intro hx sg fr bx hrt hrec
      obtain ⟨bc, ec⟩ := b.frame fr bt.fresh (Ne.symm hct)
      obtain ⟨b2, e2⟩ := bc.append t
      have hg2 : ∀ q ∈ rest, Scratch seg h0 (append hx c t).1 q ∧ q.2.arr ≠ (append hx c t).2.arr := by
        intro q hq
        obtain ⟨⟨bq, rq⟩, hqc⟩ := hg q (List.mem_cons_of_mem _ hq)
        obtain ⟨bq1, rq1⟩ := bq.frame fr bt.fresh (fun e => hd.1 q hq e.symm)
        obtain ⟨bq2, rq2⟩ := bq1.frame (frame_append hx c t) b.fresh hqc
        refine ⟨⟨bq2, by rw [rq2, rq1, rq]⟩, ?_⟩
        rcases append_arr hx c t with e | e <;> rw [e]
        · exact hqc
        · exact Nat.ne_of_lt bq1.wf.1
      obtain ⟨r1, r2⟩ := ih _ _ h' c' b2 hg2 hd.2 hrec
      exact ⟨by rw [r1, e2, hrt, ec, List.append_assoc], r2⟩
    rw [List.flatMap_cons]
    unfold composeAppend at hr
    split at hr
    · rename_i hrev
      cases rev with
      | none => cases hr
      | some rc =>
        obtain ⟨br, er⟩ := bt.revInPlace rc
        rw [if_pos hrev]
        exact step (revInPlace rc h t) _ (frame_revInPlace rc h t) br (by rw [er, rt]; rfl) hr
    · rename_i hrev
      rw [if_neg hrev]
      exact step h (seg f) (Frame.refl h _) bt rt hr

theorem compose_cases (rev : Option (α → α)) (h : Heap α) (src : Seq) (fs : List Feat) (h' : Heap α) (r : Seq)
    (wf : WF h src.sl) (hr : compose rev h src fs = .ok (h', r)) :
    read h' r.sl = composeSpec (rev.getD id) (read h src.sl) src.offset fs ∧
    Keeps h h' ∧ h.length ≤ r.sl.arr ∧ r.offset = 0 ∧ r.conf = confLinear := by
  obtain ⟨⟨h1, ts⟩, hcp, hr⟩ := bind_eq_ok hr
  obtain ⟨⟨h2, c⟩, hmk, hr⟩ := bind_eq_ok hr
  obtain ⟨⟨h3, c'⟩, hap, hr⟩ := bind_eq_ok hr
  cases hr
  obtain ⟨_, _, hcp', c1, c2, c3, c4⟩ :=
    composeCopy_correct h src wf fs h (Keeps.refl _) (composeCopy_wf _ _ _ fs h _ hcp)
  rw [hcp] at hcp'
  cases hcp'
  obtain ⟨-, -, b2, e2⟩ := mk_spec h1 _ _ h2 c hmk
  -- the copies lie in `h1`, the result is allocated after it
  have hg : ∀ p ∈ fs.zip ts, Scratch (segOf (read h src.sl) src.offset) h h2 p ∧ p.2.arr ≠ c.arr :=
    fun p hp => ⟨⟨(c3 p hp).1.after b2.keeps, by rw [b2.keeps.read (c3 p hp).1.wf.1]; exact (c3 p hp).2⟩,
      Nat.ne_of_lt (Nat.lt_of_lt_of_le (c3 p hp).1.wf.1 b2.fresh)⟩
  obtain ⟨r1, b3⟩ := composeAppend_spec _ h rev (fs.zip ts) h2 c _ _ (b2.of_keeps c1) hg c4 hap
  refine ⟨?_, b3.keeps, b3.fresh, rfl, rfl⟩
  rw [r1, e2, ← List.flatMap_map Prod.fst (fun f => if f.o = orientReverse then
      revComp (rev.getD id) (segOf (read h src.sl) src.offset f) else segOf (read h src.sl) src.offset f),
    List.map_fst_zip (Nat.le_of_eq c2.symm)]
  rfl

omit [Inhabited α] in
theorem composeAppend_ok (rev : Option (α → α)) :
    ∀ (pairs : List (Feat × Sl)) (st : Heap α × Sl),
      (rev.isSome ∨ ∀ p ∈ pairs, p.1.o ≠ orientReverse) → ∃ r, composeAppend rev st pairs = .ok r := by
  intro pairs
  induction pairs with
  | nil => intro st _; exact ⟨st, by simp [composeAppend]⟩
  | cons p rest ih =>
    intro st hrev
    obtain ⟨h, c⟩ := st
    obtain ⟨f, t⟩ := p
    have hrest : rev.isSome ∨ ∀ p ∈ rest, p.1.o ≠ orientReverse :=
      hrev.imp id fun b q hq => b q (List.mem_cons_of_mem _ hq)
    unfold composeAppend
    split
    · rename_i hr
      cases rev with
      | none =>
        rcases hrev with a | b
        · cases a
        · exact absurd hr (b (f, t) List.mem_cons_self)
      | some rc => exact ih _ hrest
    · exact ih _ hrest

theorem compose_ok (rev : Option (α → α)) (h : Heap α) (src : Seq) (fs : List Feat) (wf : WF h src.sl)
    (hfs : ∀ f ∈ fs, f.s ≤ f.e) (hrev : rev.isSome ∨ ∀ f ∈ fs, f.o ≠ orientReverse) :
    ∃ x, compose rev h src fs = .ok x := by
  obtain ⟨h1, ts, hcp, -⟩ := composeCopy_correct h src wf fs h (Keeps.refl _) hfs
  obtain ⟨h2, c, hmk⟩ := mk_ne_panic h1 0 _ (Int.le_refl 0)
    (sum_map_nonneg (fun t : Sl => (t.len : Int)) (fun t => Int.natCast_nonneg t.len) ts)
  obtain ⟨⟨h3, c'⟩, hap⟩ := composeAppend_ok rev (fs.zip ts) (h2, c)
    (hrev.imp id fun b p hp => b p.1 (List.of_mem_zip hp).1)
  unfold compose
  simp only [bind, Except.bind, pure, Except.pure, hcp, hmk, hap]
  exact ⟨_, rfl⟩

end Biogo.Sequtils
