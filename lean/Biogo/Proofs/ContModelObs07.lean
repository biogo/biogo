/-
The model's observations satisfy the declarative step statements of C07 that the executable laws
are proved to imply (`Laws.DeleteSpec`, `Laws.RangeSpec`, `Laws.AppendColsSpec`), for
column-stored alignments and multis in well-formed states.
-/
import Biogo.Proofs.ContLawsSound
import Biogo.Proofs.ContSepWorld

namespace Biogo.Containers
open Biogo.Go Biogo.Containers.Laws

theorem map_eraseIdx' {α β : Type} (f : α → β) : ∀ (l : List α) (i : Nat),
    (l.eraseIdx i).map f = (l.map f).eraseIdx i := by
  intro l
  induction l with
  | nil => intro i; rfl
  | cons r rs ih =>
    intro i
    cases i with
    | zero => rfl
    | succ i => simp only [List.eraseIdx_cons_succ, List.map_cons, ih]

theorem model_delete_multi (cx : Ctx) (h : Cells) (m : Multi) (i : Nat) (hi : i < m.nrows) :
    DeleteSpec (viewObj cx h (.multi m)) (viewObj cx h (.multi (m.delete i))) i := by
  refine ⟨?_, ?_⟩
  · show (m.delete i).rows.map (linRowV h) = (m.rows.map (linRowV h)).eraseIdx i
    exact map_eraseIdx' _ _ _
  · show (m.delete i).nrows + 1 = m.nrows
    simp only [Multi.delete, Multi.nrows, List.length_eraseIdx] at hi ⊢
    simp [hi]; omega

/-- the index before `eraseIdx i` of what stands at `r` after it (`getD_eraseIdx`) -/
def skipIdx (i r : Nat) : Nat := if r < i then r else r + 1

theorem eraseIdx_map_range {β : Type} (n i : Nat) (f : Nat → β) (hi : i < n) :
    ((List.range n).map f).eraseIdx i = (List.range (n - 1)).map fun r => f (skipIdx i r) := by
  apply List.ext_getElem?
  intro k
  rw [List.getElem?_eraseIdx, List.getElem?_map, List.getElem?_map, List.getElem?_map]
  by_cases hk : k < n - 1
  · rw [List.getElem?_range hk]
    by_cases hki : k < i
    · simp only [hki, if_true, skipIdx, Option.map_some]
      rw [List.getElem?_range (by omega)]; rfl
    · simp only [hki, if_false, skipIdx, Option.map_some]
      rw [List.getElem?_range (by omega)]; rfl
  · have h1 : (List.range (n - 1))[k]? = none := by
      rw [List.getElem?_eq_none_iff]; simp; omega
    rw [h1]
    by_cases hki : k < i
    · omega
    · simp only [hki, if_false, Option.map_none]
      have h2 : (List.range n)[k + 1]? = none := by
        rw [List.getElem?_eq_none_iff]; simp; omega
      rw [h2]; rfl

theorem getD_eraseIdx {β : Type} (l : List β) (i r : Nat) (d : β) :
    (l.eraseIdx i).getD r d = l.getD (skipIdx i r) d := by
  simp only [List.getD_eq_getElem?_getD, List.getElem?_eraseIdx, skipIdx]
  by_cases hr : r < i <;> simp [hr]

theorem model_delete_aln (cx : Ctx) (h : Cells) (a : Aln) (n : Nat) (hc : ColsCapWF h n a.cols) (i : Nat)
    (hi : i < a.rows) :
    DeleteSpec (viewObj cx h (.aln a)) (viewObj cx (a.delete h i).1 (.aln (a.delete h i).2)) i := by
  have hne : a.cols ≠ [] := Aln.ne_nil_of_lt_rows hi
  have hrows : a.rows = n := Aln.rows_eq hc hne
  have hin : i < n := Aln.lt_of_lt_rows hc hi
  obtain ⟨hall, _⟩ := delCols_spec i n hin a.cols h hc.toColsWF hc.cap
  obtain ⟨cols', hcols⟩ : ∃ cols', cols' = (thread (fun h c => Aln.delCol h c i) a.cols h).2 := ⟨_, rfl⟩
  rw [← hcols] at hall
  have hcols' : (a.delete h i).2.cols = cols' := by rw [Aln.delete_thread, hcols]
  have hheap : (a.delete h i).1 = (thread (fun h c => Aln.delCol h c i) a.cols h).1 := by rw [Aln.delete_thread]
  have hsubs : (a.delete h i).2.subs = a.subs.eraseIdx i := rfl
  have hq : (a.delete h i).2.q = a.q := rfl
  have hlen : cols'.length = a.cols.length := hall.length_eq.symm
  have hrows' : (a.delete h i).2.rows = n - 1 := by
    simp only [Aln.rows, Aln.rows?, hcols']
    have h0 : 0 < a.cols.length := List.length_pos_iff.mpr hne
    have h0' : 0 < cols'.length := by rw [hlen]; exact h0
    have := (hall.get 0 _ _ (List.getElem?_eq_getElem h0) (List.getElem?_eq_getElem h0')).2
    rw [List.head?_eq_getElem?, List.getElem?_eq_getElem h0']
    simp only [Option.map_some, Option.getD_some]; rw [this]
  have hrowL : ∀ r, (a.delete h i).2.rowLetters (a.delete h i).1 r = a.rowLetters h (skipIdx i r) := by
    intro r
    simp only [Aln.rowLetters, hcols', hq, hheap]
    refine (hall.map_eq _ _ fun c c' hcc => ?_).symm
    simp only [Heap.get, Heap.get?_eq_read, hcc.1, ← List.getD_eq_getElem?_getD, getD_eraseIdx]
  refine ⟨?_, ?_⟩
  · show (viewObj cx (a.delete h i).1 (.aln (a.delete h i).2)).rows = (viewObj cx h (.aln a)).rows.eraseIdx i
    simp only [viewObj, hrows', hrows]
    rw [eraseIdx_map_range n i _ hin]
    apply List.map_congr_left
    intro r _
    simp only [hsubs, getD_eraseIdx, hrowL, hq, Aln.len, hcols', hlen]
  · show (a.delete h i).2.rows + 1 = a.rows
    rw [hrows', hrows]; omega

theorem model_truncate_multi (cx : Ctx) (h : Cells) (m : Multi) (hwf : RowsCapWF h m.rows) (st en : Int)
    (hse : st ≤ en) (hcov : ∀ r ∈ m.rows, r.start ≤ st ∧ en ≤ r.«end») :
    (m.truncate st en).2 = true ∧
    RangeSpec (viewObj cx h (.multi m)) (viewObj cx h (.multi (m.truncate st en).1)) st en := by
  have hall : ∀ r ∈ m.rows, (r.truncate st en).isSome = true := fun r hr =>
    Lin.truncate_isSome r st en (hcov r hr).1 hse (hcov r hr).2 (hwf.1 r hr).2.1
  obtain ⟨hok, hrows⟩ := Multi.truncate_spec m st en hall
  refine ⟨hok, by simp [viewObj, hrows.length_eq], ?_⟩
  intro i rb hb
  simp only [viewObj, List.getElem?_map, Option.map_eq_some_iff] at hb
  obtain ⟨l, hl, rfl⟩ := hb
  have hil : i < (m.truncate st en).1.rows.length := by
    rw [← hrows.length_eq]; exact (List.getElem?_eq_some_iff.mp hl).1
  have hl' := List.getElem?_eq_getElem hil
  obtain ⟨s1, s2, s3, s4, s5, s6, _⟩ := Lin.truncate_spec h l _ st en (hrows.get i l _ hl hl')
  exact ⟨linRowV h (m.truncate st en).1.rows[i], by simp only [viewObj, List.getElem?_map, hl', Option.map_some],
    s2, s3, ⟨s5, s6, s4⟩, s1⟩

theorem appendColumns_facts (cx : Ctx) (h h' : Cells) (a a' : Aln) (rows : Nat) (colsIn : List (List QL))
    (hv : a.ColsValid h) (happ : a.appendColumns cx h rows colsIn = some (h', a')) :
    ∃ news, a'.cols = a.cols ++ news ∧
      (∀ c ∈ a.cols, h'.read c = h.read c) ∧
      All2 (fun c s => h'.read s = c.map (Lin.stored a.q) ∧ c.length = rows ∧
          h.arrays.length ≤ s.arr ∧ s.arr < h'.arrays.length) colsIn news ∧
      (∀ b, b < h.arrays.length → h'.arr b = h.arr b) ∧
      a'.q = a.q ∧ a'.subs = a.subs ∧ a'.strand = a.strand ∧ a'.off = a.off := by
  obtain ⟨hlen, rfl, rfl⟩ := Aln.appendColumns_some happ
  obtain ⟨hall, _, hext⟩ := newColumns_spec cx a.q colsIn h
  exact ⟨_, rfl, fun c hc => read_congr_arr _ _ _ (hext.old _ (hv c hc)),
    hall.imp_mem fun c s hc hcs => ⟨hcs.1, hlen c hc, hcs.2.2.1, hcs.2.1.1⟩, hext.old, rfl, rfl, rfl, rfl⟩

theorem model_appendCols_aln (cx : Ctx) (h : Cells) (a : Aln) (n : Nat) (hc : ColsCapWF h n a.cols)
    (rows : Nat) (hr : a.rows? = some rows) (colsIn : List (List QL)) (h' : Cells) (a' : Aln)
    (happ : a.appendColumns cx h rows colsIn = some (h', a')) :
    AppendColsSpec (viewObj cx h (.aln a)) (viewObj cx h' (.aln a')) colsIn := by
  have hrn : rows = n := Aln.rows?_eq hc hr
  subst hrn
  obtain ⟨news, hcols, hold, hnews, _, hq, hsubs, _⟩ :=
    appendColumns_facts cx h h' a a' rows colsIn (fun c hm => (hc.1.1 c hm).1) happ
  have hrows : a.rows = rows := by simp only [Aln.rows, hr, Option.getD_some]
  have hrows' : a'.rows = rows := by
    obtain ⟨c, hc0, hcl⟩ := Option.map_eq_some_iff.mp (hr : a.cols.head?.map (·.len) = some rows)
    simp only [Aln.rows, Aln.rows?, hcols, List.head?_append, hc0, Option.some_or, Option.map_some,
      Option.getD_some, hcl]
  have hnl : news.length = colsIn.length := hnews.length_eq.symm
  refine ⟨by simp [viewObj, hrows, hrows'], by simp only [viewObj, hrows, hrows'], ?_⟩
  intro j rb hb
  simp only [viewObj, hrows] at hb
  rw [LTS.getElem?_map_range] at hb
  obtain ⟨hi, rfl⟩ := hb
  refine ⟨_, by simp only [viewObj, hrows']; rw [LTS.getElem?_map_range]; exact ⟨hi, rfl⟩, ?_⟩
  simp only [hsubs, hq, Aln.len, hcols, List.length_append, hnl]
  refine ⟨?_, trivial, by omega, ⟨rfl, rfl, rfl⟩⟩
  simp only [Aln.rowLetters, hcols, hq, List.map_append]
  congr 1
  · apply List.map_congr_left
    intro c hm
    simp only [Heap.get, Heap.get?_eq_read, hold c hm]
  · refine (hnews.map_eq _ _ fun c s hcs => ?_).symm
    simp only [Heap.get, Heap.get?_eq_read, hcs.1, List.getElem?_map]
    have hjc : j < c.length := by rw [hcs.2.1]; exact hi
    rw [List.getElem?_eq_getElem hjc]
    simp only [Option.map_some, Option.getD_some, List.getD_eq_getElem?_getD, List.getElem?_eq_getElem hjc]
    exact (shown_stored a.q c[j]).symm

end Biogo.Containers
