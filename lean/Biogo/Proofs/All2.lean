/-
`All2 R as bs`: two lists of one length related position by position — the items of a loop and its
results, a list and what a pass made of it.
-/
namespace Biogo.Containers

inductive All2 {α β : Type} (R : α → β → Prop) : List α → List β → Prop
  | nil : All2 R [] []
  | cons {a b as bs} : R a b → All2 R as bs → All2 R (a :: as) (b :: bs)

theorem All2.imp_mem {α β : Type} {R S : α → β → Prop} {as : List α} {bs : List β}
    (h : All2 R as bs) (hi : ∀ a b, a ∈ as → R a b → S a b) : All2 S as bs := by
  induction h with
  | nil => exact .nil
  | cons hab _ ih =>
    exact .cons (hi _ _ List.mem_cons_self hab) (ih fun a b ha => hi a b (List.mem_cons_of_mem _ ha))

theorem All2.length_eq {α β : Type} {R : α → β → Prop} {as : List α} {bs : List β}
    (h : All2 R as bs) : as.length = bs.length := by
  induction h with
  | nil => rfl
  | cons _ _ ih => simp [ih]

theorem All2.get {α β : Type} {R : α → β → Prop} {as : List α} {bs : List β}
    (h : All2 R as bs) : ∀ (i : Nat) (a : α) (b : β), as[i]? = some a → bs[i]? = some b → R a b := by
  induction h with
  | nil => intro i a b ha; simp at ha
  | cons hab _ ih =>
    intro i a b ha hb
    cases i with
    | zero => rw [List.getElem?_cons_zero, Option.some.injEq] at ha hb; subst ha; subst hb; exact hab
    | succ i => rw [List.getElem?_cons_succ] at ha hb; exact ih i a b ha hb

theorem All2.map_eq {α β γ : Type} {R : α → β → Prop} {as : List α} {bs : List β} (f : α → γ) (g : β → γ)
    (h : All2 R as bs) (hfg : ∀ a b, R a b → f a = g b) : as.map f = bs.map g := by
  induction h with
  | nil => rfl
  | cons hab _ ih => simp [hfg _ _ hab, ih]

theorem All2.exists_right {α β : Type} {R : α → β → Prop} {as : List α} {bs : List β}
    (h : All2 R as bs) : ∀ a ∈ as, ∃ b ∈ bs, R a b := by
  induction h with
  | nil => intro a ha; simp at ha
  | cons hab _ ih =>
    intro a ha
    rcases List.mem_cons.mp ha with e | e
    · subst e; exact ⟨_, List.mem_cons_self, hab⟩
    · obtain ⟨b, hb, hr⟩ := ih a e; exact ⟨b, List.mem_cons_of_mem _ hb, hr⟩

theorem All2.exists_left {α β : Type} {R : α → β → Prop} {as : List α} {bs : List β}
    (h : All2 R as bs) : ∀ b ∈ bs, ∃ a ∈ as, R a b := by
  induction h with
  | nil => intro b hb; simp at hb
  | cons hab _ ih =>
    intro b hb
    rcases List.mem_cons.mp hb with e | e
    · subst e; exact ⟨_, List.mem_cons_self, hab⟩
    · obtain ⟨a, ha, hr⟩ := ih b e; exact ⟨a, List.mem_cons_of_mem _ ha, hr⟩

theorem All2.trans {α β γ : Type} {R : α → β → Prop} {S : β → γ → Prop} {as : List α} {bs : List β}
    {cs : List γ} (h1 : All2 R as bs) : All2 S bs cs → All2 (fun a c => ∃ b, R a b ∧ S b c) as cs := by
  induction h1 generalizing cs with
  | nil => intro h2; cases h2; exact .nil
  | cons hab _ ih =>
    intro h2
    cases h2 with
    | cons hbc h2' => exact .cons ⟨_, hab, hbc⟩ (ih h2')

theorem All2.imp {α β : Type} {R S : α → β → Prop} {as : List α} {bs : List β}
    (h : All2 R as bs) (hi : ∀ a b, R a b → S a b) : All2 S as bs :=
  h.imp_mem fun a b _ => hi a b

theorem All2.refl_of {α : Type} {R : α → α → Prop} : ∀ (as : List α), (∀ a ∈ as, R a a) → All2 R as as := by
  intro as
  induction as with
  | nil => intro _; exact .nil
  | cons a as ih =>
    intro h
    exact .cons (h a List.mem_cons_self) (ih fun x hx => h x (List.mem_cons_of_mem _ hx))

end Biogo.Containers
