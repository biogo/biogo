/-
What one operation of a history does to the world, as a relation read off `apply` once
(`applies_apply`): nothing; or it replaces the object it is applied to and the heap (`Upd`: one
constructor per operation and kind of object, with the guard under which `apply` takes that
branch); or it appends a new object (`Clone`, `Subseq`); or it only touches the heap or the caller
buffers.  Every theorem that holds "for every operation" is a case analysis on `Applies`, not on
`apply`.
-/
import Biogo.Model.ContWorld

namespace Biogo.Containers
open Biogo.Go

/-- the object an operation writes through (`Clone`, `Subseq` and the buffer operations write
    through none: they only allocate, or write a caller buffer) -/
def Op.written : Op → Option Nat
  | .revComp k | .reverse k | .set k _ _ _ | .rowRevComp k _ | .rowReverse k _ => some k
  | .appendCols k _ | .appendEach k _ | .add k _ | .delete k _ | .flush k _ _ | .truncate k _ _ => some k
  | .clone _ | .subseq _ _ _ | .mkbuf _ _ | .mutbuf _ _ _ => none

/-- `Upd cx w op o h' o'`: applied to the object `o` of `w`, `op` leaves the heap `h'` and the object `o'` -/
inductive Upd (cx : Ctx) (w : World) : Op → Obj → Cells → Obj → Prop
  | revCompLin {k : Nat} {l : Lin} :
    Upd cx w (.revComp k) (.lin l) (l.revComp cx w.cells).1 (.lin (l.revComp cx w.cells).2)
  | revCompAln {k : Nat} {a : Aln} :
    Upd cx w (.revComp k) (.aln a) (a.revComp cx w.cells).1 (.aln (a.revComp cx w.cells).2)
  | revCompMulti {k : Nat} {m : Multi} :
    Upd cx w (.revComp k) (.multi m) (m.revComp cx w.cells).1 (.multi (m.revComp cx w.cells).2)
  | revCompSet {k : Nat} {m : Multi} :
    Upd cx w (.revComp k) (.set m) (m.setRevComp cx w.cells).1 (.set (m.setRevComp cx w.cells).2)
  | reverseLin {k : Nat} {l : Lin} :
    Upd cx w (.reverse k) (.lin l) (l.reverse w.cells).1 (.lin (l.reverse w.cells).2)
  | reverseAln {k : Nat} {a : Aln} : Upd cx w (.reverse k) (.aln a) w.cells (.aln a.reverse)
  | reverseMulti {k : Nat} {m : Multi} :
    Upd cx w (.reverse k) (.multi m) (m.reverse w.cells).1 (.multi (m.reverse w.cells).2)
  | reverseSet {k : Nat} {m : Multi} :
    Upd cx w (.reverse k) (.set m) (m.setReverse w.cells).1 (.set (m.setReverse w.cells).2)
  | setLin {k r : Nat} {pos : Int} {c : QL} {l : Lin} (hp : ¬ (l.at? w.cells pos).isNone = true) :
    Upd cx w (.set k r pos c) (.lin l) (l.set w.cells pos c) (.lin l)
  | setAln {k r : Nat} {pos : Int} {c : QL} {a : Aln} (hp : ¬ (a.at? w.cells r pos).isNone = true) :
    Upd cx w (.set k r pos c) (.aln a) (a.set w.cells r pos c) (.aln a)
  | setMulti {k r : Nat} {pos : Int} {c : QL} {m : Multi}
    (hp : ¬ ((m.rows[r]?).bind (·.at? w.cells pos)).isNone = true) :
    Upd cx w (.set k r pos c) (.multi m) (m.onRow w.cells r fun h l => (l.set h pos c, l)).1
      (.multi (m.onRow w.cells r fun h l => (l.set h pos c, l)).2)
  | setSet {k r : Nat} {pos : Int} {c : QL} {m : Multi}
    (hp : ¬ ((m.rows[r]?).bind (·.at? w.cells pos)).isNone = true) :
    Upd cx w (.set k r pos c) (.set m) (m.onRow w.cells r fun h l => (l.set h pos c, l)).1
      (.set (m.onRow w.cells r fun h l => (l.set h pos c, l)).2)
  | rowRevCompAln {k r : Nat} {a : Aln} (hp : r < a.rows) :
    Upd cx w (.rowRevComp k r) (.aln a) (a.rowRevComp cx w.cells r).1 (.aln (a.rowRevComp cx w.cells r).2)
  | rowRevCompMulti {k r : Nat} {m : Multi} (hp : r < m.nrows) :
    Upd cx w (.rowRevComp k r) (.multi m) (m.onRow w.cells r fun h l => l.revComp cx h).1
      (.multi (m.onRow w.cells r fun h l => l.revComp cx h).2)
  | rowRevCompSet {k r : Nat} {m : Multi} (hp : r < m.nrows) :
    Upd cx w (.rowRevComp k r) (.set m) (m.onRow w.cells r fun h l => l.revComp cx h).1
      (.set (m.onRow w.cells r fun h l => l.revComp cx h).2)
  | rowReverseAln {k r : Nat} {a : Aln} (hp : r < a.rows) :
    Upd cx w (.rowReverse k r) (.aln a) (a.rowReverse w.cells r).1 (.aln (a.rowReverse w.cells r).2)
  | rowReverseMulti {k r : Nat} {m : Multi} (hp : r < m.nrows) :
    Upd cx w (.rowReverse k r) (.multi m) (m.onRow w.cells r fun h l => l.reverse h).1
      (.multi (m.onRow w.cells r fun h l => l.reverse h).2)
  | rowReverseSet {k r : Nat} {m : Multi} (hp : r < m.nrows) :
    Upd cx w (.rowReverse k r) (.set m) (m.onRow w.cells r fun h l => l.reverse h).1
      (.set (m.onRow w.cells r fun h l => l.reverse h).2)
  | appendColsAln {k : Nat} {bs : List Nat} {a a' : Aln} {rows : Nat} {h' : Cells} (hr : a.rows? = some rows)
    (happ : a.appendColumns cx w.cells rows (w.bufCells bs) = some (h', a')) :
    Upd cx w (.appendCols k bs) (.aln a) h' (.aln a')
  | appendColsMulti {k : Nat} {bs : List Nat} {m m' : Multi} {h' : Cells}
    (happ : m.appendColumns cx w.cells (w.bufCells bs) = some (h', m')) :
    Upd cx w (.appendCols k bs) (.multi m) h' (.multi m')
  | appendEachAln {k : Nat} {bs : List Nat} {a a' : Aln} {rows : Nat} {h' : Cells} (hr : a.rows? = some rows)
    (happ : a.appendEach cx w.cells rows (w.bufCells bs) = some (h', a')) :
    Upd cx w (.appendEach k bs) (.aln a) h' (.aln a')
  | appendEachMulti {k : Nat} {bs : List Nat} {m m' : Multi} {h' : Cells}
    (happ : m.appendEach cx w.cells (w.bufCells bs) = some (h', m')) :
    Upd cx w (.appendEach k bs) (.multi m) h' (.multi m')
  | addAln {k : Nat} {seqs : List SeqSpec} {a : Aln} :
    Upd cx w (.add k seqs) (.aln a) (a.add cx (newLins cx w.cells seqs).1 (newLins cx w.cells seqs).2).1
      (.aln (a.add cx (newLins cx w.cells seqs).1 (newLins cx w.cells seqs).2).2)
  | addMulti {k : Nat} {seqs : List SeqSpec} {m : Multi} :
    Upd cx w (.add k seqs) (.multi m) (newLins cx w.cells seqs).1 (.multi (m.add (newLins cx w.cells seqs).2))
  | deleteAln {k i : Nat} {a : Aln} (hp : i < a.rows) :
    Upd cx w (.delete k i) (.aln a) (a.delete w.cells i).1 (.aln (a.delete w.cells i).2)
  | deleteMulti {k i : Nat} {m : Multi} (hp : i < m.nrows) :
    Upd cx w (.delete k i) (.multi m) w.cells (.multi (m.delete i))
  | flushMulti {k wh : Nat} {fill : UInt8} {m : Multi} :
    Upd cx w (.flush k wh fill) (.multi m) (m.flush cx w.cells wh fill).1 (.multi (m.flush cx w.cells wh fill).2)
  | truncateMulti {k : Nat} {st en : Int} {m : Multi} :
    Upd cx w (.truncate k st en) (.multi m) w.cells (.multi (m.truncate st en).1)

/-- `Applies cx w op w'`: what `apply cx w op` can leave as the world -/
inductive Applies (cx : Ctx) (w : World) : Op → World → Prop
  | same (op : Op) : Applies cx w op w
  | upd {op : Op} {k : Nat} {o o' : Obj} {h' : Cells} (hwr : op.written = some k) (hk : w.objs[k]? = some o)
    (hu : Upd cx w op o h' o') : Applies cx w op (w.setObj k h' o')
  | cloneLin {k : Nat} {l : Lin} (hk : w.objs[k]? = some (.lin l)) :
    Applies cx w (.clone k) { w with cells := (l.clone cx w.cells).1, objs := w.objs ++ [.lin (l.clone cx w.cells).2] }
  | cloneAln {k : Nat} {a : Aln} (hk : w.objs[k]? = some (.aln a)) :
    Applies cx w (.clone k) { w with cells := (a.clone cx w.cells).1, objs := w.objs ++ [.aln (a.clone cx w.cells).2] }
  | cloneMulti {k : Nat} {m : Multi} (hk : w.objs[k]? = some (.multi m)) :
    Applies cx w (.clone k) { w with cells := (m.clone cx w.cells).1, objs := w.objs ++ [.multi (m.clone cx w.cells).2] }
  | subseqSome {k : Nat} {st en : Int} {m m' : Multi} {h' : Cells} (hk : w.objs[k]? = some (.multi m))
    (hs : m.subseq cx w.cells st en = (h', some m')) :
    Applies cx w (.subseq k st en) { w with cells := h', objs := w.objs ++ [.multi m'] }
  | subseqNone {k : Nat} {st en : Int} {m : Multi} {h' : Cells} (hk : w.objs[k]? = some (.multi m))
    (hs : m.subseq cx w.cells st en = (h', none)) : Applies cx w (.subseq k st en) { w with cells := h' }
  | mkbuf {cs : List QL} {extra : Nat} :
    Applies cx w (.mkbuf cs extra) { w with cells := (w.cells.ofList cs (cs.length + extra) zeroQL).1
                                            bufs := w.bufs ++ [(w.cells.ofList cs (cs.length + extra) zeroQL).2] }
  | mutbuf {b i : Nat} {c : QL} {s : Slice} (hb : w.bufs[b]? = some s) :
    Applies cx w (.mutbuf b i c) { w with cells := w.cells.set s i c }

theorem applies_apply (cx : Ctx) (w : World) (op : Op) : Applies cx w op (apply cx w op).1 := by
  cases op with
  | mkbuf cells extra => exact .mkbuf
  | mutbuf b i c => simp only [apply]; split <;> first | exact .same _ | exact .mutbuf ‹_›
  | subseq k st en =>
    simp only [apply]
    split
    · split
      · exact .subseqSome ‹_› ‹_›
      · exact .subseqNone ‹_› ‹_›
    · exact .same _
  | clone k =>
    simp only [apply]
    split <;> first | exact .same _ | exact .cloneLin ‹_› | exact .cloneAln ‹_› | exact .cloneMulti ‹_›
  | _ =>
    -- an operation on an object: `apply` looks the object up, then tests the guard of the branch or the outcome
    -- of the model function.  Every leaf is either the world unchanged (`.same`) or one `setObj` under the
    -- hypotheses gathered on the way (`.upd`; `constructor` finds the constructor of `Upd` that is this branch)
    simp only [apply]
    split <;> (try split) <;> (try split) <;>
      first | exact .same _ | exact .upd rfl ‹_› (by constructor <;> assumption)

end Biogo.Containers
