/-
The `%a` / `%q` verbs of `linear.Seq` / `linear.QSeq` produce layouts of the sequence
(`FastaRenders` / `FastqRenders`), hence read back as the sequence.
-/
import Biogo.Proofs.FastqView
import Biogo.Model.SeqFormat

namespace Biogo.SeqFormat
open Biogo.Go.Bytes Biogo.Spec.Seqio

theorem fmtC_ascii {b : UInt8} (h : b < 0x80) : fmtC b = [b] := by
  simp [fmtC, h]

theorem flatMap_singletons {α β : Type} (f : α → List β) (g : α → β) (l : List α) (h : ∀ a ∈ l, f a = [g a]) :
    l.flatMap f = l.map g := by
  induction l with
  | nil => rfl
  | cons a l ih =>
    rw [List.flatMap_cons, h a (by simp), ih (fun b hb => h b (by simp [hb]))]
    rfl

theorem flatMap_fmtC (l : Bytes) (h : ∀ b ∈ l, visible b = true) : l.flatMap fmtC = l := by
  simpa using flatMap_singletons fmtC id l (fun b hb => fmtC_ascii (visible_lt (h b hb)))

theorem descLine_eq (p : UInt8) (hp : p < 0x80) (id desc : Bytes) :
    descLine p id desc = headerLine p id desc ++ [10] := by
  unfold descLine headerLine
  rw [fmtC_ascii hp]
  cases desc <;> simp

/-- the letter loop of verb `a`, continuing a line `cur`, lays the letters out in lines, the last
    one unterminated -/
theorem wrapLetters_lines (w : Option Nat) (hw : w ≠ some 0) (len : Nat) (ls : Bytes)
    (hvis : ∀ b ∈ ls, visible b = true) : ∀ (cur : Bytes) (i : Nat), (∀ b ∈ cur, b ≠ 10) →
    ∃ body lines, wrapLetters w len i ls = .ok body ∧ Terminated lines (cur ++ body) ∧ lines.flatten = cur ++ ls := by
  induction ls with
  | nil =>
    intro cur i hcur
    by_cases hc : cur = []
    · exact ⟨[], [], rfl, by simpa [hc] using Terminated.nil, by simp [hc]⟩
    · exact ⟨[], [cur], rfl, by simpa using Terminated.last cur hc hcur, by simp⟩
  | cons l ls ih =>
    intro cur i hcur
    have hl := hvis l (by simp)
    have hls : ∀ b ∈ ls, visible b = true := fun b hb => hvis b (by simp [hb])
    have hcur' : ∀ b ∈ cur ++ [l], b ≠ 10 :=
      List.forall_mem_append.mpr ⟨hcur, by simpa using visible_ne_lf hl⟩
    -- the width is not 0, so the test for a line break does not divide by zero
    have hnl : ∃ nl : Bool, breakAfter w len i = .ok nl := by
      unfold breakAfter
      cases w with
      | none => exact ⟨false, rfl⟩
      | some w =>
        have hw0 : (w == 0) = false := beq_eq_false_iff_ne.mpr (fun e => hw (congrArg some e))
        simp only [hw0]
        split <;> exact ⟨_, rfl⟩
    obtain ⟨nl, hnl⟩ := hnl
    cases nl with
    | false =>
      obtain ⟨body, lines, h1, h2, h3⟩ := ih hls (cur ++ [l]) (i + 1) hcur'
      refine ⟨l :: body, lines, ?_, by simpa using h2, by simpa using h3⟩
      simp only [wrapLetters, hnl, h1, bind, Except.bind, pure, Except.pure, fmtC_ascii (visible_lt hl)]
      simp
    | true =>
      obtain ⟨body, lines, h1, h2, h3⟩ := ih hls [] (i + 1) (by simp)
      refine ⟨l :: 10 :: body, (cur ++ [l]) :: lines, ?_, ?_, by simp [h3]⟩
      · simp only [wrapLetters, hnl, h1, bind, Except.bind, pure, Except.pure, fmtC_ascii (visible_lt hl)]
        simp
      · simpa using Terminated.lf (cur ++ [l]) _ _ hcur' h2

/-- **`%a` round trip.**  A well-formed sequence formatted with the verb `a` (any width other
    than 0, or none; no precision) is a layout of that sequence, and the FASTA reader returns
    it.  For a `QSeq`, `letters` are the letters after `seq.AmbigFilter`: the statement is
    about the sequence as printed (scores below `Threshold` change the letter). -/
theorem formatA_roundtrip (w : Option Nat) (hw : w ≠ some 0) (r : Biogo.Fasta.Rec) (hwf : wfFasta r = true) :
    ∃ bytes, formatA w none r.name r.desc r.letters = .ok bytes ∧ FastaRenders [r] bytes ∧
      Biogo.Fasta.readAll {} bytes = [.ret ⟨some r, none⟩, .ret ⟨none, some .eof⟩] := by
  obtain ⟨hn, hd, hlet⟩ := Biogo.Fasta.wfFasta_iff.mp hwf
  have hvis : ∀ b ∈ r.letters, visible b = true := fun b hb => (hlet b hb).1
  obtain ⟨body, lines, h1, h2, h3⟩ := wrapLetters_lines w hw r.letters.length r.letters hvis [] 0 (by simp)
  have hren : FastaRenders [r] (headerLine 62 r.name r.desc ++ 10 :: body) := by
    refine ⟨headerLine 62 r.name r.desc :: lines, ?_, ?_⟩
    · have hs : SeqLines r.letters lines := by simpa [h3] using Biogo.Fasta.seqLines_flatten lines
      simpa using FastaLines.record r (headerLine 62 r.name r.desc) lines [] [] ⟨[], by simp, by simp⟩ hs .nil
    · exact Terminated.lf _ _ _ (Biogo.Fasta.headerLine_nolf 62 (by decide) hn hd) (by simpa using h2)
  refine ⟨_, by simp [formatA, h1, descLine_eq 62 (by decide), bind, Except.bind, pure, Except.pure], hren, ?_⟩
  simpa [Biogo.Fasta.retOK, Biogo.Fasta.retEOF] using Biogo.Fasta.renders_read [r] _ (by simpa using hwf) hren

open Biogo.Fastq in
/-- **`%q` round trip** (`linear.QSeq`, scores in the printable range, letters as printed):
    the output of the verb `q`, with or without the `+` flag, is a layout of the sequence and
    the FASTQ reader returns it. -/
theorem formatQ_roundtrip (tabs : QTables) (enc : Encoding) (plus eofWithData : Bool) (r : QRec)
    (hwf : wfFastq enc r = true) :
    FastqRenders (qlineOf tabs enc) [r]
      (formatQ plus none r.name r.desc r.letters (r.quals.map (encode tabs enc))) ∧
    readAll ⟨.qseq enc, tabs⟩ eofWithData
      (formatQ plus none r.name r.desc r.letters (r.quals.map (encode tabs enc)))
      = [.ret ⟨some r, none⟩, .ret ⟨none, some .eof⟩] := by
  have ok := (recOK_of_wf tabs enc r hwf).1
  -- every encoded score is below DEL, so the clamp does nothing
  have hclamp : (r.quals.map (encode tabs enc)).flatMap (fun e => fmtC (if e ≥ 127 then 126 else e))
      = qlineOf tabs enc r := by
    rw [List.flatMap_map]
    refine flatMap_singletons _ (encode tabs enc) r.quals (fun q hqm => ?_)
    obtain ⟨_, hv, hlt⟩ := quals_printable tabs hwf q hqm
    simp only [ge_iff_le, if_neg (UInt8.not_le.mpr hlt), fmtC_ascii (visible_lt hv)]
  have hbytes : formatQ plus none r.name r.desc r.letters (r.quals.map (encode tabs enc))
      = headerLine 64 r.name r.desc ++ 10 :: (r.letters ++ 10 ::
          ((if plus then headerLine 43 r.name r.desc else [43]) ++ 10 :: qlineOf tabs enc r)) := by
    simp only [formatQ, hclamp, flatMap_fmtC r.letters ok.letters.1, descLine_eq 64 (by decide),
      descLine_eq 43 (by decide)]
    cases plus <;> simp
  have hlines := fastqLines_written tabs plus enc r .nil
  have hok : ∀ r' ∈ [r], RecOK (qlineOf tabs enc) r' := by simpa using ok
  have hnolf := fastqLines_nolf hlines hok
  have hren : FastqRenders (qlineOf tabs enc) [r]
      (formatQ plus none r.name r.desc r.letters (r.quals.map (encode tabs enc))) := by
    rw [hbytes]
    by_cases hq : qlineOf tabs enc r = []
    · -- no letters: the file ends after the terminator of the `+` line
      refine .inr ⟨[headerLine 64 r.name r.desc, r.letters, if plus then headerLine 43 r.name r.desc else [43]], ?_, ?_⟩
      · simpa [hq] using hlines
      · simp [joinLF, hq]
    · refine .inl ⟨_, hlines, ?_⟩
      refine .lf _ _ _ (hnolf _ (by simp)) (.lf _ _ _ (hnolf _ (by simp)) (.lf _ _ _ (hnolf _ (by simp)) ?_))
      exact .last _ hq (hnolf _ (by simp))
  exact ⟨hren, by simpa using renders_read_qseq tabs enc eofWithData [r] _ (by simpa using hwf) hren⟩

end Biogo.SeqFormat
