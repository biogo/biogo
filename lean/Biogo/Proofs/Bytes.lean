/-
Lemmas about `Biogo.Go.Bytes` for the FASTA/FASTQ theorems, mostly on lines made of visible
ASCII content followed by blanks.

`bytes.TrimSpace`, its two halves and `Fields`-join are transcribed twice: in `Go/Bytes.lean` (used by the
FASTA and FASTQ models) and in `Go/BytesFeat.lean` (used by the BED and GFF models).  The two agree
(`trimSpace_eq`, `removeSpaces_eq`); the facts about trimming that need an induction are proved once, in
`Proofs/FeatTrim`, and carried over; the one-step equations below (`trimRev_visible_head`, `trimRev_space_head`,
`removeSpaces_space_head`, `removeSpaces_single`) are read off the `Go.Bytes` definitions.
-/
import Biogo.Go.Bytes
import Biogo.Spec.Seqio
import Biogo.Proofs.FeatTrim

namespace Biogo.Go.Bytes
open Biogo.Spec.Seqio

theorem isAsciiSpace_eq : isAsciiSpace = BytesFeat.isAsciiSpace := rfl
theorem isSpace2_eq (a b : UInt8) : BytesFeat.isSpace2 a b = (a == 0xC2 && isSp2 b) := rfl
theorem isSp3_eq : isSp3 = BytesFeat.isSpace3 := rfl

theorem trimLeft_eq (s : Bytes) : trimLeft s = BytesFeat.trimLeft s := by
  fun_induction BytesFeat.trimLeft s <;> unfold trimLeft <;> simp_all [isAsciiSpace_eq, ← isSpace2_eq, isSp3_eq]

/-- `trimRev` tests `z < 0x80` first: an ASCII space is below `0x80`, a byte of a multi-byte space is not -/
theorem trimRev_eq (s : Bytes) : trimRev s = BytesFeat.dropSpaceRev s := by
  fun_induction BytesFeat.dropSpaceRev s with
  | case1 => rfl
  | case2 a r h ih =>
    unfold trimRev
    rw [if_pos (BytesFeat.isAsciiSpace_lt a h), isAsciiSpace_eq, if_pos h, ih]
  | case3 a h => unfold trimRev; simp [isAsciiSpace_eq, h]
  | case4 a h b r h2 ih =>
    have hz : ¬ a < 0x80 := fun hz => by rw [BytesFeat.isSpace2_of_lt (.inr hz)] at h2; cases h2
    unfold trimRev
    simp only [if_neg hz, ← isSpace2_eq, h2, if_true, ih]
  | case5 a h b h2 => unfold trimRev; simp [isAsciiSpace_eq, h, ← isSpace2_eq, h2]
  | case6 a h b h2 c r h3 ih =>
    have hz : ¬ a < 0x80 := fun hz => by rw [BytesFeat.isSpace3_of_lt (.inr (.inr hz))] at h3; cases h3
    unfold trimRev
    simp only [if_neg hz, ← isSpace2_eq, h2, isSp3_eq, h3, ih, if_true, Bool.false_eq_true, if_false]
  | case7 a h b h2 c r h3 => unfold trimRev; simp [isAsciiSpace_eq, h, ← isSpace2_eq, h2, isSp3_eq, h3]

theorem trimSpace_eq (s : Bytes) : trimSpace s = BytesFeat.trimSpace s := by
  simp only [trimSpace, trimRight, BytesFeat.trimSpace, BytesFeat.trimRight, trimLeft_eq, trimRev_eq]

/-- `BytesFeat.removeSpaces` goes by the length of the space rune in front (`spaceLen`) -/
theorem removeSpaces_eq (s : Bytes) : removeSpaces s = BytesFeat.removeSpaces s := by
  unfold BytesFeat.removeSpaces
  fun_induction removeSpaces s with
  | case1 => rfl
  | case2 a rest h ih => rw [BytesFeat.removeSpacesAux]; simp [BytesFeat.spaceLen, ← isAsciiSpace_eq, h, ih]
  | case3 a h => rw [BytesFeat.removeSpacesAux]; simp [BytesFeat.spaceLen, ← isAsciiSpace_eq, h, BytesFeat.removeSpacesAux]
  | case4 a h b r h2 ih =>
    rw [BytesFeat.removeSpacesAux]; simp [BytesFeat.spaceLen, ← isAsciiSpace_eq, h, isSpace2_eq, h2, BytesFeat.removeSpacesAux, ih]
  | case5 a h b h2 =>
    rw [BytesFeat.removeSpacesAux]
    by_cases hb : isAsciiSpace b = true <;>
      simp [BytesFeat.spaceLen, ← isAsciiSpace_eq, h, isSpace2_eq, h2, hb, BytesFeat.removeSpacesAux]
  | case6 a h b h2 c r h3 ih =>
    rw [BytesFeat.removeSpacesAux]
    simp [BytesFeat.spaceLen, ← isAsciiSpace_eq, h, isSpace2_eq, h2, ← isSp3_eq, h3, BytesFeat.removeSpacesAux, ih]
  | case7 a h b h2 c r h3 ih =>
    rw [BytesFeat.removeSpacesAux]
    simp [BytesFeat.spaceLen, ← isAsciiSpace_eq, h, isSpace2_eq, h2, ← isSp3_eq, h3, ih]

theorem visible_def (a : UInt8) : visible a = true ↔ a < 0x80 ∧ isAsciiSpace a = false := by
  simp [visible]

theorem visible_lt {a : UInt8} (h : visible a = true) : a < 0x80 := ((visible_def a).mp h).1

theorem visible_not_space {a : UInt8} (h : visible a = true) : isAsciiSpace a = false :=
  ((visible_def a).mp h).2

theorem visible_ne_space {a k : UInt8} (h : visible a = true) (hk : isAsciiSpace k = true) : a ≠ k := by
  rintro rfl
  rw [visible_not_space h] at hk
  cases hk

theorem visible_ne_lf {a : UInt8} (h : visible a = true) : a ≠ 10 := visible_ne_space h rfl

/-- the printable ASCII characters `'!'` … `'~'` -/
theorem visible_of_range {b : UInt8} (h1 : 33 ≤ b) (h2 : b < 127) : visible b = true := by
  have hne : ∀ k : UInt8, k < 33 → (b == k) = false := fun k hk =>
    beq_eq_false_iff_ne.mpr (fun e => UInt8.not_lt.mpr h1 (e ▸ hk))
  simp [visible, isAsciiSpace, UInt8.lt_trans h2 (by decide : (127 : UInt8) < 0x80), hne]

theorem isBlank_space {a : UInt8} (h : isBlank a = true) : isAsciiSpace a = true := by
  simp only [isBlank, Bool.or_eq_true, beq_iff_eq] at h
  rcases h with (((rfl | rfl) | rfl) | rfl) | rfl <;> rfl

theorem isBlank_ne_lf {a : UInt8} (h : isBlank a = true) : a ≠ 10 := by
  rintro rfl; cases h

/-- for `k` a lead or continuation byte of the multi-byte spaces -/
theorem ascii_bne {a k : UInt8} (h : a < 0x80) (hk : 0x80 ≤ k) : (a == k) = false :=
  beq_eq_false_iff_ne.mpr (fun e => UInt8.not_lt.mpr hk (e ▸ h))

/-- the LF-terminated lines (CR dropped), and the bytes after the last LF; `cur` is the
    current line in reverse, as in `splitLinesAux` -/
def splitParts : Bytes → Bytes → List Bytes × Bytes
  | [], cur => ([], cur.reverse)
  | b :: bs, cur =>
    if b == 10 then ((dropCR cur).reverse :: (splitParts bs []).1, (splitParts bs []).2)
    else splitParts bs (b :: cur)

def optLine (f : Bytes) : List Bytes := if f.isEmpty then [] else [f]

theorem splitLinesAux_parts (bs : Bytes) : ∀ cur : Bytes,
    splitLinesAux bs cur = (splitParts bs cur).1 ++ optLine (splitParts bs cur).2 := by
  induction bs with
  | nil => intro cur; simp [splitLinesAux, splitParts, optLine]
  | cons b bs ih =>
    intro cur
    by_cases hb : (b == 10) = true
    · simp [splitLinesAux, splitParts, hb, ih []]
    · simp only [splitLinesAux, splitParts, hb]; exact ih (b :: cur)

theorem splitParts_lf (rest cur : Bytes) :
    splitParts (10 :: rest) cur = ((dropCR cur).reverse :: (splitParts rest []).1, (splitParts rest []).2) := rfl

theorem splitParts_last (l cur : Bytes) (h : ∀ x ∈ l, x ≠ 10) :
    splitParts l cur = ([], (l.reverse ++ cur).reverse) := by
  induction l generalizing cur with
  | nil => rfl
  | cons a l ih =>
    have ha : a ≠ 10 := h a (by simp)
    have hl : ∀ x ∈ l, x ≠ 10 := fun x hx => h x (by simp [hx])
    simp [splitParts, ha, ih _ hl]

/-- splitting a concatenation: the second part is split with what the first part left
    unterminated as its current line -/
theorem splitParts_append (a b cur : Bytes) :
    splitParts (a ++ b) cur
      = ((splitParts a cur).1 ++ (splitParts b (splitParts a cur).2.reverse).1,
         (splitParts b (splitParts a cur).2.reverse).2) := by
  induction a generalizing cur with
  | nil => simp [splitParts]
  | cons x a ih =>
    by_cases hx : (x == 10) = true
    · simp [splitParts, hx, ih []]
    · simp only [List.cons_append, splitParts, hx]; exact ih (x :: cur)

theorem splitParts_line (l rest cur : Bytes) (h : ∀ x ∈ l, x ≠ 10) :
    splitParts (l ++ 10 :: rest) cur
      = ((dropCR (l.reverse ++ cur)).reverse :: (splitParts rest []).1, (splitParts rest []).2) := by
  rw [splitParts_append, splitParts_last l cur h, splitParts_lf, List.reverse_reverse]; rfl

theorem splitParts_final (bs cur : Bytes) :
    (splitParts bs cur).2 = [] ↔ (bs = [] ∧ cur = []) ∨ bs.getLast? = some 10 := by
  rcases List.eq_nil_or_concat bs with rfl | ⟨init, x, rfl⟩
  · simp [splitParts]
  · rw [List.concat_eq_append, splitParts_append]
    by_cases hx : x = 10 <;> simp [splitParts, hx]

theorem splitLinesAux_line (l rest cur : Bytes) (h : ∀ b ∈ l, b ≠ 10) :
    splitLinesAux (l ++ 10 :: rest) cur
      = (dropCR (l.reverse ++ cur)).reverse :: splitLinesAux rest [] := by
  rw [splitLinesAux_parts, splitParts_line l rest cur h, splitLinesAux_parts rest]; rfl

theorem splitLinesAux_last (l cur : Bytes) (h : ∀ b ∈ l, b ≠ 10) :
    splitLinesAux l cur = if (l.reverse ++ cur).isEmpty then [] else [(l.reverse ++ cur).reverse] := by
  rw [splitLinesAux_parts, splitParts_last l cur h]; simp [optLine, and_comm]

/-- a line as `ReadLine` returns it when it was terminated by LF: one CR before the LF dropped -/
def stripCR (l : Bytes) : Bytes := (dropCR l.reverse).reverse

theorem splitLines_line (l rest : Bytes) (h : ∀ b ∈ l, b ≠ 10) :
    splitLines (l ++ 10 :: rest) = stripCR l :: splitLines rest := by
  simp [splitLines, stripCR, splitLinesAux_line l rest [] h]

theorem splitLines_last (l : Bytes) (h : ∀ b ∈ l, b ≠ 10) (hne : l ≠ []) : splitLines l = [l] := by
  simp [splitLines, splitLinesAux_last l [] h, hne]

theorem splitLines_nil : splitLines [] = [] := rfl

theorem dropCR_cases (l : Bytes) : dropCR l = l ∨ ∃ t, l = 13 :: t ∧ dropCR l = t := by
  unfold dropCR
  split
  · exact .inr ⟨_, rfl, rfl⟩
  · exact .inl rfl

theorem plain_of_visible {l : Bytes} (h : ∀ b ∈ l, visible b = true) : BytesFeat.Plain l :=
  fun b hb => (visible_def b).mp (h b hb)

theorem trimLeft_nil : trimLeft [] = [] := rfl
theorem trimRev_nil : trimRev [] = [] := rfl
theorem trimSpace_nil : trimSpace [] = [] := rfl

theorem trimLeft_visible_head {a : UInt8} (h : visible a = true) (rest : Bytes) :
    trimLeft (a :: rest) = a :: rest := by
  rw [trimLeft_eq]
  exact BytesFeat.trimLeft_of_spaceLen _ (BytesFeat.spaceLen_ascii_head a rest (visible_lt h) (visible_not_space h))

theorem trimLeft_space_head {a : UInt8} (h : isAsciiSpace a = true) (rest : Bytes) :
    trimLeft (a :: rest) = trimLeft rest := by
  rw [trimLeft_eq, trimLeft_eq]; exact BytesFeat.trimLeft_space rest h

theorem trimRev_visible_head {z : UInt8} (h : visible z = true) (rest : Bytes) :
    trimRev (z :: rest) = z :: rest := by
  unfold trimRev
  simp [visible_lt h, visible_not_space h]

theorem trimRev_space_head {a : UInt8} (h : isAsciiSpace a = true) (rest : Bytes) :
    trimRev (a :: rest) = trimRev rest := by
  conv => lhs; unfold trimRev
  simp [BytesFeat.isAsciiSpace_lt a h, h]

theorem trimSpace_snoc_space (l : Bytes) (x : UInt8) (hs : isAsciiSpace x = true) :
    trimSpace (l ++ [x]) = trimSpace l := by
  rw [trimSpace_eq, trimSpace_eq]; exact BytesFeat.trimSpace_append_space x hs l

theorem trimSpace_append_blanks (l blanks : Bytes) (hb : ∀ b ∈ blanks, isAsciiSpace b = true) :
    trimSpace (l ++ blanks) = trimSpace l := by
  induction blanks generalizing l with
  | nil => simp
  | cons x xs ih =>
    rw [show l ++ x :: xs = (l ++ [x]) ++ xs by simp, ih _ (fun b hb' => hb b (by simp [hb'])),
      trimSpace_snoc_space l x (hb x (by simp))]

theorem trimSpace_blanks (blanks : Bytes) (hb : ∀ b ∈ blanks, isAsciiSpace b = true) : trimSpace blanks = [] := by
  simpa [trimSpace_nil] using trimSpace_append_blanks [] blanks hb

theorem trimSpace_padded (c post : Bytes)
    (hh : ∀ a, c.head? = some a → visible a = true) (hl : ∀ a, c.getLast? = some a → visible a = true)
    (hp : ∀ b ∈ post, isAsciiSpace b = true) : trimSpace (c ++ post) = c := by
  rw [trimSpace_append_blanks c post hp, trimSpace_eq]
  exact BytesFeat.trimSpace_of_ascii_ends c (fun a ha => (visible_def a).mp (hh a ha))
    (fun a ha => (visible_def a).mp (hl a ha))

/-- `cur` is the line in reverse, as `splitLinesAux` holds it -/
theorem trimSpace_dropCR_reverse (cur : Bytes) : trimSpace (dropCR cur).reverse = trimSpace cur.reverse := by
  rcases dropCR_cases cur with e | ⟨t, rfl, e⟩
  · rw [e]
  · rw [e, List.reverse_cons, trimSpace_snoc_space _ 13 rfl]

theorem trimSpace_stripCR (l : Bytes) : trimSpace (stripCR l) = trimSpace l := by
  rw [stripCR, trimSpace_dropCR_reverse, List.reverse_reverse]

theorem removeSpaces_single (b : UInt8) : removeSpaces [b] = if isAsciiSpace b then [] else [b] := by
  unfold removeSpaces
  by_cases h : isAsciiSpace b = true
  · simp [h, removeSpaces]
  · simp [h]

theorem removeSpaces_visible_head {a : UInt8} (h : visible a = true) (rest : Bytes) :
    removeSpaces (a :: rest) = a :: removeSpaces rest := by
  rw [removeSpaces_eq, removeSpaces_eq]
  exact BytesFeat.removeSpaces_plain_append [a] rest (plain_of_visible (by simpa using h))

theorem removeSpaces_space_head (a : UInt8) (rest : Bytes) (h : isAsciiSpace a = true) :
    removeSpaces (a :: rest) = removeSpaces rest := by
  conv => lhs; unfold removeSpaces
  simp [h]

theorem removeSpaces_padded (l post : Bytes) (hl : ∀ b ∈ l, visible b = true)
    (hp : ∀ b ∈ post, isAsciiSpace b = true) : removeSpaces (l ++ post) = l := by
  rw [removeSpaces_eq, BytesFeat.removeSpaces_plain_append l post (plain_of_visible hl),
    BytesFeat.removeSpaces_spaces post hp, List.append_nil]

theorem removeSpaces_visible (l : Bytes) (hl : ∀ b ∈ l, visible b = true) : removeSpaces l = l := by
  rw [removeSpaces_eq]; exact BytesFeat.removeSpaces_ascii l (plain_of_visible hl)

theorem indexAnySpTab_lt {l : Bytes} {k : Nat} (h : indexAnySpTab l = some k) : k < l.length :=
  (List.findIdx?_eq_some_iff_getElem.mp h).1

theorem indexAnySpTab_visible_nil (l : Bytes) (hl : ∀ b ∈ l, visible b = true) : indexAnySpTab l = none :=
  List.findIdx?_eq_none_iff.mpr (fun b hb => by
    simp [visible_ne_space (hl b hb) (k := 32) rfl, visible_ne_space (hl b hb) (k := 9) rfl])

theorem indexAnySpTab_visible_space (l : Bytes) (hl : ∀ b ∈ l, visible b = true) (rest : Bytes) :
    indexAnySpTab (l ++ 32 :: rest) = some l.length := by
  have h := indexAnySpTab_visible_nil l hl
  unfold indexAnySpTab at h ⊢
  rw [List.findIdx?_append, h, Option.none_or]
  simp [List.findIdx?_cons]

end Biogo.Go.Bytes
