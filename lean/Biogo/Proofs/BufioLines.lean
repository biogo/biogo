/-
Lines through the byte-level `bufio.Reader` model: what `ReadSlice`, `ReadLine`, the
`ReadLine`/`append`/`isPrefix` loop and `ReadBytes` make of one physical line.
-/
import Biogo.Proofs.BufioSlice

namespace Biogo.Go.Bufio
open Biogo.Spec.Bufio (sliceOf lineOf endsPendingAux)

/-- a line as `ReadLine` returns it: one CR before the LF is dropped (`stripCR`, by `chompCR_eq_stripCR`) -/
def chompCR (l : Bytes) : Bytes := if l.getLast? = some 13 then l.dropLast else l

theorem getLast?_append_ne (x : Bytes) {y : Bytes} (hy : y ≠ []) : (x ++ y).getLast? = y.getLast? := by
  rw [List.getLast?_append]
  cases h : y.getLast? with
  | none => exact absurd (List.getLast?_eq_none_iff.mp h) hy
  | some a => rfl

theorem chompCR_append (x y : Bytes) (hy : y ≠ []) : chompCR (x ++ y) = x ++ chompCR y := by
  simp only [chompCR, getLast?_append_ne x hy]
  split
  · rw [List.dropLast_append_of_ne_nil hy]
  · rfl

theorem chompCR_of_ne {l : Bytes} (h : l.getLast? ≠ some 13) : chompCR l = l := by
  simp [chompCR, h]

theorem sliceOf_short {size : Nat} {delim : UInt8} {fin : Err} {e : Bool} {l : Bytes} (post : Bytes) (hl : delim ∉ l)
    (hs : l.length < size) : sliceOf size delim fin e (l ++ delim :: post) = (l ++ [delim], none, post) := by
  have h1 : indexByte ((l ++ delim :: post).take size) delim = some l.length := by
    obtain ⟨k, rfl⟩ : ∃ k, size = l.length + (k + 1) := ⟨size - l.length - 1, by omega⟩
    rw [List.take_length_add_append, List.take_succ_cons]
    exact indexByte_first hl _
  rw [sliceOf_found h1, List.take_length_add_append, List.drop_length_add_append]
  rfl

/-- a buffer full of the line `l` comes first: when `l` does not fit, or fits exactly and the
    final error will not come with it -/
theorem sliceOf_full {size : Nat} {delim : UInt8} {fin : Err} {e : Bool} {l : Bytes} (tl : Bytes) (hl : delim ∉ l)
    (hge : size ≤ l.length) (ht : tl ≠ [] ∨ size < l.length ∨ e = false) :
    sliceOf size delim fin e (l ++ tl) = (l.take size, some .bufferFull, l.drop size ++ tl) := by
  have h1 : indexByte ((l ++ tl).take size) delim = none := by
    rw [List.take_append_of_le_length hge]
    exact indexByte_none_iff.mpr fun h => hl (List.mem_of_mem_take h)
  have hcond : ¬ ((l ++ tl).length < size ∨ ((l ++ tl).length = size ∧ e = true)) := by
    rw [List.length_append]
    rintro (h | ⟨h, he⟩)
    · omega
    · rcases ht with ht | ht | ht
      · exact ht (List.eq_nil_of_length_eq_zero (by omega))
      · omega
      · rw [ht] at he; exact Bool.false_ne_true he
  rw [sliceOf_none h1, if_neg hcond, List.take_append_of_le_length hge, List.drop_append_of_le_length hge]

theorem sliceOf_rest {size : Nat} {delim : UInt8} {fin : Err} {e : Bool} {l : Bytes} (hl : delim ∉ l)
    (hs : l.length < size ∨ (l.length = size ∧ e = true)) : sliceOf size delim fin e l = (l, some fin, []) := by
  have h1 : indexByte (l.take size) delim = none :=
    indexByte_none_iff.mpr fun h => hl (List.mem_of_mem_take h)
  rw [sliceOf_none h1, if_pos hs]

theorem full_of_not_rest {size : Nat} {e : Bool} {l : Bytes} (h : ¬ (l.length < size ∨ (l.length = size ∧ e = true))) :
    size ≤ l.length ∧ (size < l.length ∨ e = false) := by
  have h1 : ¬ l.length < size := fun h' => h (Or.inl h')
  cases e
  · exact ⟨by omega, Or.inr rfl⟩
  · have h2 : l.length ≠ size := fun h' => h (Or.inr ⟨h', rfl⟩)
    exact ⟨by omega, Or.inl (by omega)⟩

theorem lineOf_short {size : Nat} {fin : Err} {e : Bool} {l : Bytes} (post : Bytes) (hl : (10 : UInt8) ∉ l)
    (hs : l.length < size) : lineOf size fin e (l ++ 10 :: post) = (⟨chompCR l, false, none⟩, post) := by
  have h0 : ¬ (l ++ [10]).length = 0 := by simp
  have h1 : (l ++ [10]).getLast? = some 10 := List.getLast?_concat ..
  simp only [lineOf, sliceOf_short post hl hs, reduceCtorEq, ↓reduceIte, h0, h1]
  congr 2
  -- `l ++ [10]` without its last byte, or without its last two if `l` ends in CR
  rcases List.eq_nil_or_concat l with rfl | ⟨l', x, rfl⟩
  · rfl
  · have hidx : (l' ++ [x] ++ [10])[(l' ++ [x] ++ [10]).length - 2]? = some x := by
      simp only [List.length_append, List.length_cons, List.length_nil, Nat.add_sub_cancel, List.append_assoc]
      rw [List.getElem?_append_right (Nat.le_refl _), Nat.sub_self]
      rfl
    have hlen : (l' ++ [x] ++ [10]).length > 1 := by simp
    simp only [List.concat_eq_append, chompCR, List.getLast?_concat, hidx, hlen, true_and, Option.some.injEq,
      List.dropLast_concat]
    by_cases hx : x = 13
    · simp only [hx, ↓reduceIte, List.length_append, List.length_cons, List.length_nil, Nat.add_sub_cancel,
        List.append_assoc, List.take_left']
    · simp only [hx, ↓reduceIte, List.length_append, List.length_cons, List.length_nil, Nat.add_sub_cancel]
      exact List.take_left' (by simp)

/-- **The first fragment of a line that does not fit the buffer**: `ReadLine` returns a non-empty
    chunk `c` of at most `size` bytes with `isPrefix`, and leaves `l'` with `l = c ++ l'` (a CR at
    the end of the full buffer is put back); what remains to be said of `l` is said of `l'`. -/
theorem lineOf_chunk {size : Nat} {fin : Err} {e : Bool} {l : Bytes} (tl : Bytes) (hl : (10 : UInt8) ∉ l)
    (hs : 2 ≤ size) (hge : size ≤ l.length) (ht : tl ≠ [] ∨ size < l.length ∨ e = false) :
    ∃ c l', lineOf size fin e (l ++ tl) = (⟨c, true, none⟩, l' ++ tl) ∧ l = c ++ l' ∧ c ≠ [] ∧ c.length ≤ size ∧
      chompCR l = c ++ chompCR l' ∧ ∀ f, endsPendingAux size (f + 1) l = endsPendingAux size f l' := by
  have hslice := sliceOf_full (fin := fin) tl hl hge ht
  have hsplit : l.take size ++ l.drop size = l := List.take_append_drop size l
  have hclen : (l.take size).length = size := by rw [List.length_take]; omega
  have h0 : ¬ l.length = 0 := by omega
  have hlt : ¬ l.length < size := by omega
  by_cases hcr : (l.take size).getLast? = some 13
  · obtain ⟨c', hc'⟩ := List.getLast?_eq_some_iff.mp hcr
    have hc'len : c'.length = size - 1 := by rw [hc'] at hclen; simp at hclen; omega
    have hl' : l = c' ++ 13 :: l.drop size := by
      conv => lhs; rw [← hsplit, hc', List.append_assoc]
      rfl
    refine ⟨c', 13 :: l.drop size, ?_, hl', ?_, by omega, ?_, ?_⟩
    · simp only [lineOf, hslice, ↓reduceIte, hc', List.getLast?_concat, List.dropLast_concat, List.cons_append]
    · exact List.ne_nil_of_length_pos (by omega)
    · conv => lhs; rw [hl']
      exact chompCR_append _ _ (List.cons_ne_nil _ _)
    · intro f
      have hd : l.drop (size - 1) = 13 :: l.drop size := by
        conv => lhs; rw [hl', ← hc'len, List.drop_left]
      simp only [endsPendingAux, beq_iff_eq, h0, ↓reduceIte, hlt, hcr, hd]
  · refine ⟨l.take size, l.drop size, ?_, hsplit.symm, ?_, by omega, ?_, ?_⟩
    · simp only [lineOf, hslice, ↓reduceIte, hcr]
    · exact List.ne_nil_of_length_pos (by omega)
    · by_cases hnil : l.drop size = []
      · conv => lhs; rw [← hsplit, hnil, List.append_nil, chompCR_of_ne hcr]
        rw [hnil]; exact (List.append_nil _).symm
      · conv => lhs; rw [← hsplit]
        exact chompCR_append _ _ hnil
    · intro f
      simp only [endsPendingAux, beq_iff_eq, h0, ↓reduceIte, hlt, hcr]

theorem lineOf_end {size : Nat} {fin : Err} {e : Bool} (hf : fin ≠ .bufferFull) (hs : 0 < size) :
    lineOf size fin e [] = (⟨[], false, some fin⟩, []) := by
  have h : sliceOf size 10 fin e [] = ([], some fin, []) := sliceOf_rest (by simp) (Or.inl hs)
  simp only [lineOf, h, Option.some.injEq, hf, ↓reduceIte, List.length_nil]

theorem lineOf_rest {size : Nat} {fin : Err} {e : Bool} {l : Bytes} (hf : fin ≠ .bufferFull) (hl : (10 : UInt8) ∉ l)
    (hne : l ≠ []) (hs : l.length < size ∨ (l.length = size ∧ e = true)) :
    lineOf size fin e l = (⟨l, false, none⟩, []) := by
  have h0 : ¬ l.length = 0 := fun h => hne (List.eq_nil_of_length_eq_zero h)
  have h1 : l.getLast? ≠ some 10 := fun h => hl (List.mem_of_getLast? h)
  simp only [lineOf, sliceOf_rest hl hs, Option.some.injEq, hf, ↓reduceIte, h0, h1]

theorem endsPendingAux_nil (size : Nat) {f : Nat} (hf : 0 < f) : endsPendingAux size f [] = true := by
  obtain ⟨f, rfl⟩ : ∃ f', f = f' + 1 := ⟨f - 1, by omega⟩
  rfl

theorem endsPendingAux_short {size : Nat} {l : Bytes} (hne : l ≠ []) (hs : l.length < size) (f : Nat) :
    endsPendingAux size f l = false := by
  have h0 : ¬ l.length = 0 := fun h => hne (List.eq_nil_of_length_eq_zero h)
  cases f with
  | zero => rfl
  | succ f => simp only [endsPendingAux, beq_iff_eq, h0, ↓reduceIte, hs]

theorem collectLine_step {b₀ b : Reader} {st : Bytes} (fuel : Nat) (acc : Bytes) (h : Reads b₀ st b) {ln : Line}
    {st' : Bytes} (hln : lineOf b₀.size b₀.src.fin b₀.src.withData st = (ln, st')) :
    ∃ b₁, Reads b₀ st' b₁ ∧
      collectLine (fuel + 1) b acc =
        match ln.err with
        | some e => (acc, some e, b₁)
        | none => if ln.isPrefix = true then collectLine fuel b₁ (acc ++ ln.line) else (acc ++ ln.line, none, b₁) := by
  obtain ⟨h1, h2⟩ := readLine_spec h
  rw [hln] at h1 h2
  generalize hrl : readLine b = res at h1 h2
  obtain ⟨ln', b₁⟩ := res
  obtain rfl : ln' = ln := h1
  exact ⟨b₁, h2, by rw [collectLine, hrl]; rfl⟩

/-- **A terminated physical line of any length** is what the loop collects: the concatenation of
    the `isPrefix` fragments and the final fragment is the line without its `\n` and without one
    `\r` directly before it; the stream continues after the terminator. -/
theorem collectLine_terminated {b₀ : Reader} (post : Bytes) : ∀ (fuel : Nat) (l : Bytes) (b : Reader) (acc : Bytes),
    (10 : UInt8) ∉ l → Reads b₀ (l ++ 10 :: post) b → l.length < fuel →
    ∃ b', collectLine fuel b acc = (acc ++ chompCR l, none, b') ∧ Reads b₀ post b' := by
  intro fuel
  induction fuel with
  | zero => intro _ _ _ _ _ h; omega
  | succ fuel ih =>
    intro l b acc hl h hfuel
    by_cases hshort : l.length < b₀.size
    · obtain ⟨b₁, h₁, hstep⟩ := collectLine_step fuel acc h (lineOf_short post hl hshort)
      exact ⟨b₁, hstep, h₁⟩
    · obtain ⟨c, l', hline, hsplit, hc, -, hchomp, -⟩ := lineOf_chunk (fin := b₀.src.fin) (e := b₀.src.withData)
        (10 :: post) hl h.size_ge (by omega) (Or.inl (List.cons_ne_nil _ _))
      obtain ⟨b₁, h₁, hstep⟩ := collectLine_step fuel acc h hline
      have hlen : l'.length < fuel := by
        have := List.length_pos_iff.mpr hc
        rw [hsplit, List.length_append] at hfuel; omega
      obtain ⟨b', h1, h2⟩ := ih l' b₁ (acc ++ c) (fun h => hl (hsplit ▸ List.mem_append_right _ h)) h₁ hlen
      exact ⟨b', by rw [hstep, hchomp, ← List.append_assoc]; exact h1, h2⟩

/-- **An unterminated last line of any length**: the fragments the loop collects are the line,
    byte for byte (a final CR is kept); the loop ends with a complete line, or — exactly when
    `endsPendingAux` says so and the final error comes after the last bytes, or when nothing is
    left — with the final error while the fragments are still pending. -/
theorem collectLine_last {b₀ : Reader} : ∀ (fuel : Nat) (l : Bytes) (b : Reader) (acc : Bytes), (10 : UInt8) ∉ l →
    Reads b₀ l b → l.length < fuel →
    ∃ b', collectLine fuel b acc =
        (acc ++ l,
         (if l = [] ∨ (b₀.src.withData = false ∧ endsPendingAux b₀.size fuel l = true) then some b₀.src.fin else none),
         b') ∧ Reads b₀ [] b' := by
  intro fuel
  induction fuel with
  | zero => intro _ _ _ _ _ h; omega
  | succ fuel ih =>
    intro l b acc hl h hfuel
    have hsz := h.size_ge
    by_cases hnil : l = []
    · subst hnil
      obtain ⟨b₁, h₁, hstep⟩ := collectLine_step fuel acc h (lineOf_end h.fin_ne (by omega))
      exact ⟨b₁, by rw [hstep]; simp, h₁⟩
    by_cases hshort : l.length < b₀.size ∨ (l.length = b₀.size ∧ b₀.src.withData = true)
    · obtain ⟨b₁, h₁, hstep⟩ := collectLine_step fuel acc h (lineOf_rest h.fin_ne hl hnil hshort)
      have hcond : ¬ (l = [] ∨ (b₀.src.withData = false ∧ endsPendingAux b₀.size (fuel + 1) l = true)) := by
        rintro (h | ⟨hw, hp⟩)
        · exact hnil h
        · rcases hshort with hs | ⟨_, hw'⟩
          · rw [endsPendingAux_short hnil hs] at hp; exact Bool.false_ne_true hp
          · rw [hw] at hw'; exact Bool.false_ne_true hw'
      exact ⟨b₁, by rw [hstep, if_neg hcond]; simp only [Bool.false_eq_true, ↓reduceIte], h₁⟩
    · obtain ⟨hge, ht⟩ := full_of_not_rest hshort
      obtain ⟨c, l', hline, hsplit, hc, hcs, -, hpend⟩ := lineOf_chunk (fin := b₀.src.fin) [] hl hsz hge (Or.inr ht)
      simp only [List.append_nil] at hline
      obtain ⟨b₁, h₁, hstep⟩ := collectLine_step fuel acc h hline
      have hlen := List.length_pos_iff.mpr hc
      have hll : l.length = c.length + l'.length := by rw [hsplit, List.length_append]
      obtain ⟨b', h1, h2⟩ := ih l' b₁ (acc ++ c) (fun h => hl (hsplit ▸ List.mem_append_right _ h)) h₁ (by omega)
      refine ⟨b', ?_, h2⟩
      rw [hstep]
      simp only [↓reduceIte]
      rw [h1, hpend, List.append_assoc, ← hsplit]
      congr 2
      -- nothing is left only after a buffer filled exactly, with the final error still to come
      by_cases hd : l' = []
      · have hw : b₀.src.withData = false := by
          rcases ht with ht | ht
          · simp only [hd, List.length_nil] at hll; omega
          · exact ht
        simp only [hd, hw, endsPendingAux_nil b₀.size (by omega : 0 < fuel), hnil, true_or, false_or, and_self]
      · simp only [hnil, hd, false_or]

theorem nextLine_terminated {b₀ b : Reader} (l post : Bytes) (hl : (10 : UInt8) ∉ l) (h : Reads b₀ (l ++ 10 :: post) b) :
    ∃ b', nextLine b = (chompCR l, none, b') ∧ Reads b₀ post b' :=
  collectLine_terminated post (b.stream.length + 1) l b [] hl h (by rw [h.stream, List.length_append]; omega)

theorem nextLine_last {b₀ b : Reader} (l : Bytes) (hl : (10 : UInt8) ∉ l) (h : Reads b₀ l b) :
    ∃ b', nextLine b =
        (l, (if l = [] ∨ (b₀.src.withData = false ∧ endsPendingAux b₀.size (l.length + 1) l = true)
              then some b₀.src.fin else none), b') ∧ Reads b₀ [] b' :=
  h.stream ▸ collectLine_last (b.stream.length + 1) b.stream b [] (h.stream ▸ hl) (h.stream ▸ h) (Nat.lt_succ_self _)

theorem collectLoop_step {b₀ b : Reader} {st : Bytes} {delim : UInt8} (fuel : Nat) (full : List Bytes) (h : Reads b₀ st b)
    {frag st' : Bytes} {e : Option Err} (hsl : sliceOf b₀.size delim b₀.src.fin b₀.src.withData st = (frag, e, st')) :
    ∃ b₁, Reads b₀ st' b₁ ∧
      collectLoop delim (fuel + 1) b full =
        if e = some .bufferFull then collectLoop delim fuel b₁ (full ++ [frag]) else (full, frag, e, b₁) := by
  obtain ⟨h1, h2, h3⟩ := readSlice_reads delim h hsl
  generalize hrl : readSlice delim b = res at h1 h2 h3
  obtain ⟨frag', e', b₁⟩ := res
  obtain rfl : frag' = frag := h1
  obtain rfl : e' = e := h2
  refine ⟨b₁, h3, ?_⟩
  rw [collectLoop, hrl]
  cases e' with
  | none => rfl
  | some e => cases e <;> rfl

theorem collectLoop_terminated {b₀ : Reader} {delim : UInt8} (post : Bytes) : ∀ (fuel : Nat) (l : Bytes) (b : Reader)
    (full : List Bytes), delim ∉ l → Reads b₀ (l ++ delim :: post) b → l.length < fuel →
    ∃ b' full' frag, collectLoop delim fuel b full = (full', frag, none, b') ∧
      full'.flatten ++ frag = full.flatten ++ l ++ [delim] ∧ Reads b₀ post b' := by
  intro fuel
  induction fuel with
  | zero => intro _ _ _ _ _ h; omega
  | succ fuel ih =>
    intro l b full hl h hfuel
    have hsz := h.size_ge
    by_cases hshort : l.length < b₀.size
    · obtain ⟨b₁, h₁, hstep⟩ := collectLoop_step fuel full h (sliceOf_short post hl hshort)
      exact ⟨b₁, full, l ++ [delim], by rw [hstep, if_neg nofun], (List.append_assoc ..).symm, h₁⟩
    · obtain ⟨b₁, h₁, hstep⟩ := collectLoop_step fuel full h
        (sliceOf_full (delim :: post) hl (by omega) (Or.inl (List.cons_ne_nil _ _)))
      obtain ⟨b', full', frag, h1, h2, h3⟩ := ih (l.drop b₀.size) b₁ (full ++ [l.take b₀.size])
        (fun h => hl (List.mem_of_mem_drop h)) h₁ (by rw [List.length_drop]; omega)
      refine ⟨b', full', frag, by rw [hstep, if_pos rfl, h1], ?_, h3⟩
      rw [h2, List.flatten_append, List.flatten_singleton, List.append_assoc _ (l.take b₀.size), List.take_append_drop]

theorem collectLoop_last {b₀ : Reader} {delim : UInt8} : ∀ (fuel : Nat) (l : Bytes) (b : Reader) (full : List Bytes),
    delim ∉ l → Reads b₀ l b → l.length < fuel →
    ∃ b' full' frag, collectLoop delim fuel b full = (full', frag, some b₀.src.fin, b') ∧
      full'.flatten ++ frag = full.flatten ++ l ∧ Reads b₀ [] b' := by
  intro fuel
  induction fuel with
  | zero => intro _ _ _ _ _ h; omega
  | succ fuel ih =>
    intro l b full hl h hfuel
    have hsz := h.size_ge
    by_cases hshort : l.length < b₀.size ∨ (l.length = b₀.size ∧ b₀.src.withData = true)
    · obtain ⟨b₁, h₁, hstep⟩ := collectLoop_step fuel full h (sliceOf_rest hl hshort)
      exact ⟨b₁, full, l, by rw [hstep, if_neg (by simpa using h.fin_ne)], rfl, h₁⟩
    · obtain ⟨hge, ht⟩ := full_of_not_rest hshort
      have hsl := sliceOf_full (fin := b₀.src.fin) [] hl hge (Or.inr ht)
      simp only [List.append_nil] at hsl
      obtain ⟨b₁, h₁, hstep⟩ := collectLoop_step fuel full h hsl
      obtain ⟨b', full', frag, h1, h2, h3⟩ := ih (l.drop b₀.size) b₁ (full ++ [l.take b₀.size])
        (fun h => hl (List.mem_of_mem_drop h)) h₁ (by rw [List.length_drop]; omega)
      refine ⟨b', full', frag, by rw [hstep, if_pos rfl, h1], ?_, h3⟩
      rw [h2, List.flatten_append, List.flatten_singleton, List.append_assoc, List.take_append_drop]

/-- **`ReadBytes(delim)` returns exactly the line with its terminator**, for every line length,
    and leaves the stream after it. -/
theorem readBytes_terminated {b₀ b : Reader} {delim : UInt8} (l post : Bytes) (hl : delim ∉ l)
    (h : Reads b₀ (l ++ delim :: post) b) :
    ∃ b', readBytes delim b = (l ++ [delim], none, b') ∧ Reads b₀ post b' := by
  obtain ⟨b', full', frag, h1, h2, h3⟩ := collectLoop_terminated post (b.stream.length + 1) l b [] hl h
    (by rw [h.stream, List.length_append]; omega)
  exact ⟨b', by simp only [readBytes, h1, h2, List.flatten_nil, List.nil_append], h3⟩

/-- **… or the unterminated rest with the final error** (`io.EOF`). -/
theorem readBytes_last {b₀ b : Reader} {delim : UInt8} (l : Bytes) (hl : delim ∉ l) (h : Reads b₀ l b) :
    ∃ b', readBytes delim b = (l, some b₀.src.fin, b') ∧ Reads b₀ [] b' := by
  obtain ⟨b', full', frag, h1, h2, h3⟩ := collectLoop_last (b.stream.length + 1) l b [] hl h (by rw [h.stream]; omega)
  exact ⟨b', by simp only [readBytes, h1, h2, List.flatten_nil, List.nil_append], h3⟩

/-- nothing above needs it: `Reads b₀` states every link for the configuration of `b₀` -/
theorem sameCfg_lineOf {b b' : Reader} (h : SameCfg b b') (st : Bytes) :
    lineOf b'.size b'.src.fin b'.src.withData st = lineOf b.size b.src.fin b.src.withData st := by
  rw [h.1, h.2.2.1, h.2.2.2]

end Biogo.Go.Bufio
