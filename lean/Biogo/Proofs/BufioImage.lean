/-
The line-level views the reader models consume are the image of the byte-level `bufio.Reader`
model: `Biogo.Spec.Bufio.lineInput` (= `Biogo.Go.Bytes.readLineInput` at 4096) for a `ReadLine`
loop, `Biogo.BytesFeat.lines` for a `ReadBytes('\n')` loop.
-/
import Biogo.Proofs.BufioLines
import Biogo.Proofs.LineInput
import Biogo.Proofs.FeatTrim

namespace Biogo.Go.Bufio
open Biogo.Spec.Bufio (lineInput endsPending endsPendingAux readBytesCalls)
open Biogo.Go.Bytes (splitLines stripCR)
open Biogo.BytesFeat (first_lf lf_induction lines_line lines_last)

theorem chompCR_eq_stripCR (l : Bytes) : chompCR l = stripCR l := by
  rcases List.eq_nil_or_concat l with rfl | ⟨l', a, rfl⟩
  · rfl
  · simp only [chompCR, stripCR, List.concat_eq_append, List.getLast?_concat, Option.some.injEq, List.dropLast_concat,
      List.reverse_append, List.reverse_singleton, List.singleton_append]
    by_cases ha : a = 13
    · rw [if_pos ha, ha]
      exact (List.reverse_reverse l').symm
    · rw [if_neg ha]
      rcases Biogo.Go.Bytes.dropCR_cases (a :: l'.reverse) with h | ⟨t, ht, -⟩
      · rw [h, List.reverse_cons, List.reverse_reverse]
      · exact absurd (List.cons.inj ht).1 ha

theorem lineInput_nil (size : Nat) (wd : Bool) : lineInput size wd [] = ([], []) := by
  simp [lineInput, Biogo.Go.Bytes.splitLines_nil]

theorem lineInput_line (size : Nat) (wd : Bool) (l post : Bytes) (hl : (10 : UInt8) ∉ l) :
    lineInput size wd (l ++ 10 :: post) =
      (stripCR l :: (lineInput size wd post).1, (lineInput size wd post).2) := by
  rw [lineInput_parts, lineInput_parts, Biogo.Go.Bytes.splitParts_line l post [] (fun b hb e => hl (e ▸ hb))]
  split <;> simp [stripCR]

theorem endsPending_eq {size : Nat} {l : Bytes} (hne : l ≠ []) :
    endsPending size l = endsPendingAux size (l.length + 1) l := by
  simp only [endsPending]
  by_cases h : l.length ≥ size
  · simp [h]
  · have h0 : ¬ l.length = 0 := fun h0 => hne (List.eq_nil_of_length_eq_zero h0)
    have hlt : l.length < size := by omega
    simp [h, endsPendingAux, h0, hlt]

theorem lineInput_last (size : Nat) (wd : Bool) (l : Bytes) (hl : (10 : UInt8) ∉ l) :
    lineInput size wd l =
      if l = [] ∨ (wd = false ∧ endsPendingAux size (l.length + 1) l = true) then ([], l) else ([l], []) := by
  rw [lineInput_parts, Biogo.Go.Bytes.splitParts_last l [] (fun b hb e => hl (e ▸ hb))]
  by_cases hne : l = []
  · subst hne; simp [Biogo.Go.Bytes.optLine]
  · cases wd <;> simp [hne, Biogo.Go.Bytes.optLine, endsPending_eq hne]

theorem lineInput_length_le (size : Nat) (wd : Bool) (bs : Bytes) : (lineInput size wd bs).1.length ≤ bs.length := by
  induction bs using lf_induction with
  | last l hl =>
    rw [lineInput_last _ _ l hl]
    split
    · exact Nat.zero_le _
    · rename_i hc
      exact List.length_pos_iff.mpr fun h => hc (Or.inl h)
  | line l post hl ih =>
    rw [lineInput_line _ _ l post hl, List.length_append, List.length_cons, List.length_cons]
    omega

/-- `b` has the complete lines `li.1`, then the fragments `li.2` pending at the final error, to deliver -/
def ReadsLines (b₀ : Reader) (li : List Bytes × Bytes) (b : Reader) : Prop :=
  ∃ st, Reads b₀ st b ∧ lineInput b₀.size b₀.src.withData st = li

theorem ReadsLines.init {b : Reader} (h : Inv b) :
    ReadsLines b ((lineInput b.size b.src.withData b.stream).1, (lineInput b.size b.src.withData b.stream).2) b :=
  ⟨b.stream, Reads.init h, rfl⟩

theorem ReadsLines.unpack {b₀ b : Reader} {li : List Bytes × Bytes} (h : ReadsLines b₀ li b) :
    Inv b ∧ SameCfg b₀ b ∧ lineInput b.size b.src.withData b.stream = li :=
  let ⟨_, hr, hli⟩ := h
  ⟨hr.inv, hr.cfg, by rw [hr.cfg.1, hr.cfg.2.2.1, hr.stream]; exact hli⟩

theorem ReadsLines.length_le {b₀ b : Reader} {li : List Bytes × Bytes} (h : ReadsLines b₀ li b) :
    li.1.length ≤ b.stream.length :=
  let ⟨_, hr, hli⟩ := h
  hli ▸ hr.stream ▸ lineInput_length_le ..

/-- **One round of the `ReadLine`/`append`/`isPrefix` loop takes the first of the lines to deliver**;
    when there is none it returns the pending fragments with the final error and leaves nothing. -/
theorem nextLine_spec {b₀ b : Reader} {ls : List Bytes} {pend : Bytes} (h : ReadsLines b₀ (ls, pend) b) :
    ∃ b', match ls with
      | l :: ls' => nextLine b = (l, none, b') ∧ ReadsLines b₀ (ls', pend) b'
      | [] => nextLine b = (pend, some b₀.src.fin, b') ∧ ReadsLines b₀ ([], []) b' := by
  obtain ⟨st, hr, hli⟩ := h
  rcases first_lf st with hno | ⟨l, post, rfl, hl⟩
  · obtain ⟨b', h1, h2⟩ := nextLine_last st hno hr
    have hend : ReadsLines b₀ ([], []) b' := ⟨[], h2, lineInput_nil _ _⟩
    rw [lineInput_last _ _ _ hno] at hli
    by_cases hc : st = [] ∨ (b₀.src.withData = false ∧ endsPendingAux b₀.size (st.length + 1) st = true)
    · rw [if_pos hc] at h1 hli
      cases hli
      exact ⟨b', h1, hend⟩
    · rw [if_neg hc] at h1 hli
      cases hli
      exact ⟨b', h1, hend⟩
  · obtain ⟨b', h1, h2⟩ := nextLine_terminated l post hl hr
    rw [lineInput_line _ _ l post hl, ← chompCR_eq_stripCR] at hli
    cases hli
    exact ⟨b', h1, post, h2, rfl⟩

theorem allLinesAux_image {b₀ : Reader} : ∀ (fuel : Nat) (b : Reader) (ls : List Bytes) (pend : Bytes),
    ReadsLines b₀ (ls, pend) b → ls.length < fuel → allLinesAux fuel b = (ls, pend, some b₀.src.fin) := by
  intro fuel
  induction fuel with
  | zero => intro _ _ _ _ h; omega
  | succ fuel ih =>
    intro b ls pend hr hf
    obtain ⟨b', h⟩ := nextLine_spec hr
    rw [allLinesAux]
    cases ls with
    | nil => rw [h.1]
    | cons l ls' =>
      rw [h.1]
      simp only [ih b' ls' pend h.2 (Nat.lt_of_succ_lt_succ hf)]

/-- **The image of a `ReadLine` loop.**  Over any reader in a state between calls, with stream
    `bs`: the complete lines it collects, the fragments pending at the final error, and that
    error, are `lineInput size withData bs` and `fin`. -/
theorem allLines_image (b : Reader) (hinv : Inv b) :
    allLines b = ((lineInput b.size b.src.withData b.stream).1, (lineInput b.size b.src.withData b.stream).2,
      some b.src.fin) :=
  allLinesAux_image _ b _ _ (ReadsLines.init hinv) (Nat.lt_succ_of_le (lineInput_length_le ..))

theorem readBytesCalls_line (fin : Err) (l post : Bytes) (hl : (10 : UInt8) ∉ l) :
    readBytesCalls fin (l ++ 10 :: post) = (l ++ [10], none) :: readBytesCalls fin post := by
  simp only [readBytesCalls, lines_line l post hl, List.map_cons, List.getLast?_concat, ↓reduceIte, List.cons_append]
  congr 2
  by_cases hp : post = []
  · subst hp; simp
  · rw [getLast?_append_ne l (List.cons_ne_nil _ _), List.getLast?_cons_of_ne_nil hp]
    simp [hp]

theorem readBytesCalls_last (fin : Err) (l : Bytes) (hl : (10 : UInt8) ∉ l) : readBytesCalls fin l = [(l, some fin)] := by
  by_cases hne : l = []
  · subst hne; simp [readBytesCalls, Biogo.BytesFeat.lines]
  · have h1 : l.getLast? ≠ some 10 := fun h => hl (List.mem_of_getLast? h)
    simp [readBytesCalls, lines_last l hl hne, h1, hne]

theorem allReadBytesAux_image {b₀ : Reader} (bs : Bytes) : ∀ (b : Reader) (fuel : Nat), Reads b₀ bs b → bs.length < fuel →
    allReadBytesAux fuel b = readBytesCalls b₀.src.fin bs := by
  induction bs using lf_induction with
  | last l hl =>
    intro b fuel hr hfuel
    obtain ⟨fuel, rfl⟩ : ∃ f, fuel = f + 1 := ⟨fuel - 1, by omega⟩
    obtain ⟨b', h1, -⟩ := readBytes_last l hl hr
    rw [allReadBytesAux, h1, readBytesCalls_last _ l hl]
  | line l post hl ih =>
    intro b fuel hr hfuel
    obtain ⟨fuel, rfl⟩ : ∃ f, fuel = f + 1 := ⟨fuel - 1, by omega⟩
    obtain ⟨b', h1, h2⟩ := readBytes_terminated l post hl hr
    rw [List.length_append, List.length_cons] at hfuel
    rw [allReadBytesAux, h1, readBytesCalls_line _ l post hl, ← ih b' fuel h2 (by omega)]

/-- **The image of a `ReadBytes('\n')` loop.** -/
theorem allReadBytes_image (b : Reader) (hinv : Inv b) : allReadBytes b = readBytesCalls b.src.fin b.stream :=
  allReadBytesAux_image _ b _ (Reads.init hinv) (Nat.lt_succ_self _)

/-- the data of the calls the BED and GFF readers go on to process (no error, or the final
    error together with a non-empty unterminated line) are `Biogo.BytesFeat.lines` -/
theorem readBytesCalls_processed (fin : Err) (bs : Bytes) :
    ((readBytesCalls fin bs).filter (fun c => c.2.isNone || !c.1.isEmpty)).map (·.1) = Biogo.BytesFeat.lines bs := by
  induction bs using lf_induction with
  | last l hl =>
    rw [readBytesCalls_last _ l hl]
    by_cases hnil : l = []
    · subst hnil; simp [Biogo.BytesFeat.lines]
    · simp [lines_last l hl hnil, hnil]
  | line l post hl ih =>
    rw [readBytesCalls_line _ l post hl, lines_line l post hl, ← ih]
    simp

/-- what the FASTA reader makes of the `ReadLine` loop after fix `02b768f`: fragments pending at
    `io.EOF` are processed as a line, so it sees `splitLines` (the `if` spelt as in `fastaOverBufio`) -/
theorem lineInput_all_lines (size : Nat) (wd : Bool) (bs : Bytes) :
    (lineInput size wd bs).1 ++ (if (lineInput size wd bs).2 = [] then [] else [(lineInput size wd bs).2])
      = splitLines bs := by
  rw [lineInput_parts, splitLines, Biogo.Go.Bytes.splitLinesAux_parts]
  split <;> simp [Biogo.Go.Bytes.optLine]

end Biogo.Go.Bufio
