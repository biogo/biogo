/-
The count-based consensus (seq.DefaultConsensus, letters only) of a unanimous column.  Core-only.
-/
import Biogo.Model.Containers

namespace Biogo.Containers
open Biogo.Alphabet

/-- the counting loop: every valid letter increments its index -/
def countStep (a : Alpha) (w : List Nat) (l : UInt8) : List Nat :=
  if a.valid l then w.modify (a.index l).toNat (· + 1) else w

/-- the arg-max loop: first strict maximum -/
def argStep (acc : Nat × Nat × Nat) (v : Nat) : Nat × Nat × Nat :=
  if v > acc.1 then (v, acc.2.2, acc.2.2 + 1) else (acc.1, acc.2.1, acc.2.2 + 1)

theorem consensusLetter_eq (a : Alpha) (col : List UInt8) :
    consensusLetter a col =
      (a.letter ((col.foldl (countStep a) (List.replicate a.length 0)).foldl argStep (0, 0, 0)).2.1).getD 0 := rfl

theorem count_unanimous (a : Alpha) (k : Nat) : ∀ (col : List UInt8) (w : List Nat),
    (∀ l ∈ col, a.valid l = true ∧ (a.index l).toNat = k) →
    col.foldl (countStep a) w = w.modify k (· + col.length) := by
  intro col
  induction col with
  | nil => intro w _; exact (List.modify_id k w).symm
  | cons l ls ih =>
    intro w hall
    obtain ⟨hv, hk⟩ := hall l List.mem_cons_self
    simp only [List.foldl_cons, countStep, hv, if_true, hk]
    rw [ih _ (fun x hx => hall x (List.mem_cons_of_mem _ hx)), List.modify_modify_eq]
    congr 1
    funext x
    simp only [Function.comp, List.length_cons]
    omega

theorem argStep_zeros (mx mi : Nat) : ∀ (n i : Nat),
    (List.replicate n 0).foldl argStep (mx, mi, i) = (mx, mi, i + n) := by
  intro n
  induction n with
  | zero => intro i; rfl
  | succ n ih =>
    intro i
    simp only [List.replicate_succ, List.foldl_cons, argStep, Nat.not_lt_zero, gt_iff_lt, if_false]
    rw [ih]; congr 2; omega

theorem replicate_modify (n k c : Nat) (hk : k < n) :
    (List.replicate n 0).modify k (· + c) = List.replicate k 0 ++ c :: List.replicate (n - k - 1) 0 := by
  rw [List.modify_eq_take_cons_drop (by simpa using hk), List.take_replicate, List.drop_replicate,
    List.getElem_replicate, Nat.min_eq_left (Nat.le_of_lt hk), Nat.zero_add, Nat.sub_sub]

/-- **the consensus of a unanimous column**: if the column is non-empty and every letter of it
    is valid with the same alphabet index `k`, the count-based consensus is `Letter(k)` -/
theorem consensus_unanimous (a : Alpha) (col : List UInt8) (k : Nat) (hne : col ≠ []) (hk : k < a.length)
    (hall : ∀ l ∈ col, a.valid l = true ∧ (a.index l).toNat = k) :
    consensusLetter a col = (a.letter k).getD 0 := by
  rw [consensusLetter_eq]
  rw [count_unanimous a k col _ hall, replicate_modify a.length k col.length hk, List.foldl_append,
      argStep_zeros 0 0 k 0, List.foldl_cons]
  have hpos : col.length > 0 := by
    cases col with
    | nil => exact (hne rfl).elim
    | cons _ _ => simp
  have hstep : argStep (0, 0, 0 + k) col.length = (col.length, k, k + 1) := by
    simp only [argStep, Nat.zero_add, gt_iff_lt, hpos, if_true]
  rw [hstep, argStep_zeros]

end Biogo.Containers
