/-
`NWAffine` (model `Biogo.AlignAff.nwAlign`), for C08 and C09: the table it fills is the reference
table of `Spec.AffineOpt` (`nwRows_eq`) — with the cross transitions since the repair of K1
(`cross = true`, the code), without them before (`cross = false`) —, its borders hold the leading gaps
and nothing else (`nwTable_borders`), and its traceback reports pairs that form a well-formed path
spanning both sequences (`nwAlignT_wf`) and whose total is the best value of the last cell, the optimum
over the global alignments (`nwAlignT_total`).
-/
import Biogo.Proofs.AffineOpt
import Biogo.Proofs.AlignAffTable
import Biogo.Proofs.TraceFaith

namespace Biogo.Proofs.NWAffine
open Biogo.Spec.Alignment Biogo.AlignAff Biogo.Spec.AffineOpt Biogo.Proofs.AffineAln
open Biogo.Proofs.AffineOpt Biogo.Proofs.AlignAffTable Biogo.Proofs.TraceSum Biogo.Proofs.TraceWF Biogo.Proofs.TraceFaith
open Biogo.Spec.AffPairs

/-- the class of alignments `NWAffine` explores: global; all of them since the repair of K1
    (`cross = true`), before it those with no gap next to an opposite gap -/
def flN (cross : Bool) : Flags := ⟨cross, false, false⟩

theorem gapVal_none_none (fl : Flags) (o g : Int) (ps : V) : gapVal fl o g none ps none = vadd ps g := by
  cases h : fl.cross <;> cases ps <;> simp [gapVal, h, vadd, max3, vgt]

theorem gapVal_some_none_none (fl : Flags) (o g d : Int) :
    gapVal fl o g (some d) none none = some (d + (o + g)) := by
  cases h : fl.cross <;> simp [gapVal, h, vadd, max3, vgt]

theorem nwCell_eq (cross : Bool) (S : Matrix) (o : Int) : nwCell cross S o = optCell (flN cross) S o := by
  funext x pd pu lc y
  have e1 := gapLayer_eq (flN cross) o (S x 0) pu.d pu.u pu.l
  have e2 := gapLayer_eq (flN cross) o (S 0 y) lc.d lc.l lc.u
  simp only [flN] at e1 e2
  simp only [nwCell, optCell, e1, e2]
  simp [flN, emptyAt, max2_none_left]

theorem row0Tail_eq (cross : Bool) (S : Matrix) (o : Int) :
    ∀ (ys : List Nat) (l : V), row0Tail S l ys = optRow0Tail (flN cross) S o ⟨none, none, l⟩ ys := by
  intro ys
  induction ys with
  | nil => intro l; rfl
  | cons y ys ih =>
    intro l
    simp only [row0Tail, optRow0Tail, gapVal_none_none]
    rw [ih]
    simp [flN, emptyAt]

theorem nwRow0_eq (cross : Bool) (S : Matrix) (o : Int) (q : List Nat) :
    nwRow0 S o q = origin :: optRow0Tail (flN cross) S o origin q := by
  cases q with
  | nil => rfl
  | cons y ys =>
    simp only [nwRow0, optRow0Tail, origin, gapVal_some_none_none]
    rw [row0Tail_eq cross S o]
    simp [flN, emptyAt]

theorem fillRows_nw_eq (cross : Bool) (S : Matrix) (o : Int) (q : List Nat) :
    ∀ (xs : List Nat) (b : Bool) (prev : List Cell),
      (if b then prev.headD noCell = origin
       else (prev.headD noCell).d = none ∧ (prev.headD noCell).l = none) →
      fillRows (nwFirst S o) (optCell (flN cross) S o) q b prev xs =
        fillRows (optFirst (flN cross) S o) (optCell (flN cross) S o) q b prev xs := by
  intro xs
  induction xs with
  | nil => intro b prev _; rfl
  | cons x xs ih =>
    intro b prev h
    have hfc : nwFirst S o b (prev.headD noCell) x = optFirst (flN cross) S o b (prev.headD noCell) x := by
      cases b with
      | true =>
        simp only [if_true] at h
        rw [h]
        simp only [nwFirst, optFirst, origin, if_true, gapVal_some_none_none]
        simp [flN, emptyAt]
      | false =>
        simp only [Bool.false_eq_true, if_false] at h
        simp only [nwFirst, optFirst, h.1, h.2, Bool.false_eq_true, if_false, gapVal_none_none]
        simp [flN, emptyAt]
    simp only [fillRows]
    rw [← hfc]
    congr 1
    apply ih
    simp only [Bool.false_eq_true, if_false, List.headD_cons]
    cases b <;> simp [nwFirst]

theorem nwRows_eq (cross : Bool) (S : Matrix) (o : Int) (r q : List Nat) :
    nwRows cross S o r q = optRows (flN cross) S o r q := by
  simp only [nwRows, optRows, nwRow0_eq cross, nwCell_eq]
  congr 1
  apply fillRows_nw_eq
  simp

theorem nwTable_at (cross : Bool) (S : Matrix) (o : Int) (r q : List Nat) (i j : Nat) (hj : j ≤ q.length) :
    (nwTable cross S o r q).at i j = rowAt (optRows (flN cross) S o r q) i j := by
  unfold nwTable
  rw [nwRows_eq]
  exact mkTable_at _ _ i j (rows_all_len _ _ q r _ (optRow0_length (flN cross) S o q)) (by omega)

/-- A gap layer along a border of the global table, `c n` being the cell `n` steps from the origin
    seen as (match layer, that gap layer, the other gap layer): the gap is opened once, out of the
    origin, and then extended. -/
theorem border_gap (fl : Flags) (o : Int) (g : Nat → Int) (N : Nat) (c : Nat → V × V × V)
    (h0 : c 0 = (some 0, none, none))
    (hs : ∀ n, n < N → c (n + 1) = (none, gapVal fl o (g n) (c n).1 (c n).2.1 (c n).2.2, none)) :
    ∀ n, n < N → c (n + 1) = (none, some (o + sumRange (n + 1) g), none) := by
  intro n
  induction n with
  | zero =>
    intro hn
    rw [hs 0 hn, h0, gapVal_some_none_none, sumRange_succ_last, sumRange_zero, Int.zero_add, Int.zero_add]
  | succ n ih =>
    intro hn
    rw [hs (n + 1) hn, ih (by omega), gapVal_none_none, sumRange_succ_last (n + 1), ← Int.add_assoc]
    rfl

theorem nwTable_row0 (cross : Bool) (S : Matrix) (o : Int) (r q : List Nat) (j : Nat) (hj : j < q.length) :
    (nwTable cross S o r q).at 0 (j + 1) = ⟨none, none, some (o + runSum S r q .l 0 0 (j + 1))⟩ := by
  have h := border_gap (flN cross) o (fun k => S 0 (q.getD k 0)) q.length
    (fun n => (((nwTable cross S o r q).at 0 n).d, ((nwTable cross S o r q).at 0 n).l,
      ((nwTable cross S o r q).at 0 n).u))
    (by rw [nwTable_at cross S o r q 0 0 (Nat.zero_le _), optRows_origin]; rfl)
    (fun n hn => by
      simp only []
      rw [nwTable_at cross S o r q 0 (n + 1) (by omega), optRows_row0 (flN cross) S o r q n hn,
        ← nwTable_at cross S o r q 0 n (by omega)]
      rfl)
    j hj
  generalize (nwTable cross S o r q).at 0 (j + 1) = c at h
  obtain ⟨d, u, l⟩ := c
  obtain ⟨rfl, rfl, rfl⟩ : d = none ∧ l = _ ∧ u = none := by simpa only [Prod.mk.injEq] using h
  simp only [runSum, letterScore, Nat.zero_add]

theorem nwTable_col0 (cross : Bool) (S : Matrix) (o : Int) (r q : List Nat) (i : Nat) (hi : i < r.length) :
    (nwTable cross S o r q).at (i + 1) 0 = ⟨none, some (o + runSum S r q .u 0 0 (i + 1)), none⟩ := by
  have h := border_gap (flN cross) o (fun k => S (r.getD k 0) 0) r.length
    (fun n => (((nwTable cross S o r q).at n 0).d, ((nwTable cross S o r q).at n 0).u,
      ((nwTable cross S o r q).at n 0).l))
    (by rw [nwTable_at cross S o r q 0 0 (Nat.zero_le _), optRows_origin]; rfl)
    (fun n hn => by
      simp only []
      rw [nwTable_at cross S o r q (n + 1) 0 (Nat.zero_le _), optRows_col0 (flN cross) S o r q n hn,
        ← nwTable_at cross S o r q n 0 (Nat.zero_le _)]
      rfl)
    i hi
  generalize (nwTable cross S o r q).at (i + 1) 0 = c at h
  obtain ⟨d, u, l⟩ := c
  obtain ⟨rfl, rfl, rfl⟩ : d = none ∧ u = _ ∧ l = none := by simpa only [Prod.mk.injEq] using h
  simp only [runSum, letterScore, Nat.zero_add]

theorem nwTable_borders (cross : Bool) (S : Matrix) (o : Int) (r q : List Nat) :
    GlobalBorders cross (nwTable cross S o r q) S o r q where
  inner := by
    intro i j hi hj
    rw [nwTable_at cross S o r q (i + 1) (j + 1) (by omega), nwTable_at cross S o r q i j (by omega),
      nwTable_at cross S o r q i (j + 1) (by omega), nwTable_at cross S o r q (i + 1) j (by omega), nwCell_eq]
    exact optRows_cell _ S o r q i j hi hj
  orig := by
    intro k v h
    rw [nwTable_at cross S o r q 0 0 (by omega), optRows_origin] at h
    cases k <;> cases h
    exact ⟨rfl, rfl⟩
  row0 := by
    intro j hj k v h
    rw [nwTable_row0 cross S o r q j hj] at h
    cases k <;> first | rfl | cases h
  col0 := by
    intro i hi k v h
    rw [nwTable_col0 cross S o r q i hi] at h
    cases k <;> first | rfl | cases h

theorem noAdjFrom_mapL (ys : List Nat) : ∀ p, p ≠ Kind.u → noAdjFrom p (ys.map .l) = true := by
  induction ys with
  | nil => intro p _; rfl
  | cons y ys ih =>
    intro p hp
    simp only [List.map_cons, noAdjFrom, Col.kind, Bool.and_eq_true]
    exact ⟨(compat_l p).mpr hp, ih .l (by decide)⟩

theorem noAdjFrom_mapU_append (xs : List Nat) (b : Aln) (hb : noAdjFrom .u b = true) :
    ∀ p, p ≠ Kind.l → noAdjFrom p b = true → noAdjFrom p (xs.map .u ++ b) = true := by
  induction xs with
  | nil => intro p _ h; exact h
  | cons x xs ih =>
    intro p hp _
    simp only [List.map_cons, List.cons_append, noAdjFrom, Col.kind, Bool.and_eq_true]
    exact ⟨(compat_u p).mpr hp, ih .u (by decide) hb⟩

theorem exists_global_noAdj (r q : List Nat) (hr : r ≠ []) (hq : q ≠ []) :
    ∃ a, IsGlobal a r q ∧ NoAdj a := by
  obtain ⟨r', x, rfl⟩ := eq_snoc_of_ne_nil r hr
  obtain ⟨y, q', rfl⟩ := List.exists_cons_of_ne_nil hq
  refine ⟨r'.map .u ++ (.m x y :: q'.map .l), ⟨?_, ?_⟩, ?_⟩
  · rw [projR_append, projR_map_u]; simp [projR, projR_map_l]
  · rw [projQ_append, projQ_map_u]; simp [projQ, projQ_map_l]
  · show noAdj _ = true
    rw [noAdj_eq_from]
    have hm : ∀ p, noAdjFrom p (Col.m x y :: q'.map .l) = true := by
      intro p
      simp only [noAdjFrom, Col.kind, Bool.and_eq_true]
      exact ⟨compat_m p, noAdjFrom_mapL q' .m (by decide)⟩
    exact noAdjFrom_mapU_append r' _ (hm .u) .m (by decide) (hm .m)

theorem nw_start (cross : Bool) (S : Matrix) (o : Int) (r q : List Nat) (hr : r ≠ []) (hq : q ≠ []) :
    ∃ x, ((nwTable cross S o r q).at r.length q.length).get (bestLayer ((nwTable cross S o r q).at r.length q.length))
        = some x ∧
      IsOpt (fun a => IsGlobal a r q ∧ (cross = true ∨ NoAdj a)) (scoreAff S o) (some x) := by
  have hopt := globalOpt_isOpt cross S o r q
  obtain ⟨a, hga, hna⟩ := exists_global_noAdj r q hr hq
  obtain ⟨x, hx, _⟩ := hopt.1 a ⟨hga, Or.inr hna⟩
  exact ⟨x, by rw [cellBest_layer, nwTable_at cross S o r q _ _ (Nat.le_refl _)]; exact hx, hx ▸ hopt⟩

/-- The pairs reported by the model of `NWAffine` add up to the best value of the last cell,
    which is the optimum over the global alignments — all of them for the fill of the code
    (`cross = true`), those without adjacent opposite gaps for the fill before the repair of K1. -/
theorem nwAlignT_total (cross : Bool) (S : Matrix) (o : Int) (r q : List Nat) (hr : r ≠ []) (hq : q ≠ []) :
    ∃ ps, (nwAlignT true cross S o r q).map (·.1) = .ok ps ∧
      IsOpt (fun a => IsGlobal a r q ∧ (cross = true ∨ NoAdj a)) (scoreAff S o) (some (total ps)) := by
  have F := nwTable_borders cross S o r q
  obtain ⟨x, hx, hopt⟩ := nw_start cross S o r q hr hq
  obtain ⟨st, v, hloop, hinv, hstop, hv, hsum, _⟩ := F.run true _ .m (Or.inl rfl) (List.length_pos_iff.mpr hr)
    (List.length_pos_iff.mpr hq) (Nat.le_refl _) (Nat.le_refl _) hx
  obtain ⟨hz, hk⟩ := F.border (Nat.le_trans hinv.hi hinv.hR) (Nat.le_trans hinv.hj hinv.hC) hstop hv
  refine ⟨_, by rw [nwAlignT_ok.2 ⟨st, hloop, rfl, rfl⟩]; rfl, ?_⟩
  split
  · -- a leading gap: its score is the value the loop stopped on
    rename_i hij
    rw [hk hij] at hv
    rwa [total_cons, hv, vget, hsum]
  · rename_i hij
    rwa [← hsum, hz (Decidable.not_not.mp hij), Int.zero_add] at hopt

/-- `NWAffine` (either switch, either fill): the returned pairs form one well-formed path that
    spans both sequences -/
theorem nwAlignT_wf (aware cross : Bool) (S : Matrix) (o : Int) (r q : List Nat) (ps : List Pair) (t : Bool)
    (h : nwAlignT aware cross S o r q = .ok (ps, t)) :
    wellFormed ps = true ∧ spansAll ps r.length q.length = true := by
  obtain ⟨st, hl, _, rfl⟩ := nwAlignT_ok.1 h
  have hinv := loop_inv aware cross false _ S o r q r.length q.length r.length q.length _ _ st
    (init_inv_of r.length q.length r.length q.length _ .m (Or.inl rfl) (Nat.le_refl _) (Nat.le_refl _)) hl
  have hstop := (tbLoop_stopped _ _ st hl (Nat.le_refl _)).border
  obtain ⟨hwf, hend, hstart⟩ := emit_wf hinv
  have hne : st.emit.aln ≠ [] := by simp [TB.emit]
  simp only [spansAll, Bool.and_eq_true, beq_iff_eq]
  split
  · -- the loop stopped on the border away from the origin: a leading gap is put in front
    refine ⟨wellFormed_cons _ _ ?_ hwf hstart, rfl, by rw [lastEnd_cons _ _ hne]; exact hend⟩
    apply pairShape_of _ (Nat.zero_le _) (Nat.zero_le _)
    simp only []
    rcases hstop with h0 | h0
    · right; left; omega
    · right; right; left; omega
  · refine ⟨hwf, ?_, hend⟩
    rw [hstart]
    have : st.i = 0 ∧ st.j = 0 := by omega
    rw [this.1, this.2]

end Biogo.Proofs.NWAffine
