import Biogo.Spec.Sequtils

namespace Biogo.Sequtils

variable {α : Type}

theorem mem_intRange (a b p : Int) : p ∈ intRange a b ↔ a ≤ p ∧ p < b := by
  simp only [intRange, List.mem_map, List.mem_range]
  constructor
  · rintro ⟨k, hk, rfl⟩; omega
  · intro ⟨h1, h2⟩
    exact ⟨(p - a).toNat, by omega, by omega⟩

theorem length_intRange (a b : Int) : (intRange a b).length = (b - a).toNat := by
  simp [intRange]

theorem intRange_empty (a b : Int) (h : b ≤ a) : intRange a b = [] := by
  have : (b - a).toNat = 0 := by omega
  simp [intRange, this]

theorem getElem?_intRange (a b : Int) (k : Nat) :
    (intRange a b)[k]? = if k < (b - a).toNat then some (a + (k : Int)) else none := by
  rw [intRange, List.getElem?_map]
  split
  · rename_i h
    rw [List.getElem?_range h]
    rfl
  · rename_i h
    rw [List.getElem?_eq_none (by rw [List.length_range]; exact Nat.le_of_not_lt h)]
    rfl

theorem pairwise_intRange (a b : Int) : (intRange a b).Pairwise (· < ·) := by
  rw [intRange, List.pairwise_map]
  exact List.pairwise_lt_range.imp (fun h => Int.add_lt_add_left (Int.ofNat_lt.mpr h) a)

theorem eq_of_ascending {l1 l2 : List Int} (h1 : l1.Pairwise (· < ·)) (h2 : l2.Pairwise (· < ·))
    (hm : ∀ p, p ∈ l1 ↔ p ∈ l2) : l1 = l2 :=
  List.Perm.eq_of_pairwise (fun _ _ _ _ hab hba => absurd hab (Int.lt_asymm hba)) h1 h2
    ((List.perm_ext_iff_of_nodup (h1.imp Int.ne_of_lt) (h2.imp Int.ne_of_lt)).mpr hm)

theorem intRange_append (a m b : Int) (h1 : a ≤ m) (h2 : m ≤ b) :
    intRange a b = intRange a m ++ intRange m b := by
  refine eq_of_ascending (pairwise_intRange a b) ?_ (fun p => ?_)
  · refine List.pairwise_append.mpr ⟨pairwise_intRange a m, pairwise_intRange m b, fun x hx y hy => ?_⟩
    exact Int.lt_of_lt_of_le ((mem_intRange _ _ _).mp hx).2 ((mem_intRange _ _ _).mp hy).1
  · rw [List.mem_append, mem_intRange, mem_intRange, mem_intRange]
    omega

theorem filterMap_getElem?_range (l : List α) : ∀ n, (List.range n).filterMap (fun k => l[k]?) = l.take n
  | 0 => rfl
  | n + 1 => by
    rw [List.range_succ, List.filterMap_append, filterMap_getElem?_range l n, List.take_add_one]
    cases h : l[n]? <;> simp [h]

/-- positions behind the end contribute nothing -/
theorem lettersAt_intRange (xs : List α) (offset p q : Int) (hp : offset ≤ p) :
    lettersAt xs offset (intRange p q) = (xs.drop (p - offset).toNat).take (q - p).toNat := by
  rw [lettersAt, intRange, List.filterMap_map, ← filterMap_getElem?_range]
  congr 1
  funext k
  have e : (p + (k : Int) - offset).toNat = (p - offset).toNat + k := by omega
  rw [Function.comp, letterAt, if_pos (by omega), e, List.getElem?_drop]

theorem lettersAt_append (xs : List α) (offset : Int) (ps qs : List Int) :
    lettersAt xs offset (ps ++ qs) = lettersAt xs offset ps ++ lettersAt xs offset qs := by
  simp [lettersAt, List.filterMap_append]

theorem lettersAt_nil (xs : List α) (offset : Int) : lettersAt xs offset [] = [] := rfl

theorem lettersAt_map_some (xs : List α) (offset : Int) (ps : List Int)
    (hin : ∀ p ∈ ps, offset ≤ p ∧ p < offset + xs.length) :
    (lettersAt xs offset ps).map some = ps.map (letterAt xs offset) := by
  rw [lettersAt, List.map_filterMap_some_eq_filter_map_isSome, List.filter_eq_self]
  intro o ho
  obtain ⟨p, hp, rfl⟩ := List.mem_map.mp ho
  have ⟨h1, h2⟩ := hin p hp
  rw [letterAt, if_pos h1, List.getElem?_eq_getElem (by omega)]
  rfl

end Biogo.Sequtils
