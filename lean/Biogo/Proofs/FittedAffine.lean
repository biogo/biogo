/-
The table of `FittedAffine` (model `Biogo.AlignAff.fitTable`, either fill) in table coordinates
(`fitAt_*`), the cells that hold a value (`fit_some`), where the traceback starts for either end
selection (`fitStart_spec`; both selections are one scan, `lastMax`), and the traceback itself: the
table has the borders of the global one (`fitTable_borders`), so the returned pairs form a well-formed
path (`fitAlignT_wf`), end at the row the traceback starts in, and their total is the value it starts
from (`fitAlignT_value`).  `Proofs/FittedClass` and `Proofs/FittedFull` say what that value is the
optimum of, before and after the repairs of K1 and K3.
-/
import Biogo.Proofs.AffineOpt
import Biogo.Proofs.AlignAffTable
import Biogo.Proofs.NWAffine

namespace Biogo.Proofs.FittedAffine
open Biogo.Spec.Alignment Biogo.AlignAff Biogo.Spec.AffineOpt Biogo.Proofs.AffineAln
open Biogo.Proofs.AffineOpt Biogo.Proofs.AlignAffTable Biogo.Proofs.TraceSum
open Biogo.Spec.AffPairs (lastEnd firstStart wellFormed inBounds)
open Biogo.Proofs.TraceWF Biogo.Proofs.TraceFaith Biogo.Proofs.NWAffine

/-- the class of `FittedAffine`: free start in the reference, whole query, no adjacent opposite gaps -/
def flF : Flags := ⟨false, true, false⟩

def IsAtt (P : Aln → Prop) (f : Aln → Int) (v : V) : Prop := ∀ x, v = some x → ∃ a, P a ∧ f a = x

theorem att_none {P : Aln → Prop} {f : Aln → Int} : IsAtt P f none := fun _ h => by cases h

theorem att_mono {P Q : Aln → Prop} {f : Aln → Int} {v : V} (h : ∀ a, P a → Q a) (hp : IsAtt P f v) :
    IsAtt Q f v := fun x hx => let ⟨a, ha, e⟩ := hp x hx; ⟨a, h a ha, e⟩

theorem att_of_isOpt {P : Aln → Prop} {f : Aln → Int} {v : V} (h : IsOpt P f v) : IsAtt P f v := h.2

theorem gapLayer_false (o g : Int) (pd ps po : V) :
    gapLayer false o g pd ps po = max2 (vadd pd (o + g)) (vadd ps g) := rfl

def Weak (S : Matrix) (o : Int) (rp qp : List Nat) (c : Cell) : Prop :=
  ∀ k, IsAtt (Adm flF rp qp) (scoreAff S o) (c.get k)

def Strong (S : Matrix) (o : Int) (rp qp : List Nat) (c : Cell) : Prop :=
  ∀ k, IsAtt (Cls flF rp qp k) (scoreAff S o) (c.get k)

structure FitRow (S : Matrix) (o : Int) (q rp : List Nat) (row : List Cell) : Prop where
  len : row.length = q.length + 1
  weak0 : Weak S o rp [] (row.getD 0 noCell)
  m0 : IsAtt (Cls flF rp [] .m) (scoreAff S o) (row.getD 0 noCell).d
  l0 : IsAtt (Cls flF rp [] .l) (scoreAff S o) (row.getD 0 noCell).l
  strong : ∀ j, 1 ≤ j → j ≤ q.length → Strong S o rp (q.take j) (row.getD j noCell)

def fitAt (cross : Bool) (S : Matrix) (o : Int) (r q : List Nat) (i j : Nat) : Cell :=
  rowAt (fitRows cross S o r q) i j

theorem nwRow0_len (S : Matrix) (o : Int) (q : List Nat) : (nwRow0 S o q).length = q.length + 1 := by
  rw [Biogo.Proofs.NWAffine.nwRow0_eq false]; exact optRow0_length _ S o q

theorem fitTable_at (cross : Bool) (S : Matrix) (o : Int) (r q : List Nat) (i j : Nat) (hj : j ≤ q.length) :
    (fitTable cross S o r q).at i j = fitAt cross S o r q i j := by
  simp only [fitTable, fitAt, fitRows]
  exact mkTable_at _ _ i j (rows_all_len fitFirst (nwCell cross S o) q r _ (nwRow0_len S o q)) (by omega)

theorem fitAt_inner (cross : Bool) (S : Matrix) (o : Int) (r q : List Nat) (i j : Nat) (hi : i < r.length)
    (hj : j < q.length) :
    fitAt cross S o r q (i + 1) (j + 1) =
      nwCell cross S o (r.getD i 0) (fitAt cross S o r q i j) (fitAt cross S o r q i (j + 1))
        (fitAt cross S o r q (i + 1) j) (q.getD j 0) := by
  simp only [fitAt, fitRows]
  exact rows_inner _ _ q r _ (nwRow0_len S o q) i j hi hj

theorem fitAt_col0 (cross : Bool) (S : Matrix) (o : Int) (r q : List Nat) (i : Nat) (hi : i < r.length) :
    fitAt cross S o r q (i + 1) 0 = ⟨none, some 0, none⟩ := by
  simp only [fitAt, fitRows]
  rw [rows_first _ _ q r _ i hi]; rfl

/-- the first row of the fitted table is the first row of the global table (which does not
    depend on the cross transitions: no cell above it) -/
theorem fitAt_row0 (cross : Bool) (S : Matrix) (o : Int) (r q : List Nat) (j : Nat) (c' : Bool) :
    fitAt cross S o r q 0 j = rowAt (optRows (Biogo.Proofs.NWAffine.flN c') S o r q) 0 j := by
  simp only [fitAt, fitRows, rowAt, optRows, List.getD_cons_zero, Biogo.Proofs.NWAffine.nwRow0_eq c']

theorem fitAt_col0_cases (cross : Bool) (S : Matrix) (o : Int) (r q : List Nat) (i : Nat) (hi : i ≤ r.length) :
    fitAt cross S o r q i 0 = origin ∨ fitAt cross S o r q i 0 = ⟨none, some 0, none⟩ := by
  cases i with
  | zero => exact Or.inl (by rw [fitAt_row0 cross S o r q 0 false, optRows_origin])
  | succ i => exact Or.inr (fitAt_col0 cross S o r q i hi)

/-- column 0 feeds the match layer of column 1 with the empty alignment: at the origin from the match
    layer, below it from the `up` layer that stands for the skipped reference prefix -/
theorem fitAt_col0_best (cross : Bool) (S : Matrix) (o : Int) (r q : List Nat) (i : Nat) (hi : i ≤ r.length) :
    max3 (fitAt cross S o r q i 0).d (fitAt cross S o r q i 0).u (fitAt cross S o r q i 0).l = some 0 := by
  rcases fitAt_col0_cases cross S o r q i hi with e | e <;> rw [e] <;> rfl

theorem max3_some {c : Cell} {k : Kind} {w : Int} (h : c.get k = some w) : ∃ z, max3 c.d c.u c.l = some z := by
  rw [max3_eq_max2]
  cases k with
  | l => exact max2_some_left h
  | u => obtain ⟨z, hz⟩ := max2_some_left (b := c.d) h; exact max2_some_right hz
  | m => obtain ⟨z, hz⟩ := max2_some_right (a := c.u) h; exact max2_some_right hz

theorem fit_row0_some (cross : Bool) (S : Matrix) (o : Int) (r q : List Nat) :
    ∀ j, j ≤ q.length → (∃ w, (fitAt cross S o r q 0 j).d = some w) ∨ (∃ w, (fitAt cross S o r q 0 j).l = some w) := by
  intro j
  induction j with
  | zero => intro _; left; rw [fitAt_row0 cross S o r q 0 false, optRows_origin]; exact ⟨0, rfl⟩
  | succ j ih =>
    intro hj
    right
    rw [fitAt_row0 cross S o r q (j + 1) false, optRows_row0 _ S o r q j (by omega), ← fitAt_row0 cross S o r q j false]
    simp only []
    rw [← gapLayer_eq]
    simp only [Biogo.Proofs.NWAffine.flN, gapLayer_false]
    rcases ih (by omega) with ⟨w, hw⟩ | ⟨w, hw⟩
    · exact max2_some_left (vadd_some hw)
    · exact max2_some_right (vadd_some hw)

theorem fit_d_step (cross : Bool) (S : Matrix) (o : Int) (r q : List Nat) (i j : Nat) (hi : i < r.length)
    (hj : j < q.length) {k : Kind} {w : Int} (hw : (fitAt cross S o r q i j).get k = some w) :
    ∃ x, (fitAt cross S o r q (i + 1) (j + 1)).d = some x := by
  obtain ⟨z, hz⟩ := max3_some hw
  rw [fitAt_inner cross S o r q i j hi hj]
  exact ⟨_, vadd_some hz⟩

theorem fit_some (cross : Bool) (S : Matrix) (o : Int) (r q : List Nat) :
    ∀ i, i ≤ r.length → ∀ j, j ≤ q.length → ∃ k w, (fitAt cross S o r q i j).get k = some w := by
  intro i
  induction i with
  | zero =>
    intro _ j hj
    rcases fit_row0_some cross S o r q j hj with ⟨w, hw⟩ | ⟨w, hw⟩
    · exact ⟨.m, w, hw⟩
    · exact ⟨.l, w, hw⟩
  | succ i ih =>
    intro hi j hj
    cases j with
    | zero => rw [fitAt_col0 cross S o r q i (by omega)]; exact ⟨.u, 0, rfl⟩
    | succ j =>
      obtain ⟨k, w, hw⟩ := ih (by omega) j (by omega)
      obtain ⟨x, hx⟩ := fit_d_step cross S o r q i j (by omega) (by omega) hw
      exact ⟨.m, x, hx⟩

theorem fit_d_pos (cross : Bool) (S : Matrix) (o : Int) (r q : List Nat) {i j : Nat} (hi1 : 1 ≤ i) (hi : i ≤ r.length)
    (hj1 : 1 ≤ j) (hj : j ≤ q.length) : ∃ x, (fitAt cross S o r q i j).d = some x := by
  cases i with
  | zero => exact absurd hi1 (by simp)
  | succ i =>
    cases j with
    | zero => exact absurd hj1 (by simp)
    | succ j =>
      obtain ⟨_, _, hw⟩ := fit_some cross S o r q i (by omega) j (by omega)
      exact fit_d_step cross S o r q i j hi hj hw

/-- the scan both end selections run over the rows `y, y + 1, …` (`n` of them): `f y` is the layer and the value
    row `y` offers -/
def lastMax (f : Nat → Kind × V) : Nat → Nat → Nat × Kind × V → Nat × Kind
  | 0, _, best => (best.1, best.2.1)
  | n + 1, y, best => lastMax f n (y + 1) (if vgt best.2.2 (f y).2 then best else (y, f y))

theorem fitEnd3_eq (t : Table) (C : Nat) : ∀ (n y : Nat) (best : Nat × Kind × V),
    fitEnd3 t C n y best = lastMax (fun y => (bestLayer (t.at y C), (t.at y C).get (bestLayer (t.at y C)))) n y best
  | 0, _, _ => rfl
  | n + 1, y, best => by rw [fitEnd3, lastMax, fitEnd3_eq t C n]

theorem fitEnd_eq (t : Table) (C : Nat) : ∀ (n y b : Nat) (v : V),
    fitEnd t C n y (b, v) = (lastMax (fun y => (.m, (t.at y C).d)) n y (b, .m, v)).1
  | 0, _, _, _ => rfl
  | n + 1, y, b, v => by
    rw [fitEnd, lastMax]
    split <;> exact fitEnd_eq t C n _ _ _

/-- `lo` bounds the selected row from below (callers: 1, the sentinel's row 0 being no row the scan visits).  The right disjunct
    is that sentinel: its value `none` loses to the first row scanned (`vgt none _` is false), whence `0 < n`. -/
theorem lastMax_spec (f : Nat → Kind × V) (lo : Nat) : ∀ (n y : Nat) (best : Nat × Kind × V), best.1 < y →
    (lastMax f n y best).1 < y + n ∧
      (lo ≤ y → (lo ≤ best.1 ∧ best.2.1 = (f best.1).1) ∨ (best.2.2 = none ∧ 0 < n) →
        lo ≤ (lastMax f n y best).1 ∧ (lastMax f n y best).2 = (f (lastMax f n y best).1).1)
  | 0, _, _, hb => ⟨hb, fun _ h => h.resolve_right fun h => Nat.lt_irrefl _ h.2⟩
  | n + 1, y, best, hb => by
    rw [lastMax, ← Nat.add_assoc, Nat.add_right_comm]
    obtain ⟨h1, h2⟩ := lastMax_spec f lo n (y + 1) (if vgt best.2.2 (f y).2 then best else (y, f y))
      (by split
          · exact Nat.lt_succ_of_lt hb
          · exact Nat.lt_succ_self y)
    refine ⟨h1, fun hy h => h2 (Nat.le_succ_of_le hy) (Or.inl ?_)⟩
    split
    · rename_i hgt
      exact h.resolve_right fun hn => by rw [hn.1] at hgt; cases hgt
    · exact ⟨hy, rfl⟩

theorem lastMax_le (f : Nat → Kind × V) (R : Nat) : (lastMax f R 1 (0, .m, none)).1 ≤ R := by
  have := (lastMax_spec f 0 R 1 (0, .m, none) Nat.zero_lt_one).1
  omega

/-- the start row of `FittedAffine` (either end selection) lies inside the table -/
theorem fitStart_le (ends : Bool) (t : Table) (R C : Nat) :
    (if ends then fitEnd3 t C R 1 (0, .m, none) else (fitEnd t C R 1 (0, none), Kind.m)).1 ≤ R := by
  cases ends
  · simp only [Bool.false_eq_true, if_false, fitEnd_eq]; exact lastMax_le _ R
  · simp only [if_true, fitEnd3_eq]; exact lastMax_le _ R

/-- the start of the traceback (either fill, either end selection): a row `1 ≤ e ≤ |r|` and a layer of the last
    column of that row that holds a value — the match layer, or since the repair of K3 the best one -/
theorem fitStart_spec (cross ends : Bool) (S : Matrix) (o : Int) (r q : List Nat) (hr : r ≠ []) (hq : q ≠ []) :
    let start : Nat × Kind := if ends then fitEnd3 (fitTable cross S o r q) q.length r.length 1 (0, .m, none)
      else (fitEnd (fitTable cross S o r q) q.length r.length 1 (0, none), Kind.m)
    1 ≤ start.1 ∧ start.1 ≤ r.length ∧
      start.2 = (if ends then bestLayer ((fitTable cross S o r q).at start.1 q.length) else .m) ∧
      ∃ x, ((fitTable cross S o r q).at start.1 q.length).get start.2 = some x := by
  have hC : 1 ≤ q.length := List.length_pos_iff.mpr hq
  have key : ∀ f : Nat → Kind × V, 1 ≤ (lastMax f r.length 1 (0, .m, none)).1 ∧
      (lastMax f r.length 1 (0, .m, none)).1 ≤ r.length ∧
      (lastMax f r.length 1 (0, .m, none)).2 = (f (lastMax f r.length 1 (0, .m, none)).1).1 := fun f =>
    let ⟨h1, h2⟩ := (lastMax_spec f 1 r.length 1 (0, .m, none) Nat.zero_lt_one).2 (Nat.le_refl _)
      (Or.inr ⟨rfl, List.length_pos_iff.mpr hr⟩)
    ⟨h1, lastMax_le f _, h2⟩
  cases ends with
  | false =>
    simp only [Bool.false_eq_true, if_false, fitEnd_eq]
    obtain ⟨h1, h2, _⟩ := key fun y => (.m, ((fitTable cross S o r q).at y q.length).d)
    obtain ⟨x, hx⟩ := fit_d_pos cross S o r q h1 h2 hC (Nat.le_refl _)
    exact ⟨h1, h2, trivial, x, by rw [fitTable_at cross S o r q _ _ (Nat.le_refl _)]; exact hx⟩
  | true =>
    simp only [if_true, fitEnd3_eq]
    obtain ⟨h1, h2, h3⟩ := key fun y => (bestLayer ((fitTable cross S o r q).at y q.length),
      ((fitTable cross S o r q).at y q.length).get (bestLayer ((fitTable cross S o r q).at y q.length)))
    obtain ⟨x, hx⟩ := fit_d_pos cross S o r q h1 h2 hC (Nat.le_refl _)
    refine ⟨h1, h2, h3, ?_⟩
    -- the start layer is the best layer of the end cell, whose match layer holds a value
    rw [h3, cellBest_layer, fitTable_at cross S o r q _ _ (Nat.le_refl _)]
    exact max3_some (k := .m) hx

theorem fitTable_row0 (cross : Bool) (S : Matrix) (o : Int) (r q : List Nat) (j : Nat) (hj : j ≤ q.length) :
    (fitTable cross S o r q).at 0 j = (nwTable cross S o r q).at 0 j := by
  rw [fitTable_at cross S o r q 0 j hj, fitAt_row0 cross S o r q j cross, nwTable_at cross S o r q 0 j hj]

theorem fitTable_col0 (cross : Bool) (S : Matrix) (o : Int) (r q : List Nat) (i : Nat) (hi : i < r.length) :
    (fitTable cross S o r q).at (i + 1) 0 = ⟨none, some 0, none⟩ := by
  rw [fitTable_at cross S o r q (i + 1) 0 (Nat.zero_le _)]
  exact fitAt_col0 cross S o r q i hi

/-- the same row 0 as the global table; column 0 is the free reference prefix, a value in the `up` layer only -/
theorem fitTable_borders (cross : Bool) (S : Matrix) (o : Int) (r q : List Nat) :
    GlobalBorders cross (fitTable cross S o r q) S o r q where
  inner := by
    intro i j hi hj
    rw [fitTable_at cross S o r q (i + 1) (j + 1) (by omega), fitTable_at cross S o r q i j (by omega),
      fitTable_at cross S o r q i (j + 1) (by omega), fitTable_at cross S o r q (i + 1) j (by omega)]
    exact fitAt_inner cross S o r q i j hi hj
  orig := fun k v h => (nwTable_borders cross S o r q).orig k v (fitTable_row0 cross S o r q 0 (Nat.zero_le _) ▸ h)
  row0 := fun j hj k v h => (nwTable_borders cross S o r q).row0 j hj k v (fitTable_row0 cross S o r q (j + 1) hj ▸ h)
  col0 := by
    intro i hi k v h
    rw [fitTable_col0 cross S o r q i hi] at h
    cases k <;> first | rfl | cases h

/-- The pairs reported by the model of `FittedAffine` (either fill, either end selection) end at the row the
    traceback starts in, and their total is the value it starts from. -/
theorem fitAlignT_value (cross ends : Bool) (S : Matrix) (o : Int) (r q : List Nat) (hr : r ≠ []) (hq : q ≠ []) :
    let start : Nat × Kind := if ends then fitEnd3 (fitTable cross S o r q) q.length r.length 1 (0, .m, none)
      else (fitEnd (fitTable cross S o r q) q.length r.length 1 (0, none), Kind.m)
    ∃ ps, (fitAlignT true cross ends S o r q).map (·.1) = .ok ps ∧ (lastEnd ps).1 = start.1 ∧
      ((fitTable cross S o r q).at start.1 q.length).get start.2 = some (total ps) := by
  have F := fitTable_borders cross S o r q
  obtain ⟨hE1, hE, _, x, hx⟩ := fitStart_spec cross ends S o r q hr hq
  obtain ⟨st, v, hloop, hinv, hstop, hv, hsum, _⟩ :=
    F.run true _ _ (Or.inr rfl) hE1 (List.length_pos_iff.mpr hq) hE (Nat.le_refl _) hx
  obtain ⟨_, hlast, _⟩ := emit_wf hinv
  have hne : st.emit.aln ≠ [] := by simp [TB.emit]
  refine ⟨_, by rw [(fitAlignT_ok rfl).2 ⟨st, hloop, rfl, rfl⟩]; rfl, ?_, ?_⟩
  · split
    · rw [lastEnd_cons _ _ hne, hlast]
    · rw [hlast]
  rw [hx, ← hsum]
  congr 1
  split
  · -- the loop stopped in row 0: what is left of the query is a leading gap, read from the `left` layer
    rename_i hj0
    obtain ⟨j', hj'⟩ := Nat.exists_eq_add_one_of_ne_zero hj0
    have hC := Nat.le_trans hinv.hj hinv.hC
    rw [hstop.resolve_right hj0, hj'] at hv ⊢
    rw [F.row0 j' (by omega) _ v hv] at hv
    rw [total_cons, show ((fitTable cross S o r q).at 0 (j' + 1)).l = some v from hv, vget]
  · -- it stopped in column 0, on the empty alignment: at the origin, or after a skipped reference prefix
    rename_i hj0
    rw [Decidable.not_not.mp hj0] at hv
    rcases Nat.eq_zero_or_pos st.i with h0 | h0
    · rw [h0] at hv; rw [(F.orig _ v hv).2, Int.zero_add]
    · obtain ⟨i', hi'⟩ := Nat.exists_eq_add_one_of_ne_zero (Nat.ne_of_gt h0)
      have hR := Nat.le_trans hinv.hi hinv.hR
      rw [hi', fitTable_col0 cross S o r q i' (by omega)] at hv
      cases hk : st.layer <;> rw [hk] at hv <;> cases hv
      rw [Int.zero_add]

/-- The pairs reported by the model of `FittedAffine` before the repairs of K1 and K3 end at a row `e ≥ 1`, and
    their total is the match-layer value of the last column of that row. -/
theorem fitAlign_value (S : Matrix) (o : Int) (r q : List Nat) (hr : r ≠ []) (hq : q ≠ []) :
    ∃ ps, fitAlignLegacy S o r q = .ok ps ∧ 1 ≤ (lastEnd ps).1 ∧ (lastEnd ps).1 ≤ r.length ∧
      (fitAt false S o r q (lastEnd ps).1 q.length).d = some (total ps) := by
  obtain ⟨hE1, hE, _⟩ := fitStart_spec false false S o r q hr hq
  obtain ⟨ps, hps, hend, hv⟩ := fitAlignT_value false false S o r q hr hq
  rw [← hend, fitTable_at false S o r q _ _ (Nat.le_refl _)] at hv
  exact ⟨ps, hps, hend ▸ hE1, hend ▸ hE, hv⟩

/-- `FittedAffine` (either switch, fill and end selection): one well-formed path inside the table
    that covers the whole query -/
theorem fitAlignT_wf (aware cross ends : Bool) (S : Matrix) (o : Int) (r q : List Nat) (ps : List Pair) (t : Bool)
    (h : fitAlignT aware cross ends S o r q = .ok (ps, t)) :
    wellFormed ps = true ∧ inBounds ps r.length q.length = true ∧
      (firstStart ps).2 = 0 ∧ (lastEnd ps).2 = q.length := by
  have hE := fitStart_le ends (fitTable cross S o r q) r.length q.length
  obtain ⟨st, hl, _, rfl⟩ := (fitAlignT_ok rfl).1 h
  have hinv := loop_inv aware cross false _ S o r q r.length q.length _ q.length _ _ st
    (init_inv_of r.length q.length _ q.length _ _ (Or.inr rfl) hE (Nat.le_refl _)) hl
  have hstop := (tbLoop_stopped _ _ st hl (Nat.le_refl _)).border
  obtain ⟨hwf, hend, hstart⟩ := emit_wf hinv
  have hne : st.emit.aln ≠ [] := by simp [TB.emit]
  have hb : inBounds st.emit.aln r.length q.length = true := by rw [inBounds, hend]; simp; exact hE
  split
  · -- the loop stopped in row 0 with query letters left: the leading gap is put in front
    refine ⟨wellFormed_cons _ _ ?_ hwf hstart, ?_, rfl, by rw [lastEnd_cons _ _ hne, hend]⟩
    · apply pairShape_of _ (Nat.le_refl _) (Nat.zero_le _)
      simp only []; right; left; omega
    · rw [inBounds, lastEnd_cons _ _ hne]; exact hb
  · rename_i hj
    exact ⟨hwf, hb, by rw [hstart]; exact Decidable.not_not.mp hj, by rw [hend]⟩

end Biogo.Proofs.FittedAffine
