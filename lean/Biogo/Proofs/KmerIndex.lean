/-
C10: the finger/pos tables — frequency table, exclusive prefix sum,
counting-sort placement, bucket read-out.
-/
import Biogo.Proofs.Kmer

namespace Biogo.Proofs.KmerIndex
open Biogo.Kmer Biogo.Spec.Kmer Biogo.Proofs.Kmer

theorem rd_of_ge (a : Array Nat) (j : Nat) (h : a.size ≤ j) : rd a j = 0 := by
  unfold rd; rw [Array.getElem?_eq_none h]; rfl

theorem rd_incr (a : Array Nat) (i j : Nat) :
    rd (incr a i) j = if i = j ∧ j < a.size then rd a j + 1 else rd a j := by
  unfold rd incr
  rw [Array.getElem?_modify]
  by_cases hij : i = j
  · subst hij
    by_cases hlt : i < a.size
    · simp [hlt]
    · simp [hlt]
  · simp [hij]

theorem size_incr (a : Array Nat) (i : Nat) : (incr a i).size = a.size := by
  unfold incr; exact Array.size_modify

theorem rd_set (a : Array Nat) (i v j : Nat) :
    rd (a.setIfInBounds i v) j = if i = j ∧ i < a.size then v else rd a j := by
  unfold rd
  rw [Array.getElem?_setIfInBounds]
  by_cases hij : i = j
  · subst hij
    by_cases hlt : i < a.size
    · simp [hlt]
    · simp [hlt]
  · simp [hij]

theorem rd_replicate (n j : Nat) : rd (Array.replicate n 0) j = 0 := by
  unfold rd; rw [Array.getElem?_replicate]; split <;> rfl

-- `frequency` and `occurrences` of the specification are `cnt` and `occ` (below) of `allWindows`, by `rfl`
def cnt (cs : List (Nat × Nat)) (w : Nat) : Nat := cs.countP fun c => c.2 == w
def below (cs : List (Nat × Nat)) (w : Nat) : Nat := cs.countP fun c => decide (c.2 < w)

theorem below_zero (cs : List (Nat × Nat)) : below cs 0 = 0 := by
  unfold below; simp

theorem below_succ (cs : List (Nat × Nat)) (w : Nat) : below cs (w + 1) = below cs w + cnt cs w := by
  unfold below cnt
  induction cs with
  | nil => rfl
  | cons c cs ih =>
    rw [List.countP_cons, List.countP_cons, List.countP_cons, ih]
    rcases Nat.lt_trichotomy c.2 w with h | h | h
    · simp [h, Nat.lt_succ_of_lt h, Nat.ne_of_lt h]; omega
    · simp [h]; omega
    · simp [Nat.not_lt_of_gt h, Nat.ne_of_gt h, Nat.not_lt_of_ge (Nat.succ_le_of_lt h)]

theorem below_mono (cs : List (Nat × Nat)) {w w' : Nat} (h : w ≤ w') : below cs w ≤ below cs w' := by
  induction h with
  | refl => exact Nat.le_refl _
  | step _ ih => rw [below_succ]; omega

theorem below_add_cnt_le (cs : List (Nat × Nat)) (w : Nat) : below cs w + cnt cs w ≤ cs.length := by
  rw [← below_succ]; exact List.countP_le_length

theorem cnt_append (cs₁ cs₂ : List (Nat × Nat)) (w : Nat) : cnt (cs₁ ++ cs₂) w = cnt cs₁ w + cnt cs₂ w := by
  unfold cnt; exact List.countP_append

theorem cnt_nil (w : Nat) : cnt [] w = 0 := rfl

theorem cnt_cons_self (c : Nat × Nat) (cs : List (Nat × Nat)) : cnt (c :: cs) c.2 = cnt cs c.2 + 1 := by
  unfold cnt; rw [List.countP_cons]; simp

theorem cnt_cons_ne (c : Nat × Nat) (cs : List (Nat × Nat)) (w : Nat) (h : c.2 ≠ w) :
    cnt (c :: cs) w = cnt cs w := by
  unfold cnt; rw [List.countP_cons]; simp [h]

theorem size_foldl_incr (cs : List (Nat × Nat)) (f : Array Nat) :
    (cs.foldl (fun f c => incr f c.2) f).size = f.size := by
  induction cs generalizing f with
  | nil => rfl
  | cons c cs ih => rw [List.foldl_cons, ih, size_incr]

theorem rd_foldl_incr (cs : List (Nat × Nat)) (f : Array Nat) (w : Nat) :
    rd (cs.foldl (fun f c => incr f c.2) f) w = rd f w + (if w < f.size then cnt cs w else 0) := by
  induction cs generalizing f with
  | nil => simp [cnt]
  | cons c cs ih =>
    rw [List.foldl_cons, ih, rd_incr, size_incr]
    by_cases hw : w < f.size
    · by_cases hc : c.2 = w
      · subst hc; rw [cnt_cons_self]; simp [hw]; omega
      · rw [cnt_cons_ne c cs w hc]; simp [hw, hc]
    · simp [hw]

theorem size_buildTable (k : Nat) (cs : List (Nat × Nat)) : (buildTable k cs).size = pow4 k + 1 := by
  unfold buildTable; rw [size_foldl_incr]; simp

theorem rd_buildTable (k : Nat) (cs : List (Nat × Nat)) (w : Nat) (hw : w ≤ pow4 k) :
    rd (buildTable k cs) w = cnt cs w := by
  unfold buildTable
  rw [rd_foldl_incr, rd_replicate]
  simp; intro h; omega

theorem collect_eq {α} (g : Nat → Option α) (n : Nat) (acc : List α) :
    collect g n acc = (List.range n).filterMap g ++ acc := by
  induction n generalizing acc with
  | zero => simp [collect]
  | succ n ih =>
    rw [collect, ih, List.range_succ, List.filterMap_append]
    cases hg : g n <;> simp [hg]

theorem size_prefixLoop (n : Nat) (f : Array Nat) (i sum : Nat) : (prefixLoop n f i sum).size = f.size := by
  induction n generalizing f i sum with
  | zero => rfl
  | succ n ih => rw [prefixLoop, ih, Array.size_setIfInBounds]

theorem rd_prefixLoop_lt (n : Nat) (f : Array Nat) (i sum j : Nat) (h : j < i) :
    rd (prefixLoop n f i sum) j = rd f j := by
  induction n generalizing f i sum with
  | zero => rfl
  | succ n ih => rw [prefixLoop, ih _ _ _ (Nat.lt_succ_of_lt h), rd_set, if_neg (by omega)]

/-- the exclusive prefix sum of `Build`: when `S` are the partial sums of the `n` entries from `i`
    and `sum = S i`, entry `j` of that range becomes `S j` -/
theorem rd_prefixLoop (S : Nat → Nat) (n : Nat) (f : Array Nat) (i sum : Nat)
    (hS : ∀ j, i ≤ j → j < i + n → S (j + 1) = S j + rd f j) (hsum : sum = S i)
    (j : Nat) (h1 : i ≤ j) (h2 : j < i + n) (h3 : j < f.size) :
    rd (prefixLoop n f i sum) j = S j := by
  induction n generalizing f i sum with
  | zero => exact absurd h2 (Nat.not_lt.mpr h1)
  | succ n ih =>
    rw [prefixLoop]
    by_cases hij : i = j
    · subst hij
      rw [rd_prefixLoop_lt _ _ _ _ _ (Nat.lt_succ_self i), rd_set, if_pos ⟨rfl, h3⟩, hsum]
    · rw [Nat.add_comm n 1, ← Nat.add_assoc] at h2 hS
      refine ih (f.setIfInBounds i sum) (i + 1) (sum + rd f i) (fun j h1 h2 => ?_) ?_
        (Nat.lt_of_le_of_ne h1 hij) h2 (by rw [Array.size_setIfInBounds]; exact h3)
      · rw [rd_set, if_neg (fun h => Nat.ne_of_lt h1 h.1)]
        exact hS j (Nat.le_of_succ_le h1) h2
      · rw [hsum, hS i (Nat.le_refl _) (Nat.lt_of_lt_of_le (Nat.lt_succ_self i) (Nat.le_add_right _ n))]

/-- after the prefix-sum loop, finger entry `w` is the number of callbacks with a smaller word -/
theorem rd_prefix_buildTable (k : Nat) (cs : List (Nat × Nat)) (w : Nat) (hw : w ≤ pow4 k) :
    rd (prefixLoop (buildTable k cs).size (buildTable k cs) 0 0) w = below cs w := by
  have hsize := size_buildTable k cs
  exact rd_prefixLoop (below cs) _ _ 0 0
    (fun j _ hj => by rw [below_succ, rd_buildTable k cs j (by omega)]) (below_zero cs).symm
    w (Nat.zero_le _) (by omega) (by omega)

def occ (cs : List (Nat × Nat)) (w : Nat) : List Nat := (cs.filter fun c => c.2 == w).map (·.1)

theorem occ_length (cs : List (Nat × Nat)) (w : Nat) : (occ cs w).length = cnt cs w := by
  unfold occ cnt; rw [List.length_map, List.countP_eq_length_filter]

theorem occ_append (cs₁ cs₂ : List (Nat × Nat)) (w : Nat) : occ (cs₁ ++ cs₂) w = occ cs₁ w ++ occ cs₂ w := by
  unfold occ; rw [List.filter_append, List.map_append]

theorem mem_occ_iff (cs : List (Nat × Nat)) (w t : Nat) : t ∈ occ cs w ↔ (t, w) ∈ cs := by
  unfold occ
  rw [List.mem_map]
  constructor
  · rintro ⟨c, hc, rfl⟩
    rw [List.mem_filter] at hc
    have : c.2 = w := by simpa using hc.2
    rw [← this]; exact hc.1
  · intro h
    exact ⟨(t, w), by rw [List.mem_filter]; exact ⟨h, by simp⟩, rfl⟩

theorem mem_occurrences (lk : Lookup) (k : Nat) (hk : 1 ≤ k) (s : List UInt8) (w x : Nat) :
    x ∈ occurrences lk k s w ↔ wordAt lk k s x = some w := by
  show x ∈ occ (allWindows lk k s) w ↔ _
  rw [mem_occ_iff]
  unfold allWindows wordAt
  rw [mem_wordsFrom_iff]
  simp only [Nat.sub_zero, Nat.zero_le, true_and]
  refine ⟨fun h => h.2, fun h => ⟨?_, h⟩⟩
  have := wordOf_some_le lk k _ _ h
  rw [List.length_drop] at this; omega

/-- the state of `Build`'s second pass after the callbacks `cs₁` (of all callbacks `cs`) -/
structure PlaceInv (cs cs₁ : List (Nat × Nat)) (top : Nat) (finger pos : Array Nat) : Prop where
  /-- `top`: the last index of `finger` — `Pow4(k)`, one past the largest word (the table has `Pow4(k)+1` entries) -/
  fsize : top < finger.size
  psize : cs.length ≤ pos.size
  fing : ∀ w, w ≤ top → rd finger w = below cs w + cnt cs₁ w
  bucket : ∀ w j, j < cnt cs₁ w → (occ cs₁ w)[j]? = some (rd pos (below cs w + j))

theorem cnt_concat_self (cs : List (Nat × Nat)) (c : Nat × Nat) : cnt (cs ++ [c]) c.2 = cnt cs c.2 + 1 := by
  rw [cnt_append, cnt_cons_self]; rfl

theorem cnt_concat_ne (cs : List (Nat × Nat)) (c : Nat × Nat) (w : Nat) (h : c.2 ≠ w) :
    cnt (cs ++ [c]) w = cnt cs w := by
  rw [cnt_append, cnt_cons_ne c [] w h]; rfl

theorem occ_concat_self (cs : List (Nat × Nat)) (c : Nat × Nat) : occ (cs ++ [c]) c.2 = occ cs c.2 ++ [c.1] := by
  rw [occ_append]; simp [occ]

/-- the bucket of a word ends before the bucket of a larger word begins -/
theorem bucket_le_below (cs : List (Nat × Nat)) {w w' : Nat} (h : w < w') : below cs w + cnt cs w ≤ below cs w' := by
  rw [← below_succ]; exact below_mono cs h

/-- the buckets are disjoint: a slot determines its word and its place in the bucket -/
theorem slot_inj (cs : List (Nat × Nat)) {v w i j : Nat} (hi : i < cnt cs v) (hj : j < cnt cs w)
    (h : below cs v + i = below cs w + j) : v = w ∧ i = j := by
  rcases Nat.lt_trichotomy v w with hvw | rfl | hvw
  · have := bucket_le_below cs hvw; omega
  · exact ⟨rfl, Nat.add_left_cancel h⟩
  · have := bucket_le_below cs hvw; omega

theorem placeInv_step (cs cs₁ cs₂ : List (Nat × Nat)) (c : Nat × Nat) (top : Nat) (finger pos : Array Nat)
    (hcs : cs = cs₁ ++ c :: cs₂) (hc : c.2 ≤ top) (inv : PlaceInv cs cs₁ top finger pos) :
    PlaceInv cs (cs₁ ++ [c]) top (place (finger, pos) c).1 (place (finger, pos) c).2 := by
  show PlaceInv cs (cs₁ ++ [c]) top (incr finger c.2) (pos.setIfInBounds (rd finger c.2) c.1)
  -- `c` goes to the first free slot of its bucket
  have hat : rd finger c.2 = below cs c.2 + cnt cs₁ c.2 := inv.fing c.2 hc
  have hle : ∀ w, cnt cs₁ w ≤ cnt cs w := fun w => by rw [hcs, cnt_append]; exact Nat.le_add_right _ _
  have hlt : cnt cs₁ c.2 < cnt cs c.2 := by
    rw [hcs, cnt_append, cnt_cons_self]; exact Nat.lt_add_of_pos_right (Nat.succ_pos _)
  have hinb : rd finger c.2 < pos.size :=
    hat ▸ Nat.lt_of_lt_of_le (Nat.add_lt_add_left hlt _) (Nat.le_trans (below_add_cnt_le cs c.2) inv.psize)
  -- which is not among the filled slots of any bucket
  have hfree : ∀ w j, j < cnt cs₁ w → rd finger c.2 ≠ below cs w + j := by
    intro w j hj h
    obtain ⟨rfl, rfl⟩ := slot_inj cs hlt (Nat.lt_of_lt_of_le hj (hle w)) (hat ▸ h)
    exact Nat.lt_irrefl _ hj
  refine ⟨by rw [size_incr]; exact inv.fsize, by rw [Array.size_setIfInBounds]; exact inv.psize, ?_, ?_⟩
  · intro w hw
    rw [rd_incr, inv.fing w hw]
    by_cases h : c.2 = w
    · subst h; rw [if_pos ⟨rfl, Nat.lt_of_le_of_lt hw inv.fsize⟩, cnt_concat_self]; rfl
    · rw [if_neg (fun hh => h hh.1), cnt_concat_ne _ _ _ h]
  · intro w j hj
    rw [rd_set]
    by_cases hj' : j < cnt cs₁ w
    · rw [occ_append, List.getElem?_append_left (by rw [occ_length]; exact hj'), inv.bucket w j hj',
        if_neg (fun hh => hfree w j hj' hh.1)]
    · -- a new place in a bucket: the bucket is that of `c`, the place its first free slot
      have hw : c.2 = w := Classical.byContradiction fun h => hj' (cnt_concat_ne _ _ _ h ▸ hj)
      subst hw
      rw [cnt_concat_self] at hj
      rw [Nat.le_antisymm (Nat.le_of_lt_succ hj) (Nat.le_of_not_lt hj'), ← hat, if_pos ⟨rfl, hinb⟩, occ_concat_self,
        List.getElem?_append_right (by rw [occ_length]; exact Nat.le_refl _), occ_length, Nat.sub_self]
      rfl

theorem placeInv_foldl (cs : List (Nat × Nat)) (top : Nat) (cs₂ cs₁ : List (Nat × Nat))
    (finger pos : Array Nat) (hcs : cs = cs₁ ++ cs₂) (hc : ∀ c ∈ cs₂, c.2 ≤ top)
    (inv : PlaceInv cs cs₁ top finger pos) :
    PlaceInv cs cs top (cs₂.foldl place (finger, pos)).1 (cs₂.foldl place (finger, pos)).2 := by
  induction cs₂ generalizing cs₁ finger pos with
  | nil => rw [List.append_nil] at hcs; rw [hcs]; rw [hcs] at inv; exact inv
  | cons c cs₂ ih =>
    rw [List.foldl_cons]
    have step := placeInv_step cs cs₁ cs₂ c top finger pos hcs (hc c (by simp)) inv
    exact ih (cs₁ ++ [c]) _ _ (by rw [hcs]; simp) (fun x hx => hc x (by simp [hx])) step

theorem extract_bucket (cs : List (Nat × Nat)) (top : Nat) (finger pos : Array Nat)
    (inv : PlaceInv cs cs top finger pos) (w : Nat) :
    (pos.extract (below cs w) (below cs w + cnt cs w)).toList = occ cs w := by
  apply List.ext_getElem?
  intro t
  rw [Array.getElem?_toList, Array.getElem?_extract]
  have hle : below cs w + cnt cs w ≤ pos.size := Nat.le_trans (below_add_cnt_le cs w) inv.psize
  rw [Nat.min_eq_left hle, Nat.add_sub_cancel_left]
  by_cases ht : t < cnt cs w
  · rw [if_pos ht, inv.bucket w t ht]
    unfold rd
    rw [Array.getElem?_eq_getElem (Nat.lt_of_lt_of_le (Nat.add_lt_add_left ht _) hle)]
    rfl
  · rw [if_neg ht]
    exact (List.getElem?_eq_none (by rw [occ_length]; exact Nat.le_of_not_lt ht)).symm

/-- the table `New` builds, as a function of the plain scan -/
theorem new_finger {lk : Lookup} (hlk : FourLetter lk) (k : Nat) (hk1 : 1 ≤ k) (hk2 : 2 * k ≤ wordBits)
    (s : List UInt8) :
    buildTable k (forEachKmer lk k s 0 s.length).calls = buildTable k (allWindows lk k s) := by
  rw [forEachKmer_whole hlk k hk1 hk2]

theorem build_inv {lk : Lookup} (hlk : FourLetter lk) (k : Nat) (hk1 : 1 ≤ k) (hk2 : 2 * k ≤ wordBits)
    (s : List UInt8) (hs : k ≤ s.length) (ix : Index) (hk : ix.k = k) (hseq : ix.seq = s)
    (hf : ix.finger = buildTable k (allWindows lk k s)) :
    PlaceInv (allWindows lk k s) (allWindows lk k s) (pow4 k) (build lk ix).finger (build lk ix).pos := by
  unfold build
  simp only [hk, hseq, hf]
  rw [forEachKmer_whole hlk k hk1 hk2]
  apply placeInv_foldl (allWindows lk k s) (pow4 k) (allWindows lk k s) [] _ _ rfl
  · intro c hc
    rw [pow4_eq]; exact Nat.le_of_lt (mem_wordsFrom_bounds hlk k s 0 c hc).1
  · constructor
    · rw [size_prefixLoop, size_buildTable]; exact Nat.lt_succ_self _
    · rw [Array.size_replicate, ← Nat.sub_add_comm hs]; exact wordsFrom_length_le lk k s 0
    · intro w hw
      rw [rd_prefix_buildTable k _ w hw, cnt_nil]; rfl
    · intro w j hj; exact absurd hj (Nat.not_lt_zero _)

/-- after the whole second pass, the entry before `w` (nothing, for the first word) is where the bucket
    of `w` begins -/
theorem PlaceInv.bucket_start {cs : List (Nat × Nat)} {top : Nat} {finger pos : Array Nat}
    (inv : PlaceInv cs cs top finger pos) {w : Nat} (hw : w ≤ top + 1) :
    (if w = 0 then 0 else rd finger (w - 1)) = below cs w := by
  cases w with
  | zero => rw [if_pos rfl, below_zero]
  | succ w =>
    rw [if_neg (Nat.succ_ne_zero w), Nat.add_sub_cancel, inv.fing w (Nat.le_of_succ_le_succ hw), below_succ]

theorem kmerPositions_of_inv (cs : List (Nat × Nat)) (k : Nat) (hk2 : 2 * k ≤ wordBits) (ix : Index)
    (hk : ix.k = k) (inv : PlaceInv cs cs (pow4 k) ix.finger ix.pos) (w : Nat) (hw : w < 4 ^ k) :
    kmerPositions ix w = .ok (occ cs w) := by
  rw [← pow4_eq] at hw
  unfold kmerPositions
  rw [hk, kMask_eq k hk2, ← pow4_eq, if_neg (Nat.not_lt.mpr (Nat.le_sub_one_of_lt hw))]
  have hi : (if w > 0 then rd ix.finger (w - 1) else 0) = below cs w := by
    rw [← inv.bucket_start (Nat.le_succ_of_le (Nat.le_of_lt hw))]
    cases w with
    | zero => rfl
    | succ w => rfl
  simp only []
  rw [hi, inv.fing w (Nat.le_of_lt hw)]
  by_cases hc : cnt cs w = 0
  · rw [if_pos (by rw [hc]; rfl), List.eq_nil_of_length_eq_zero ((occ_length cs w).trans hc)]
  · rw [if_neg (fun h => hc (Nat.add_left_cancel h.symm)), extract_bucket cs (pow4 k) ix.finger ix.pos inv w]

theorem checkHit_of_inv (cs : List (Nat × Nat)) (k : Nat) (ix : Index)
    (inv : PlaceInv cs cs (pow4 k) ix.finger ix.pos) (c : Nat × Nat) (hc : c ∈ cs) (hw : c.2 < 4 ^ k) :
    checkHit ix c = true := by
  rw [← pow4_eq] at hw
  have hi := inv.bucket_start (Nat.le_succ_of_le (Nat.le_of_lt hw))
  have hmem : c.1 ∈ occ cs c.2 :=
    List.mem_map.mpr ⟨c, List.mem_filter.mpr ⟨hc, beq_self_eq_true _⟩, rfl⟩
  obtain ⟨j, hjlt, hjeq⟩ := List.getElem_of_mem hmem
  have hb := inv.bucket c.2 j (occ_length cs c.2 ▸ hjlt)
  rw [List.getElem?_eq_getElem hjlt, hjeq] at hb
  unfold checkHit
  simp only []
  rw [hi, inv.fing c.2 (Nat.le_of_lt hw), Nat.add_sub_cancel_left, List.any_eq_true]
  exact ⟨j, List.mem_range.mpr (occ_length cs c.2 ▸ hjlt), by rw [← Option.some.inj hb]; exact beq_self_eq_true _⟩

theorem check_of_inv {lk : Lookup} (hlk : FourLetter lk) (k : Nat) (hk1 : 1 ≤ k) (hk2 : 2 * k ≤ wordBits)
    (s : List UInt8) (hs : k ≤ s.length) (ix : Index) (hk : ix.k = k) (hseq : ix.seq = s)
    (inv : PlaceInv (allWindows lk k s) (allWindows lk k s) (pow4 k) ix.finger ix.pos) :
    check lk ix = (true, (allWindows lk k s).length) := by
  unfold check
  simp only [hk, hseq]
  rw [forEachKmer_whole hlk k hk1 hk2, forEachKmer_err lk k s 0 s.length
    (by rw [Nat.zero_add]; exact Nat.le_trans (Nat.sub_le k 1) hs) (Nat.le_refl _)]
  have hall : ∀ c ∈ allWindows lk k s, checkHit ix c = true := fun c hc =>
    checkHit_of_inv _ k ix inv c hc (mem_wordsFrom_bounds hlk k s 0 c hc).1
  have hmap : ∀ x ∈ (allWindows lk k s).map (checkHit ix), id x = true := by
    intro x hx
    obtain ⟨c, hc, rfl⟩ := List.mem_map.mp hx
    exact hall c hc
  rw [List.all_eq_true.mpr hmap, List.countP_map, List.countP_eq_length (p := id ∘ checkHit ix) |>.mpr hall]
  rfl

end Biogo.Proofs.KmerIndex
