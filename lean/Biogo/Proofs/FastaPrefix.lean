/-
The GFF model's inline-sequence writer is an instance of the FASTA writer model with user-set
`IDPrefix` / `SeqPrefix` (`Biogo.Fasta.write_spec_cfg`).
-/
import Biogo.Proofs.Fasta
import Biogo.Model.Gff

namespace Biogo.Gff
open Biogo.BytesFeat

/-- the prefixes `gff.Writer.Write` sets on the `fasta.Writer` it uses for a sequence of
    molecule type `m`: `IDPrefix = "##<Mol> "`, `SeqPrefix = "##"` -/
def seqCfg (m : Nat) : Biogo.Fasta.Cfg := { idPrefix := [35, 35] ++ molName m ++ [32], seqPrefix := [35, 35] }

/-- the line `gff.Writer.Write` adds after the FASTA record -/
def endLine (m : Nat) : Bytes := ofString "##end-" ++ molName m ++ [10]

theorem seqBody_wrapFrom (w : Nat) (letters : Bytes) (i : Nat) :
    seqBody w letters i = Biogo.Fasta.wrapFrom w [10, 35, 35] i letters := by
  induction letters generalizing i with
  | nil => rfl
  | cons c r ih => simp [seqBody, Biogo.Fasta.wrapFrom, ih]

/-- **The GFF model's inline-sequence writer is the FASTA writer model with the prefixes set**,
    followed by the end marker; its count is the FASTA writer's count plus the marker's length
    (as `n + _n` in `gff.Writer.Write`). -/
theorem writeSeq_via_fasta (width m : Nat) (hw : width ≠ 0) (hm : m ≤ 2) (id desc letters : Bytes)
    (hl : letters ≠ []) :
    ∃ sink' n, Biogo.Fasta.write { cfg := seqCfg m, width := width } {} ⟨id, desc, letters⟩ = .ok (sink', n) ∧
      writeSeq width m id desc letters = .ok (sink'.bytes ++ endLine m, n + (endLine m).length) := by
  obtain ⟨sink', h1, h2⟩ := Biogo.Fasta.write_spec_cfg (seqCfg m) width hw {} ⟨id, desc, letters⟩
  refine ⟨sink', _, h1, ?_⟩
  have hd : (if desc.length > 0 then 32 :: desc else []) = (if desc.isEmpty = true then [] else 32 :: desc) := by
    cases desc <;> rfl
  have ht : [35, 35] ++ molName m ++ 32 :: id ++ (if desc.isEmpty then [] else 32 :: desc)
        ++ seqBody width letters 0 ++ [10] ++ ofString "##end-" ++ molName m ++ [10]
      = Biogo.Fasta.renderCfg (seqCfg m) width ⟨id, desc, letters⟩ ++ endLine m := by
    simp only [Biogo.Fasta.renderCfg, seqCfg, endLine, seqBody_wrapFrom, hd, List.append_assoc, List.cons_append,
      List.nil_append]
  have he : letters.isEmpty = false := Bool.eq_false_iff.mpr (mt List.isEmpty_iff.mp hl)
  rw [h2, show (({} : Biogo.Go.Bytes.Sink).bytes) = [] from rfl, List.nil_append, writeSeq, if_neg (by simp [he]),
    if_neg (by omega)]
  simp only [ht, List.length_append]

end Biogo.Gff
