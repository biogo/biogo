/-
`SWAffine`, C09: the layer-aware traceback never leaves its layer (`swAlignT_aware_tie`), and a traceback that
does not returns pairs with the recomputed scores when gap scores are not positive (`swAlignT_faithful`) —
read off the run `SWAffine.sw_run`.
-/
import Biogo.Proofs.SWAffine
import Biogo.Proofs.TraceFaith

namespace Biogo.Proofs.SWFaith
open Biogo.Spec.Alignment Biogo.AlignAff Biogo.Spec.AffineOpt Biogo.Spec.AffPairs
open Biogo.Proofs.AffineOpt Biogo.Proofs.AlignAffTable Biogo.Proofs.TraceSum Biogo.Proofs.SWAffine
open Biogo.Proofs.TraceWF Biogo.Proofs.TraceFaith

/-- the layer-aware traceback of `SWAffine` never raises the ghost flag -/
theorem swAlignT_aware_tie (cross : Bool) (S : Matrix) (o : Int) (r q : List Nat) (ps : List Pair) (t : Bool)
    (h : swAlignT true cross S o r q = .ok (ps, t)) : t = false := by
  obtain ⟨st, hl, rfl, _⟩ := (swAlignT_ok rfl).1 h
  exact loop_tie_aware cross true _ S o r q _ _ _ _ st hl

/-- **Faithful pair scores, `SWAffine`** (either switch, either fill): for gap scores ≤ 0, if the
    traceback only takes cases of its current layer every pair carries the score recomputed from
    the letters, the matrix and the gap parameters. -/
theorem swAlignT_faithful (aware cross : Bool) (S : Matrix) (o : Int) (hg : ∀ x, S x 0 ≤ 0 ∧ S 0 x ≤ 0)
    (r q : List Nat) (ps : List Pair) (h : swAlignT aware cross S o r q = .ok (ps, false)) :
    faithful S o r q ps = true := by
  rcases hb : swBest (swRows cross S o r q) with ⟨s, mi, mj⟩
  obtain ⟨st, hloop, htie, rfl⟩ := (swAlignT_ok hb).1 h
  obtain ⟨st', hloop', _, hf⟩ := sw_run aware cross S o r q hb
  cases hloop.symm.trans hloop'
  exact hf hg htie

end Biogo.Proofs.SWFaith
