/-
Helper lemmas for C20 (feature chains): the fuelled loops of `Model/Feat.lean` in closed form.
Core-only.
-/
import Biogo.Model.Feat
import Biogo.Spec.Gene

namespace Biogo.Proofs.Feat
open Biogo.Feat Biogo.Spec.Gene

theorem basePosLoop_closed (fuel : Nat) (f : Node) (rest : Chain) (p : Int)
    (h : (f :: rest).length ≤ fuel) :
    basePosLoop fuel (f :: rest) p = .ok (p + startSum (f :: rest), lastId f rest) := by
  induction fuel generalizing f rest p with
  | zero => exact absurd h (Nat.not_succ_le_zero _)
  | succ fuel ih =>
    cases rest with
    | nil => simp only [basePosLoop, startSum, lastId, Int.add_zero]
    | cons y rest =>
      simp only [basePosLoop, ih y rest (p + f.start) (Nat.le_of_succ_le_succ h), startSum, lastId,
        Int.add_assoc]

theorem basePosLoop_tooLong (fuel : Nat) (c : Chain) (p : Int) (h : fuel < c.length) :
    basePosLoop fuel c p = .error .tooLong := by
  induction fuel generalizing c p with
  | zero => rfl
  | succ fuel ih =>
    match c, h with
    | [_], h => exact absurd (Nat.lt_of_succ_lt_succ h) (Nat.not_lt_zero _)
    | _ :: y :: rest, h =>
      simp only [basePosLoop]
      exact ih (y :: rest) _ (Nat.lt_of_succ_lt_succ h)

theorem posWithinLoop_found (fuel : Nat) (pre : List Node) (m : Node) (rest : Chain) (p : Int)
    (hne : ∀ x ∈ pre, x.id ≠ m.id) (h : pre.length < fuel) :
    posWithinLoop fuel (pre ++ m :: rest) (some m.id) p = .ok (p + startSum pre, true) := by
  induction fuel generalizing pre p with
  | zero => exact absurd h (Nat.not_lt_zero _)
  | succ fuel ih =>
    cases pre with
    | nil => simp only [List.nil_append, posWithinLoop, if_true, startSum, Int.add_zero]
    | cons x pre =>
      have hx : ¬ (some m.id = some x.id) := fun hc =>
        hne x (List.mem_cons_self ..) (Option.some.inj hc).symm
      have ih := ih pre (p + x.start) (fun y hy => hne y (List.mem_cons_of_mem _ hy))
        (Nat.lt_of_succ_lt_succ h)
      obtain ⟨y, ys, hpre⟩ : ∃ y ys, pre ++ m :: rest = y :: ys := by
        cases pre <;> exact ⟨_, _, rfl⟩
      simp only [List.cons_append, posWithinLoop, hx, if_false, hpre]
      rw [← hpre, ih, startSum, Int.add_assoc]

theorem posWithinLoop_absent (fuel : Nat) (f : Node) (rest : Chain) (r : Nat) (p : Int)
    (hne : ∀ x ∈ f :: rest, x.id ≠ r) (h : (f :: rest).length ≤ fuel) :
    posWithinLoop fuel (f :: rest) (some r) p = .ok (0, false) := by
  induction fuel generalizing f rest p with
  | zero => exact absurd h (Nat.not_succ_le_zero _)
  | succ fuel ih =>
    have hx : ¬ (some r = some f.id) := fun hc =>
      hne f (List.mem_cons_self ..) (Option.some.inj hc).symm
    cases rest with
    | nil => simp only [posWithinLoop, hx, if_false]
    | cons y rest =>
      simp only [posWithinLoop, hx, if_false]
      exact ih y rest _ (fun z hz => hne z (List.mem_cons_of_mem _ hz)) (Nat.le_of_succ_le_succ h)

theorem startSum_append (a b : List Node) : startSum (a ++ b) = startSum a + startSum b := by
  induction a with
  | nil => simp only [List.nil_append, startSum, Int.zero_add]
  | cons x xs ih => simp only [List.cons_append, startSum, ih, Int.add_assoc]

theorem lastId_append : ∀ (f : Node) (tl : Chain) (y : Node) (ys : Chain),
    lastId f (tl ++ y :: ys) = lastId y ys
  | _, [], _, _ => rfl
  | _, a :: tl, y, ys => by simp only [List.cons_append, lastId, lastId_append a tl y ys]

theorem baseOriLoop_closed (fuel : Nat) (a : Int) (f : Node) (rest : Chain)
    (hf : f.oriented = true) (h : (f :: rest).length ≤ fuel) :
    baseOriLoop fuel a f rest = .ok (a * orientProduct (f :: rest), runRef f rest) := by
  induction fuel generalizing a f rest with
  | zero => exact absurd h (Nat.not_succ_le_zero _)
  | succ fuel ih =>
    cases rest with
    | nil => simp only [baseOriLoop, orientProduct, hf, if_true, runRef, Int.mul_one]
    | cons y rest =>
      have hp : orientProduct (f :: y :: rest) = f.ori * orientProduct (y :: rest) := by
        rw [orientProduct, if_pos hf]
      by_cases hy : y.oriented = true
      · simp only [baseOriLoop, hy, if_true, ih (a * f.ori) y rest hy (Nat.le_of_succ_le_succ h),
          runRef, hp, Int.mul_assoc]
      · have hq : orientProduct (y :: rest) = 1 := by rw [orientProduct, if_neg hy]
        simp only [baseOriLoop, hy, Bool.false_eq_true, if_false, runRef, hp, hq, Int.mul_one]

theorem baseOriNotLoop_closed (fuel : Nat) (f : Node) (rest : Chain)
    (h : (f :: rest).length ≤ fuel) : baseOriNotLoop fuel f rest = .ok (0, notRef f rest) := by
  induction fuel generalizing f rest with
  | zero => exact absurd h (Nat.not_succ_le_zero _)
  | succ fuel ih =>
    cases rest with
    | nil => simp only [baseOriNotLoop, notRef]
    | cons y rest =>
      by_cases hy : y.oriented = true
      · simp only [baseOriNotLoop, hy, if_true, notRef]
      · simp only [baseOriNotLoop, hy, Bool.false_eq_true, if_false, notRef]
        exact ih y rest (Nat.le_of_succ_le_succ h)

theorem orientAll_append (a b : List Node) : orientAll (a ++ b) = orientAll a * orientAll b := by
  induction a with
  | nil => simp only [List.nil_append, orientAll, Int.one_mul]
  | cons x xs ih =>
    simp only [List.cons_append, orientAll, ih]
    split
    · rw [Int.mul_assoc]
    · rw [Int.zero_mul]

theorem oriWithinLoop_found (fuel : Nat) (a : Int) (x : Node) (pre : List Node) (m : Node) (rest : Chain)
    (hne : ∀ y ∈ x :: pre, y.id ≠ m.id) (h : (x :: pre).length ≤ fuel) :
    oriWithinLoop fuel a (x :: pre ++ m :: rest) m.id = .ok (a * orientAll (x :: pre)) := by
  induction fuel generalizing a x pre with
  | zero => exact absurd h (Nat.not_succ_le_zero _)
  | succ fuel ih =>
    have hx : x.id ≠ m.id := hne x (List.mem_cons_self ..)
    by_cases ho : x.oriented = true
    · have hp : ∀ l, orientAll (x :: l) = x.ori * orientAll l := fun l => by
        rw [orientAll, if_pos ho]
      cases pre with
      | nil =>
        simp only [List.cons_append, List.nil_append, oriWithinLoop, ho, if_true, hx, if_false,
          headId, orientAll, Int.mul_one]
      | cons y pre =>
        have hy : ¬ (some y.id = some m.id) := fun hc =>
          hne y (List.mem_cons_of_mem _ (List.mem_cons_self ..)) (Option.some.inj hc)
        have ih := ih (a * x.ori) y pre (fun z hz => hne z (List.mem_cons_of_mem _ hz))
          (Nat.le_of_succ_le_succ h)
        simp only [List.cons_append] at ih ⊢
        simp only [oriWithinLoop, ho, if_true, hx, if_false, headId, hy, ih, hp, Int.mul_assoc]
    · simp only [List.cons_append, oriWithinLoop, ho, Bool.false_eq_true, if_false, orientAll,
        Int.mul_zero]

theorem oriWithinLoop_self (fuel : Nat) (a : Int) (m : Node) (rest : Chain) :
    oriWithinLoop (fuel + 1) a (m :: rest) m.id = .ok (if m.oriented then a else 0) := by
  by_cases ho : m.oriented = true <;> simp [oriWithinLoop, ho]

end Biogo.Proofs.Feat
