/-
Proofs about the FASTA model.  A call of `Read` is a step iterated over trimmed lines
(`read_cons`); totality is proved of that step.  `fastaLines_calls` reads the lines of a laid-out
file (`FastaLines`); `Write` emits such a layout.  The calls of a reader are taken without a budget
(`Calls`); `readAll_calls` meets the budget of `readAll`.
-/
import Biogo.Proofs.Bytes
import Biogo.Proofs.Calls
import Biogo.Model.Fasta

namespace Biogo.Fasta
open Biogo.Go.Bytes Biogo.Spec.Seqio

/-- a raw line and what `ReadLine` returns for it: the line itself (unterminated last line)
    or the line without a CR before its LF.  Only `Fastq.linesRel_nil_left` speaks of it: the layouts are read
    through the view (FastaView), where the CR does not show. -/
inductive LinesRel : List Bytes → List Bytes → Prop
  | nil : LinesRel [] []
  | cons (l l' : Bytes) (ls ls' : List Bytes) :
      (l' = l ∨ l' = stripCR l) → LinesRel ls ls' → LinesRel (l :: ls) (l' :: ls')

def EndsVisible (c : Bytes) : Prop :=
  (∀ a, c.head? = some a → visible a = true) ∧ (∀ a, c.getLast? = some a → visible a = true)

theorem endsVisible_nil : EndsVisible [] := ⟨by simp, by simp⟩

theorem endsVisible_of_all {c : Bytes} (h : ∀ b ∈ c, visible b = true) : EndsVisible c :=
  ⟨fun a ha => h a (List.mem_of_mem_head? ha), fun a ha => h a (List.mem_of_getLast? ha)⟩

theorem padded_trim {c raw : Bytes} (hc : EndsVisible c) (h : Padded c raw) : trimSpace raw = c := by
  obtain ⟨post, rfl, hp⟩ := h
  exact trimSpace_padded c post hc.1 hc.2 (fun b hb => isBlank_space (hp b hb))

theorem nameOK_iff {n : Bytes} : nameOK n = true ↔ ∀ b ∈ n, visible b = true := by
  simp [nameOK]

theorem descOK_def {d : Bytes} : descOK d = true ↔
    (∀ b ∈ d, b < 0x80 ∧ b ≠ 10) ∧ (∀ a, d.head? = some a → isAsciiSpace a = false) ∧
      (∀ a, d.getLast? = some a → isAsciiSpace a = false) := by
  simp only [descOK, Bool.and_eq_true, List.all_eq_true, decide_eq_true_eq, bne_iff_ne, ne_eq, and_assoc]
  refine and_congr_right (fun _ => and_congr ?_ ?_)
  · cases d.head? <;> simp
  · cases d.getLast? <;> simp

theorem headerLine_endsVisible (pfx : UInt8) (hp : visible pfx = true) {n d : Bytes}
    (hn : nameOK n = true) (hd : descOK d = true) : EndsVisible (headerLine pfx n d) := by
  rw [nameOK_iff] at hn
  obtain ⟨hasc, _, hlast⟩ := descOK_def.mp hd
  refine ⟨fun a ha => ?_, fun a ha => ?_⟩
  · simp only [headerLine, List.cons_append, List.head?_cons, Option.some.injEq] at ha
    exact ha ▸ hp
  · cases d with
    | nil =>
      rcases List.mem_cons.mp (List.mem_of_getLast? (by simpa [headerLine] using ha)) with rfl | hm
      · exact hp
      · exact hn a hm
    | cons x xs =>
      rw [headerLine, if_neg (by simp), List.append_cons, List.getLast?_append,
        List.getLast?_eq_some_getLast (List.cons_ne_nil x xs), Option.some_or,
        ← List.getLast?_eq_some_getLast] at ha
      exact (visible_def a).mpr ⟨(hasc a (List.mem_of_getLast? ha)).1, hlast a ha⟩

theorem headerLine_nolf (pfx : UInt8) (hp : visible pfx = true) {n d : Bytes}
    (hn : nameOK n = true) (hd : descOK d = true) : ∀ b ∈ headerLine pfx n d, b ≠ 10 := by
  rw [nameOK_iff] at hn
  unfold headerLine
  refine List.forall_mem_append.mpr
    ⟨List.forall_mem_cons.mpr ⟨visible_ne_lf hp, fun b hb => visible_ne_lf (hn b hb)⟩, ?_⟩
  split
  · simp
  · exact List.forall_mem_cons.mpr ⟨by decide, fun b hb => ((descOK_def.mp hd).1 b hb).2⟩

def mkWorking (n d : Bytes) : Working := { name := n, desc := d, letters := #[] }

theorem header_headerLine {n d : Bytes} (hn : nameOK n = true) :
    header {} (headerLine 62 n d) = .ok (mkWorking n d, none) := by
  rw [nameOK_iff] at hn
  have hcut : sliceFrom (headerLine 62 n d) ([62] : Bytes).length
      = .ok (n ++ (if d.isEmpty then [] else 32 :: d)) := by
    simp [sliceFrom, headerLine]
  unfold header
  simp only [hcut, bind, Except.bind]
  cases d with
  | nil =>
    simp only [List.isEmpty_nil, if_true, List.append_nil]
    rw [indexAnySpTab_visible_nil _ hn]
    rfl
  | cons x xs =>
    simp only [List.isEmpty_cons, Bool.false_eq_true, if_false, indexAnySpTab_visible_space n hn]
    simp [slice, sliceFrom, mkWorking, pure, Except.pure]

/-- What one trimmed line does to a call of `Read`: the loop goes on with a new reader state,
    or the call returns.  `read` is this step iterated over the lines (`read_cons`). -/
def step (cfg : Cfg) (st : St) (line : Bytes) : Except Panic (St ⊕ Ret × St) :=
  if line.length == 0 then pure (.inl st)
  else if hasPrefix line cfg.idPrefix then
    match st.working with
    | none => do
      let (w, e) ← header cfg line
      pure (.inl { working := some w, err := e })
    | some w => do
      let (w', e') ← header cfg line
      pure (.inr (⟨some w.toRec, st.err⟩, deferred { working := some w', err := e' }))
  else if hasPrefix line cfg.seqPrefix then
    match st.working with
    | none => pure (.inr (⟨none, some (.badLine line)⟩, deferred st))
    | some w => do
      let body ← sliceFrom line cfg.seqPrefix.length
      pure (.inl { st with working := some { w with letters := w.letters.appendList (removeSpaces body) } })
  else pure (.inr (⟨none, some (.badLine line)⟩, deferred st))

theorem read_cons (cfg : Cfg) (st : St) (raw : Bytes) (rest : List Bytes) :
    read cfg st (raw :: rest) =
      match step cfg st (trimSpace raw) with
      | .error p => .error p
      | .ok (.inl st') => read cfg st' rest
      | .ok (.inr (ret, st')) => .ok (ret, st', rest) := by
  rw [read]
  unfold step
  simp only []
  -- both sides branch on the same tests and run the same fallible steps
  generalize ((trimSpace raw).length == 0) = c0
  generalize hasPrefix (trimSpace raw) cfg.idPrefix = c1
  generalize hasPrefix (trimSpace raw) cfg.seqPrefix = c2
  generalize header cfg (trimSpace raw) = hd
  generalize sliceFrom (trimSpace raw) cfg.seqPrefix.length = body
  cases c0
  · cases c1
    · cases c2
      · rfl
      · cases st.working with
        | none => rfl
        | some w => rcases body with e | b <;> rfl
    · cases st.working <;> rcases hd with e | ⟨w, e⟩ <;> rfl
  · rfl

theorem read_nil (cfg : Cfg) (st : St) :
    read cfg st [] = match st.working with
      | none => .ok (⟨none, some .eof⟩, deferred st, [])
      | some w => .ok (⟨some w.toRec, st.err⟩, deferred { st with working := none }, []) := by
  unfold read; cases st.working <;> rfl

theorem read_blank (cfg : Cfg) (st : St) (raw : Bytes) (rest : List Bytes) (h : trimSpace raw = []) :
    read cfg st (raw :: rest) = read cfg st rest := by
  rw [read_cons, h]; rfl

theorem read_skip_blanks (cfg : Cfg) (st : St) (blanks rest : List Bytes) (hb : ∀ l ∈ blanks, trimSpace l = []) :
    read cfg st (blanks ++ rest) = read cfg st rest := by
  induction blanks with
  | nil => rfl
  | cons b bs ih =>
    rw [List.cons_append, read_blank _ _ b _ (hb b (by simp))]
    exact ih (fun l hl => hb l (by simp [hl]))

theorem step_headerLine (st : St) {n d : Bytes} (hn : nameOK n = true) :
    step {} st (headerLine 62 n d) = match st.working with
      | none => .ok (.inl ⟨some (mkWorking n d), none⟩)
      | some w => .ok (.inr (⟨some w.toRec, st.err⟩, ⟨some (mkWorking n d), none⟩)) := by
  have h0 : ((headerLine 62 n d).length == 0) = false := by simp [headerLine]
  have h1 : hasPrefix (headerLine 62 n d) ({} : Cfg).idPrefix = true := by
    simp [hasPrefix, headerLine, List.isPrefixOf]
  simp only [step, h0, h1, header_headerLine hn]
  cases st.working <;> rfl

def LettersOK (c : Bytes) : Prop := ∀ b ∈ c, visible b = true ∧ b ≠ 62

theorem wfFasta_iff {r : Rec} :
    wfFasta r = true ↔ nameOK r.name = true ∧ descOK r.desc = true ∧ LettersOK r.letters := by
  simp [wfFasta, fastaLettersOK, LettersOK, and_assoc]

theorem step_piece (w : Working) (e : Option Err) {a : UInt8} {t : Bytes} (hc : LettersOK (a :: t)) :
    step {} ⟨some w, e⟩ (a :: t) = .ok (.inl ⟨some { w with letters := w.letters.appendList (a :: t) }, e⟩) := by
  have hpre : hasPrefix (a :: t) ({} : Cfg).idPrefix = false := by
    simpa [hasPrefix, List.isPrefixOf] using fun h => (hc a (by simp)).2 h.symm
  have hseq : hasPrefix (a :: t) ({} : Cfg).seqPrefix = true := rfl
  have hbody : sliceFrom (a :: t) (({} : Cfg).seqPrefix).length = .ok (a :: t) := rfl
  simp only [step, hpre, hseq, hbody, bind, Except.bind, removeSpaces_visible (a :: t) (fun b hb => (hc b hb).1)]
  rfl

theorem hasPrefix_length {line p : Bytes} (h : hasPrefix line p = true) : p.length ≤ line.length := by
  simp only [hasPrefix] at h
  exact (List.isPrefixOf_iff_prefix.mp h).length_le

/-- `header` looks for the separator after the prefix, which makes it total for every
    `IDPrefix` -/
theorem header_total_cfg (cfg : Cfg) (line : Bytes) (h : hasPrefix line cfg.idPrefix = true) :
    ∃ v, header cfg line = .ok v := by
  have hle := hasPrefix_length h
  unfold header
  simp only [sliceFrom, hle, if_true, bind, Except.bind]
  cases hk : indexAnySpTab (line.drop cfg.idPrefix.length) with
  | none => simp [pure, Except.pure]
  | some k =>
    have hlt := indexAnySpTab_lt hk
    simp only [List.length_drop] at hlt
    have h1 : k ≤ line.length - cfg.idPrefix.length := by omega
    have h2 : k + 1 ≤ line.length - cfg.idPrefix.length := by omega
    simp [slice, h1, h2, pure, Except.pure]

theorem deferred_working (st : St) : (deferred st).working = st.working := by
  unfold deferred; split <;> rfl

/-- A line never makes the reader panic, whatever the prefixes.  If it ends the call, the call
    hands out a sequence or an error, and a record is left in the reader only if there was one
    before. -/
theorem step_total (cfg : Cfg) (st : St) (line : Bytes) :
    ∃ r, step cfg st line = .ok r ∧ ∀ ret st', r = .inr (ret, st') →
      (ret.s.isSome ∨ ret.e.isSome) ∧ (st'.working.isSome = true → st.working.isSome = true) := by
  have hbad : ∀ l, ((⟨none, some (.badLine l)⟩ : Ret).s.isSome ∨ (⟨none, some (.badLine l)⟩ : Ret).e.isSome) ∧
      ((deferred st).working.isSome = true → st.working.isSome = true) :=
    fun l => ⟨.inr rfl, by rw [deferred_working]; exact id⟩
  unfold step
  by_cases c0 : (line.length == 0) = true
  · rw [if_pos c0]; exact ⟨_, rfl, fun _ _ h => by cases h⟩
  rw [if_neg c0]
  by_cases c1 : hasPrefix line cfg.idPrefix = true
  · obtain ⟨⟨w, e⟩, hv⟩ := header_total_cfg cfg _ c1
    rw [if_pos c1, hv]
    cases hw : st.working with
    | none => exact ⟨_, rfl, fun _ _ h => by cases h⟩
    | some w0 => exact ⟨_, rfl, fun _ _ h => by cases h; exact ⟨.inl rfl, fun _ => rfl⟩⟩
  rw [if_neg c1]
  by_cases c2 : hasPrefix line cfg.seqPrefix = true
  · rw [if_pos c2]
    cases hw : st.working with
    | none => exact ⟨_, rfl, fun _ _ h => by cases h; exact hw ▸ hbad line⟩
    | some w0 =>
      rw [show sliceFrom line cfg.seqPrefix.length = .ok (line.drop cfg.seqPrefix.length) by
        simp only [sliceFrom, hasPrefix_length c2, if_true]]
      exact ⟨_, rfl, fun _ _ h => by cases h⟩
  · rw [if_neg c2]; exact ⟨_, rfl, fun _ _ h => by cases h; exact hbad line⟩

/-- what is left to do: the lines not yet read, plus the record that is still to be returned -/
def measure (st : St) (lines : List Bytes) : Nat := lines.length + (if st.working.isSome then 1 else 0)

theorem measure_le (st : St) (lines : List Bytes) : measure st lines ≤ lines.length + 1 := by
  unfold measure; split <;> omega

/-- `read` never panics, whatever the prefixes; every call returns a sequence or an error; and
    every call that does not return `io.EOF` consumes a line or hands out the pending record -/
theorem read_progress_cfg (cfg : Cfg) (lines : List Bytes) : ∀ st : St,
    ∃ ret st' rest, read cfg st lines = .ok (ret, st', rest) ∧
      (ret.s.isSome ∨ ret.e.isSome) ∧ (ret.e ≠ some .eof → measure st' rest < measure st lines) := by
  induction lines with
  | nil =>
    intro st
    rw [read_nil]
    cases hw : st.working with
    | none => exact ⟨_, _, _, rfl, .inr rfl, fun h => absurd rfl h⟩
    | some w => exact ⟨_, _, _, rfl, .inl rfl, fun _ => by simp [measure, deferred_working, hw]⟩
  | cons raw rest0 ih =>
    intro st
    obtain ⟨v, hv, hret⟩ := step_total cfg st (trimSpace raw)
    rw [read_cons, hv]
    rcases v with s1 | ⟨ret, st'⟩
    · obtain ⟨ret, st', rest, h, a, b⟩ := ih s1
      refine ⟨ret, st', rest, h, a, fun hne => ?_⟩
      have := b hne
      have := measure_le s1 rest0
      simp only [measure, List.length_cons] at *
      omega
    · obtain ⟨a, b⟩ := hret ret st' rfl
      refine ⟨ret, st', rest0, rfl, a, fun _ => ?_⟩
      simp only [measure, List.length_cons]
      cases hw' : st'.working.isSome
      · simp; omega
      · simp [b hw']

theorem read_total_cfg (cfg : Cfg) (lines : List Bytes) (st : St) : ∃ v, read cfg st lines = .ok v :=
  let ⟨_, _, _, h, _⟩ := read_progress_cfg cfg lines st
  ⟨_, h⟩

/-- one call of `Read`, on the reader's fields and the lines not yet read -/
abbrev call (cfg : Cfg) (a : St × List Bytes) : Except Panic (Ret × St × List Bytes) := read cfg a.1 a.2

abbrev IsEOF (r : Ret) : Prop := r.e = some .eof

theorem call_progress (cfg : Cfg) (a : St × List Bytes) :
    ∃ r a', call cfg a = .ok (r, a') ∧ (r.s.isSome ∨ r.e.isSome) ∧ (¬ IsEOF r → measure a'.1 a'.2 < measure a.1 a.2) :=
  let ⟨ret, st', rest, h1, h2, h3⟩ := read_progress_cfg cfg a.2 a.1
  ⟨ret, (st', rest), h1, h2, h3⟩

theorem readAllAux_calls (cfg : Cfg) {a : St × List Bytes} {rs : List Ret} (h : Calls (call cfg) IsEOF a rs) :
    ∀ fuel, rs.length ≤ fuel → readAllAux cfg fuel a.1 a.2 = rs.map Call.ret := by
  induction h with
  | last hc he =>
    intro fuel hf
    obtain ⟨f, rfl⟩ : ∃ f, fuel = f + 1 := ⟨fuel - 1, by simp at hf; omega⟩
    simp only [readAllAux, show read cfg _ _ = _ from hc, if_pos he]; rfl
  | more hc he _ ih =>
    intro fuel hf
    obtain ⟨f, rfl⟩ : ∃ f, fuel = f + 1 := ⟨fuel - 1, by simp at hf; omega⟩
    simp only [readAllAux, show read cfg _ _ = _ from hc, if_neg he, ih f (by simpa using hf)]; rfl

/-- the call history: no panic, never out of budget, at most `measure st lines + 1` calls, ends
    with `io.EOF`, every call returns a sequence or an error -/
theorem readAllAux_total_cfg (cfg : Cfg) (fuel : Nat) (st : St) (lines : List Bytes) (hm : measure st lines < fuel) :
    (∀ p, Call.panic p ∉ readAllAux cfg fuel st lines) ∧
    Call.unfinished ∉ readAllAux cfg fuel st lines ∧
    (readAllAux cfg fuel st lines).length ≤ measure st lines + 1 ∧
    (∃ r, (readAllAux cfg fuel st lines).getLast? = some (Call.ret r) ∧ r.e = some .eof) ∧
    (∀ r, Call.ret r ∈ readAllAux cfg fuel st lines → r.s.isSome ∨ r.e.isSome) := by
  obtain ⟨rs, hc⟩ := Calls.exists_of_progress _ _ (call_progress cfg) (st, lines)
  obtain ⟨hl, hq⟩ := hc.bound _ _ (call_progress cfg)
  obtain ⟨r, hr, he⟩ := hc.getLast
  rw [readAllAux_calls cfg hc fuel (by simp only at hl; omega)]
  exact ⟨by simp, by simp, by simpa using hl, ⟨r, by simp [List.getLast?_map, hr], he⟩, by simpa using hq⟩

theorem readAll_calls (cfg : Cfg) {bs : Bytes} {rs : List Ret} (h : Calls (call cfg) IsEOF ({}, splitLines bs) rs) :
    readAll cfg bs = rs.map Call.ret :=
  readAllAux_calls cfg h _ (by simpa [measure] using (h.bound _ _ (call_progress cfg)).1)

def retOK (r : Rec) : Call := .ret ⟨some r, none⟩
def retEOF : Call := .ret ⟨none, some .eof⟩

theorem read_seqLines {ls : Bytes} {body : List Bytes} (hs : SeqLines ls body) (hok : LettersOK ls)
    (w : Working) (rest : List Bytes) :
    read {} ⟨some w, none⟩ (body ++ rest)
      = read {} ⟨some { w with letters := w.letters.appendList ls }, none⟩ rest := by
  induction hs generalizing w with
  | nil => simp
  | cons c raw ls raws hp _ ih =>
    have hc : LettersOK c := fun b hb => hok b (by simp [hb])
    have ht := padded_trim (endsVisible_of_all (fun b hb => (hc b hb).1)) hp
    have e : read {} ⟨some w, none⟩ (raw :: (raws ++ rest))
        = read {} ⟨some { w with letters := w.letters.appendList c }, none⟩ (raws ++ rest) := by
      cases c with
      | nil => rw [read_blank _ _ _ _ ht]; simp
      | cons a t => rw [read_cons, ht, step_piece w none hc]
    rw [List.cons_append, e, ih (fun b hb => hok b (by simp [hb]))]
    exact congrArg (fun l => read {} ⟨some { w with letters := l }, none⟩ rest) (Array.ext' (by simp))

/-- The calls of a reader that holds the record `w` (or none), in front of the lines of a layout:
    `w`, then the records laid out, then `io.EOF`. -/
theorem fastaLines_calls {recs : List Rec} {lines : List Bytes} (h : FastaLines recs lines)
    (hwf : ∀ r ∈ recs, wfFasta r = true) (w : Option Working) :
    Calls (call {}) IsEOF (⟨w, none⟩, lines)
      (w.toList.map (fun w => ⟨some w.toRec, none⟩)
        ++ (recs.map (fun r => ⟨some r, none⟩) ++ [⟨none, some .eof⟩])) := by
  induction h generalizing w with
  | nil =>
    have heof : Calls (call {}) IsEOF (⟨none, none⟩, []) [⟨none, some .eof⟩] :=
      .last (show call {} _ = .ok (_, deferred ⟨none, none⟩, []) from rfl) rfl
    cases w with
    | none => exact heof
    | some w =>
      exact .more (show call {} (⟨some w, none⟩, []) = .ok (⟨some w.toRec, none⟩, ⟨none, none⟩, []) from rfl)
        nofun heof
  | blank raw recs lines hp _ ih => exact (ih hwf w).congr (read_blank _ _ raw lines (padded_trim endsVisible_nil hp))
  | record r h body rs rest hp hs _ ih =>
    obtain ⟨hn, hd, hlet⟩ := wfFasta_iff.mp (hwf r (by simp))
    have ht := padded_trim (headerLine_endsVisible 62 (by decide) hn hd) hp
    have hst := step_headerLine (d := r.desc) ⟨w, none⟩ hn
    -- from the header on the reader holds `r` without letters, and collects them from the body;
    -- a record held before is returned
    have ih' : Calls (call {}) IsEOF (⟨some (mkWorking r.name r.desc), none⟩, body ++ rest)
        (⟨some r, none⟩ :: (rs.map (fun r => ⟨some r, none⟩) ++ [⟨none, some .eof⟩])) := by
      refine Calls.congr (a := (_, _)) (b := (_, _)) (read_seqLines hs hlet (mkWorking r.name r.desc) rest) ?_
      simpa [mkWorking, Working.toRec] using ih (fun r' hr' => hwf r' (by simp [hr']))
        (some ⟨r.name, r.desc, (#[] : Array UInt8).appendList r.letters⟩)
    cases w with
    | none =>
      exact ih'.congr (a := (⟨none, none⟩, h :: (body ++ rest))) (by rw [call, call, read_cons, ht, hst])
    | some w =>
      exact .more (show read {} ⟨some w, none⟩ (h :: (body ++ rest))
          = .ok (⟨some w.toRec, none⟩, ⟨some (mkWorking r.name r.desc), none⟩, body ++ rest) by
        rw [read_cons, ht, hst]) nofun ih'

/-- what the letter loop of `Write` emits from index `i` on -/
def wrapFrom (w : Nat) (pfx : Bytes) : Nat → Bytes → Bytes
  | _, [] => []
  | i, l :: ls => (if i % w == 0 then pfx else []) ++ l :: wrapFrom w pfx (i + 1) ls

theorem bytes_write (s : Sink) (p : Bytes) : (s.write p).1.bytes = s.bytes ++ p := by
  simp [Sink.write, Sink.bytes]

-- a `simp` lemma: `size_write` and `write_count` need it
@[simp] theorem size_appendList (xs : Array UInt8) (l : Bytes) : (xs ++ l).size = xs.size + l.length := by
  rw [← Array.length_toList, Array.toList_appendList, List.length_append, Array.length_toList]

theorem size_write (s : Sink) (p : Bytes) : (s.write p).1.out.size = s.out.size + (s.write p).2 := by
  simp [Sink.write]

theorem writeLoop_spec (w : Nat) (hw : w ≠ 0) (pfx : Bytes) (i : Nat) (ls : Bytes) (sink : Sink) (n : Nat) :
    ∃ sink', writeLoop w pfx i ls sink n = .ok (sink', n + (wrapFrom w pfx i ls).length) ∧
      sink'.bytes = sink.bytes ++ wrapFrom w pfx i ls := by
  induction ls generalizing i sink n with
  | nil => exact ⟨sink, by simp [writeLoop, wrapFrom, pure, Except.pure]⟩
  | cons l ls ih =>
    have hw' : (w == 0) = false := by simpa using hw
    by_cases hi : (i % w == 0) = true
    · obtain ⟨s', h1, h2⟩ := ih (i + 1) ((sink.write pfx).1.write [l]).1 (n + pfx.length + 1)
      refine ⟨s', ?_, ?_⟩
      · simp only [writeLoop, hw', hi]
        simp [Sink.write] at h1 ⊢
        rw [h1]; simp [wrapFrom, hi]; omega
      · rw [h2]; simp [bytes_write, wrapFrom, hi]
    · obtain ⟨s', h1, h2⟩ := ih (i + 1) (sink.write [l]).1 (n + 1)
      refine ⟨s', ?_, ?_⟩
      · simp only [writeLoop, hw', hi]
        simp [Sink.write] at h1 ⊢
        rw [h1]; simp [wrapFrom, hi]; omega
      · rw [h2]; simp [bytes_write, wrapFrom, hi]

/-- the bytes of one record as `Write` lays them out at width `w` with the prefixes of `cfg` -/
def renderCfg (cfg : Cfg) (w : Nat) (r : Rec) : Bytes :=
  cfg.idPrefix ++ r.name ++ (if r.desc.length > 0 then 32 :: r.desc else [])
    ++ wrapFrom w (10 :: cfg.seqPrefix) 0 r.letters ++ [10]

theorem write_spec_cfg (cfg : Cfg) (w : Nat) (hw : w ≠ 0) (sink : Sink) (r : Rec) :
    ∃ sink', write { cfg := cfg, width := w } sink r = .ok (sink', (renderCfg cfg w r).length) ∧
      sink'.bytes = sink.bytes ++ renderCfg cfg w r := by
  obtain ⟨s', h1, h2⟩ := writeLoop_spec w hw (10 :: cfg.seqPrefix) 0 r.letters
    (sink.write (cfg.idPrefix ++ r.name ++ (if r.desc.length > 0 then 32 :: r.desc else []))).1
    (cfg.idPrefix ++ r.name ++ (if r.desc.length > 0 then 32 :: r.desc else [])).length
  refine ⟨(s'.write [10]).1, ?_, ?_⟩
  · simp only [write, bind, Except.bind]
    simp only [Sink.write] at h1 ⊢
    rw [h1]
    simp [pure, Except.pure, renderCfg]; omega
  · rw [bytes_write, h2, bytes_write]; simp [renderCfg]

/-- the bytes of one record as `Write` lays them out at width `w` -/
def render (w : Nat) (r : Rec) : Bytes :=
  headerLine 62 r.name r.desc ++ wrapFrom w [10] 0 r.letters ++ [10]

theorem header_eq (r : Rec) :
    ([62] : Bytes) ++ r.name ++ (if r.desc.length > 0 then 32 :: r.desc else []) = headerLine 62 r.name r.desc := by
  unfold headerLine
  cases r.desc <;> simp

theorem renderCfg_default (w : Nat) (r : Rec) : renderCfg {} w r = render w r := by
  simp only [renderCfg, render, ← header_eq]

theorem write_spec (w : Nat) (hw : w ≠ 0) (sink : Sink) (r : Rec) :
    ∃ sink', write { width := w } sink r = .ok (sink', (render w r).length) ∧
      sink'.bytes = sink.bytes ++ render w r :=
  renderCfg_default w r ▸ write_spec_cfg {} w hw sink r

/-- The count returned by `Write` is the number of bytes it put on the writer (any width,
    any prefixes, any record). -/
theorem write_count (wr : Writer) (sink sink' : Sink) (r : Rec) (n : Nat)
    (h : write wr sink r = .ok (sink', n)) : sink'.out.size = sink.out.size + n := by
  by_cases hw : wr.width = 0
  · -- at width 0 the first letter divides by zero: `Write` returns only for a record without letters
    cases hl : r.letters with
    | nil =>
      simp [write, hl, writeLoop, bind, Except.bind, pure, Except.pure, Sink.write] at h
      obtain ⟨rfl, rfl⟩ := h
      simp; omega
    | cons a t => simp [write, hl, writeLoop, hw, bind, Except.bind, throw, throwThe, MonadExceptOf.throw] at h
  · obtain ⟨s', h1, h2⟩ := write_spec_cfg wr.cfg wr.width hw sink r
    rw [show ({ cfg := wr.cfg, width := wr.width } : Writer) = wr from rfl, h] at h1
    cases h1
    have := congrArg List.length h2
    simp only [Sink.bytes, Array.length_toList, List.length_append] at this
    omega

theorem joinLF_cons (l : Bytes) (ls : List Bytes) : joinLF (l :: ls) = l ++ 10 :: joinLF ls := by
  simp [joinLF]

theorem joinLF_append (a b : List Bytes) : joinLF (a ++ b) = joinLF a ++ joinLF b := by
  simp [joinLF]

/-- the letter loop of `Write`, continuing a line `cur`, lays the letters out in lines -/
theorem wrap_lines (w : Nat) (ls : Bytes) : ∀ (cur : Bytes) (i : Nat),
    ∃ lines, cur ++ wrapFrom w [10] i ls ++ [10] = joinLF lines ∧ lines.flatten = cur ++ ls := by
  induction ls with
  | nil => intro cur i; exact ⟨[cur], by simp [wrapFrom, joinLF], by simp⟩
  | cons l ls ih =>
    intro cur i
    by_cases hi : (i % w == 0) = true
    · obtain ⟨lines, h1, h2⟩ := ih [l] (i + 1)
      refine ⟨cur :: lines, ?_, by simp [h2]⟩
      rw [joinLF_cons, ← h1]; simp [wrapFrom, hi]
    · obtain ⟨lines, h1, h2⟩ := ih (cur ++ [l]) (i + 1)
      exact ⟨lines, by simpa [wrapFrom, hi] using h1, by simpa using h2⟩

theorem seqLines_flatten (pieces : List Bytes) : SeqLines pieces.flatten pieces := by
  induction pieces with
  | nil => exact .nil
  | cons p ps ih => exact .cons p p _ ps ⟨[], by simp, by simp⟩ ih

theorem render_lines (w : Nat) (r : Rec) :
    ∃ pieces, render w r = joinLF (headerLine 62 r.name r.desc :: pieces) ∧ pieces.flatten = r.letters := by
  cases hl : r.letters with
  | nil => exact ⟨[], by simp [render, hl, wrapFrom, joinLF], rfl⟩
  | cons l ls =>
    -- the first letter has index 0: a line break precedes it
    obtain ⟨pieces, h1, h2⟩ := wrap_lines w ls [l] 1
    refine ⟨pieces, ?_, by simpa using h2⟩
    rw [joinLF_cons, ← h1]; simp [render, hl, wrapFrom]

theorem terminated_joinLF (lines : List Bytes) (h : ∀ l ∈ lines, ∀ b ∈ l, b ≠ 10) :
    Terminated lines (joinLF lines) := by
  induction lines with
  | nil => exact .nil
  | cons l ls ih =>
    rw [joinLF_cons]
    exact .lf l ls _ (h l (by simp)) (ih (fun l' hl' => h l' (by simp [hl'])))

/-- what `Write` emits for well-formed records at a positive width is a layout of them -/
theorem renders_writer (w : Nat) (recs : List Rec) (hwf : ∀ r ∈ recs, wfFasta r = true) :
    FastaRenders recs (recs.flatMap (render w)) := by
  suffices h : ∃ lines, FastaLines recs lines ∧ recs.flatMap (render w) = joinLF lines ∧
      ∀ l ∈ lines, ∀ b ∈ l, b ≠ 10 by
    obtain ⟨lines, h1, h2, h3⟩ := h
    exact ⟨lines, h1, h2 ▸ terminated_joinLF lines h3⟩
  induction recs with
  | nil => exact ⟨[], .nil, by simp [joinLF], by simp⟩
  | cons r rs ih =>
    obtain ⟨lines, h1, h2, h3⟩ := ih (fun r' hr' => hwf r' (by simp [hr']))
    obtain ⟨pieces, p1, p2⟩ := render_lines w r
    obtain ⟨hn, hd, hlet⟩ := wfFasta_iff.mp (hwf r (by simp))
    refine ⟨headerLine 62 r.name r.desc :: pieces ++ lines, ?_, ?_, ?_⟩
    · exact .record r _ pieces rs lines ⟨[], by simp, by simp⟩ (p2 ▸ seqLines_flatten pieces) h1
    · rw [List.flatMap_cons, p1, h2, ← joinLF_append, List.cons_append]
    · intro l hl b hb
      simp only [List.cons_append, List.mem_cons, List.mem_append] at hl
      rcases hl with rfl | hl | hl
      · exact headerLine_nolf 62 (by decide) hn hd b hb
      · exact visible_ne_lf (hlet b (p2 ▸ List.mem_flatten.mpr ⟨l, hl, hb⟩)).1
      · exact h3 l hl b hb

theorem writeAll_spec (w : Nat) (hw : w ≠ 0) (sink : Sink) (recs : List Rec) :
    ∃ sink', writeAll { width := w } sink recs = .ok (sink', recs.map (fun r => (render w r).length)) ∧
      sink'.bytes = sink.bytes ++ recs.flatMap (render w) := by
  induction recs generalizing sink with
  | nil => exact ⟨sink, by simp [writeAll, pure, Except.pure]⟩
  | cons r rs ih =>
    obtain ⟨s1, h1, h2⟩ := write_spec w hw sink r
    obtain ⟨s2, h3, h4⟩ := ih s1
    refine ⟨s2, ?_, ?_⟩
    · simp [writeAll, bind, Except.bind, h1, h3, pure, Except.pure]
    · rw [h4, h2]; simp

end Biogo.Fasta
