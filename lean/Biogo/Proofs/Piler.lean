/-
A stored interval of the piler model is described by the features it has absorbed (`IvOK`).
Described intervals of one location are closed under joining two whose hulls overlap or abut
(`IvOK.join`); `merge` is an iterated join that leaves the location's list separated and sorted
(`mergeLoc_ok`).  Core-only.
-/
import Biogo.Model.Piler
import Biogo.Spec.Piles
import Biogo.Proofs.InsertSort

namespace Biogo.Proofs.Piler
open Biogo.Piler Biogo.Spec.Piles

theorem pairwise_trichotomy {α} {R : α → α → Prop} {l : List α} (h : l.Pairwise R) {a b : α}
    (ha : a ∈ l) (hb : b ∈ l) : a = b ∨ R a b ∨ R b a :=
  List.Pairwise.forall_of_forall_of_flip (R := fun a b => a = b ∨ R a b ∨ R b a)
    (fun _ _ => .inl rfl) (h.imp fun r => .inr (.inl r)) (h.imp fun r => .inr (.inr r)) ha hb

theorem inj_of_nodup_map {α β} {f : α → β} {l : List α} (h : (l.map f).Nodup) {a b : α}
    (ha : a ∈ l) (hb : b ∈ l) (e : f a = f b) : a = b :=
  (pairwise_trichotomy (List.pairwise_map.mp h) ha hb).elim id fun h => h.elim (absurd e) (absurd e.symm)

theorem touches_iff {a b : Key} : touches a b = true ↔ a.loc = b.loc ∧ a.s ≤ b.e ∧ b.s ≤ a.e := by
  simp only [touches, Bool.and_eq_true, beq_iff_eq, decide_eq_true_eq, and_assoc]

theorem touches_symm {a b : Key} (h : touches a b = true) : touches b a = true :=
  let ⟨e, h1, h2⟩ := touches_iff.mp h
  touches_iff.mpr ⟨e.symm, h2, h1⟩

theorem Touch.symm {fs : Feats} {i j : Nat} (h : Touch fs i j) : Touch fs j i := by
  obtain ⟨ki, kj, hi, hj, t⟩ := h
  exact ⟨kj, ki, hj, hi, touches_symm t⟩

theorem Touch.mono {fs fs' : Feats} (sub : ∀ x ∈ fs, x ∈ fs') {i j : Nat} (h : Touch fs i j) :
    Touch fs' i j := by
  obtain ⟨ki, kj, hi, hj, t⟩ := h
  exact ⟨ki, kj, sub _ hi, sub _ hj, t⟩

theorem Linked.mono {fs fs' : Feats} (sub : ∀ x ∈ fs, x ∈ fs') {i j : Nat} (h : Linked fs i j) :
    Linked fs' i j := by
  induction h with
  | refl hi => exact .refl (sub _ hi)
  | tail _ t ih => exact .tail ih (Touch.mono sub t)

theorem Linked.trans {fs : Feats} {i j k : Nat} (h1 : Linked fs i j) (h2 : Linked fs j k) :
    Linked fs i k := by
  induction h2 with
  | refl _ => exact h1
  | tail _ t ih => exact .tail ih t

theorem Linked.of_touch {fs : Feats} {i j : Nat} (t : Touch fs i j) : Linked fs i j := by
  obtain ⟨ki, kj, hi, hj, tt⟩ := t
  exact .tail (.refl hi) ⟨ki, kj, hi, hj, tt⟩

theorem Linked.symm {fs : Feats} {i j : Nat} (h : Linked fs i j) : Linked fs j i := by
  induction h with
  | refl hi => exact .refl hi
  | tail _ t ih => exact Linked.trans (Linked.of_touch (Touch.symm t)) ih

theorem Linked.left_mem {fs : Feats} {i j : Nat} (h : Linked fs i j) : ∃ k, (i, k) ∈ fs := by
  induction h with
  | refl hi => exact ⟨_, hi⟩
  | tail _ _ ih => exact ih

theorem touchesQ_iff {qs qe : Int} {a : Iv} : touchesQ qs qe a = true ↔ a.s ≤ qe ∧ qs ≤ a.e := by
  simp only [touchesQ, Bool.and_eq_true, decide_eq_true_eq, ge_iff_le]

theorem absorb_imgs (pi : Iv) (f : Bool) (ms : List Iv) :
    (absorb pi f ms).imgs = pi.imgs ++ ms.flatMap (·.imgs) := by
  induction ms generalizing pi f with
  | nil => simp [absorb]
  | cons m ms ih => simp [absorb, ih, List.append_assoc]

theorem absorb_e_lt (pi : Iv) (f : Bool) (ms : List Iv) (z : Int) :
    (absorb pi f ms).e < z ↔ pi.e < z ∧ ∀ m ∈ ms, m.e < z := by
  induction ms generalizing pi f with
  | nil => simp [absorb]
  | cons m ms ih =>
    simp only [absorb, ih, List.forall_mem_cons, ← and_assoc]
    exact and_congr_left fun _ => Int.max_lt.trans and_comm

theorem absorb_s_false (pi : Iv) (ms : List Iv) : (absorb pi false ms).s = pi.s := by
  induction ms generalizing pi with
  | nil => simp [absorb]
  | cons m ms ih => simp [absorb, ih]

theorem absorb_s_nil (pi : Iv) : (absorb pi true []).s = pi.s := by simp [absorb]

theorem absorb_s_cons (pi : Iv) (m : Iv) (ms : List Iv) :
    (absorb pi true (m :: ms)).s = min m.s pi.s := by
  simp [absorb, absorb_s_false]

theorem lt_absorb_s {pi : Iv} {ms : List Iv} {z : Int} (h : z < pi.s) (hms : ∀ m ∈ ms, z < m.s) :
    z < (absorb pi true ms).s := by
  cases ms with
  | nil => exact h
  | cons m ms => rw [absorb_s_cons]; exact Int.lt_min.mpr ⟨hms m (List.mem_cons_self ..), h⟩

theorem inserts_iv : Inserts (fun x a : Iv => ¬ a.s ≤ x.s) insertIv :=
  ⟨fun _ => rfl, fun _ _ _ => (ite_not ..).symm⟩

theorem insertIv_perm (x : Iv) (t : List Iv) : (insertIv x t).Perm (x :: t) := inserts_iv.perm x t

theorem mem_insertIv {x a : Iv} {t : List Iv} : a ∈ insertIv x t ↔ a = x ∨ a ∈ t :=
  (insertIv_perm x t).mem_iff.trans List.mem_cons

/-- one location's intervals: ascending, disjoint, not even abutting (`touchesQ` is closed: abutting ones merge) -/
abbrev Sep (t : List Iv) : Prop := t.Pairwise fun a b => a.e < b.s

theorem insertIv_sep {x : Iv} {t : List Iv} (hx : x.s ≤ x.e) (wf : ∀ a ∈ t, a.s ≤ a.e)
    (sep : Sep t) (apart : ∀ a ∈ t, a.e < x.s ∨ x.e < a.s) : Sep (insertIv x t) := by
  refine inserts_iv.pairwise x sep (fun a ha y _ h1 h2 => ?_) (fun a ha hb => ?_) (fun a ha hb => ?_)
  · exact Int.lt_trans (Int.lt_of_lt_of_le h1 (wf a ha)) h2
  · have := apart a ha; have := wf a ha; omega
  · have := apart a ha; omega

/-- no feature is inverted (`Start() ≤ End()`): assumed of the caller, `Piler.Add` does not check it -/
def WF (fs : Feats) : Prop := ∀ x ∈ fs, x.2.s ≤ x.2.e

/-- `IsComponents` for one stored interval: `ends` is `lo`/`hi`, `union` is `cover`, `share_iff`'s ⇐ is `linked`.
    Ids are not yet `Uniq`, so `lo`/`hi` say of their own key that it lies in the hull: `IvOK.wf` needs it of `lo`. -/
structure IvOK (fs : Feats) (loc : Nat) (a : Iv) : Prop where
  inside : ∀ i ∈ a.imgs, ∃ k, (i, k) ∈ fs ∧ k.loc = loc ∧ a.s ≤ k.s ∧ k.e ≤ a.e
  lo : ∃ i k, i ∈ a.imgs ∧ (i, k) ∈ fs ∧ k.loc = loc ∧ k.s = a.s ∧ k.e ≤ a.e
  hi : ∃ i k, i ∈ a.imgs ∧ (i, k) ∈ fs ∧ k.loc = loc ∧ k.e = a.e ∧ a.s ≤ k.s
  cover : ∀ x, a.s ≤ x → x < a.e →
    ∃ i k, i ∈ a.imgs ∧ (i, k) ∈ fs ∧ k.loc = loc ∧ k.s ≤ x ∧ x < k.e
  linked : ∀ i ∈ a.imgs, ∀ j ∈ a.imgs, Linked fs i j

theorem IvOK.mono {fs fs' : Feats} (sub : ∀ x ∈ fs, x ∈ fs') {loc : Nat} {a : Iv}
    (h : IvOK fs loc a) : IvOK fs' loc a where
  inside := fun i hi => (h.inside i hi).imp fun _ hk => ⟨sub _ hk.1, hk.2⟩
  lo := h.lo.imp fun _ => Exists.imp fun _ hk => ⟨hk.1, sub _ hk.2.1, hk.2.2⟩
  hi := h.hi.imp fun _ => Exists.imp fun _ hk => ⟨hk.1, sub _ hk.2.1, hk.2.2⟩
  cover := fun x hx hx' =>
    (h.cover x hx hx').imp fun _ => Exists.imp fun _ hk => ⟨hk.1, sub _ hk.2.1, hk.2.2⟩
  linked := fun i hi j hj => Linked.mono sub (h.linked i hi j hj)

theorem IvOK.wf {fs : Feats} (wf : WF fs) {loc : Nat} {a : Iv} (h : IvOK fs loc a) : a.s ≤ a.e := by
  obtain ⟨i, k, _, hk, _, h1, h2⟩ := h.lo
  exact h1 ▸ Int.le_trans (wf _ hk) h2

theorem IvOK.touching_member {fs : Feats} (wf : WF fs) {loc : Nat} {m : Iv} (h : IvOK fs loc m)
    {qs qe : Int} (hq : qs ≤ qe) (t1 : m.s ≤ qe) (t2 : qs ≤ m.e) :
    ∃ i k, i ∈ m.imgs ∧ (i, k) ∈ fs ∧ k.loc = loc ∧ k.s ≤ qe ∧ qs ≤ k.e := by
  -- the point `max qs m.s` of the query lies in the hull: covered by a member, or the end
  have x1 : m.s ≤ max qs m.s := Int.le_max_right ..
  have x2 : qs ≤ max qs m.s := Int.le_max_left ..
  have x3 : max qs m.s ≤ qe := Int.max_le.mpr ⟨hq, t1⟩
  rcases Int.lt_or_le (max qs m.s) m.e with c | c
  · obtain ⟨i, k, h0, h1, h2, h3, h4⟩ := h.cover _ x1 c
    exact ⟨i, k, h0, h1, h2, Int.le_trans h3 x3, Int.le_of_lt (Int.lt_of_le_of_lt x2 h4)⟩
  · obtain ⟨i, k, h0, h1, h2, h3, h4⟩ := h.hi
    exact ⟨i, k, h0, h1, h2, Int.le_trans (wf _ h1) (h3 ▸ Int.le_trans c x3), h3 ▸ t2⟩

theorem IvOK.single {fs : Feats} {i : Nat} {k : Key} (hik : (i, k) ∈ fs) {loc : Nat}
    (hloc : k.loc = loc) : IvOK fs loc ⟨k.s, k.e, [i]⟩ where
  inside := fun j hj => by
    rw [List.mem_singleton.mp hj]; exact ⟨k, hik, hloc, Int.le_refl _, Int.le_refl _⟩
  lo := ⟨i, k, List.mem_singleton_self i, hik, hloc, rfl, Int.le_refl _⟩
  hi := ⟨i, k, List.mem_singleton_self i, hik, hloc, rfl, Int.le_refl _⟩
  cover := fun _ h1 h2 => ⟨i, k, List.mem_singleton_self i, hik, hloc, h1, h2⟩
  linked := fun a ha b hb => by
    rw [List.mem_singleton.mp ha, List.mem_singleton.mp hb]; exact .refl hik

theorem IvOK.bridge {fs : Feats} (wf : WF fs) {loc : Nat} {a b : Iv} (ha : IvOK fs loc a)
    (hb : IvOK fs loc b) (t1 : a.s ≤ b.e) (t2 : b.s ≤ a.e) :
    ∃ i ∈ a.imgs, ∃ j ∈ b.imgs, Touch fs j i := by
  obtain ⟨i, ki, ia, hki, li, i1, i2⟩ := ha.touching_member wf (hb.wf wf) t1 t2
  obtain ⟨j, kj, jb, hkj, lj, j1, j2⟩ := hb.touching_member wf (wf _ hki) i2 i1
  exact ⟨i, ia, j, jb, kj, ki, hkj, hki, touches_iff.mpr ⟨lj.trans li.symm, j1, j2⟩⟩

theorem mem_or_of_mem_hull {a b c d x : Int} (t1 : a ≤ d) (t2 : c ≤ b) (h1 : min a c ≤ x)
    (h2 : x < max b d) : a ≤ x ∧ x < b ∨ c ≤ x ∧ x < d := by
  omega

theorem IvOK.join {fs : Feats} (wf : WF fs) {loc : Nat} {a b c : Iv} (ha : IvOK fs loc a)
    (hb : IvOK fs loc b) (t1 : a.s ≤ b.e) (t2 : b.s ≤ a.e) (hs : c.s = min a.s b.s)
    (he : c.e = max a.e b.e) (hc : ∀ i, i ∈ c.imgs ↔ i ∈ a.imgs ∨ i ∈ b.imgs) : IvOK fs loc c := by
  obtain ⟨i, ia, j, jb, tij⟩ := ha.bridge wf hb t1 t2
  have link : ∀ x ∈ c.imgs, Linked fs x i := fun x hx =>
    ((hc x).mp hx).elim (ha.linked x · i ia) fun hx => (hb.linked x hx j jb).tail tij
  have sa : c.s ≤ a.s := hs ▸ Int.min_le_left ..
  have sb : c.s ≤ b.s := hs ▸ Int.min_le_right ..
  have ea : a.e ≤ c.e := he ▸ Int.le_max_left ..
  have eb : b.e ≤ c.e := he ▸ Int.le_max_right ..
  refine ⟨fun x hx => ?_, ?_, ?_, fun x h1 h2 => ?_, fun x hx y hy =>
    Linked.trans (link x hx) (Linked.symm (link y hy))⟩
  · rcases (hc x).mp hx with hx | hx
    · obtain ⟨k, h1, h2, h3, h4⟩ := ha.inside x hx
      exact ⟨k, h1, h2, Int.le_trans sa h3, Int.le_trans h4 ea⟩
    · obtain ⟨k, h1, h2, h3, h4⟩ := hb.inside x hx
      exact ⟨k, h1, h2, Int.le_trans sb h3, Int.le_trans h4 eb⟩
  · rcases Int.le_total a.s b.s with c' | c'
    · obtain ⟨x, k, h0, h1, h2, h3, h4⟩ := ha.lo
      exact ⟨x, k, (hc x).mpr (.inl h0), h1, h2,
        h3.trans (hs.trans (Int.min_eq_left c')).symm, Int.le_trans h4 ea⟩
    · obtain ⟨x, k, h0, h1, h2, h3, h4⟩ := hb.lo
      exact ⟨x, k, (hc x).mpr (.inr h0), h1, h2,
        h3.trans (hs.trans (Int.min_eq_right c')).symm, Int.le_trans h4 eb⟩
  · rcases Int.le_total a.e b.e with c' | c'
    · obtain ⟨x, k, h0, h1, h2, h3, h4⟩ := hb.hi
      exact ⟨x, k, (hc x).mpr (.inr h0), h1, h2,
        h3.trans (he.trans (Int.max_eq_right c')).symm, Int.le_trans sb h4⟩
    · obtain ⟨x, k, h0, h1, h2, h3, h4⟩ := ha.hi
      exact ⟨x, k, (hc x).mpr (.inl h0), h1, h2,
        h3.trans (he.trans (Int.max_eq_left c')).symm, Int.le_trans sa h4⟩
  · rcases mem_or_of_mem_hull t1 t2 (hs ▸ h1) (he ▸ h2) with c' | c'
    · obtain ⟨y, k, h0, h⟩ := ha.cover x c'.1 c'.2
      exact ⟨y, k, (hc y).mpr (.inl h0), h⟩
    · obtain ⟨y, k, h0, h⟩ := hb.cover x c'.1 c'.2
      exact ⟨y, k, (hc y).mpr (.inr h0), h⟩

/-- `absorb` joins the matches one by one: ascending and separated (`Sep`), so the start taken
    from the first match only is the smallest -/
theorem absorb_ok {fs : Feats} (wf : WF fs) {loc : Nat} {pi : Iv} {f : Bool} {ms : List Iv}
    (hpi : IvOK fs loc pi) (hms : ∀ m ∈ ms, IvOK fs loc m ∧ m.s ≤ pi.e ∧ pi.s ≤ m.e)
    (sep : Sep ms) (hf : f = false → ∀ m ∈ ms, pi.s ≤ m.s) : IvOK fs loc (absorb pi f ms) := by
  induction ms generalizing pi f with
  | nil => exact hpi
  | cons m ms ih =>
    obtain ⟨⟨hm, t1, t2⟩, hms⟩ := List.forall_mem_cons.mp hms
    obtain ⟨sm, sep⟩ := List.pairwise_cons.mp sep
    have wm := hm.wf wf
    have hs : (if f then min m.s pi.s else pi.s) = min pi.s m.s := by
      cases f
      · exact (Int.min_eq_left (hf rfl m (List.mem_cons_self ..))).symm
      · exact Int.min_comm ..
    refine ih (hpi.join wf hm t2 t1 hs (Int.max_comm ..) fun _ => List.mem_append)
      (fun m' hm' => ?_) sep fun _ m' hm' => ?_
    · show _ ∧ m'.s ≤ max m.e pi.e ∧ (if f then min m.s pi.s else pi.s) ≤ m'.e
      rw [hs]
      exact ⟨(hms m' hm').1, Int.le_trans (hms m' hm').2.1 (Int.le_max_right ..),
        Int.le_trans (Int.min_le_left ..) (hms m' hm').2.2⟩
    · show (if f then min m.s pi.s else pi.s) ≤ m'.s
      rw [hs]
      exact Int.le_trans (Int.min_le_right ..) (Int.le_trans wm (Int.le_of_lt (sm m' hm')))

/-- what the interval tree of location `loc` (its in-order list `t`) satisfies between two calls of `merge` -/
def TreeOK (fs : Feats) (loc : Nat) (t : List Iv) : Prop := (∀ a ∈ t, IvOK fs loc a) ∧ Sep t

theorem TreeOK.mono {fs fs' : Feats} (sub : ∀ x ∈ fs, x ∈ fs') {loc : Nat} {t : List Iv}
    (h : TreeOK fs loc t) : TreeOK fs' loc t := ⟨fun a ha => (h.1 a ha).mono sub, h.2⟩

/-- `merge` preserves `Disjoint ∧ NonAbutting ∧ SortedByStart` (= `Sep`) together with the
    description of every stored interval by its members -/
theorem mergeLoc_ok {fs : Feats} {loc : Nat} {t : List Iv} {pi : Iv} (wf : WF fs)
    (hpi : IvOK fs loc pi) (ht : TreeOK fs loc t) : TreeOK fs loc (mergeLoc t pi) := by
  have memM : ∀ m ∈ t.filter (touchesQ pi.s pi.e), m ∈ t ∧ m.s ≤ pi.e ∧ pi.s ≤ m.e := fun m hm =>
    ⟨(List.mem_filter.mp hm).1, touchesQ_iff.mp (List.mem_filter.mp hm).2⟩
  have okN := absorb_ok wf hpi (f := true)
    (fun m hm => ⟨ht.1 m (memM m hm).1, (memM m hm).2⟩) (ht.2.filter _) (fun h => nomatch h)
  refine ⟨fun a ha => ?_, insertIv_sep (okN.wf wf)
    (fun r hr => (ht.1 r (List.mem_filter.mp hr).1).wf wf) (ht.2.filter _) fun r hr => ?_⟩
  · rcases mem_insertIv.mp ha with rfl | ha
    · exact okN
    · exact ht.1 a (List.mem_filter.mp ha).1
  · -- `r` does not touch the query and is separated from every absorbed interval, each of
    -- which does touch it: so `r` lies on one side of all of them
    obtain ⟨hrt, hrq⟩ := List.mem_filter.mp hr
    have hrw := (ht.1 r hrt).wf wf
    have side : ∀ m ∈ t.filter (touchesQ pi.s pi.e),
        (r.e < pi.s → r.e < m.s) ∧ (pi.e < r.s → m.e < r.s) := by
      intro m hm
      obtain ⟨hmt, m1, m2⟩ := memM m hm
      rcases pairwise_trichotomy ht.2 hrt hmt with e | e | e
      · rw [e, touchesQ_iff.mpr (memM m hm).2] at hrq; cases hrq
      · -- `r.e < m.s ≤ pi.e < r.s ≤ r.e` cannot be
        exact ⟨fun _ => e, fun c => absurd
          (Int.lt_of_lt_of_le (Int.lt_trans (Int.lt_of_lt_of_le e m1) c) hrw) (Int.lt_irrefl _)⟩
      · -- `pi.s ≤ m.e < r.s ≤ r.e < pi.s` cannot be
        exact ⟨fun c => absurd
          (Int.lt_of_le_of_lt m2 (Int.lt_trans (Int.lt_of_lt_of_le e hrw) c)) (Int.lt_irrefl _), fun _ => e⟩
    have hrq' : r.e < pi.s ∨ pi.e < r.s := by
      rw [Bool.not_eq_true', ← Bool.not_eq_true, touchesQ_iff] at hrq
      omega
    rcases hrq' with c | c
    · exact Or.inl (lt_absorb_s c fun m hm => (side m hm).1 c)
    · exact Or.inr ((absorb_e_lt ..).mpr ⟨c, fun m hm => (side m hm).2 c⟩)

theorem mergeLoc_imgs (t : List Iv) (pi : Iv) :
    ((mergeLoc t pi).flatMap (·.imgs)).Perm (pi.imgs ++ t.flatMap (·.imgs)) := by
  simp only [mergeLoc]
  refine ((insertIv_perm _ _).flatMap_right _).trans ?_
  simp only [List.flatMap_cons, absorb_imgs, List.append_assoc]
  refine List.Perm.append_left _ ?_
  rw [← List.flatMap_append]
  exact (List.filter_append_perm (touchesQ pi.s pi.e) t).flatMap_right _

end Biogo.Proofs.Piler
