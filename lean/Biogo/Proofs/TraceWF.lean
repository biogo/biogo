/-
The traceback loop of the affine aligners (`Biogo.AlignAff.tbLoop`) emits a well-formed
path whatever the table contains: the segments abut, each is an ungapped block, a one-sided
gap, or empty with score 0.
-/
import Biogo.Model.AlignAff
import Biogo.Spec.AffPairs
import Biogo.Proofs.AlignAffTable
import Biogo.Proofs.TraceSum

namespace Biogo.Proofs.TraceWF
open Biogo.Spec.Alignment Biogo.AlignAff Biogo.Spec.AffPairs Biogo.Proofs.TraceSum

theorem pairShape_of (p : Pair) (h1 : p.rs ≤ p.re) (h2 : p.qs ≤ p.qe)
    (h : (p.re - p.rs = p.qe - p.qs ∧ p.re - p.rs ≠ 0) ∨ (p.re - p.rs = 0 ∧ p.qe - p.qs ≠ 0) ∨
         (p.qe - p.qs = 0 ∧ p.re - p.rs ≠ 0) ∨ (p.re - p.rs = 0 ∧ p.qe - p.qs = 0 ∧ p.score = 0)) :
    pairShape p = true := by
  simp only [pairShape, Bool.and_eq_true, Bool.or_eq_true, decide_eq_true_eq, beq_iff_eq, bne_iff_ne]
  refine ⟨⟨h1, h2⟩, ?_⟩
  rcases h with h | h | h | h
  · exact Or.inl (Or.inl (Or.inl h))
  · exact Or.inl (Or.inl (Or.inr h))
  · exact Or.inl (Or.inr h)
  · exact Or.inr ⟨⟨h.1, h.2.1⟩, h.2.2⟩

def endOf (st : TB) : Nat × Nat :=
  match st.aln.getLast? with
  | some p => (p.re, p.qe)
  | none => (st.maxI, st.maxJ)

structure Inv (R C I0 J0 : Nat) (st : TB) : Prop where
  hi : st.i ≤ st.maxI
  hj : st.j ≤ st.maxJ
  hR : st.maxI ≤ R
  hC : st.maxJ ≤ C
  segm : st.last = .m → st.maxI - st.i = st.maxJ - st.j
  -- a gap run in progress is non-empty, except in the initial state of a traceback that
  -- starts in a gap layer (`last = layer`, FittedAffine since the repair of K3)
  segu : st.last = .u → st.j = st.maxJ ∧ (st.i < st.maxI ∨ st.layer = .u)
  segl : st.last = .l → st.i = st.maxI ∧ (st.j < st.maxJ ∨ st.layer = .l)
  empty0 : st.i = st.maxI → st.j = st.maxJ → st.score = 0
  shapes : st.aln.all pairShape = true
  chn : chain st.aln = true
  link : ∀ p ps, st.aln = p :: ps → p.rs = st.maxI ∧ p.qs = st.maxJ
  endp : endOf st = (I0, J0)

theorem move_emit (st : TB) (e : Bool) (mv pl : Kind) (v pv : Int)
    (h : st.last ≠ mv ∧ (mv = .m ∨ ¬ e = true)) :
    st.move e mv pl v pv =
      { i := if mv = .l then st.i else st.i - 1, j := if mv = .u then st.j else st.j - 1,
        layer := pl, last := mv, score := 0 + (v - pv), maxI := st.i, maxJ := st.j,
        aln := ⟨st.i, st.maxI, st.j, st.maxJ, st.score⟩ :: st.aln,
        tie := st.tie || decide (st.layer ≠ mv) } := by
  simp only [TB.move, if_pos h, TB.emit]

theorem move_keep (st : TB) (e : Bool) (mv pl : Kind) (v pv : Int)
    (h : ¬ (st.last ≠ mv ∧ (mv = .m ∨ ¬ e = true))) :
    st.move e mv pl v pv =
      { i := if mv = .l then st.i else st.i - 1, j := if mv = .u then st.j else st.j - 1,
        layer := pl, last := mv, score := st.score + (v - pv), maxI := st.maxI, maxJ := st.maxJ,
        aln := st.aln, tie := st.tie || decide (st.layer ≠ mv) } := by
  simp only [TB.move, if_neg h]

/-- the direction changes without an emission only in a gap step out of the end corner -/
theorem keep_cases {last mv : Kind} {e : Bool} (h : ¬ (last ≠ mv ∧ (mv = .m ∨ ¬ e = true))) :
    last = mv ∨ (mv ≠ .m ∧ e = true) := by
  by_cases hl : last = mv
  · exact Or.inl hl
  · refine Or.inr ⟨fun hm => h ⟨hl, Or.inl hm⟩, ?_⟩
    cases e with
    | true => rfl
    | false => exact absurd ⟨hl, Or.inr (by simp)⟩ h

theorem endOf_cons {st st' : TB} (h : st'.aln = ⟨st.i, st.maxI, st.j, st.maxJ, st.score⟩ :: st.aln) :
    endOf st' = endOf st := by
  simp only [endOf, h, List.getLast?_cons]
  cases st.aln.getLast? <;> rfl

/-- One step of kind `mv` from `(i, j)` to `(i', j')` when the pending segment `[i, mI) × [j, mJ)` is
    empty or a run of kind `mv`: the segment `[i', mI) × [j', mJ)` is a non-empty run of kind `mv`. -/
theorem run_step (mv : Kind) {i j i' j' mI mJ : Nat} (hi' : i' = if mv = .l then i else i - 1)
    (hj' : j' = if mv = .u then j else j - 1) (hi0 : 0 < i) (hj0 : 0 < j) (hI : i ≤ mI) (hJ : j ≤ mJ)
    (h : (i = mI ∧ j = mJ) ∨ ((mv = .m → mI - i = mJ - j) ∧ (mv = .u → j = mJ) ∧ (mv = .l → i = mI))) :
    i' ≤ mI ∧ j' ≤ mJ ∧ (mv = .m → mI - i' = mJ - j') ∧ (mv = .u → j' = mJ ∧ i' < mI) ∧
      (mv = .l → i' = mI ∧ j' < mJ) ∧ (i' = mI → j' = mJ → False) := by
  subst hi' hj'
  cases mv <;>
    simp only [reduceCtorEq, if_true, if_false, forall_const, false_imp_iff, true_and, and_true] at h ⊢ <;>
    omega

section
variable {R C I0 J0 : Nat} {st : TB}

theorem Inv.shape (h : Inv R C I0 J0 st) : pairShape ⟨st.i, st.maxI, st.j, st.maxJ, st.score⟩ = true := by
  have := h.hi; have := h.hj
  apply pairShape_of _ h.hi h.hj
  simp only []
  by_cases he : st.i = st.maxI ∧ st.j = st.maxJ
  · right; right; right; exact ⟨by omega, by omega, h.empty0 he.1 he.2⟩
  · cases hl : st.last with
    | m => have := h.segm hl; left; omega
    | u => have := (h.segu hl).1; right; right; left; omega
    | l => have := (h.segl hl).1; right; left; omega

theorem Inv.abuts (h : Inv R C I0 J0 st) : chain (⟨st.i, st.maxI, st.j, st.maxJ, st.score⟩ :: st.aln) = true := by
  cases hal : st.aln with
  | nil => rfl
  | cons p ps =>
    obtain ⟨h1, h2⟩ := h.link p ps hal
    have := h.chn
    rw [hal] at this
    simp only [chain, Bool.and_eq_true, beq_iff_eq]
    exact ⟨⟨h1.symm, h2.symm⟩, this⟩

theorem corner_empty (hinv : Inv R C I0 J0 st) (he : decide (st.i = R ∧ st.j = C) = true) :
    st.maxI = st.i ∧ st.maxJ = st.j ∧ st.score = 0 := by
  obtain ⟨hi, hj⟩ := of_decide_eq_true he
  have e1 : st.maxI = st.i := Nat.le_antisymm (hi ▸ hinv.hR) hinv.hi
  have e2 : st.maxJ = st.j := Nat.le_antisymm (hj ▸ hinv.hC) hinv.hj
  exact ⟨e1, e2, hinv.empty0 e1.symm e2.symm⟩

theorem move_inv (h : Inv R C I0 J0 st) (hi0 : 0 < st.i) (hj0 : 0 < st.j) (mv pl : Kind) (v pv : Int) :
    Inv R C I0 J0 (st.move (decide (st.i = R ∧ st.j = C)) mv pl v pv) := by
  by_cases hc : st.last ≠ mv ∧ (mv = .m ∨ ¬ decide (st.i = R ∧ st.j = C) = true)
  · -- the pending segment is emitted; the new one starts empty at `(i, j)`
    rw [move_emit st _ mv pl v pv hc]
    obtain ⟨hi, hj, rm, ru, rl, hne⟩ :=
      run_step mv rfl rfl hi0 hj0 (Nat.le_refl _) (Nat.le_refl _) (Or.inl ⟨rfl, rfl⟩)
    exact ⟨hi, hj, Nat.le_trans h.hi h.hR, Nat.le_trans h.hj h.hC, rm, fun hm => ⟨(ru hm).1, Or.inl (ru hm).2⟩, fun hm => ⟨(rl hm).1, Or.inl (rl hm).2⟩,
      fun h1 h2 => (hne h1 h2).elim, by simp only [List.all_cons, h.shape, h.shapes, Bool.and_self], h.abuts,
      fun p ps hp => by cases hp; exact ⟨rfl, rfl⟩, by rw [endOf_cons (st := st) rfl]; exact h.endp⟩
  · -- the pending segment grows: it is a run of kind `mv`, or still empty in the end corner
    rw [move_keep st _ mv pl v pv hc]
    have hrun : (st.i = st.maxI ∧ st.j = st.maxJ) ∨ ((mv = .m → st.maxI - st.i = st.maxJ - st.j) ∧
        (mv = .u → st.j = st.maxJ) ∧ (mv = .l → st.i = st.maxI)) := by
      rcases keep_cases hc with hl | ⟨_, he⟩
      · exact Or.inr ⟨fun hm => h.segm (hl.trans hm), fun hm => (h.segu (hl.trans hm)).1,
          fun hm => (h.segl (hl.trans hm)).1⟩
      · obtain ⟨e1, e2, _⟩ := corner_empty h he
        exact Or.inl ⟨e1.symm, e2.symm⟩
    obtain ⟨hi, hj, rm, ru, rl, hne⟩ := run_step mv rfl rfl hi0 hj0 h.hi h.hj hrun
    exact ⟨hi, hj, h.hR, h.hC, rm, fun hm => ⟨(ru hm).1, Or.inl (ru hm).2⟩, fun hm => ⟨(rl hm).1, Or.inl (rl hm).2⟩,
      fun h1 h2 => (hne h1 h2).elim, h.shapes, h.chn, h.link, h.endp⟩

end

theorem loop_inv (aware cross sw : Bool) (T : Table) (S : Matrix) (o : Int) (r q : List Nat) (R C I0 J0 : Nat) :
    ∀ (fuel : Nat) (st st' : TB), Inv R C I0 J0 st →
      tbLoop aware cross sw T S o r q R C fuel st = .ok st' → Inv R C I0 J0 st' :=
  tbLoop_ind fun _ v mv pl _ h hf => move_inv h hf.hi hf.hj mv pl v _

/-- the initial state of a traceback started at `(I0, J0)`: in no run yet (`last = .m`, NWAffine
    and SWAffine) or in the run of its start layer (`last = layer`, FittedAffine) -/
theorem init_inv_of (R C I0 J0 : Nat) (layer last : Kind) (hl : last = .m ∨ last = layer) (hI : I0 ≤ R)
    (hJ : J0 ≤ C) :
    Inv R C I0 J0 { i := I0, j := J0, layer, last, score := 0, maxI := I0, maxJ := J0, aln := [] } where
  hi := Nat.le_refl _
  hj := Nat.le_refl _
  hR := hI
  hC := hJ
  segm := fun _ => by simp
  segu := fun (h : last = .u) =>
    ⟨rfl, Or.inr (show layer = .u from hl.elim (fun e => by rw [e] at h; cases h) (fun e => e ▸ h))⟩
  segl := fun (h : last = .l) =>
    ⟨rfl, Or.inr (show layer = .l from hl.elim (fun e => by rw [e] at h; cases h) (fun e => e ▸ h))⟩
  empty0 := fun _ _ => rfl
  shapes := rfl
  chn := rfl
  link := fun _ _ h => by cases h
  endp := rfl

theorem emit_wf {R C I0 J0 : Nat} {st : TB} (h : Inv R C I0 J0 st) :
    wellFormed st.emit.aln = true ∧ lastEnd st.emit.aln = (I0, J0) ∧
      firstStart st.emit.aln = (st.i, st.j) := by
  refine ⟨?_, ?_, rfl⟩
  · simp only [wellFormed, TB.emit, List.isEmpty_cons, Bool.not_false, List.all_cons, h.shape, h.shapes,
      h.abuts, Bool.and_self]
  · rw [← h.endp, ← endOf_cons (st := st) (st' := st.emit) rfl]
    rfl

theorem lastEnd_cons (p : Pair) (ps : List Pair) (h : ps ≠ []) : lastEnd (p :: ps) = lastEnd ps := by
  simp only [lastEnd, List.getLast?_cons_of_ne_nil h]

theorem wellFormed_cons (p : Pair) (ps : List Pair) (hp : pairShape p = true) (hwf : wellFormed ps = true)
    (hs : firstStart ps = (p.re, p.qe)) : wellFormed (p :: ps) = true := by
  cases ps with
  | nil => cases hwf
  | cons a t =>
    simp only [firstStart, List.head?_cons, Prod.mk.injEq] at hs
    simp only [wellFormed, List.isEmpty_cons, Bool.not_false, Bool.true_and, Bool.and_eq_true] at hwf
    simp only [wellFormed, List.isEmpty_cons, Bool.not_false, List.all_cons, chain, hp, hwf.1,
      hwf.2, hs.1, hs.2, beq_self_eq_true, Bool.and_self]

theorem map_fst_ok {α β ε} {x : Except ε (α × β)} {a : α} (h : x.map (·.1) = .ok a) :
    ∃ b, x = .ok (a, b) := by
  cases x with
  | error e => cases h
  | ok v => obtain ⟨a', b⟩ := v; simp only [Except.map] at h; cases h; exact ⟨b, rfl⟩

end Biogo.Proofs.TraceWF
