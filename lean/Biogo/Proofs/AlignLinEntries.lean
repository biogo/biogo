/-
Matrices larger than the alphabet (C08/C09 part `lin`).  `Align` accepts every square matrix
with at least `alpha.Len()` rows; the model reads the flattened matrix with the row stride
`let = len(a)` (`callS c = matOf la let`).  This file shows that this scoring function is the
matrix entry `a[x][y]` the caller wrote, for a matrix of any accepted size, and that alignments
of the call's sequences score the same under both.
-/
import Biogo.Proofs.AlignLinCore

namespace Biogo.Proofs.AlignLin
open Biogo.AlignLin Biogo.Spec.AlignPairs Biogo.Spec.Alignment

/-- entry `a[x][y]` of the scoring matrix as the caller wrote it (0 outside the matrix) -/
def entry (m : List (List Int)) : Matrix := fun x y => ((m[x]?).bind (·[y]?)).getD 0

/-- "the letters are indexed by the alphabet": `alpha.LetterIndex()` maps every byte to `-1` or
    to an index below `alpha.Len()` -/
def IndexInAlphabet (c : Call) : Prop := ∀ l, (c.index l).toNat < c.alphaLen

/-- "non-positive gap scores": the entries `a[x][0]` and `a[0][x]` for the letters `x` of the
    alphabet (the further rows and columns of an oversized matrix belong to no letter) -/
def GapEntriesNonPos (c : Call) : Prop :=
  ∀ x, x < c.alphaLen → entry c.mat x 0 ≤ 0 ∧ entry c.mat 0 x ≤ 0

/-- `c'` is a call on the same sequences and alphabet whose matrix agrees with that of `c` on
    the block the alphabet addresses (the matrices may have different sizes) -/
def SameBlock (c c' : Call) : Prop :=
  c'.index = c.index ∧ c'.alphaLen = c.alphaLen ∧ c'.r = c.r ∧ c'.q = c.q ∧
  ∀ x y, x < c.alphaLen → y < c.alphaLen → entry c'.mat x y = entry c.mat x y

theorem callS_entry (c : Call) (hsq : ∀ row ∈ c.mat, row.length = c.mat.length)
    (x y : Nat) (hy : y < c.mat.length) : callS c x y = entry c.mat x y := by
  simp only [callS, matOf, entry]
  rw [toArray_getD, flatten_get c.mat.length c.mat x y hsq hy]

theorem scoreLin_congr (S S' : Matrix) (n : Nat) (hn : 0 < n)
    (h : ∀ x y, x < n → y < n → S x y = S' x y) :
    ∀ a : Aln, (∀ x ∈ projR a, x < n) → (∀ y ∈ projQ a, y < n) → scoreLin S a = scoreLin S' a := by
  intro a
  induction a with
  | nil => intros; rfl
  | cons col a ih =>
    intro hr hq
    cases col with
    | m x y =>
      simp only [projR, projQ, List.mem_cons, forall_eq_or_imp] at hr hq
      simp only [scoreLin, colScore, h x y hr.1 hq.1, ih hr.2 hq.2]
    | u x =>
      simp only [projR, projQ, List.mem_cons, forall_eq_or_imp] at hr hq
      simp only [scoreLin, colScore, h x 0 hr.1 hn, ih hr.2 hq]
    | l y =>
      simp only [projR, projQ, List.mem_cons, forall_eq_or_imp] at hr hq
      simp only [scoreLin, colScore, h 0 y hn hq.1, ih hr hq.2]

theorem index_pos {c : Call} (hi : IndexInAlphabet c) : 0 < c.alphaLen :=
  Nat.lt_of_le_of_lt (Nat.zero_le _) (hi 0)

theorem toIdx_lt {c : Call} (hi : IndexInAlphabet c) (ls : List UInt8) : ∀ x ∈ toIdx c.index ls, x < c.alphaLen := by
  intro x hx
  obtain ⟨l, _, rfl⟩ := List.mem_map.mp hx
  exact hi l

theorem callR_lt (c : Call) (hi : IndexInAlphabet c) : ∀ x ∈ callR c, x < c.alphaLen := toIdx_lt hi c.r

theorem callQ_lt (c : Call) (hi : IndexInAlphabet c) : ∀ x ∈ callQ c, x < c.alphaLen := toIdx_lt hi c.q

theorem accepted_matrix {al : Aligner} {c : Call} {ps : List Pair} (h : align al c = .ok ps) :
    c.alphaLen ≤ c.mat.length ∧ ∀ row ∈ c.mat, row.length = c.mat.length := by
  obtain ⟨⟨_, _, _, _, h5, h6, _⟩, _⟩ := align_ok_inv al c ps h
  exact ⟨h5, h6⟩

theorem score_by_entries (c : Call) (hi : IndexInAlphabet c) (hsz : c.alphaLen ≤ c.mat.length)
    (hsq : ∀ row ∈ c.mat, row.length = c.mat.length) (a : Aln)
    (hr : ∀ x ∈ projR a, x ∈ callR c) (hq : ∀ y ∈ projQ a, y ∈ callQ c) :
    scoreLin (callS c) a = scoreLin (entry c.mat) a :=
  scoreLin_congr _ _ c.alphaLen (index_pos hi)
    (fun x y _ hy => callS_entry c hsq x y (by omega)) a
    (fun x hx => callR_lt c hi x (hr x hx)) (fun y hy => callQ_lt c hi y (hq y hy))

theorem SameBlock.calls {c c' : Call} (hb : SameBlock c c') (hi : IndexInAlphabet c) :
    IndexInAlphabet c' ∧ callR c' = callR c ∧ callQ c' = callQ c := by
  obtain ⟨hidx, hlen, hr, hq, _⟩ := hb
  exact ⟨fun l => by rw [hidx, hlen]; exact hi l, by simp only [callR, hidx, hr], by simp only [callQ, hidx, hq]⟩

theorem optimum_unique {M M' : Matrix} {P : Aln → Prop} (hcong : ∀ a, P a → scoreLin M' a = scoreLin M a)
    {a a' : Aln} {t t' : Int} (g : P a) (s : scoreLin M a = t) (o : ∀ b, P b → scoreLin M b ≤ t)
    (g' : P a') (s' : scoreLin M' a' = t') (o' : ∀ b, P b → scoreLin M' b ≤ t') : t = t' := by
  have h1 := o' a g
  have h2 := o a' g'
  rw [hcong a g, s] at h1
  rw [← hcong a' g', s'] at h2
  exact Int.le_antisymm h1 h2

theorem gapsNonPos_of_entries (c : Call) (hi : IndexInAlphabet c) (hsz : c.alphaLen ≤ c.mat.length)
    (hsq : ∀ row ∈ c.mat, row.length = c.mat.length) (hg : GapEntriesNonPos c) :
    GapsNonPos (callS c) (callR c) (callQ c) := by
  have hpos := index_pos hi
  refine ⟨fun x hx => ?_, fun y hy => ?_⟩
  · rw [callS_entry c hsq x 0 (by omega)]; exact (hg x (callR_lt c hi x hx)).1
  · have := callQ_lt c hi y hy
    rw [callS_entry c hsq 0 y (by omega)]; exact (hg y this).2

end Biogo.Proofs.AlignLin
