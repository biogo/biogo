/-
Whole usage histories of the concurrent sorter model under every schedule and every list of
faults.  The caller's program is `histOps H` for a list of use cycles `H`; while the caller is in
the j-th cycle the state satisfies the cycle invariant `CInv` of `Proofs/MorassCycle.lean` in the
context the earlier cycles left: their outputs, the operations of the later cycles, their finished
writers.  When a closed cycle is over the sorter is `Fresh` with every writer finished, which is
the first state of the next cycle.  The invariant is relative to the outputs `pre0` made before the
history began, so it starts as well from a sorter that a `Clear` has recovered (`fresh_history`) as
from a new one (`finished_history`).
-/
import Biogo.Model.MorassConc
import Biogo.Spec.Morass
import Biogo.Proofs.Morass
import Biogo.Proofs.MorassConc
import Biogo.Proofs.MorassCycle
import Biogo.Proofs.MorassStep

namespace Biogo.MorassConc
open Biogo.Morass Biogo.Interleave

theorem HistorySpec_snoc (ac : Bool) : ∀ (done : List Cycle) (pre : List Out) (cy : Cycle) (ys : List Elem),
    HistorySpec ac done pre → SortedPermOf ys cy.pushes →
    HistorySpec ac (done ++ [cy]) (pre ++ specCycle ac ys cy) := by
  intro done
  induction done with
  | nil =>
    intro pre cy ys h hys
    simp only [HistorySpec] at h
    subst h
    exact ⟨ys, [], hys, by simp, rfl⟩
  | cons d ds ih =>
    intro pre cy ys h hys
    obtain ⟨zs, outs', hzs, rfl, hrest⟩ := h
    exact ⟨zs, outs' ++ specCycle ac ys cy, hzs, by simp, ih outs' cy ys hrest hys⟩

theorem cycle_ops_ne (cy : Cycle) : cy.ops ≠ [] := by
  rw [cycle_ops_eq]; cases cy.pushes <;> simp

theorem histOps_nil_iff (h : List Cycle) : histOps h = [] ↔ h = [] := by
  cases h with
  | nil => simp [histOps]
  | cons cy t =>
    simp only [histOps, List.flatMap_cons, List.append_eq_nil_iff, reduceCtorEq, iff_false, not_and]
    intro h0; exact absurd h0 (cycle_ops_ne cy)

theorem no_step_when_over {s : CState} (hfin : finished s = true) (hq : ∀ w ∈ s.writers, w.pc = .done) (i : Nat) :
    step s i = none := by
  rw [Option.eq_none_iff_forall_ne_some]
  intro t hst
  rcases step_blocks hst with ⟨_, hcs⟩ | ⟨k, w, w', s', _, hk, hw, _⟩
  · exact hcs.not_finished (finished_iff.mp hfin).symm
  · rw [wstep_done_none s (hq w (List.mem_of_getElem? hk))] at hw
    cases hw

section history
variable (c : Nat) (ac : Bool) (pre0 : List Out)

/-- the caller is in cycle `cy` of the history `H = done ++ cy :: todo`, which it began after the outputs
    `pre0`; `F` is the context of the cycle -/
structure InCycle (H : List Cycle) (s : CState) (done : List Cycle) (cy : Cycle) (todo : List Cycle) (F : Ctx) :
    Prop where
  hist : H = done ++ cy :: todo
  spec : ∃ Y, F.pre = pre0 ++ Y ∧ HistorySpec ac done Y
  wf : wellFormed ac (cy :: todo) = true
  rest : F.rest = histOps todo
  old : Old F s
  inv : CInv c ac cy F s
  /-- a cycle that is over is the last one: otherwise the state is the first of the next cycle (`next_cycle`) -/
  live : s.pc = .idle → s.prog = F.rest → todo = []

def HInv (H : List Cycle) (s : CState) : Prop :=
  RepAfter pre0 s ∨ ∃ done cy todo F, InCycle c ac pre0 H s done cy todo F

theorem InCycle_start {H : List Cycle} {t : CState} {done : List Cycle} {cy : Cycle} {todo : List Cycle}
    {Y : List Out} (hs : Str t) (hist : H = done ++ cy :: todo) (spec : HistorySpec ac done Y)
    (wf : wellFormed ac (cy :: todo) = true) (hall : ∀ w ∈ t.writers, w.pc = .done) (hpc : t.pc = .idle)
    (hfr : Fresh c ac 1 t.m) (houts : t.outs.reverse = pre0 ++ Y) (hprog : t.prog = cy.ops ++ histOps todo) :
    InCycle c ac pre0 H t done cy todo ⟨pre0 ++ Y, histOps todo, t.writers.length⟩ := by
  refine ⟨hist, ⟨Y, rfl, spec⟩, wf, rfl, ⟨Nat.le_refl _, fun w hw => hall w (List.mem_of_mem_take hw)⟩, ?_, ?_⟩
  · exact CInv_fresh cy _ hfr hpc (List.drop_length ..) houts hprog
      (wb_nil_of_done hs (by rw [hpc]; simp) hall)
  · intro _ h
    rw [hprog] at h
    exact absurd (List.append_left_eq_self.mp h) (cycle_ops_ne cy)

theorem next_cycle {H : List Cycle} {t : CState} {done : List Cycle} {cy cy' : Cycle} {todo' : List Cycle}
    {F : Ctx} {Y : List Out} (hs : Str t) (hist : H = done ++ cy :: cy' :: todo') (hpre : F.pre = pre0 ++ Y)
    (spec : HistorySpec ac done Y)
    (wf : wellFormed ac (cy :: cy' :: todo') = true) (hrest : F.rest = histOps (cy' :: todo'))
    (inv : CInv c ac cy F t) (hnr : ¬ RepAfter F.pre t) (hpc : t.pc = .idle) (hprog : t.prog = F.rest) :
    ∃ F', InCycle c ac pre0 H t (done ++ [cy]) cy' todo' F' := by
  simp only [wellFormed, Bool.and_eq_true] at wf
  obtain ⟨⟨ys, hys, hfinal⟩, hquiet, hfresh, _⟩ := cycle_over inv hnr hprog
  refine ⟨_, InCycle_start c ac pre0 hs (by rw [hist]; simp) (HistorySpec_snoc ac done Y cy ys spec hys) wf.2
    hquiet hpc (hfresh wf.1) (by rw [hfinal, hpre, List.append_assoc]) ?_⟩
  rw [hprog, hrest]; simp [histOps]

theorem HInv_step {H : List Cycle} {s t : CState} {i : Nat} (hc : 1 ≤ c) (hs : Str s) (h : HInv c ac pre0 H s)
    (hst : step s i = some t) : HInv c ac pre0 H t := by
  rcases h with hrep | ⟨done, cy, todo, F, hin⟩
  · exact Or.inl (hrep.step hst)
  have hlive : s.pc = .idle → s.prog = F.rest → F.rest = [] := fun h1 h2 => by rw [hin.rest, hin.live h1 h2]; rfl
  have hinv' := CInv_step c ac cy F hc hs hin.old hin.inv hlive hst
  obtain ⟨Y, hpre, hspec⟩ := hin.spec
  by_cases hrep : RepAfter F.pre t
  · exact Or.inl (hpre ▸ hrep).weaken
  -- the caller is still in the cycle, or the cycle is over and this is the first state of the next one
  by_cases hover : t.pc = .idle ∧ t.prog = F.rest ∧ todo ≠ []
  · obtain ⟨h1, h2, h3⟩ := hover
    obtain ⟨cy', todo', rfl⟩ := List.exists_cons_of_ne_nil h3
    obtain ⟨F', h⟩ := next_cycle c ac pre0 (Str_step hs hst) hin.hist hpre hspec hin.wf hin.rest hinv' hrep h1 h2
    exact Or.inr ⟨_, _, _, F', h⟩
  · exact Or.inr ⟨done, cy, todo, F, hin.hist, hin.spec, hin.wf, hin.rest, hin.old.step hst, hinv',
      fun h1 h2 => Classical.byContradiction fun h3 => hover ⟨h1, h2, h3⟩⟩

theorem finished_last_cycle {H : List Cycle} {s : CState} (h : HInv c ac pre0 H s) (hfin : finished s = true)
    (hnr : ¬ RepAfter pre0 s) :
    ∃ done cy F, InCycle c ac pre0 H s done cy [] F ∧ s.prog = F.rest ∧ ¬ RepAfter F.pre s := by
  rw [finished_iff] at hfin
  rcases h with hrep | ⟨done, cy, todo, F, hin⟩
  · exact absurd hrep hnr
  obtain ⟨Y, hpre, _⟩ := hin.spec
  have hnr' : ¬ RepAfter F.pre s := fun h => hnr (hpre ▸ h).weaken
  have hrest : F.rest = [] := (hin.inv.prog_nil hfin.1).resolve_left hnr'
  obtain rfl := (histOps_nil_iff todo).mp (hin.rest ▸ hrest)
  exact ⟨done, cy, F, hin, hfin.1.trans hrest.symm, hnr'⟩

theorem finished_of_HInv {H : List Cycle} {s : CState} (h : HInv c ac pre0 H s) (hfin : finished s = true) :
    RepAfter pre0 s ∨ ∃ Y, s.outs.reverse = pre0 ++ Y ∧ HistorySpec ac H Y := by
  by_cases hnr : RepAfter pre0 s
  · exact Or.inl hnr
  obtain ⟨done, cy, F, hin, hp, hnr'⟩ := finished_last_cycle c ac pre0 h hfin hnr
  obtain ⟨⟨ys, hys, hfinal⟩, _⟩ := cycle_over hin.inv hnr' hp
  obtain ⟨Y, hpre, hspec⟩ := hin.spec
  refine Or.inr ⟨Y ++ specCycle ac ys cy, by rw [hfinal, hpre, List.append_assoc], ?_⟩
  rw [hin.hist]
  exact HistorySpec_snoc ac done Y cy ys hspec hys

/-- `S`: any system whose step is `step` — `runFrom` starts at `s0` and never reads `S.init`, so the equation is
    all that is used of `sys …`, whatever its settings -/
theorem run_HInv {c : Nat} {ac : Bool} (hc : 1 ≤ c) {s0 : CState} (hs : Str s0)
    (hpc : s0.pc = .idle) (hq : ∀ w ∈ s0.writers, w.pc = .done) (hfr : Fresh c ac 1 s0.m) {cy : Cycle}
    {todo : List Cycle} (hwf : wellFormed ac (cy :: todo) = true) (hprog : s0.prog = histOps (cy :: todo))
    (S : Sys CState Nat) (hS : S.step = step) {sched : List Nat} {s : CState} (hrun : runFrom S s0 sched = some s) :
    Str s ∧ HInv c ac s0.outs.reverse (cy :: todo) s := by
  have h0 : Str s0 ∧ HInv c ac s0.outs.reverse (cy :: todo) s0 :=
    ⟨hs, Or.inr ⟨[], cy, todo, _, InCycle_start c ac _ hs rfl rfl hwf hq hpc hfr (List.append_nil _).symm
      (by rw [hprog]; simp [histOps])⟩⟩
  exact LTS.inv_from (S := S.toLTS) (fun s => Str s ∧ HInv c ac s0.outs.reverse (cy :: todo) s) h0
    (fun _ _ _ h (hst : S.step _ _ = some _) => ⟨Str_step h.1 (hS ▸ hst), HInv_step c ac _ hc h.1 h.2 (hS ▸ hst)⟩) s
    (LTS.run_reachFrom ((runFrom_eq S s0 sched).symm.trans hrun))

theorem init_fresh (conc : Bool) (c : Nat) (ac acl : Bool) (prog : List Op) (flt : Fault) (reuse : Bool) :
    Fresh c ac 1 (initState conc c ac acl prog flt reuse).m :=
  ⟨rfl, rfl, rfl, by cases conc <;> simp [initState], rfl, rfl, rfl, rfl⟩

theorem reach_HInv {c : Nat} {ac : Bool} (hc : 1 ≤ c) {conc acl : Bool} {flt : Fault} {reuse : Bool} {cy : Cycle}
    {todo : List Cycle} (hwf : wellFormed ac (cy :: todo) = true) {s : CState}
    (h : Reach (sys conc c ac acl (histOps (cy :: todo)) flt reuse) s) : HInv c ac [] (cy :: todo) s := by
  obtain ⟨sched, hrun⟩ := (reach_iff_run _ s).mp h
  exact (run_HInv hc (Str_init conc c ac acl _ flt reuse) rfl nofun (init_fresh ..) hwf rfl _ rfl hrun).2

/-- **A fresh sorter with no live writer runs a well-formed history like a new one**, whatever came
    before (`s0`: any state in which the caller is between two calls, every `write()` activation has
    ended, the sorter is `Fresh` and the rest of the program is `histOps h`): for every schedule from
    `s0`, once the caller has returned from its last call, the calls made since `s0` reported an I/O
    error or their outputs are those `HistorySpec` demands. -/
theorem fresh_history {c : Nat} {ac : Bool} (hc : 1 ≤ c) {s0 : CState} (hs : Str s0)
    (hpc : s0.pc = .idle) (hq : ∀ w ∈ s0.writers, w.pc = .done) (hfr : Fresh c ac 1 s0.m) {h : List Cycle}
    (hwf : wellFormed ac h = true) (hprog : s0.prog = histOps h) (S : Sys CState Nat) (hS : S.step = step)
    {sched : List Nat} {s : CState} (hrun : runFrom S s0 sched = some s) (hfin : finished s = true) :
    RepAfter s0.outs.reverse s ∨ ∃ Y, s.outs.reverse = s0.outs.reverse ++ Y ∧ HistorySpec ac h Y := by
  cases h with
  | nil =>
    have hfin0 : finished s0 = true := finished_iff.mpr ⟨hprog, hpc⟩
    cases sched with
    | nil =>
      simp only [runFrom, Option.some.injEq] at hrun
      subst hrun
      exact Or.inr ⟨[], by simp, rfl⟩
    | cons i is =>
      simp only [runFrom, hS, no_step_when_over hfin0 hq i] at hrun
      cases hrun
  | cons cy todo => exact finished_of_HInv c ac _ (run_HInv hc hs hpc hq hfr hwf hprog S hS hrun).2 hfin

/-- **every history, every fault list, every schedule**: when the caller has returned from its last
    call an I/O error was returned to it, or the outputs are those the property demands -/
theorem finished_history (hc : 1 ≤ c) {conc acl : Bool} {flt : Fault} {reuse : Bool}
    {h : List Cycle} (hwf : wellFormed ac h = true) {s : CState}
    (hr : Reach (sys conc c ac acl (histOps h) flt reuse) s) (hfin : finished s = true) :
    Reported s ∨ HistorySpec ac h s.outs.reverse := by
  obtain ⟨sched, hrun⟩ := (reach_iff_run _ s).mp hr
  rcases fresh_history hc (Str_init conc c ac acl _ flt reuse) rfl nofun (init_fresh ..) hwf rfl _ rfl hrun hfin
    with h | ⟨Y, hY, h⟩
  · exact Or.inl (repAfter_nil.mp h)
  · exact Or.inr ((show s.outs.reverse = Y from hY) ▸ h)

theorem finished_cycle (hc : 1 ≤ c) {conc acl : Bool} {flt : Fault} {reuse : Bool} (cy : Cycle) {s : CState}
    (hr : Reach (sys conc c ac acl cy.ops flt reuse) s) (hfin : finished s = true) :
    Reported s ∨ ∃ ys, SortedPermOf ys cy.pushes ∧ s.outs.reverse = specCycle ac ys cy := by
  have hops : histOps [cy] = cy.ops := by simp [histOps]
  refine (finished_history c ac hc (h := [cy]) rfl (hops ▸ hr) hfin).imp_right ?_
  rintro ⟨ys, outs', hys, ho, rfl⟩
  exact ⟨ys, hys, by rw [ho, List.append_nil]⟩

/-- after a history whose last cycle was pulled to io.EOF (`hdrain`) with no I/O error reported: what the
    residue theorems of C13 start from -/
theorem finished_no_files (hc : 1 ≤ c) {conc acl : Bool} {flt : Fault} {reuse : Bool} {done : List Cycle} {cy : Cycle}
    (hwf : wellFormed ac (done ++ [cy]) = true) (hdrain : cy.pushes.length < cy.pulls) {s : CState}
    (hr : Reach (sys conc c ac acl (histOps (done ++ [cy])) flt reuse) s) (hfin : finished s = true)
    (hnr : ¬ Reported s) : s.m.files = [] ∧ ∀ w ∈ s.writers, w.pc = .done := by
  obtain ⟨c0, rest, hcons⟩ := List.exists_cons_of_ne_nil (show done ++ [cy] ≠ [] by simp)
  have hinv : HInv c ac [] (done ++ [cy]) s := by
    rw [hcons] at hwf hr ⊢
    exact reach_HInv hc hwf hr
  obtain ⟨done', cy', F, hin, hp, hnr'⟩ := finished_last_cycle c ac [] hinv hfin (fun h => hnr (repAfter_nil.mp h))
  obtain rfl : cy' = cy := by simpa using (congrArg List.getLast? hin.hist).symm
  obtain ⟨_, hquiet, _, hfiles⟩ := cycle_over hin.inv hnr' hp
  exact ⟨hfiles hdrain, hquiet⟩

end history

end Biogo.MorassConc
