/-
Stitch of the heap model: sort, merge, clip and append yield the letters at the clipped
union of the feature intervals in ascending order (core only).
-/
import Biogo.Proofs.SequtilsTruncate
import Biogo.Proofs.InsertSort

set_option linter.unusedSectionVars false

namespace Biogo.Sequtils

/-- one disjunct of the spec's `covered` (`covered_cons`): `mergeFrom` extends an interval that is no `Feat` -/
def inIv (s e p : Int) : Bool := decide (s ≤ p) && decide (p < e)

theorem inIv_iff (s e p : Int) : inIv s e p = true ↔ s ≤ p ∧ p < e := by
  rw [inIv, Bool.and_eq_true, decide_eq_true_eq, decide_eq_true_eq]

theorem covered_cons (f : Feat) (fs : List Feat) (p : Int) :
    covered (f :: fs) p = (inIv f.s f.e p || covered fs p) := by
  simp [covered, inIv]

theorem covered_nil (p : Int) : covered [] p = false := rfl

theorem covered_iff (fs : List Feat) (p : Int) : covered fs p = true ↔ ∃ f ∈ fs, f.s ≤ p ∧ p < f.e := by
  simp only [covered, List.any_eq_true, Bool.and_eq_true, decide_eq_true_eq]

theorem covered_perm (fs gs : List Feat) (hp : fs.Perm gs) (p : Int) : covered fs p = covered gs p := by
  unfold covered
  exact hp.any_eq

theorem stitchSpec_map_some {α : Type} (xs : List α) (offset : Int) (fs : List Feat) :
    (stitchSpec xs offset fs).map some =
      (stitchPositions offset (offset + xs.length) fs).map (letterAt xs offset) :=
  lettersAt_map_some xs offset _ fun _ hp => (mem_intRange _ _ _).mp (List.mem_filter.mp hp).1

theorem filter_intRange_iv (s e a b : Int) :
    (intRange a b).filter (inIv s e) = intRange (max s a) (min e b) := by
  refine eq_of_ascending ((pairwise_intRange a b).filter _) (pairwise_intRange _ _) (fun p => ?_)
  rw [List.mem_filter, mem_intRange, mem_intRange, inIv_iff]
  omega

theorem filter_or_split (a b m : Int) (P1 P2 : Int → Bool)
    (h1 : ∀ p, P1 p = true → p < m) (h2 : ∀ p, P2 p = true → m ≤ p) :
    (intRange a b).filter (fun p => P1 p || P2 p) =
      (intRange a b).filter P1 ++ (intRange a b).filter P2 := by
  have asc := pairwise_intRange a b
  refine eq_of_ascending (asc.filter _) ?_ (fun p => ?_)
  · exact List.pairwise_append.mpr ⟨asc.filter _, asc.filter _, fun x hx y hy =>
      Int.lt_of_lt_of_le (h1 x (List.mem_filter.mp hx).2) (h2 y (List.mem_filter.mp hy).2)⟩
  · rw [List.mem_append, List.mem_filter, List.mem_filter, List.mem_filter, Bool.or_eq_true, and_or_left]

/-- the spec's `segPositions a b` for a merged interval (a pair, no `Feat`): what one round of `stitchAppend` appends -/
def clipRange (a b : Int) (iv : Int × Int) : List Int := intRange (max iv.1 a) (min iv.2 b)

theorem mergeFrom_spec (a b : Int) : ∀ (fs : List Feat) (cs ce : Int),
    List.Pairwise (fun x y : Feat => x.s ≤ y.s) fs → (∀ f ∈ fs, cs ≤ f.s) →
    (mergeFrom cs ce fs).flatMap (clipRange a b) =
      (intRange a b).filter (fun p => inIv cs ce p || covered fs p) := by
  intro fs
  induction fs with
  | nil =>
    intro cs ce _ _
    simp only [mergeFrom, List.flatMap_cons, List.flatMap_nil, List.append_nil, clipRange, covered_nil,
      Bool.or_false]
    exact (filter_intRange_iv cs ce a b).symm
  | cons f fs ih =>
    intro cs ce hs hlo
    rw [List.pairwise_cons] at hs
    have hcs : cs ≤ f.s := hlo f List.mem_cons_self
    unfold mergeFrom
    simp only [covered_cons]
    by_cases hgt : f.s > ce
    · -- `[cs, ce)` lies below `f.s`, everything else at or above it
      rw [if_pos hgt, List.flatMap_cons, ih f.s f.e hs.2 hs.1, clipRange, ← filter_intRange_iv]
      refine (filter_or_split a b f.s _ _ (fun p hp => ?_) (fun p hp => ?_)).symm
      · have := (inIv_iff _ _ _).mp hp
        omega
      · rcases (Bool.or_eq_true _ _).mp hp with hp | hp
        · exact ((inIv_iff _ _ _).mp hp).1
        · obtain ⟨g, hg, h1, -⟩ := (covered_iff fs p).mp hp
          exact Int.le_trans (hs.1 g hg) h1
    · rw [if_neg hgt, ih cs (max ce f.e) hs.2 (fun g hg => hlo g (List.mem_cons_of_mem _ hg))]
      refine List.filter_congr fun p _ => ?_
      rw [← Bool.or_assoc]
      congr 1
      rw [Bool.eq_iff_iff, Bool.or_eq_true, inIv_iff, inIv_iff, inIv_iff]
      omega

theorem mergeFeats_spec (a b : Int) (ff : List Feat)
    (hs : List.Pairwise (fun x y : Feat => x.s ≤ y.s) ff) :
    (mergeFeats ff).flatMap (clipRange a b) = (intRange a b).filter (covered ff) := by
  cases ff with
  | nil => exact (List.filter_eq_nil_iff.mpr fun _ _ => Bool.false_ne_true).symm
  | cons f fs =>
    rw [List.pairwise_cons] at hs
    simp only [mergeFeats]
    rw [mergeFrom_spec a b fs f.s f.e hs.2 hs.1]
    apply List.filter_congr
    intro p _
    rw [covered_cons]

theorem inserts_byStart : Inserts (fun f g : Feat => f.s < g.s) insertByStart :=
  ⟨fun _ => rfl, fun _ _ _ => rfl⟩

theorem sortByStart_perm (fs : List Feat) : (sortByStart fs).Perm fs :=
  inserts_byStart.sort_perm rfl (fun _ _ => rfl) fs

theorem sortByStart_sorted (fs : List Feat) :
    List.Pairwise (fun x y : Feat => x.s ≤ y.s) (sortByStart fs) :=
  inserts_byStart.sort_pairwise (r := fun x y => x.s ≤ y.s) rfl (fun _ _ => rfl) Int.le_trans Int.le_of_lt
    Int.not_lt.mp fs

variable {α : Type} [Inhabited α]

theorem lettersAt_flatMap {β : Type} (xs : List α) (offset : Int) (l : List β) (f : β → List Int) :
    lettersAt xs offset (l.flatMap f) = l.flatMap (fun x => lettersAt xs offset (f x)) := by
  induction l with
  | nil => rfl
  | cons x l ih => simp only [List.flatMap_cons, lettersAt_append, ih]

/-- clipping an interval to a sequence at `off` of length `len`, in coordinates relative to `off`
    (as the code computes it) and in positions -/
theorem clip_lo (s off : Int) : max (s - off) 0 = max s off - off := by omega

theorem clip_hi (e off len : Int) : min (e - off) len = min e (off + len) - off := by omega

/-- the slice both `Stitch` and `Compose` take for an interval `[s, e)` that meets the source -/
theorem read_clip (h0 h : Heap α) (src : Seq) (s e : Int) (wf : WF h0 src.sl) (k : Keeps h0 h)
    (hord : max (s - src.offset) 0 ≤ min (e - src.offset) src.sl.len) :
    ∃ x, slice src.sl (max (s - src.offset) 0) (min (e - src.offset) src.sl.len) = .ok x ∧
      read h x = lettersAt (read h0 src.sl) src.offset (intRange (max s src.offset) (min e src.stop)) ∧
      (read h x).length = (min e src.stop - max s src.offset).toNat := by
  obtain ⟨x, hx⟩ := slice_ne_panic src.sl _ _ (Int.le_max_right _ _) hord
    (Int.le_trans (Int.min_le_right _ _) (Int.ofNat_le.mpr wf.2.2))
  have ha := clip_lo s src.offset
  have hb : min (e - src.offset) src.sl.len = min e src.stop - src.offset := clip_hi e src.offset src.sl.len
  refine ⟨x, hx, read_slice_range wf k hx ha hb (Int.min_le_right _ _), ?_⟩
  rw [read_length h x (k.wf (slice_wf h0 _ _ _ _ wf hx)), slice_len _ _ _ _ hx, ha, hb]
  generalize min e src.stop = B
  generalize max s src.offset = A
  omega

theorem stitchAppend_correct (h0 : Heap α) (src : Seq) (wf : WF h0 src.sl) :
    ∀ (fsp : List (Int × Int)) (h : Heap α) (t : Sl), Building h0 h t →
      ∃ h' t', stitchAppend src.sl src.offset src.sl.len (h, t) fsp = .ok (h', t') ∧
        read h' t' = read h t ++
          lettersAt (read h0 src.sl) src.offset (fsp.flatMap (clipRange src.offset src.stop)) ∧
        Building h0 h' t' := by
  intro fsp
  induction fsp with
  | nil => exact fun h t b => ⟨h, t, rfl, (List.append_nil _).symm, b⟩
  | cons iv rest ih =>
    intro h t b
    obtain ⟨s, e⟩ := iv
    rw [stitchAppend, List.flatMap_cons, lettersAt_append, clipRange]
    dsimp only
    by_cases hge : max (s - src.offset) 0 ≥ min (e - src.offset) src.sl.len
    · have hge' : min e src.stop ≤ max s src.offset := by
        rw [ge_iff_le, clip_lo, show min (e - src.offset) src.sl.len = _ from clip_hi e src.offset src.sl.len] at hge
        exact Int.le_of_sub_le_sub_right hge
      rw [if_pos hge, intRange_empty _ _ hge', lettersAt_nil, List.nil_append]
      exact ih h t b
    · obtain ⟨x, hx, rx, -⟩ := read_clip h0 h src s e wf b.keeps (Int.le_of_lt (Int.not_le.mp hge))
      obtain ⟨b2, e2⟩ := b.append x
      obtain ⟨h', t', e1, r1, b'⟩ := ih _ _ b2
      rw [if_neg hge, hx]
      refine ⟨h', t', e1, ?_, b'⟩
      rw [r1, e2, rx, List.append_assoc]

theorem sum_map_nonneg {β : Type} (f : β → Int) (hf : ∀ x, 0 ≤ f x) (l : List β) : 0 ≤ (l.map f).sum := by
  induction l with
  | nil => exact Int.le_refl 0
  | cons x l ih => rw [List.map_cons, List.sum_cons]; exact Int.add_nonneg (hf x) ih

theorem stitchSorted_correct (h : Heap α) (src : Seq) (ff : List Feat) (wf : WF h src.sl)
    (hs : List.Pairwise (fun x y : Feat => x.s ≤ y.s) ff) :
    ∃ h' r, stitchSorted h src ff = .ok (h', r) ∧
      read h' r.sl = lettersAt (read h src.sl) src.offset (stitchPositions src.offset src.stop ff) ∧
      Keeps h h' ∧ h.length ≤ r.sl.arr ∧ r.offset = 0 ∧ r.conf = confLinear := by
  obtain ⟨h1, t, hmk⟩ := mk_ne_panic h 0 _ (Int.le_refl 0)
    (sum_map_nonneg (fun iv : Int × Int => max 0 (min iv.2 (src.sl.len + src.offset) - max iv.1 src.offset))
      (fun _ => Int.le_max_left 0 _) (mergeFeats ff))
  obtain ⟨-, -, b1, e1⟩ := mk_spec h _ _ h1 t hmk
  obtain ⟨h2, t', hap, r1, b2⟩ := stitchAppend_correct h src wf (mergeFeats ff) h1 t b1
  unfold stitchSorted
  simp only [bind, Except.bind, pure, Except.pure, hmk, hap]
  refine ⟨_, _, rfl, ?_, b2.keeps, b2.fresh, rfl, rfl⟩
  rw [r1, e1, mergeFeats_spec _ _ ff hs]
  rfl

theorem stitchSorted_cases (h : Heap α) (src : Seq) (ff : List Feat) (h' : Heap α) (r : Seq)
    (wf : WF h src.sl) (hs : List.Pairwise (fun x y : Feat => x.s ≤ y.s) ff)
    (hr : stitchSorted h src ff = .ok (h', r)) :
    read h' r.sl = lettersAt (read h src.sl) src.offset (stitchPositions src.offset src.stop ff) ∧
    Keeps h h' ∧ h.length ≤ r.sl.arr ∧ r.offset = 0 ∧ r.conf = confLinear := by
  obtain ⟨h'', r'', e, p⟩ := stitchSorted_correct h src ff wf hs
  rw [e] at hr
  cases hr
  exact p

theorem stitch_ok_iff (h : Heap α) (src : Seq) (fs : List Feat) (x : Heap α × Seq) :
    stitch h src fs = .ok x ↔ (∀ f ∈ fs, f.s ≤ f.e) ∧ stitchSorted h src (sortByStart fs) = .ok x := by
  have hany : fs.any (fun f => decide (f.e < f.s)) = false ↔ ∀ f ∈ fs, f.s ≤ f.e := by
    rw [List.any_eq_false]
    exact forall₂_congr fun f _ => by rw [decide_eq_true_eq, Int.not_lt]
  unfold stitch
  cases hb : fs.any (fun f => decide (f.e < f.s))
  · rw [if_neg Bool.false_ne_true]
    exact ⟨fun e => ⟨hany.mp hb, e⟩, fun e => e.2⟩
  · rw [if_pos rfl]
    exact ⟨fun e => (nomatch e), fun e => by rw [hany.mpr e.1] at hb; cases hb⟩

end Biogo.Sequtils
