/-
Lemmas about the alphabet model (`Biogo.Model.Alphabet`): ASCII case folding, the two table
fill loops of `newAlphabet`, `AllValid`, the pairing table of `NewPairing`, and the acceptance
test of `NewComplementor`.  Core-only.
-/
import Biogo.Model.Alphabet

namespace Biogo.Alphabet

theorem toLower_toNat (b : UInt8) :
    (toLower b).toNat = if 65 ≤ b.toNat ∧ b.toNat ≤ 90 then b.toNat + 32 else b.toNat := by
  have h32 : (32 : UInt8).toNat = 32 := rfl
  simp only [toLower, UInt8.le_iff_toNat_le, show (65 : UInt8).toNat = 65 from rfl,
    show (90 : UInt8).toNat = 90 from rfl]
  split
  · rw [UInt8.toNat_add, h32]; omega
  · rfl

theorem toUpper_toNat (b : UInt8) :
    (toUpper b).toNat = if 97 ≤ b.toNat ∧ b.toNat ≤ 122 then b.toNat - 32 else b.toNat := by
  have h32 : (32 : UInt8).toNat = 32 := rfl
  simp only [toUpper, UInt8.le_iff_toNat_le, show (97 : UInt8).toNat = 97 from rfl,
    show (122 : UInt8).toNat = 122 from rfl]
  split
  · rw [UInt8.toNat_sub_of_le _ _ (by rw [UInt8.le_iff_toNat_le, h32]; omega), h32]
  · rfl

theorem toLower_idem (x : UInt8) : toLower (toLower x) = toLower x := by
  apply UInt8.toNat_inj.mp
  simp only [toLower_toNat]; (repeat' split) <;> omega

theorem toLower_toUpper (x : UInt8) : toLower (toUpper x) = toLower x := by
  apply UInt8.toNat_inj.mp
  simp only [toLower_toNat, toUpper_toNat]; (repeat' split) <;> omega

theorem lower_eq_iff (x l : UInt8) : (toLower x = toLower l) ↔ (l = toLower x ∨ l = toUpper x) := by
  rw [← UInt8.toNat_inj, ← UInt8.toNat_inj, ← UInt8.toNat_inj]
  simp only [toLower_toNat, toUpper_toNat]
  have := x.toNat_lt; have := l.toNat_lt
  (repeat' split) <;> omega

/-- `for i, l := range ls { valid[l] = true; index[l] = i }` -/
theorem fillDirect_valid (ls : List UInt8) (i : Nat) (t : Tabs) (l : UInt8) :
    (fillDirect ls i t).valid l = (t.valid l || ls.contains l) := by
  induction ls generalizing i t with
  | nil => simp [fillDirect]
  | cons x xs ih =>
    simp only [fillDirect, ih, set, List.contains_cons]
    by_cases h : l = x <;> simp [h, beq_eq_false_iff_ne.mpr]

/-- `for i, l := range upper { valid[l] = true; index[l] = index[lower[i]] }` -/
theorem fillUpper_valid (us los : List UInt8) (t : Tabs) (l : UInt8) :
    (fillUpper us los t).valid l = (t.valid l || ((us.zip los).map (·.1)).contains l) := by
  induction us generalizing los t with
  | nil => simp [fillUpper]
  | cons u us ih =>
    cases los with
    | nil => simp [fillUpper]
    | cons lw los =>
      simp only [fillUpper, ih, set, List.zip_cons_cons, List.map_cons, List.contains_cons]
      by_cases h : l = u <;> simp [h, beq_eq_false_iff_ne.mpr]

/-- What the two loops establish about the index table: `LO` is the list whose positions are the
    indices, `F` the folding (identity, or `toLower`). -/
def IndexOK (F : UInt8 → UInt8) (LO : List UInt8) (t : Tabs) : Prop :=
  (∀ c, t.valid c = true → ∃ p : Nat, LO[p]? = some (F c) ∧ t.index c = (p : Int)) ∧
  (∀ c, t.valid c = false → t.index c = -1)

theorem IndexOK.set {F : UInt8 → UInt8} {LO : List UInt8} {t : Tabs} (h : IndexOK F LO t)
    {c : UInt8} {p : Nat} (hp : LO[p]? = some (F c)) :
    IndexOK F LO { valid := set t.valid c true, index := set t.index c p } := by
  constructor <;> intro x hx <;> simp only [Alphabet.set] at hx ⊢ <;> by_cases hxc : x = c
  · exact ⟨p, hxc ▸ hp, by simp [hxc]⟩
  · simp only [hxc, if_false] at hx ⊢; exact h.1 x hx
  · simp [hxc] at hx
  · simp only [hxc, if_false] at hx ⊢; exact h.2 x hx

theorem fillDirect_indexOK_from (F : UInt8 → UInt8) (LO ls : List UInt8) (i : Nat) (t : Tabs)
    (hls : ∀ j (hj : j < ls.length), LO[i + j]? = some (F ls[j])) (h : IndexOK F LO t) :
    IndexOK F LO (fillDirect ls i t) := by
  induction ls generalizing i t with
  | nil => exact h
  | cons x xs ih =>
    refine ih (i + 1) _ (fun j hj => ?_) (h.set (hls 0 (Nat.zero_lt_succ _)))
    simpa [Nat.add_assoc, Nat.add_comm 1] using hls (j + 1) (Nat.succ_lt_succ hj)

theorem fillDirect_indexOK (F : UInt8 → UInt8) (LO : List UInt8) (hF : ∀ c ∈ LO, F c = c) :
    IndexOK F LO (fillDirect LO 0 emptyTabs) := by
  refine fillDirect_indexOK_from F LO LO 0 emptyTabs (fun j hj => ?_)
    ⟨fun c hc => by simp [emptyTabs] at hc, fun _ _ => rfl⟩
  rw [Nat.zero_add, hF _ (List.getElem_mem hj)]; exact List.getElem?_eq_getElem hj

theorem fillUpper_indexOK (F : UInt8 → UInt8) (LO : List UInt8) (us los : List UInt8) (t : Tabs)
    (hpairs : ∀ p ∈ us.zip los, t.valid p.2 = true ∧ F p.1 = F p.2) (h : IndexOK F LO t) :
    IndexOK F LO (fillUpper us los t) := by
  induction us generalizing los t with
  | nil => simpa [fillUpper] using h
  | cons u us ih =>
    cases los with
    | nil => simpa [fillUpper] using h
    | cons lw los =>
      simp only [fillUpper]
      have hhead := hpairs (u, lw) (by simp)
      obtain ⟨p, hp, hi⟩ := h.1 lw hhead.1
      apply ih
      · intro p hp
        have := hpairs p (by simp [hp])
        refine ⟨?_, this.2⟩
        simp only [set]; split
        · rfl
        · exact this.1
      · rw [hi]; exact h.set (hhead.2 ▸ hp)

/-- the folding under which `Letter (IndexOf l)` returns `l` -/
def foldOf (cased : Bool) : UInt8 → UInt8 := if cased then id else toLower
/-- the list whose positions are the indices -/
def indexList (cased : Bool) (ls : List UInt8) : List UInt8 := if cased then ls else ls.map toLower

theorem indexList_length (cased : Bool) (ls : List UInt8) : (indexList cased ls).length = ls.length := by
  cases cased <;> simp [indexList]

theorem newAlphabet_ok {ls : List UInt8} {g a : UInt8} {cased : Bool} {A : Alpha}
    (h : newAlphabet ls g a cased = .ok A) :
    A.length = ls.length ∧ A.cased = cased ∧
    (cased = true → A.letters = ls ∧ A.valid = (fillDirect ls 0 emptyTabs).valid ∧
        A.index = (fillDirect ls 0 emptyTabs).index) ∧
    (cased = false → A.letters = ls.map toLower ++ ls.map toUpper ∧
        A.valid = (fillUpper (ls.map toUpper) (ls.map toLower)
                    (fillDirect (ls.map toLower) 0 emptyTabs)).valid ∧
        A.index = (fillUpper (ls.map toUpper) (ls.map toLower)
                    (fillDirect (ls.map toLower) 0 emptyTabs)).index) := by
  unfold newAlphabet at h
  split at h
  · cases h
  · split at h
    · rename_i hc
      injection h with h; subst h
      simp [hc]
    · rename_i hc
      injection h with h; subst h
      simp [hc]

theorem newAlphabet_indexOK {ls : List UInt8} {g a : UInt8} {cased : Bool} {A : Alpha}
    (h : newAlphabet ls g a cased = .ok A) :
    IndexOK (foldOf cased) (indexList cased ls) { valid := A.valid, index := A.index } := by
  obtain ⟨_, _, hc, hu⟩ := newAlphabet_ok h
  cases cased with
  | true =>
    obtain ⟨_, hv, hi⟩ := hc rfl
    rw [hv, hi]
    exact fillDirect_indexOK id ls (fun _ _ => rfl)
  | false =>
    obtain ⟨_, hv, hi⟩ := hu rfl
    rw [hv, hi]
    simp only [foldOf, indexList, Bool.false_eq_true, if_false]
    apply fillUpper_indexOK
    · intro p hp
      rw [List.zip_map'] at hp
      obtain ⟨x, hx, rfl⟩ := List.mem_map.mp hp
      refine ⟨?_, by simp [toLower_toUpper, toLower_idem]⟩
      rw [fillDirect_valid]
      simp [List.mem_map]
      exact Or.inr ⟨x, hx, rfl⟩
    · apply fillDirect_indexOK
      intro c hc
      obtain ⟨x, _, rfl⟩ := List.mem_map.mp hc
      exact toLower_idem x

theorem newAlphabet_valid_letters {ls : List UInt8} {g a : UInt8} {cased : Bool} {A : Alpha}
    (h : newAlphabet ls g a cased = .ok A) (l : UInt8) : A.valid l = A.letters.contains l := by
  obtain ⟨_, _, hc, hu⟩ := newAlphabet_ok h
  cases cased with
  | true =>
    obtain ⟨hl, hv, _⟩ := hc rfl
    rw [hv, hl, fillDirect_valid]; simp [emptyTabs]
  | false =>
    obtain ⟨hl, hv, _⟩ := hu rfl
    rw [hv, hl, fillUpper_valid, fillDirect_valid, List.zip_map']
    simp [emptyTabs, Function.comp_def]

/-- "a letter is valid exactly when it (in either case, for case-insensitive alphabets)
    appears in the definition" -/
theorem newAlphabet_valid {ls : List UInt8} {g a : UInt8} {cased : Bool} {A : Alpha}
    (h : newAlphabet ls g a cased = .ok A) (l : UInt8) :
    A.valid l = inDefinition cased ls l := by
  rw [newAlphabet_valid_letters h]
  obtain ⟨_, _, hc, hu⟩ := newAlphabet_ok h
  cases cased with
  | true => rw [(hc rfl).1]; simp [inDefinition]
  | false =>
    rw [(hu rfl).1, Bool.eq_iff_iff]
    simp only [inDefinition, List.contains_iff_mem, List.mem_append, List.mem_map, List.any_eq_true,
      beq_iff_eq, Bool.false_eq_true, if_false, lower_eq_iff]
    constructor
    · rintro (⟨x, hx, rfl⟩ | ⟨x, hx, rfl⟩)
      · exact ⟨x, hx, Or.inl rfl⟩
      · exact ⟨x, hx, Or.inr rfl⟩
    · rintro ⟨x, hx, rfl | rfl⟩
      · exact Or.inl ⟨x, hx, rfl⟩
      · exact Or.inr ⟨x, hx, rfl⟩

theorem newAlphabet_letter {ls : List UInt8} {g a : UInt8} {cased : Bool} {A : Alpha}
    (h : newAlphabet ls g a cased = .ok A) (p : Nat) (hp : p < ls.length) :
    A.letter p = (indexList cased ls)[p]? := by
  obtain ⟨hlen, _, hc, hu⟩ := newAlphabet_ok h
  simp only [Alpha.letter, hlen, hp, if_true]
  cases cased with
  | true => rw [(hc rfl).1]; simp [indexList]
  | false =>
    rw [(hu rfl).1]
    simp only [indexList, Bool.false_eq_true, if_false]
    exact List.getElem?_append_left (by simpa using hp)

theorem indexOf_neg_iff {ls : List UInt8} {g a : UInt8} {cased : Bool} {A : Alpha}
    (h : newAlphabet ls g a cased = .ok A) (l : UInt8) :
    A.indexOf l < 0 ↔ A.isValid l = false := by
  have hok := newAlphabet_indexOK h
  simp only [Alpha.indexOf, Alpha.isValid]
  constructor
  · intro hneg
    cases hv : A.valid l with
    | false => rfl
    | true =>
      obtain ⟨p, _, hi⟩ := hok.1 l hv
      simp only at hi; omega
  · intro hv
    have := hok.2 l hv
    simp only at this; omega

theorem letter_indexOf_fold {ls : List UInt8} {g a : UInt8} {cased : Bool} {A : Alpha}
    (h : newAlphabet ls g a cased = .ok A) (l : UInt8) (hv : A.isValid l = true) :
    0 ≤ A.indexOf l ∧ A.indexOf l < ls.length ∧
    A.letter (A.indexOf l).toNat = some (foldOf cased l) := by
  obtain ⟨p, hp, hi⟩ := (newAlphabet_indexOK h).1 l hv
  simp only at hi
  have hlt : p < ls.length := by
    obtain ⟨hlt, _⟩ := List.getElem?_eq_some_iff.mp hp
    simpa [indexList_length] using hlt
  simp only [Alpha.indexOf, hi]
  refine ⟨by omega, by omega, ?_⟩
  rw [Int.toNat_natCast, newAlphabet_letter h p hlt]; exact hp

theorem indexOf_letter_nodup {ls : List UInt8} {g a : UInt8} {cased : Bool} {A : Alpha}
    (h : newAlphabet ls g a cased = .ok A) (hnd : (indexList cased ls).Nodup)
    (i : Nat) (hi : i < ls.length) :
    ∃ l, A.letter i = some l ∧ A.isValid l = true ∧ A.indexOf l = (i : Int) := by
  have hi' : i < (indexList cased ls).length := by simpa [indexList_length] using hi
  have hv : A.valid (indexList cased ls)[i] = true := by
    rw [newAlphabet_valid h]
    cases cased with
    | true => simp [inDefinition, indexList]
    | false =>
      simp only [inDefinition, indexList, Bool.false_eq_true, if_false, List.getElem_map,
        List.any_eq_true, beq_iff_eq]
      exact ⟨ls[i], List.getElem_mem _, (toLower_idem _).symm⟩
  refine ⟨(indexList cased ls)[i], ?_, hv, ?_⟩
  · rw [newAlphabet_letter h i hi]; exact List.getElem?_eq_getElem hi'
  · obtain ⟨p, hp, hidx⟩ := (newAlphabet_indexOK h).1 _ hv
    simp only at hidx
    have hfold : foldOf cased (indexList cased ls)[i] = (indexList cased ls)[i] := by
      cases cased with
      | true => simp [foldOf]
      | false => simp [foldOf, indexList, toLower_idem]
    rw [hfold] at hp
    obtain ⟨hplt, hpe⟩ := List.getElem?_eq_some_iff.mp hp
    have : p = i := (List.getElem_inj hnd).mp hpe
    simp only [Alpha.indexOf, hidx, this]

/-- the index table of a case-insensitive alphabet does not see case (what the consensus
    property C07 uses of it) -/
theorem newAlphabet_uncased_index {ls : List UInt8} {g amb : UInt8} {A : Alpha}
    (h : newAlphabet ls g amb false = .ok A) (hnd : (ls.map toLower).Nodup)
    (l : UInt8) (hv : A.valid l = true) :
    0 ≤ A.index l ∧ (A.index l).toNat < A.length ∧
    (∃ x, A.letter (A.index l).toNat = some x ∧ toLower x = toLower l) ∧
    A.index (toLower l) = A.index l := by
  obtain ⟨h0, hlt, hlet⟩ := letter_indexOf_fold h l hv
  have hlen := (newAlphabet_ok h).1
  refine ⟨h0, ?_, ⟨toLower l, hlet, toLower_idem l⟩, ?_⟩
  · simp only [Alpha.indexOf] at h0 hlt; omega
  · -- both indices are positions of `toLower l` in the lower-cased definition
    have hv' : A.valid (toLower l) = true := by
      rw [newAlphabet_valid h] at hv ⊢
      simpa only [inDefinition, Bool.false_eq_true, if_false, toLower_idem] using hv
    obtain ⟨p, hp, hi⟩ := (newAlphabet_indexOK h).1 l hv
    obtain ⟨p', hp', hi'⟩ := (newAlphabet_indexOK h).1 (toLower l) hv'
    simp only [foldOf, indexList, Bool.false_eq_true, if_false, toLower_idem] at hp hp' hi hi'
    obtain ⟨hplt, hpe⟩ := List.getElem?_eq_some_iff.mp hp
    obtain ⟨hplt', hpe'⟩ := List.getElem?_eq_some_iff.mp hp'
    rw [hi, hi', (List.getElem_inj hnd).mp (hpe'.trans hpe.symm)]

/-- `AllValid` is a search for the first invalid letter -/
theorem allValidFrom_eq (a : Alpha) (ls : List Letter) (i : Nat) :
    a.allValidFrom ls i = match ls.findIdx? (fun l => !a.valid l) with
      | none => (true, -1)
      | some n => (false, ((i + n : Nat) : Int)) := by
  induction ls generalizing i with
  | nil => rfl
  | cons l ls ih =>
    simp only [Alpha.allValidFrom, List.findIdx?_cons]
    cases a.valid l
    · simp
    · simp only [if_true, ih, Bool.not_true, Bool.false_eq_true, if_false]
      cases List.findIdx? (fun l => !a.valid l) ls <;> simp [Nat.add_assoc, Nat.add_comm 1]

theorem fillPairs_not_mem (s c : List UInt8) (t : PTabs) (x : UInt8) (hx : x ∉ s) :
    (fillPairs s c t).pair x = t.pair x ∧ (fillPairs s c t).ok x = t.ok x := by
  induction s generalizing c t with
  | nil => simp [fillPairs]
  | cons v s ih =>
    cases c with
    | nil => simp [fillPairs]
    | cons w c =>
      simp only [fillPairs]
      have hv : x ≠ v := fun h => hx (h ▸ List.mem_cons_self)
      have := ih c { pair := set t.pair v w, ok := set t.ok v true } (fun h => hx (List.mem_cons_of_mem _ h))
      simpa [set, hv] using this

theorem fillPairs_ok_false (s c : List UInt8) (t : PTabs) (x : UInt8)
    (h : (fillPairs s c t).ok x = false) : (fillPairs s c t).pair x = t.pair x ∧ t.ok x = false := by
  induction s generalizing c t with
  | nil => simpa [fillPairs] using h
  | cons v s ih =>
    cases c with
    | nil => simpa [fillPairs] using h
    | cons w c =>
      simp only [fillPairs] at h ⊢
      obtain ⟨h1, h2⟩ := ih c { pair := set t.pair v w, ok := set t.ok v true } h
      simp only [set] at h1 h2
      by_cases hv : x = v
      · simp [hv] at h2
      · simp only [hv, if_false] at h1 h2
        exact ⟨h1, h2⟩

theorem checkBijection_mem (pair : UInt8 → UInt8) (s c : List UInt8) (hlen : s.length = c.length)
    (h : checkBijection pair s c = true) : ∀ l ∈ s, pair (pair l) = l := by
  induction s generalizing c with
  | nil => intro l hl; cases hl
  | cons v s ih =>
    cases c with
    | nil => simp at hlen
    | cons w c =>
      simp only [checkBijection, Bool.and_eq_true, beq_iff_eq] at h
      intro l hl
      cases hl with
      | head => exact h.1.1.symm
      | tail _ hl => exact ih c (by simpa using hlen) h.2 l hl

theorem checkBijection_of_involutive (pair : UInt8 → UInt8) (s c : List UInt8)
    (h : ∀ x, pair (pair x) = x) : checkBijection pair s c = true := by
  induction s generalizing c with
  | nil => simp [checkBijection]
  | cons v s ih =>
    cases c with
    | nil => simp [checkBijection]
    | cons w c => simp [checkBijection, h, ih]

/-- the pairing table `NewPairing` builds before it checks it -/
def pairTable (s c : List UInt8) : UInt8 → UInt8 := (fillPairs s c initPairs).pair

theorem pairTable_not_mem (s c : List UInt8) (x : UInt8) (hx : x ∉ s) : pairTable s c x = x :=
  (fillPairs_not_mem s c initPairs x hx).1

theorem newPairing_ok {s c : List UInt8} {p : Pairing} (h : newPairing s c = .ok p) :
    s.length = c.length ∧ p.pair = pairTable s c ∧ p.ok = (fillPairs s c initPairs).ok ∧
    checkBijection (pairTable s c) s c = true ∧
    p.complements = fun b => if p.ok b then p.pair b else p.pair b ||| 128 := by
  unfold newPairing at h
  split at h
  · cases h
  · rename_i hlen
    split at h
    · cases h
    · simp only at h
      split at h
      · rename_i hchk
        injection h with h; subst h
        exact ⟨by simpa using hlen, rfl, rfl, hchk, rfl⟩
      · cases h

theorem newPairing_pair {s c : List UInt8} {p : Pairing} (h : newPairing s c = .ok p) :
    p.pair = pairTable s c :=
  (newPairing_ok h).2.1

theorem newPairing_table {s c : List UInt8} {p : Pairing} (h : newPairing s c = .ok p) (b : UInt8) :
    p.complements b = if p.ok b then p.pair b else p.pair b ||| 128 :=
  congrFun (newPairing_ok h).2.2.2.2 b

theorem newPairing_cases {s c : List UInt8} (hlen : s.length = c.length)
    (hascii : ∀ b ∈ s ++ c, b < 128) :
    (checkBijection (pairTable s c) s c = true ∧ ∃ p, newPairing s c = .ok p) ∨
    (checkBijection (pairTable s c) s c = false ∧ newPairing s c = .error .notBijection) := by
  have h1 : (s.any (· ≥ 128) || c.any (· ≥ 128)) = false := by
    simp only [Bool.or_eq_false_iff, List.any_eq_false, ge_iff_le, decide_eq_true_eq, UInt8.not_le]
    exact ⟨fun x hx => hascii x (List.mem_append_left _ hx),
      fun x hx => hascii x (List.mem_append_right _ hx)⟩
  unfold pairTable
  cases hc : checkBijection (fillPairs s c initPairs).pair s c with
  | true =>
    refine Or.inl ⟨rfl, ?_⟩
    simp only [newPairing, hlen, ne_eq, not_true_eq_false, if_false, h1, Bool.false_eq_true, hc, if_true]
    exact ⟨_, rfl⟩
  | false =>
    refine Or.inr ⟨rfl, ?_⟩
    simp only [newPairing, hlen, ne_eq, not_true_eq_false, if_false, h1, Bool.false_eq_true, hc]

/-- a table that passes the check on the letters of `s` is an involution on all 256 letters:
    the fill loop leaves every other letter paired with itself -/
theorem pairTable_involutive_of_check (s c : List UInt8)
    (hchk : ∀ l ∈ s, pairTable s c (pairTable s c l) = l) (x : UInt8) :
    pairTable s c (pairTable s c x) = x := by
  by_cases hx : x ∈ s
  · exact hchk x hx
  · rw [pairTable_not_mem s c x hx, pairTable_not_mem s c x hx]

theorem newPairing_pair_involutive {s c : List UInt8} {p : Pairing} (h : newPairing s c = .ok p)
    (x : UInt8) : p.pair (p.pair x) = x := by
  obtain ⟨hlen, hpair, _, hchk, _⟩ := newPairing_ok h
  rw [hpair]
  exact pairTable_involutive_of_check s c (checkBijection_mem _ s c hlen hchk) x

theorem newPairing_pair_of_not_ok {s c : List UInt8} {p : Pairing} (h : newPairing s c = .ok p)
    (x : UInt8) (hx : p.ok x = false) : p.pair x = x := by
  obtain ⟨_, hpair, hok, _⟩ := newPairing_ok h
  rw [hok] at hx
  rw [hpair]
  exact (fillPairs_ok_false s c initPairs x hx).1

theorem newPairing_complements {s c : List UInt8} {p : Pairing} (h : newPairing s c = .ok p)
    (l : UInt8) (hl : p.ok l = true) :
    p.ok (p.complements l) = true ∧ p.complements (p.complements l) = l := by
  have hcomp : ∀ x, p.ok x = true → p.complements x = p.pair x := fun x hx => by
    rw [newPairing_table h, if_pos hx]
  have hinv := newPairing_pair_involutive h l
  have hok : p.ok (p.pair l) = true := by
    cases hp : p.ok (p.pair l) with
    | true => rfl
    | false =>
      -- an unmarked `pair l` is its own partner, so it is `l`, which is marked
      rw [newPairing_pair_of_not_ok h _ hp] at hinv
      rw [hinv, hl] at hp
      exact hp.symm
  rw [hcomp l hl]
  exact ⟨hok, by rw [hcomp _ hok, hinv]⟩

/-- The acceptance test of `NewComplementor` never fails on a pairing `NewPairing` accepted: a
    letter without a pairing keeps itself as complement (so `i&0x7f == v&0x7f`), a letter with
    one has `ok = true`, and either makes the first conjunct of the test false. -/
theorem newComplementor_of_newPairing {s c ls : List UInt8} {p : Pairing} {g a : UInt8}
    {cased : Bool} {A : Alpha} (hp : newPairing s c = .ok p) (hA : newAlphabet ls g a cased = .ok A) :
    newComplementor ls p g a cased = .ok { alpha := A, pairing := p } := by
  have hall : allBytes.all (pairAcceptable A p) = true := by
    rw [List.all_eq_true]
    intro i _
    simp only [pairAcceptable]
    cases hoki : p.ok i with
    | true => simp
    | false => simp [newPairing_pair_of_not_ok hp i hoki]
  simp [newComplementor, hA, hall]

end Biogo.Alphabet
