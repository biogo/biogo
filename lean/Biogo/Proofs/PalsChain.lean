/-
Every hit the filter model pushes contains a whole k-mer and starts at a query position already
scanned (`From + k ≤ To`, `From ≤ Qlen`): the tube state machine records query positions in
ascending order, so each tube has `QLo ≤ QHi ≤ current position` (`TWF`).
-/
import Biogo.Proofs.FilterRun
import Biogo.Proofs.FilterComplete

namespace Biogo.Proofs.PalsChain
open Biogo.Filter Biogo.Proofs.FilterRun

/-- `P` = the query position being processed -/
structure TWF (c : Cfg) (P : Nat) (s : St) : Prop where
  tubes : ∀ slot, (getTube s slot).qLo ≤ (getTube s slot).qHi ∧ (getTube s slot).qHi ≤ P
  hits : ∀ h ∈ s.hits, h.from_ + c.k ≤ h.to ∧ h.from_ ≤ (P : Int)

theorem TWF.mono {c : Cfg} {P P' : Nat} {s : St} (h : TWF c P s) (hp : P ≤ P') : TWF c P' s :=
  ⟨fun slot => ⟨(h.tubes slot).1, Nat.le_trans (h.tubes slot).2 hp⟩,
   fun x hx => ⟨(h.hits x hx).1, by have := (h.hits x hx).2; omega⟩⟩

theorem put_twf {c : Cfg} {P : Nat} {s : St} (h : TWF c P s) (slot : Nat) (label : Int) (emit : Bool) (v : Tube)
    (hv : v.qLo ≤ v.qHi ∧ v.qHi ≤ P) : TWF c P (put c s slot label emit v) := by
  refine ⟨fun slot' => ?_, fun x hx => ?_⟩
  · rw [getTube_put]
    split
    · exact hv
    · exact h.tubes slot'
  · rw [put_hits] at hx
    split at hx
    · rcases List.mem_cons.mp hx with rfl | hx
      · have := h.tubes slot
        exact ⟨by simp only; omega, by simp only; omega⟩
      · exact h.hits x hx
    · exact h.hits x hx

theorem hitTube_twf (c : Cfg) {P : Nat} {s : St} (h : TWF c P s) (ti q : Nat) (hq : P ≤ q) :
    TWF c q (hitTube c s ti q) := by
  have ht := h.tubes (ti % c.cap)
  rw [hitTube_put]
  refine put_twf (h.mono hq) _ _ _ _ ?_
  split
  · exact ⟨Nat.le_refl _, Nat.le_refl _⟩
  · exact ⟨by simp only; omega, Nat.le_refl _⟩

theorem commonKmer_twf (c : Cfg) {q : Nat} {s : St} (h : TWF c q s) (t : Nat) : TWF c q (commonKmer c s t q) := by
  rw [commonKmer_eq]
  exact List.foldlRecOn _ _ h fun s hs x _ => hitTube_twf c hs x q (Nat.le_refl _)

theorem retire_twf (c : Cfg) {P : Nat} {s : St} (h : TWF c P s) (ti : Int) : TWF c P (retire c s ti) := by
  rw [retire_eq]
  split
  · exact ⟨h.tubes, h.hits⟩
  · exact put_twf h _ _ _ _ (h.tubes _)

theorem tubeFlush_twf (c : Cfg) {P : Nat} {s : St} (h : TWF c P s) (ti : Nat) : TWF c P (tubeFlush c s ti) := by
  rw [tubeFlush_eq]
  split
  · exact h
  · exact retire_twf c h _

theorem flushLoop_twf (c : Cfg) {P : Nat} : ∀ (n ti : Nat) (s : St), TWF c P s → TWF c P (flushLoop c n ti s) := by
  intro n
  induction n with
  | zero => intro ti s h; exact h
  | succ n ih => intro ti s h; exact ih _ _ (tubeFlush_twf c h ti)

theorem tickLoop_twf (c : Cfg) {P : Nat} (passed : Nat) : ∀ (fuel : Nat) (st : St) (ticker : Nat),
    TWF c P st → TWF c P (tickLoop c passed fuel st ticker).st := by
  intro fuel
  induction fuel with
  | zero => intro st ticker h; exact h
  | succ n ih =>
    intro st ticker h
    rw [tickLoop]
    split
    · exact ih _ _ (retire_twf c h _)
    · exact h

theorem stepPos_twf (c : Cfg) {P : Nat} {l : Loop} (h : TWF c P l.st) (pos : Nat) (hp : P ≤ pos) (ts : List Nat) :
    TWF c pos (stepPos c l pos ts).st := by
  unfold stepPos tick kmers
  exact tickLoop_twf c _ _ _ _ (List.foldlRecOn ts _ (h.mono hp) fun s hs t _ => commonKmer_twf c hs t)

theorem scanN_twf (c : Cfg) (ts : Nat → List Nat) (l0 : Loop) (h0 : TWF c 0 l0.st) :
    ∀ N, TWF c N (scanN c ts l0 N).st := by
  intro N
  induction N with
  | zero => exact h0
  | succ N ih =>
    rw [scanN_succ]
    exact (stepPos_twf c ih N (Nat.le_refl _) (ts N)).mono (Nat.le_succ _)

theorem runFilter_hits_wf (c : Cfg) (ts : Nat → List Nat) (N qlen : Nat) :
    ∀ h ∈ (runFilter c ts N qlen).hits, h.from_ + c.k ≤ h.to ∧ h.from_ ≤ (N : Int) := by
  have h0 : TWF c 0 { tubes := Array.replicate c.cap default, hits := [] } :=
    ⟨fun slot => by rw [getTube_init]; exact ⟨Nat.le_refl _, Nat.le_refl _⟩, by simp⟩
  have h1 := scanN_twf c ts { st := _, ticker := c.off + c.maxError } h0 N
  have h2 := retire_twf c h1 (tubeEndIndex c (qlen - 1))
  unfold runFilter
  simp only []
  exact (flushLoop_twf c _ _ _ h2).hits

open Biogo.Proofs.FilterComplete Biogo.Proofs.Kmer Biogo.Spec.Kmer Biogo.Kmer

theorem filter_ok_run {lk : Lookup} (hlk : FourLetter lk) (rule : Rule) (t q : List UInt8) (k : Nat) (p : Params)
    (selfAlign complement : Bool) (hrule : rule.tickByPosition = true) (hk : 1 ≤ k) (hk2 : 2 * k ≤ wordBits)
    (hkq : k ≤ q.length) (he : p.maxError ≤ p.tubeOffset) (hoff : 1 ≤ p.tubeOffset)
    (hits : List Hit) (hf : filter rule lk (builtIndex lk k t) p q selfAlign complement = .ok hits) :
    hits = (runFilter (mkCfg rule k t.length p selfAlign complement) (tsOf lk (builtIndex lk k t) q)
      (q.length - k + 1) q.length).hits.reverse := by
  rw [filter_eq_run hlk rule _ p q selfAlign complement hrule hk hk2 hkq he hoff] at hf
  split at hf
  · cases hf
  · cases hf; rfl

theorem kmer_range {k : Nat} (hk : minKmerLen ≤ k) (hk' : k ≤ maxKmerLen) : 2 ≤ k ∧ 2 * k ≤ wordBits := by
  unfold minKmerLen at hk; unfold maxKmerLen at hk'; unfold wordBits; omega

theorem filter_hits_wf {lk : Lookup} (hlk : FourLetter lk) (rule : Rule) (t q : List UInt8) (k : Nat) (p : Params)
    (selfAlign complement : Bool) (hrule : rule.tickByPosition = true) (hk : minKmerLen ≤ k) (hk' : k ≤ maxKmerLen)
    (hkq : k ≤ q.length) (he : p.maxError ≤ p.tubeOffset) (hoff : 1 ≤ p.tubeOffset)
    (hits : List Hit) (hf : filter rule lk (builtIndex lk k t) p q selfAlign complement = .ok hits) :
    ∀ h ∈ hits, h.from_ + k ≤ h.to ∧ h.from_ ≤ (q.length : Int) := by
  obtain ⟨hk2, hkw⟩ := kmer_range hk hk'
  intro h hh
  rw [filter_ok_run hlk rule t q k p selfAlign complement hrule (by omega) hkw hkq he hoff hits hf, List.mem_reverse] at hh
  have := runFilter_hits_wf _ _ _ _ h hh
  exact ⟨this.1, by have := this.2; omega⟩

end Biogo.Proofs.PalsChain
