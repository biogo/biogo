/-
`ComplementOf` against reverse-complement of digit lists, by bit extensionality.  Bits are
addressed as `2 * d + r` (bit `r` of base-4 digit `d`): on both sides bit `2 * d + r` is the
complemented bit `r` of digit `k - 1 - d` of the word.
-/
import Biogo.Proofs.KmerWord

namespace Biogo.Proofs.KmerComplement
open Biogo.Kmer Biogo.Spec.Kmer Biogo.Proofs.Kmer Biogo.Proofs.KmerWord

/-- `c` is the reverse complement of the `k`-digit word `w` on the digits selected by `p` and
    zero on the others -/
def Filled (w k : Nat) (p : Nat → Bool) (c : Nat) : Prop :=
  ∀ d r, r < 2 → c.testBit (2 * d + r) = (p d && !w.testBit (2 * (k - 1 - d) + r))

theorem Filled.eq {w k c c' : Nat} {p : Nat → Bool} (h : Filled w k p c) (h' : Filled w k p c') :
    c = c' := by
  apply Nat.eq_of_testBit_eq
  intro b
  have hr : b % 2 < 2 := Nat.mod_lt _ (by decide)
  rw [← Nat.div_add_mod b 2, h _ _ hr, h' _ _ hr]

theorem testBit_three (x : Nat) : (3 : Nat).testBit x = decide (x < 2) :=
  Nat.testBit_two_pow_sub_one 2 x

theorem testBit_compl_digit (w i : Nat) : (3 - w % 4).testBit i = (decide (i < 2) && !w.testBit i) := by
  have h : w % 4 < 2 ^ 2 := Nat.mod_lt _ (by decide)
  rw [show 3 - w % 4 = 2 ^ 2 - (w % 4 + 1) from (Nat.add_sub_add_right 3 1 _).symm, Nat.testBit_two_pow_sub_succ h,
    show w % 4 = w % 2 ^ 2 from rfl, Nat.testBit_mod_two_pow]
  cases decide (i < 2) <;> rfl

theorem revComp_toDigits_succ (k w : Nat) :
    revComp (toDigits (k + 1) w) = revComp (toDigits k w) ++ [3 - w / 4 ^ k % 4] := by
  rw [toDigits_succ_head]; simp [revComp]

theorem filled_encode_revComp (k w : Nat) :
    Filled w k (fun d => decide (d < k)) (encode (revComp (toDigits k w))) := by
  induction k with
  | zero => intro d r _; simp [toDigits, revComp, encode]
  | succ k ih =>
    intro d r hr
    show _ = (decide (d < k + 1) && _)
    rw [revComp_toDigits_succ, encode_append_singleton, Nat.mul_comm,
      Nat.testBit_two_pow_mul_add (i := 2) _ (show 3 - w / 4 ^ k % 4 < 2 ^ 2 by omega)]
    cases d with
    | zero =>
      -- the lowest digit of the result is the complement of digit `k` of `w`
      rw [Nat.mul_zero, Nat.zero_add, if_pos hr, testBit_compl_digit, four_pow_eq, Nat.testBit_div_two_pow,
        decide_eq_true hr, decide_eq_true (Nat.succ_pos k), Nat.add_sub_cancel, Nat.sub_zero, Nat.add_comm]
    | succ d =>
      -- the digits above it are those of the reverse complement of the `k` lower digits of `w`
      rw [Nat.mul_succ, Nat.add_right_comm, if_neg (Nat.not_lt.mpr (Nat.le_add_left 2 _)), Nat.add_sub_cancel,
        ih d r hr, Nat.add_sub_cancel, Nat.sub_sub, Nat.add_comm 1 d]
      exact congrArg (· && _) (decide_eq_decide.mpr Nat.succ_lt_succ_iff.symm)

theorem testBit_not32 (x b : Nat) : (not32 x).testBit b = (x.testBit b ^^ decide (b < wordBits)) := by
  unfold not32
  rw [Nat.testBit_xor, Nat.testBit_two_pow_sub_one]

theorem testBit_trunc (x b : Nat) : (trunc x).testBit b = (decide (b < wordBits) && x.testBit b) := by
  unfold trunc; exact Nat.testBit_mod_two_pow x wordBits b

/-- bit `2 * d + r` lies in the two-bit field at `2 * m` exactly when `d = m` -/
theorem decide_field (m d r : Nat) (hr : r < 2) :
    (decide (2 * d + r ≥ 2 * m) && decide (2 * d + r - 2 * m < 2)) = decide (d = m) := by
  rw [← Bool.decide_and]
  exact decide_eq_decide.mpr (by omega)

/-- the mask of digit `m` -/
theorem testBit_mask (m d r : Nat) (hr : r < 2) : (3 <<< (2 * m)).testBit (2 * d + r) = decide (d = m) := by
  rw [Nat.testBit_shiftLeft, testBit_three, decide_field m d r hr]

/-- the two low bits of `x` moved to digit `j` -/
theorem testBit_field (x j d r : Nat) (hr : r < 2) :
    ((x &&& 3) <<< (2 * j)).testBit (2 * d + r) = (decide (d = j) && x.testBit r) := by
  rw [Nat.testBit_shiftLeft, Nat.testBit_and, testBit_three, Bool.and_comm (x.testBit _),
    ← Bool.and_assoc, decide_field j d r hr]
  by_cases h : d = j
  · rw [h, Nat.add_sub_cancel_left]
  · rw [decide_eq_false h, Bool.false_and, Bool.false_and]

/-- the digits written when the loop is about to run iteration `m`: the `m` lowest and the `m`
    highest -/
def done (m k d : Nat) : Bool := decide (d < m ∨ k ≤ d + m ∧ d < k)

theorem done_succ (m n k d : Nat) (hmn : m + n + 1 = k) :
    done (m + 1) k d = (done m k d || (decide (d = m) || decide (d = n))) := by
  unfold done
  rw [← Bool.decide_or, ← Bool.decide_or]
  exact decide_eq_decide.mpr (by omega)

/-- once the two ends have met (`n` the mirror image of `m`) every digit is written -/
theorem done_all (m n k : Nat) (hmn : m + n + 1 = k) (h1 : n < m) :
    done m k = fun d => decide (d < k) := by
  funext d
  exact decide_eq_decide.mpr (by omega)

/-- both digits an iteration touches lie inside the word -/
theorem bit_lt {m n k r : Nat} (hr : r < 2) (hmn : m + n + 1 = k) (hk : 2 * k ≤ wordBits) :
    2 * m + r < wordBits ∧ 2 * n + r < wordBits := by
  omega

/-- the low digit written by iteration `m`: `i = 2m`, `j = 2n` with `n` the mirror image of `m` -/
theorem testBit_low (w k m n d r : Nat) (hr : r < 2) (hmn : m + n + 1 = k) (hle : m ≤ n)
    (hk : 2 * k ≤ wordBits) :
    (not32 (w >>> (2 * n - 2 * m)) &&& trunc (3 <<< (2 * m))).testBit (2 * d + r)
      = (decide (d = m) && !w.testBit (2 * (k - 1 - d) + r)) := by
  rw [Nat.testBit_and, testBit_trunc, testBit_mask m d r hr, testBit_not32, Nat.testBit_shiftRight]
  by_cases h : d = m
  · subst h
    rw [decide_eq_true (bit_lt hr hmn hk).1, decide_eq_true rfl, Bool.xor_true,
      Bool.and_true, Bool.and_true, ← hmn, ← Nat.add_assoc, Nat.sub_add_cancel (Nat.mul_le_mul_left 2 hle),
      Nat.add_sub_cancel, Nat.add_sub_cancel_left, Bool.true_and]
  · rw [decide_eq_false h, Bool.and_false, Bool.and_false, Bool.false_and]

/-- the high digit written by iteration `m` -/
theorem testBit_high (w k m n d r : Nat) (hr : r < 2) (hmn : m + n + 1 = k) (hk : 2 * k ≤ wordBits) :
    (trunc ((not32 (w >>> (2 * m)) &&& 3) <<< (2 * n))).testBit (2 * d + r)
      = (decide (d = n) && !w.testBit (2 * (k - 1 - d) + r)) := by
  rw [testBit_trunc, testBit_field _ _ d r hr, testBit_not32, Nat.testBit_shiftRight]
  by_cases h : d = n
  · subst h
    rw [decide_eq_true (bit_lt hr hmn hk).2, decide_eq_true (Nat.lt_trans hr (by decide : 2 < wordBits)),
      decide_eq_true rfl, ← hmn, Bool.xor_true, Bool.true_and, Bool.true_and, Bool.true_and,
      Nat.add_sub_cancel, Nat.add_sub_cancel]
  · rw [decide_eq_false h, Bool.false_and, Bool.and_false, Bool.false_and]

theorem filled_compStep (w k m n c : Nat) (hmn : m + n + 1 = k) (hle : m ≤ n) (hk : 2 * k ≤ wordBits)
    (hc : Filled w k (done m k) c) : Filled w k (done (m + 1) k) (compStep w (2 * m) (2 * n) c) := by
  intro d r hr
  unfold compStep
  rw [Nat.testBit_or, Nat.testBit_or, hc d r hr, testBit_low w k m n d r hr hmn hle hk,
    testBit_high w k m n d r hr hmn hk, done_succ m n k d hmn, ← Bool.and_or_distrib_right,
    ← Bool.and_or_distrib_right]

/-- the loop from iteration `m` on (`n` the mirror image of `m`), with `fuel` iterations allowed -/
theorem filled_compLoop (w k : Nat) (hk2 : 2 ≤ k) (hk : 2 * k ≤ wordBits) (fuel m n c : Nat)
    (hmn : m + n + 1 = k) (hfuel : n + 1 ≤ m + 2 * fuel)
    (hc : Filled w k (done m k) c) :
    Filled w k (fun d => decide (d < k)) (compLoop w fuel (2 * m) (2 * n) c) := by
  induction fuel generalizing m n c with
  | zero => rw [compLoop]; exact done_all m n k hmn hfuel ▸ hc
  | succ fuel ih =>
    rw [compLoop]
    by_cases hle : m ≤ n
    · cases n with
      | zero => omega  -- `j < 2` with `i ≤ j` happens only for `k = 1`
      | succ n =>
        rw [if_pos (Nat.mul_le_mul_left 2 hle), if_neg (Nat.not_lt.mpr (Nat.le_mul_of_pos_right 2 (Nat.succ_pos n))),
          Nat.mul_succ 2 n, Nat.add_sub_cancel]
        exact ih (m + 1) n _ (by omega) (by omega) (filled_compStep w k m (n + 1) c hmn hle hk hc)
    · rw [if_neg (fun h => hle (Nat.le_of_mul_le_mul_left h (by decide)))]
      exact done_all m n k hmn (Nat.lt_of_not_le hle) ▸ hc

theorem complementOf_eq (k w : Nat) (hk2 : 2 ≤ k) (hk : 2 * k ≤ wordBits) :
    complementOf k w = encode (revComp (toDigits k w)) := by
  have h0 : Filled w k (done 0 k) 0 := by
    intro d r _
    rw [Nat.zero_testBit, done, decide_eq_false (by omega), Bool.false_and]
  have := filled_compLoop w k hk2 hk k 0 (k - 1) 0 (by omega) (by omega) h0
  rw [Nat.mul_zero, Nat.mul_comm] at this
  exact this.eq (filled_encode_revComp k w)

end Biogo.Proofs.KmerComplement
