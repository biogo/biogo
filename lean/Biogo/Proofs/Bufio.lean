/-
What the refinement of the byte-level `bufio.Reader` model (`Biogo.Go.Bufio`) to functions of the
undelivered byte stream starts from: `bytes.IndexByte` as the library's `List.findIdx?`, what one
`Read` of the underlying reader delivers, the invariants of a reader inside the `ReadSlice` loop
(`LInv`) and between calls (`Inv`), and `fill` as one such `Read`.
-/
import Biogo.Go.Bufio
import Biogo.Spec.Bufio

namespace Biogo.Go.Bufio

theorem indexByte_eq_findIdx? (l : Bytes) (c : UInt8) : indexByte l c = l.findIdx? (· == c) := by
  induction l with
  | nil => rfl
  | cons x xs ih => rw [indexByte, List.findIdx?_cons, ih]

theorem indexByte_append (l m : Bytes) (c : UInt8) :
    indexByte (l ++ m) c =
      match indexByte l c with
      | some i => some i
      | none => (indexByte m c).map (· + l.length) := by
  simp only [indexByte_eq_findIdx?, List.findIdx?_append]
  cases l.findIdx? (· == c) <;> rfl

theorem indexByte_lt {l : Bytes} {c : UInt8} {i : Nat} (h : indexByte l c = some i) : i < l.length := by
  rw [indexByte_eq_findIdx?, List.findIdx?_eq_some_iff_getElem] at h
  exact h.1

theorem indexByte_none_iff {l : Bytes} {c : UInt8} : indexByte l c = none ↔ c ∉ l := by
  rw [indexByte_eq_findIdx?, List.findIdx?_eq_none_iff]
  exact ⟨fun h hc => absurd (h c hc) (by simp), fun h x hx => beq_eq_false_iff_ne.mpr fun e => h (e ▸ hx)⟩

theorem indexByte_first {l : Bytes} {c : UInt8} (h : c ∉ l) (m : Bytes) : indexByte (l ++ c :: m) c = some l.length := by
  rw [indexByte_append, indexByte_none_iff.mpr h]
  simp [indexByte]

theorem indexByte_some_split {l : Bytes} {c : UInt8} {i : Nat} (h : indexByte l c = some i) :
    l = l.take i ++ c :: l.drop (i + 1) ∧ c ∉ l.take i := by
  rw [indexByte_eq_findIdx?, List.findIdx?_eq_some_iff_getElem] at h
  obtain ⟨hi, hc, hlt⟩ := h
  have hc' : l[i] = c := eq_of_beq hc
  refine ⟨by rw [← hc', List.getElem_cons_drop hi, List.take_append_drop], fun hm => ?_⟩
  obtain ⟨j, hj, hjc⟩ := List.mem_iff_getElem.mp hm
  have hji : j < i := by rw [List.length_take] at hj; omega
  rw [List.getElem_take] at hjc
  exact hlt j hji (by rw [hjc]; exact beq_self_eq_true c)

/-- the underlying reader makes progress: asked for at least one byte it delivers at least one
    (or its final error), as the `io.Reader` contract asks -/
def Progressing (pol : Nat → Nat → Nat) : Prop := ∀ k n, 1 ≤ n → 1 ≤ pol k n

/-- One `Read` into at least one byte of room takes a prefix `p` off what is left; it comes with no
    byte only to report the final error, and reports it only when nothing is left — together with
    the last bytes only if `withData`, and then always. -/
theorem Src.read_spec (s : Src) (hp : Progressing s.pol) {cap : Nat} (hcap : 1 ≤ cap) :
    ∃ p e rest', s.read cap = (p, e, { s with rest := rest', calls := s.calls + 1 }) ∧ s.rest = p ++ rest' ∧
      p.length ≤ cap ∧ (p = [] → e.isSome = true) ∧
      (∀ x, e = some x → x = s.fin ∧ rest' = [] ∧ (s.withData = true ∨ p = [])) ∧
      (s.withData = true → rest' = [] → e.isSome = true) := by
  obtain ⟨rest, pol, wd, fin, calls⟩ := s
  cases rest with
  | nil =>
    exact ⟨[], some fin, [], rfl, rfl, Nat.zero_le _, fun _ => rfl,
      fun x hx => ⟨(Option.some.inj hx).symm, rfl, Or.inr rfl⟩, fun _ _ => rfl⟩
  | cons x xs =>
    have hn : 1 ≤ min (pol calls cap) (min cap (xs.length + 1)) :=
      Nat.le_min.mpr ⟨hp calls cap hcap, Nat.le_min.mpr ⟨hcap, Nat.le_add_left 1 _⟩⟩
    generalize hN : min (pol calls cap) (min cap (xs.length + 1)) = n at hn
    have hle : n ≤ cap := hN ▸ Nat.le_trans (Nat.min_le_right _ _) (Nat.min_le_left _ _)
    refine ⟨(x :: xs).take n, if ((x :: xs).drop n).isEmpty && wd then some fin else none, (x :: xs).drop n,
      by rw [← hN]; rfl, (List.take_append_drop _ _).symm, Nat.le_trans (List.length_take_le _ _) hle, ?_, ?_, ?_⟩
    · intro h
      rcases List.take_eq_nil_iff.mp h with h | h
      · omega
      · exact absurd h (List.cons_ne_nil _ _)
    · intro y hy
      split at hy
      · rename_i hc
        rw [Bool.and_eq_true, List.isEmpty_iff] at hc
        exact ⟨(Option.some.inj hy).symm, hc.1, Or.inl hc.2⟩
      · exact absurd hy nofun
    · intro (hw : wd = true) hr
      show (if ((x :: xs).drop n).isEmpty && wd then some fin else none).isSome = true
      rw [hr, hw]; rfl

/-- what holds of a reader at the head of the `ReadSlice` loop -/
structure LInv (b : Reader) : Prop where
  size_ge : 2 ≤ b.size
  fits : b.r + b.data.length ≤ b.size
  prog : Progressing b.src.pol
  fin_ne : b.src.fin ≠ .bufferFull
  err_fin : ∀ e, b.err = some e → e = b.src.fin ∧ b.src.rest = []
  wd : b.src.withData = true → b.src.rest = [] → b.err.isSome = true ∨ b.data = []
  noPanic : b.panicked = false

/-- what holds of a reader between two calls of its methods -/
structure Inv (b : Reader) : Prop extends LInv b where
  err_wd : b.err.isSome = true → b.src.withData = true

/-- the parts of a reader that never change -/
def SameCfg (b b' : Reader) : Prop :=
  b'.size = b.size ∧ b'.src.pol = b.src.pol ∧ b'.src.withData = b.src.withData ∧ b'.src.fin = b.src.fin

theorem SameCfg.refl (b : Reader) : SameCfg b b := ⟨rfl, rfl, rfl, rfl⟩

theorem SameCfg.trans {a b c : Reader} (h₁ : SameCfg a b) (h₂ : SameCfg b c) : SameCfg a c :=
  ⟨h₂.1.trans h₁.1, h₂.2.1.trans h₁.2.1, h₂.2.2.1.trans h₁.2.2.1, h₂.2.2.2.trans h₁.2.2.2⟩

theorem inv_newReaderSize (src : Src) (size : Nat) (hp : Progressing src.pol) (hf : src.fin ≠ .bufferFull) :
    Inv (newReaderSize src size) :=
  ⟨⟨Nat.le_trans (by decide) (Nat.le_max_right size minReadBufferSize), Nat.zero_le _, hp, hf, nofun, fun _ _ => Or.inr rfl,
    rfl⟩, nofun⟩

theorem fillLoop_succ (i : Nat) (b : Reader) :
    fillLoop (i + 1) b =
      match b.src.read (b.size - b.w) with
      | (p, some e, src) => { b with data := b.data ++ p, src := src, err := some e }
      | (p, none, src) =>
        if p.length > 0 then { b with data := b.data ++ p, src := src }
        else fillLoop i { b with data := b.data ++ p, src := src } := by
  simp only [fillLoop]
  rcases b.src.read (b.size - b.w) with ⟨p, e, src⟩
  cases e <;> rfl

theorem fill_eq (b : Reader) (hl : b.data.length < b.size) :
    fill b = fillLoop (99 + 1) { b with r := 0 } := by
  obtain ⟨size, src, r, data, err, panicked⟩ := b
  simp only at hl
  have hw : ¬ (0 + data.length ≥ size) := by omega
  by_cases hr : r > 0
  · simp only [fill, hr, ↓reduceIte, Reader.w, hw, maxConsecutiveEmptyReads]
  · have : r = 0 := by omega
    subst this
    simp only [fill, Nat.lt_irrefl, ↓reduceIte, Reader.w, hw, maxConsecutiveEmptyReads]

/-- **One `fill` of a reader with room and no pending error is one `Read` of the source** into the
    room left after sliding: the read comes with a byte or with the final error, so the loop of
    `fill` does not go round again. -/
theorem fill_spec (b : Reader) (hp : Progressing b.src.pol) (he : b.err = none) (hl : b.data.length < b.size) :
    ∃ p e rest', fill b = { b with r := 0, data := b.data ++ p, err := e,
                                   src := { b.src with rest := rest', calls := b.src.calls + 1 } } ∧
      b.src.rest = p ++ rest' ∧ p.length ≤ b.size - b.data.length ∧ (p = [] → e.isSome = true) ∧
      (∀ x, e = some x → x = b.src.fin ∧ rest' = [] ∧ (b.src.withData = true ∨ p = [])) ∧
      (b.src.withData = true → rest' = [] → e.isSome = true) := by
  obtain ⟨p, e, rest', hread, hfacts⟩ := b.src.read_spec hp (cap := b.size - b.data.length) (by omega)
  refine ⟨p, e, rest', ?_, hfacts⟩
  rw [fill_eq b hl, fillLoop_succ]
  obtain ⟨size, src, r, data, err, panicked⟩ := b
  subst he
  simp only [Reader.w, Nat.zero_add, hread]
  cases e with
  | some x => rfl
  | none =>
    have hpos : p.length > 0 := List.length_pos_iff.mpr fun h0 => absurd (hfacts.2.2.1 h0) nofun
    simp only [if_pos hpos]

/-- `fill` keeps the loop invariant and the stream, and makes progress: it appends bytes `p` of
    the source to the buffer, or — when the source has none left — makes its final error pending. -/
theorem fill_linv (b : Reader) (h : LInv b) (he : b.err = none) (hl : b.data.length < b.size) :
    LInv (fill b) ∧ SameCfg b (fill b) ∧ (fill b).stream = b.stream ∧
    ∃ p, (fill b).data = b.data ++ p ∧ ((fill b).err.isSome = true → b.src.withData = true ∨ p = []) ∧
      (p = [] → (fill b).err.isSome = true ∧ b.src.rest = []) := by
  obtain ⟨p, e, rest', hfill, hrest, hlen, hp, herr, hwd⟩ := fill_spec b h.prog he hl
  rw [hfill]
  refine ⟨⟨h.size_ge, ?_, h.prog, h.fin_ne, fun x hx => ⟨(herr x hx).1, (herr x hx).2.1⟩, fun hw hr => Or.inl (hwd hw hr),
    h.noPanic⟩, ⟨rfl, rfl, rfl, rfl⟩, ?_, p, rfl, ?_, ?_⟩
  · show 0 + (b.data ++ p).length ≤ b.size
    rw [Nat.zero_add, List.length_append]; omega
  · show b.data ++ p ++ rest' = b.data ++ b.src.rest
    rw [hrest, List.append_assoc]
  · intro hs
    obtain ⟨x, hx⟩ := Option.isSome_iff_exists.mp hs
    exact (herr x hx).2.2
  · intro h0
    obtain ⟨x, hx⟩ := Option.isSome_iff_exists.mp (hp h0)
    exact ⟨hp h0, by rw [hrest, h0, (herr x hx).2.1]; rfl⟩

end Biogo.Go.Bufio
