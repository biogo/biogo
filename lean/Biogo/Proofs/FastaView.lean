/-
The FASTA reader sees its input only through `view`: the non-blank lines after
`bytes.TrimSpace`.  Hence CRLF, a final newline, trailing blanks and blank lines are invisible
in every input, and any layout of well-formed records reads back as these records
(`renders_read`: the layout is read on its own lines, which have the view of what `ReadLine`
delivers).
-/
import Biogo.Proofs.Fasta

namespace Biogo.Fasta
open Biogo.Go.Bytes Biogo.Spec.Seqio

inductive TrimEq : List Bytes → List Bytes → Prop
  | nil : TrimEq [] []
  | cons (l l' : Bytes) (ls ls' : List Bytes) :
      trimSpace l = trimSpace l' → TrimEq ls ls' → TrimEq (l :: ls) (l' :: ls')

theorem TrimEq.refl (ls : List Bytes) : TrimEq ls ls := by
  induction ls with
  | nil => exact .nil
  | cons l ls ih => exact .cons l l ls ls rfl ih

theorem TrimEq.symm {a b : List Bytes} (h : TrimEq a b) : TrimEq b a := by
  induction h with
  | nil => exact .nil
  | cons l l' ls ls' e _ ih => exact .cons l' l ls' ls e.symm ih

theorem TrimEq.trans {a b c : List Bytes} (h1 : TrimEq a b) (h2 : TrimEq b c) : TrimEq a c := by
  induction h1 generalizing c with
  | nil => cases h2; exact .nil
  | cons l l' ls ls' e _ ih =>
    cases h2 with
    | cons _ l'' _ ls'' e2 h2' => exact .cons l l'' ls ls'' (e.trans e2) (ih h2')

theorem TrimEq.append {a b c d : List Bytes} (h : TrimEq a b) (h' : TrimEq c d) : TrimEq (a ++ c) (b ++ d) := by
  induction h with
  | nil => exact h'
  | cons l l' ls ls' e _ ih => exact .cons l l' _ _ e ih

theorem TrimEq.map_eq {a b : List Bytes} (h : TrimEq a b) : a.map trimSpace = b.map trimSpace := by
  induction h with
  | nil => rfl
  | cons _ _ _ _ e _ ih => rw [List.map_cons, List.map_cons, e, ih]

theorem trimEq_of_map_eq : ∀ (a b : List Bytes), a.map trimSpace = b.map trimSpace → TrimEq a b
  | [], [], _ => .nil
  | [], _ :: _, h => by simp at h
  | _ :: _, [], h => by simp at h
  | x :: xs, y :: ys, h => by
    simp only [List.map_cons, List.cons.injEq] at h
    exact .cons x y xs ys h.1 (trimEq_of_map_eq xs ys h.2)

theorem read_congr (cfg : Cfg) {lines lines' : List Bytes} (h : TrimEq lines lines') :
    ∀ (st st' : St) (ret : Ret) (rest : List Bytes), read cfg st lines = .ok (ret, st', rest) →
      ∃ rest', read cfg st lines' = .ok (ret, st', rest') ∧ TrimEq rest rest' := by
  induction h with
  | nil => intro st st' ret rest hr; exact ⟨rest, hr, TrimEq.refl rest⟩
  | cons l l' ls ls' heq htail ih =>
    intro st st' ret rest hr
    rw [read_cons] at hr ⊢
    rw [← heq]
    rcases hs : step cfg st (trimSpace l) with p | s1 | ⟨r1, s1⟩ <;> rw [hs] at hr
    · cases hr
    · exact ih _ _ _ _ hr
    · cases hr; exact ⟨ls', rfl, htail⟩

def nonblank (lines : List Bytes) : List Bytes := lines.filter (fun l => !(trimSpace l).isEmpty)

def viewOf (lines : List Bytes) : List Bytes := (nonblank lines).map trimSpace

/-- what the FASTA reader can see of a byte string -/
def view (bs : Bytes) : List Bytes := (nonblank (splitLines bs)).map trimSpace

theorem view_eq_viewOf (bs : Bytes) : view bs = viewOf (splitLines bs) := rfl

theorem nonblank_cons_blank (l : Bytes) (ls : List Bytes) (h : trimSpace l = []) : nonblank (l :: ls) = nonblank ls := by
  simp [nonblank, h]

theorem nonblank_cons_nonblank (l : Bytes) (ls : List Bytes) (h : trimSpace l ≠ []) :
    nonblank (l :: ls) = l :: nonblank ls := by
  simp [nonblank, h]

theorem read_nonblank (cfg : Cfg) (lines : List Bytes) : ∀ (st st' : St) (ret : Ret) (rest : List Bytes),
    read cfg st lines = .ok (ret, st', rest) → read cfg st (nonblank lines) = .ok (ret, st', nonblank rest) := by
  induction lines with
  | nil =>
    intro st st' ret rest hr
    have : rest = [] := by
      rw [read_nil] at hr
      cases hw : st.working <;> simp only [hw] at hr <;> cases hr <;> rfl
    subst this; exact hr
  | cons l ls ih =>
    intro st st' ret rest hr
    by_cases hb : trimSpace l = []
    · rw [nonblank_cons_blank l ls hb]
      rw [read_blank _ st l ls hb] at hr
      exact ih _ _ _ _ hr
    · rw [nonblank_cons_nonblank l ls hb]
      rw [read_cons] at hr ⊢
      rcases hs : step cfg st (trimSpace l) with p | s1 | ⟨r1, s1⟩ <;> rw [hs] at hr
      · cases hr
      · exact ih _ _ _ _ hr
      · cases hr; rfl

/-- one call of `read` sees its lines only through `viewOf`, and so do the calls after it -/
theorem read_view (cfg : Cfg) {lines lines' : List Bytes} (h : viewOf lines = viewOf lines') {st st' : St} {ret : Ret}
    {rest : List Bytes} (hr : read cfg st lines = .ok (ret, st', rest)) :
    ∃ rest', read cfg st lines' = .ok (ret, st', rest') ∧ viewOf rest = viewOf rest' := by
  obtain ⟨⟨ret', st'', rest'⟩, hv⟩ := read_total_cfg cfg lines' st
  obtain ⟨r, hc, hte⟩ := read_congr cfg (trimEq_of_map_eq _ _ h) _ _ _ _ (read_nonblank cfg _ _ _ _ _ hr)
  rw [read_nonblank cfg _ _ _ _ _ hv] at hc
  cases hc
  exact ⟨rest', hv, hte.map_eq⟩

theorem calls_view (cfg : Cfg) {st : St} {lines lines' : List Bytes} {rs : List Ret} (h : viewOf lines = viewOf lines')
    (hc : Calls (call cfg) IsEOF (st, lines) rs) : Calls (call cfg) IsEOF (st, lines') rs :=
  hc.sim (fun a b => a.1 = b.1 ∧ viewOf a.2 = viewOf b.2)
    (fun ⟨_, _⟩ ⟨_, _⟩ _ ⟨st', _⟩ hab hr => by
      obtain ⟨rfl, hv⟩ := hab
      obtain ⟨rest', h1, h2⟩ := read_view cfg hv hr
      exact ⟨(st', rest'), h1, rfl, h2⟩) _ ⟨rfl, h⟩

/-- **The FASTA reader sees an input only through its non-blank lines, trimmed.**  Two byte
    strings — valid files or not — with the same `view` give the same call history, whatever
    the prefixes. -/
theorem readAll_view (cfg : Cfg) (bs bs' : Bytes) (h : view bs = view bs') : readAll cfg bs = readAll cfg bs' := by
  obtain ⟨rs, hc⟩ := Calls.exists_of_progress _ _ (call_progress cfg) ({}, splitLines bs)
  exact (readAll_calls cfg hc).trans (readAll_calls cfg (calls_view cfg h hc)).symm

theorem viewOf_cons (l : Bytes) (ls : List Bytes) :
    viewOf (l :: ls) = (if trimSpace l = [] then [] else [trimSpace l]) ++ viewOf ls := by
  by_cases hb : trimSpace l = []
  · simp [viewOf, nonblank_cons_blank l ls hb, hb]
  · simp [viewOf, nonblank_cons_nonblank l ls hb, hb]

theorem viewOf_append (a b : List Bytes) : viewOf (a ++ b) = viewOf a ++ viewOf b := by
  simp [viewOf, nonblank]

theorem viewOf_trimEq {a b : List Bytes} (h : TrimEq a b) : viewOf a = viewOf b := by
  induction h with
  | nil => rfl
  | cons l l' ls ls' e _ ih => rw [viewOf_cons, viewOf_cons, e, ih]

theorem viewOf_optLine (f : Bytes) : viewOf (optLine f) = if trimSpace f = [] then [] else [trimSpace f] := by
  cases f with
  | nil => simp [optLine, trimSpace_nil, viewOf, nonblank]
  | cons x xs =>
    rw [show optLine (x :: xs) = [x :: xs] from rfl, viewOf_cons]
    simp [viewOf, nonblank]

/-- The view of an input in two parts: the lines that end inside the first part, then the
    second part read with the unterminated rest of the first as its current line.  Changes to
    the second part are judged on `splitLinesAux` of that part alone. -/
theorem view_append (a x : Bytes) :
    view (a ++ x) = viewOf (splitParts a []).1 ++ viewOf (splitLinesAux x (splitParts a []).2.reverse) := by
  simp only [view_eq_viewOf, splitLines, splitLinesAux_parts, splitParts_append, viewOf_append, List.append_assoc]

theorem viewOf_line (l b cur : Bytes) (h : ∀ x ∈ l, x ≠ 10) :
    viewOf (splitLinesAux (l ++ 10 :: b) cur)
      = (if trimSpace (cur.reverse ++ l) = [] then [] else [trimSpace (cur.reverse ++ l)])
          ++ viewOf (splitLinesAux b []) := by
  rw [splitLinesAux_line l b cur h, viewOf_cons, trimSpace_dropCR_reverse, List.reverse_append, List.reverse_reverse]

theorem viewOf_lf (b cur : Bytes) :
    viewOf (splitLinesAux (10 :: b) cur)
      = (if trimSpace cur.reverse = [] then [] else [trimSpace cur.reverse]) ++ viewOf (splitLinesAux b []) := by
  simpa using viewOf_line [] b cur (by simp)

theorem viewOf_last (l cur : Bytes) (h : ∀ x ∈ l, x ≠ 10) :
    viewOf (splitLinesAux l cur)
      = if trimSpace (cur.reverse ++ l) = [] then [] else [trimSpace (cur.reverse ++ l)] := by
  rw [splitLinesAux_parts, splitParts_last l cur h]
  simp only [List.nil_append, viewOf_optLine, List.reverse_append, List.reverse_reverse]

def toCRLF (bs : Bytes) : Bytes := bs.flatMap (fun b => if b == 10 then [13, 10] else [b])

theorem toCRLF_cons (b : UInt8) (bs : Bytes) :
    toCRLF (b :: bs) = if b == 10 then 13 :: 10 :: toCRLF bs else b :: toCRLF bs := by
  by_cases h : b = 10 <;> simp [toCRLF, h]

/-- CRLF changes the terminated lines only by a CR that `ReadLine` drops or `TrimSpace` trims,
    and leaves what follows the last LF as it is -/
theorem splitParts_toCRLF (bs : Bytes) : ∀ cur : Bytes,
    TrimEq (splitParts (toCRLF bs) cur).1 (splitParts bs cur).1 ∧
    (splitParts (toCRLF bs) cur).2 = (splitParts bs cur).2 := by
  induction bs with
  | nil => intro cur; exact ⟨TrimEq.refl _, rfl⟩
  | cons b bs ih =>
    intro cur
    rw [toCRLF_cons]
    by_cases hb : (b == 10) = true
    · simp only [hb, if_true, splitParts, show ((13 : UInt8) == 10) = false from rfl, Bool.false_eq_true, if_false,
        show ((10 : UInt8) == 10) = true from rfl]
      refine ⟨.cons _ _ _ _ ?_ (ih []).1, (ih []).2⟩
      rw [show dropCR (13 :: cur) = cur from rfl, trimSpace_dropCR_reverse]
    · simp only [hb, Bool.false_eq_true, if_false, splitParts]
      exact ih (b :: cur)

theorem view_toCRLF (bs : Bytes) : view (toCRLF bs) = view bs := by
  obtain ⟨h1, h2⟩ := splitParts_toCRLF bs []
  simp only [view_eq_viewOf, splitLines, splitLinesAux_parts, viewOf_append, h2, viewOf_trimEq h1]

/-- **CRLF, every input** (FASTA): for every byte string — a valid file or not — replacing
    each LF by CR LF does not change the call history of the reader. -/
theorem readAll_toCRLF (bs : Bytes) : readAll {} (toCRLF bs) = readAll {} bs :=
  readAll_view {} _ _ (view_toCRLF bs)

/-- a final newline more or less is invisible -/
theorem view_snoc_lf (bs : Bytes) : view (bs ++ [10]) = view bs := by
  have h := view_append bs []
  rw [List.append_nil] at h
  rw [view_append, h, viewOf_lf, show viewOf (splitLinesAux [] []) = [] from rfl, List.append_nil,
    viewOf_last [] _ (by simp), List.append_nil]

/-- blanks in front of a line terminator are invisible -/
theorem view_trailing_blanks (a blanks b : Bytes) (hb : ∀ x ∈ blanks, isBlank x = true) :
    view (a ++ blanks ++ 10 :: b) = view (a ++ 10 :: b) := by
  rw [List.append_assoc, view_append a, view_append a,
    viewOf_line blanks b _ (fun x hx => isBlank_ne_lf (hb x hx)), viewOf_lf,
    trimSpace_append_blanks _ _ (fun x hx => isBlank_space (hb x hx))]

/-- … and so are blanks at the very end of the input -/
theorem view_trailing_blanks_end (a blanks : Bytes) (hb : ∀ x ∈ blanks, isBlank x = true) :
    view (a ++ blanks) = view a := by
  have h := view_append a []
  rw [List.append_nil] at h
  rw [view_append, h, viewOf_last blanks _ (fun x hx => isBlank_ne_lf (hb x hx)), viewOf_last [] _ (by simp),
    List.append_nil, trimSpace_append_blanks _ _ (fun x hx => isBlank_space (hb x hx))]

/-- a blank line more or less (between two lines, before the first, after the last) is invisible -/
theorem view_blank_line (a blanks b : Bytes) (hb : ∀ x ∈ blanks, isBlank x = true)
    (ha : a = [] ∨ a.getLast? = some 10) : view (a ++ (blanks ++ 10 :: b)) = view (a ++ b) := by
  have hf : (splitParts a []).2 = [] := (splitParts_final a []).mpr (ha.imp (⟨·, rfl⟩) id)
  rw [view_append a, view_append a, hf, viewOf_line blanks b _ (fun x hx => isBlank_ne_lf (hb x hx))]
  simp only [List.reverse_nil, List.nil_append, trimSpace_blanks blanks (fun x hx => isBlank_space (hb x hx)),
    if_true]

theorem terminated_parts {lines : List Bytes} {bs : Bytes} (h : Terminated lines bs) :
    ∃ init, lines = init ++ optLine (splitParts bs []).2 ∧ TrimEq init (splitParts bs []).1 := by
  induction h with
  | nil => exact ⟨[], rfl, .nil⟩
  | last l hne hl =>
    refine ⟨[], ?_, ?_⟩ <;> rw [splitParts_last l [] hl]
    · simp [optLine, hne]
    · exact .nil
  | lf l ls bs hl _ ih =>
    obtain ⟨init, rfl, hte⟩ := ih
    rw [splitParts_line l bs [] hl]
    exact ⟨l :: init, rfl, .cons _ _ _ _ (by rw [trimSpace_dropCR_reverse]; simp) hte⟩

theorem terminated_viewOf {lines : List Bytes} {bs : Bytes} (h : Terminated lines bs) :
    viewOf (splitLines bs) = viewOf lines := by
  obtain ⟨init, rfl, hte⟩ := terminated_parts h
  rw [splitLines, splitLinesAux_parts, viewOf_append, viewOf_append, viewOf_trimEq hte]

/-- Reading any layout of well-formed records returns exactly these records, then `io.EOF`. -/
theorem renders_read (recs : List Rec) (bs : Bytes) (hwf : ∀ r ∈ recs, wfFasta r = true)
    (h : FastaRenders recs bs) : readAll {} bs = recs.map retOK ++ [retEOF] := by
  obtain ⟨lines, hl, ht⟩ := h
  rw [readAll_calls {} (calls_view {} (terminated_viewOf ht).symm (fastaLines_calls hl hwf none))]
  simp only [Option.toList, List.map_nil, List.nil_append, List.map_append, List.map_map, List.map_cons]
  rfl

end Biogo.Fasta
