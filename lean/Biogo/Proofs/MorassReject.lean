/-
A rejected `Push` (a value of another type) is a no-op of the concurrent sorter model: erasing
the rejected calls from the caller's program and their outputs from what it has observed
commutes with every atomic block of every actor (`erase_step`), so every state reachable with
the rejected calls is, after erasure, reachable without them (`reach_erase`).
-/
import Biogo.Model.MorassConc
import Biogo.Spec.Morass
import Biogo.Proofs.MorassConc
import Biogo.Proofs.MorassCycle
import Biogo.Proofs.MorassStep
import Biogo.Proofs.MorassHistory

namespace Biogo.MorassConc
open Biogo.Morass Biogo.Interleave

def withWOP (s : CState) (A : List Writer) (B : List Out) (C : List Op) : CState :=
  { s with writers := A, outs := B, prog := C }

theorem clearF_with (s : CState) (A : List Writer) (B : List Out) (C : List Op) :
    clearF (withWOP s A B C) = (withWOP (clearF s).1 A B C, (clearF s).2) := by
  unfold clearF withWOP
  simp only
  cases clearLoop s.flt s.onDisk s.m.files with
  | mk flt rest =>
    obtain ⟨d, ok⟩ := rest
    cases ok <;> rfl

theorem atEof_with (s : CState) (A : List Writer) (B : List Out) (C : List Op) :
    atEof (withWOP s A B C) = withWOP (atEof s) A B C := by
  unfold atEof withWOP
  simp only
  split <;> rfl

/-- reporting io.EOF: clear under AutoClear (`b`), then remove the directory under AutoClean -/
theorem eof_with (b : Bool) (s : CState) (A : List Writer) (B : List Out) (C : List Op) :
    withWOP (atEof (if b = true then (clearF s).1 else s)) A B C
      = atEof (if b = true then (clearF (withWOP s A B C)).1 else withWOP s A B C) := by
  cases b
  · exact (atEof_with s A B C).symm
  · simp only [if_true, clearF_with, atEof_with]

theorem PullF.with {s t : CState} {r : Res × Option Elem} (h : PullF s (t, r)) (A : List Writer) (B : List Out)
    (C : List Op) : PullF (withWOP s A B C) (withWOP t A B C, r) := by
  cases h with
  | mem ch e hf hch hg => exact .mem ch e hf hch hg
  | hang ch hf hch hg h2 => exact .hang ch hf hch hg h2
  | memEof ch hf hch hg h2 => rw [eof_with]; exact .memEof ch hf hch hg h2
  | nilEof hf hch => rw [eof_with]; exact .nilEof hf hch
  | noFile hf hpm => rw [eof_with]; exact .noFile hf hpm
  | decodeErr low others flt hf hpm ht => exact .decodeErr low others flt hf hpm ht
  | next low others flt n r hf hpm ht hr => exact .next low others flt n r hf hpm ht hr
  | last low others flt hf hpm ht hr => exact .last low others flt hf hpm ht hr

theorem pullF_with (s : CState) (A : List Writer) (B : List Out) (C : List Op) :
    pullF (withWOP s A B C) = (withWOP (pullF s).1 A B C, (pullF s).2) :=
  (PullF.with (pullF_branch s) A B C).eq_pullF

theorem wstep_with {s s' : CState} {w w' : Writer} (h : wstep s w = some (w', s')) (A : List Writer) (B : List Out)
    (C : List Op) : wstep (withWOP s A B C) w = some (w', withWOP s' A B C) := by
  apply WStep.eq_wstep
  cases wstep_cases h with
  | recvBad r ch flt hpc hr ht => exact .recvBad r ch flt hpc hr ht
  | recvOk r ch flt hpc hr ht => exact .recvOk r ch flt hpc hr ht
  | register hpc => exact .register hpc
  | encodeNil hpc htodo => exact .encodeNil hpc htodo
  | encodeBad e t flt hpc htodo ht => exact .encodeBad e t flt hpc htodo ht
  | encodeOk e t flt hpc htodo ht => exact .encodeOk e t flt hpc htodo ht
  | syncBad flt hpc ht => exact .syncBad flt hpc ht
  | syncOk flt hpc ht => exact .syncOk flt hpc ht
  | ret hpc hpool => exact .ret hpc hpool

def erase (s : CState) : CState :=
  { s with prog := dropRejects s.prog, outs := dropRejOuts s.outs }

theorem erase_eq (s : CState) : erase s = withWOP s s.writers (dropRejOuts s.outs) (dropRejects s.prog) := rfl

theorem dropRejects_dropWhile (l : List Op) :
    dropRejects (l.dropWhile (· != Op.clear)) = (dropRejects l).dropWhile (· != Op.clear) := by
  induction l with
  | nil => rfl
  | cons x t ih =>
    by_cases hx : x = Op.reject
    · subst hx
      rw [dropRejects_cons_reject]
      simp only [List.dropWhile_cons]
      have : (Op.reject != Op.clear) = true := by decide
      simp only [this, if_true]
      exact ih
    · rw [dropRejects_cons_of_ne hx]
      simp only [List.dropWhile_cons]
      split
      · exact ih
      · exact dropRejects_cons_of_ne hx t

theorem erase_finishOp (s1 : CState) (r : Res) (x : Option Elem) (op : Op) (rest : List Op)
    (hr : r ≠ .rejected) (hprog : s1.prog = op :: rest) (hop : op ≠ Op.reject) :
    erase (finishOp s1 r x) = finishOp (erase s1) r x := by
  have houts : dropRejOuts (finishOp s1 r x).outs = (⟨r, x, s1.m.len, s1.m.pos⟩ : Out) :: dropRejOuts s1.outs :=
    dropRejOuts_cons_ne (o := ⟨r, x, s1.m.len, s1.m.pos⟩) hr s1.outs
  have hprog' : dropRejects (finishOp s1 r x).prog = (finishOp (erase s1) r x).prog := by
    have ht : dropRejects s1.prog.tail = (dropRejects s1.prog).tail := by
      rw [hprog, dropRejects_cons_of_ne hop]; rfl
    rw [finishOp_prog, finishOp_prog]
    exact progAfter_map dropRejects r _ rfl ht (by rw [dropRejects_dropWhile, ht])
  unfold erase
  rw [houts, hprog']
  rfl

theorem erase_prog_cons {s : CState} {op : Op} {rest : List Op} (h : s.prog = op :: rest) (hop : op ≠ Op.reject) :
    (erase s).prog = op :: dropRejects rest := by
  show dropRejects s.prog = _
  rw [h, dropRejects_cons_of_ne hop]

theorem clearF_res (s : CState) : (clearF s).2 ≠ .rejected := by
  rcases clearF_spec s with ⟨h, _⟩ | ⟨h, _⟩ <;> rw [h] <;> simp

theorem erase_pullF (s : CState) :
    erase (pullF s).1 = (pullF (erase s)).1 ∧ (pullF (erase s)).2 = (pullF s).2 := by
  have fr := pullF_frame s
  rw [erase_eq s, pullF_with, erase_eq, fr.writers, fr.outs, fr.prog]
  exact ⟨rfl, rfl⟩

theorem erase_clearF (s : CState) :
    erase (clearF s).1 = (clearF (erase s)).1 ∧ (clearF (erase s)).2 = (clearF s).2 := by
  have fr := clearF_frame s
  rw [erase_eq s, clearF_with, erase_eq, fr.writers, fr.outs, fr.prog]
  exact ⟨rfl, rfl⟩

theorem erase_wstep {s s' : CState} {w w' : Writer} (h : wstep s w = some (w', s')) :
    wstep (erase s) w = some (w', erase s') := by
  have fr := wstep_frame h
  rw [erase_eq, wstep_with h, erase_eq, fr.writers, fr.outs, fr.prog]

/-- the error slot never holds the type-mismatch error (it is returned, never stored) -/
def ErrOK (s : CState) : Prop := s.m.err ≠ some .rejected

theorem pullF_err (s : CState) : (pullF s).1.m.err = s.m.err ∨ (pullF s).1.m.err = none := by
  rcases pullF_cases s with ⟨s1, hs1, e⟩ | ⟨_, _, h, _⟩
  · have h1 : s1.m.err = s.m.err := by rcases hs1 with rfl | rfl <;> rfl
    rw [e, atEof_m]
    cases s.m.autoClear
    · exact Or.inl h1
    · rcases clearF_spec s1 with ⟨_, h⟩ | ⟨_, h⟩ <;> simp only [if_true] <;> rw [h]
      · exact Or.inl h1
      · exact Or.inr (clear_len_pos s1.m).2.2
  · exact Or.inl h

theorem ErrOK_wstep {s s' : CState} {w w' : Writer} (he : ErrOK s) (h : wstep s w = some (w', s')) :
    s'.m.err ≠ some .rejected := by
  rcases wstep_err h with h | h <;> rw [h]
  · exact he
  · nofun

theorem ErrOK_CStep {s t : CState} (he : ErrOK s) (h : CStep s t) : ErrOK t := by
  cases h with
  | pushFull | send | finDisk | fsend => exact he
  | fwrite w s' hpc hw => exact (ErrOK_wstep he hw : s'.m.err ≠ _)
  | pushRoom e rest ch hpc hprog herr hch hfull =>
    show (push s.m e).1.err ≠ _
    rw [push_room e herr hch hfull]; exact he
  | finFast rest ch hpc hprog herr hch hlt =>
    show (finalise s.m).1.err ≠ _
    simp [finalise, herr, hch, hlt]
  | pull =>
    show (pullF s).1.m.err ≠ _
    rcases pullF_err s with h | h <;> rw [h]
    · exact he
    · nofun
  | clear =>
    show (clearF s).1.m.err ≠ _
    rcases clearF_spec s with ⟨_, h⟩ | ⟨_, h⟩ <;> rw [h]
    · exact he
    · rw [(clear_len_pos s.m).2.2]; nofun
  -- every other block returns from the call with the error slot as it found it
  | _ => exact he

theorem reach_ErrOK {conc : Bool} {c : Nat} {ac acl : Bool} {ops : List Op} {flt : Fault} {reuse : Bool} {s : CState}
    (h : Reach (sys conc c ac acl ops flt reuse) s) : ErrOK s := by
  refine inv_of_reach _ ErrOK (by simp [ErrOK, sys, initState]) (fun a i b he hst => ?_) s h
  rcases step_blocks hst with ⟨_, hcs⟩ | ⟨k, w, w', s', _, _, hw, rfl⟩
  · exact ErrOK_CStep he hcs
  · exact (ErrOK_wstep he hw : s'.m.err ≠ _)

theorem erase_CStep {s t : CState} (he : ErrOK s) (hf : Ctl s) (h : CStep s t) :
    erase t = erase s ∨ CStep (erase s) (erase t) := by
  have ne : ∀ {r : Res}, s.m.err = some r → r ≠ .rejected := by
    intro r hr h0; subst h0; exact he hr
  have ret : ∀ {s1 : CState} {r : Res} {x : Option Elem} {op : Op} {rest : List Op}, r ≠ .rejected →
      s1.prog = op :: rest → op ≠ .reject → CStep (erase s) (finishOp (erase s1) r x) →
      erase (finishOp s1 r x) = erase s ∨ CStep (erase s) (erase (finishOp s1 r x)) := by
    intro s1 r x op rest h1 h2 h3 h
    rw [erase_finishOp s1 r x op rest h1 h2 h3]
    exact Or.inr h
  cases h with
  | reject rest hpc hprog =>
    left
    simp only [erase, finishOp, hprog, List.tail_cons, dropRejects_cons_reject]
    have e1 : dropRejOuts ((⟨.rejected, none, s.m.len, s.m.pos⟩ : Out) :: s.outs) = dropRejOuts s.outs := by
      simp [dropRejOuts]
    simp only [reduceCtorEq, or_self, if_false, e1]
    rw [← hpc]
  | pushErr e rest r hpc hprog herr =>
    exact ret (ne herr) hprog nofun (.pushErr e _ r hpc (erase_prog_cons hprog nofun) herr)
  | pushNil e rest hpc hprog herr hch => exact ret nofun hprog nofun (.pushNil e _ hpc (erase_prog_cons hprog nofun) herr hch)
  | pushFull e rest ch hpc hprog herr hch hfull =>
    exact Or.inr (.pushFull e _ ch hpc (erase_prog_cons hprog nofun) herr hch hfull)
  | pushRoom e rest ch hpc hprog herr hch hfull =>
    exact ret nofun hprog nofun (.pushRoom e _ ch hpc (erase_prog_cons hprog nofun) herr hch hfull)
  | finErr rest r hpc hprog herr => exact ret (ne herr) hprog nofun (.finErr _ r hpc (erase_prog_cons hprog nofun) herr)
  | finNil rest hpc hprog herr hch => exact ret nofun hprog nofun (.finNil _ hpc (erase_prog_cons hprog nofun) herr hch)
  | finFast rest ch hpc hprog herr hch hlt =>
    exact ret nofun hprog nofun (.finFast _ ch hpc (erase_prog_cons hprog nofun) herr hch hlt)
  | finDisk rest ch hpc hprog herr hch hlt hpos =>
    exact Or.inr (.finDisk _ ch hpc (erase_prog_cons hprog nofun) herr hch hlt hpos)
  | finEmpty rest ch flt fs ok hpc hprog herr hch hlt hpos hprime =>
    exact ret (by cases ok <;> nofun) hprog nofun
      (.finEmpty _ ch flt fs ok hpc (erase_prog_cons hprog nofun) herr hch hlt hpos hprime)
  | pull rest hpc hprog =>
    obtain ⟨e1, e2⟩ := erase_pullF s
    refine ret (pullF_res s) ((pullF_frame s).prog.trans hprog) nofun ?_
    rw [e1, ← e2]
    exact .pull _ hpc (erase_prog_cons hprog nofun)
  | clear rest hpc hprog =>
    obtain ⟨e1, e2⟩ := erase_clearF s
    refine ret (clearF_res s) ((clearF_frame s).prog.trans hprog) nofun ?_
    rw [e1, ← e2]
    exact .clear _ hpc (erase_prog_cons hprog nofun)
  | send ch wr hpc hch hsend => exact Or.inr (.send ch wr hpc hch hsend)
  | recvErr e rest r hpc hpool hprog herr =>
    exact ret (ne herr) hprog nofun (.recvErr e _ r hpc hpool (erase_prog_cons hprog nofun) herr)
  | recvOk e rest hpc hpool hprog herr => exact ret nofun hprog nofun (.recvOk e _ hpc hpool (erase_prog_cons hprog nofun) herr)
  | fsend ch wr hpc hch hsend => exact Or.inr (.fsend ch wr hpc hch hsend)
  | fwrite w s' hpc hw' => exact Or.inr (.fwrite w (erase s') hpc (erase_wstep hw'))
  | waitErr r hpc hwg herr =>
    obtain ⟨rest, hprog⟩ := hf.finProg (Or.inr (Or.inr hpc))
    exact ret (ne herr) hprog nofun (.waitErr r hpc hwg herr)
  | waitOk flt fs ok hpc hwg herr hprime =>
    obtain ⟨rest, hprog⟩ := hf.finProg (Or.inr (Or.inr hpc))
    exact ret (by cases ok <;> nofun) hprog nofun (.waitOk flt fs ok hpc hwg herr hprime)

/-- **erasing the rejected pushes commutes with every atomic block**: a block of the system with
    rejected pushes is invisible after erasure (the rejected call itself) or is the same block
    of the system without them -/
theorem erase_step {s t : CState} {i : Nat} (he : ErrOK s) (hf : Ctl s) (h : step s i = some t) :
    erase t = erase s ∨ step (erase s) i = some (erase t) := by
  rcases step_blocks h with ⟨rfl, hcs⟩ | ⟨k, w, w', s', rfl, hk, hw, rfl⟩
  · exact (erase_CStep he hf hcs).imp_right cstep_of_CStep
  · exact Or.inr (step_of_wstep (s := erase s) hk (erase_wstep hw))

/-- **every state reachable with rejected pushes in the program is, after erasure, reachable
    without them** — every program, schedule, fault, mode -/
theorem reach_erase {conc : Bool} {c : Nat} {ac acl : Bool} {ops : List Op} {flt : Fault} {reuse : Bool} {s : CState}
    (h : Reach (sys conc c ac acl ops flt reuse) s) :
    Reach (sys conc c ac acl (dropRejects ops) flt reuse) (erase s) := by
  induction h with
  | init => exact Reach.init
  | step hr hst ih =>
    rcases erase_step (reach_ErrOK hr) (reach_Ctl hr) hst with h1 | h1
    · rw [h1]; exact ih
    · exact Reach.step ih h1

theorem finished_erase {s : CState} (h : finished s = true) : finished (erase s) = true := by
  rw [finished_iff] at h ⊢
  exact ⟨by show dropRejects s.prog = []; rw [h.1]; rfl, h.2⟩

theorem erase_outs_reverse (s : CState) : (erase s).outs.reverse = dropRejOuts s.outs.reverse := by
  show (dropRejOuts s.outs).reverse = _
  simp [dropRejOuts, List.filter_reverse]

/-- **rejected pushes are no-ops of a history**: a program whose accepted calls are the well-formed
    history `h`, every fault list, every schedule — when the caller has returned from its last
    call, an I/O error was returned to it or the outputs of the accepted calls are those of `h` -/
theorem finished_history_erase {c : Nat} {ac : Bool} (hc : 1 ≤ c) {conc acl : Bool} {flt : Fault} {reuse : Bool}
    {h : List Cycle} (hwf : wellFormed ac h = true) {ops : List Op} (hops : dropRejects ops = histOps h) {s : CState}
    (hr : Reach (sys conc c ac acl ops flt reuse) s) (hfin : finished s = true) :
    Reported s ∨ HistorySpec ac h (dropRejOuts s.outs.reverse) := by
  rw [← erase_outs_reverse]
  refine (finished_history c ac hc hwf (hops ▸ reach_erase hr) (finished_erase hfin)).imp_left ?_
  exact fun ⟨o, ho, hio⟩ => ⟨o, (List.mem_filter.mp ho).1, hio⟩

end Biogo.MorassConc
