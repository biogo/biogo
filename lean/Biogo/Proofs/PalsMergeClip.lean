/-
Proofs about `FinaliseMerge` in the merger model (C15, part merge): the two clipping passes are
the identity when every letter is valid and `maxIGap ≥ 1`; for arbitrary sequences they never
move a trapezoid's left edge down nor its right edge up, nor (`maxIGap ≥ 1`) its rows outwards; the
final sort returns a permutation in ascending `Bottom`.
-/
import Biogo.Proofs.PalsMerge
import Biogo.Proofs.InsertSort

namespace Biogo.Proofs.PalsMerge
open Biogo.PalsMerge

def AllValid (v : Array Bool) : Prop := ∀ i : Nat, i < v.size → v.getD i false = true

theorem allValid_replicate (n : Nat) : AllValid (Array.replicate n true) := by
  intro i hi
  have : i < n := by simpa using hi
  simp [Array.getD, this]

theorem validAt_of_allValid {v : Array Bool} (h : AllValid v) (pos : Int) (h0 : 0 ≤ pos)
    (h1 : pos < v.size) : validAt v pos = true := by
  unfold validAt
  apply h
  omega

/-- both clipping scans run from `maxIGap - 1` positions before `X` to `maxIGap` positions after `Y`,
    cut to `[0, len]` -/
theorem scan_bounds (X Y g len : Int) :
    (0 ≤ (if X - g + 1 < 0 then 0 else X - g + 1) ∧ X - g + 1 ≤ (if X - g + 1 < 0 then 0 else X - g + 1)) ∧
    (if Y + g > len then len else Y + g) ≤ len ∧ (if Y + g > len then len else Y + g) ≤ Y + g := by
  refine ⟨⟨?_, ?_⟩, ?_, ?_⟩ <;> split <;> omega

theorem cvLoop_valid (c : Cfg) (hg : 1 ≤ c.maxIGap) (hv : AllValid c.qv) :
    ∀ (n : Nat) (pos : Int) (base : Trap) (out : List Trap), 0 ≤ pos → (n ≠ 0 → pos + n ≤ c.qlen) →
      cvLoop c n pos pos base out = (pos + n, pos + n, base, out) := by
  intro n
  induction n with
  | zero => intro pos base out _ _; simp [cvLoop]
  | succ n ih =>
    intro pos base out h0 h1
    have h1 := h1 (by omega)
    have hva : validAt c.qv pos = true := validAt_of_allValid hv pos h0 (by unfold Cfg.qlen at h1; omega)
    unfold cvLoop
    rw [if_pos hva, if_neg (by omega)]
    rw [ih (pos + 1) base out (by omega) (by omega)]
    have e : pos + 1 + (n : Int) = pos + ((n + 1 : Nat) : Int) := by omega
    rw [e]

theorem clipVertical1_valid (c : Cfg) (hg : 1 ≤ c.maxIGap) (hv : AllValid c.qv) (base : Trap) :
    clipVertical1 c base = [base] := by
  have hb := scan_bounds base.bottom base.top c.maxIGap c.qlen
  unfold clipVertical1
  simp only []
  rw [cvLoop_valid c hg hv _ _ base [] hb.1.1 (by omega)]
  simp only []
  rw [if_neg (by omega)]
  rfl

theorem flatMap_self {f : Trap → List Trap} (l : List Trap) (h : ∀ x ∈ l, f x = [x]) : l.flatMap f = l := by
  rw [List.flatMap_def, List.map_congr_left h, ← List.flatMap_def, List.flatMap_singleton']

theorem clipVertical_valid (c : Cfg) (hg : 1 ≤ c.maxIGap) (hv : AllValid c.qv) (l : List Trap) :
    clipVertical c l = l :=
  flatMap_self l fun x _ => clipVertical1_valid c hg hv x

theorem clip_id (tr : Trap) (h1 : tr.bottom ≤ tr.top) (h2 : tr.left ≤ tr.right) :
    clip tr (tr.top - tr.left) (tr.bottom - tr.right) = tr := by
  unfold clip
  have e1 : (if tr.bottom < tr.bottom - tr.right + tr.left then tr.bottom - tr.right + tr.left else tr.bottom) = tr.bottom := by
    rw [if_neg (by omega)]
  have e2 : (if tr.top > tr.top - tr.left + tr.right then tr.top - tr.left + tr.right else tr.top) = tr.top := by
    rw [if_neg (by omega)]
  simp only [e1, e2]
  have hm := tdiv_mid tr.bottom tr.top h1
  rw [if_neg (by omega), if_neg (by omega)]

theorem ctLoop_valid (c : Cfg) (hg : 1 ≤ c.maxIGap) (hv : AllValid c.tv) :
    ∀ (n : Nat) (pos lagClip : Int) (base : Trap) (out : List Trap), 0 ≤ pos → (n ≠ 0 → pos + n ≤ c.tlen) →
      ctLoop c n pos pos lagClip base out = (pos + n, pos + n, lagClip, out) := by
  intro n
  induction n with
  | zero => intro pos lagClip base out _ _; simp [ctLoop]
  | succ n ih =>
    intro pos lagClip base out h0 h1
    have h1 := h1 (by omega)
    have hva : validAt c.tv pos = true := validAt_of_allValid hv pos h0 (by unfold Cfg.tlen at h1; omega)
    unfold ctLoop
    rw [if_pos hva, if_neg (by omega)]
    rw [ih (pos + 1) lagClip base out (by omega) (by omega)]
    have e : pos + 1 + (n : Int) = pos + ((n + 1 : Nat) : Int) := by omega
    rw [e]

theorem clipTrap1_valid (c : Cfg) (hg : 1 ≤ c.maxIGap) (hv : AllValid c.tv) (base : Trap)
    (h1 : base.bottom ≤ base.top) (h2 : base.left ≤ base.right) : clipTrap1 c base = [base] := by
  have hb := scan_bounds (base.bottom - base.right) (base.top - base.left) c.maxIGap c.tlen
  unfold clipTrap1
  split
  · rfl
  · simp only []
    rw [ctLoop_valid c hg hv _ _ _ base [] hb.1.1 (by omega)]
    simp only []
    rw [if_pos (by omega), clip_id base h1 h2]
    rfl

theorem clipTrapezoids_valid (c : Cfg) (hg : 1 ≤ c.maxIGap) (hv : AllValid c.tv) (l : List Trap)
    (h : ∀ t ∈ l, t.bottom ≤ t.top ∧ t.left ≤ t.right) : clipTrapezoids c l = l :=
  flatMap_self l fun x hx => clipTrap1_valid c hg hv x (h x hx).1 (h x hx).2

/-- the state `(pos, lag, base, out)` of the scan of `clipVertical` over one trapezoid with diagonals `[l, r]` and rows
    `[B0, T0]`, begun at `lag0` -/
structure CvInv (l r B0 T0 lag0 : Int) (x : Int × Int × Trap × List Trap) : Prop where
  lag0_le : lag0 ≤ x.2.1
  lag_le : x.2.1 ≤ x.1
  left : x.2.2.1.left = l
  right : x.2.2.1.right = r
  top : x.2.2.1.top = T0
  bottom : B0 ≤ x.2.2.1.bottom
  out : ∀ p ∈ x.2.2.2, p.left = l ∧ p.right = r ∧ B0 ≤ p.bottom ∧ p.top ≤ T0

/-- `last` is the end of the scan, `lag0` its start -/
theorem cvLoop_rows (c : Cfg) (l r B0 T0 lag0 last : Int) (hlast : last ≤ T0 + c.maxIGap)
    (hlag0 : B0 - c.maxIGap + 1 ≤ lag0) :
    ∀ (n : Nat) (pos lag : Int) (base : Trap) (out : List Trap),
      ((n : Int) ≤ last - pos ∨ n = 0) → CvInv l r B0 T0 lag0 (pos, lag, base, out) →
      (cvLoop c n pos lag base out).1 = pos + n ∧ CvInv l r B0 T0 lag0 (cvLoop c n pos lag base out) := by
  intro n
  induction n with
  | zero =>
    intro pos lag base out _ h
    simp only [cvLoop]
    exact ⟨by omega, h⟩
  | succ n ih =>
    intro pos lag base out hn ⟨hl0, hlp, hl, hr, ht, hb, ho⟩
    dsimp only at hl0 hlp hl hr ht hb ho
    have hnext : ((n : Int) ≤ last - (pos + 1) ∨ n = 0) := Or.inl (by omega)
    have e : pos + ((n + 1 : Nat) : Int) = pos + 1 + (n : Int) := by omega
    unfold cvLoop
    rw [e]
    split
    · split
      · split
        · refine ih (pos + 1) (pos + 1) { base with bottom := pos } ({ base with top := lag } :: out) hnext
            ⟨by dsimp only; omega, Int.le_refl _, hl, hr, ht, by dsimp only; omega, fun p hp => ?_⟩
          rcases List.mem_cons.mp hp with rfl | hp
          · exact ⟨hl, hr, hb, by dsimp only; omega⟩
          · exact ho p hp
        · exact ih (pos + 1) (pos + 1) { base with bottom := pos } out hnext
            ⟨by dsimp only; omega, Int.le_refl _, hl, hr, ht, by dsimp only; omega, ho⟩
      · exact ih (pos + 1) (pos + 1) base out hnext ⟨by dsimp only; omega, Int.le_refl _, hl, hr, ht, hb, ho⟩
    · exact ih (pos + 1) lag base out hnext ⟨hl0, by dsimp only; omega, hl, hr, ht, hb, ho⟩

theorem clipVertical1_within (c : Cfg) (base : Trap) :
    ∀ p ∈ clipVertical1 c base, p.left = base.left ∧ p.right = base.right ∧
      (1 ≤ c.maxIGap → base.bottom ≤ p.bottom ∧ p.top ≤ base.top) := by
  intro p hp
  unfold clipVertical1 at hp
  simp only [] at hp
  have hb := scan_bounds base.bottom base.top c.maxIGap c.qlen
  generalize (if base.bottom - c.maxIGap + 1 < 0 then (0 : Int) else base.bottom - c.maxIGap + 1) = lag0 at hp hb
  generalize (if base.top + c.maxIGap > c.qlen then c.qlen else base.top + c.maxIGap) = last at hp hb
  obtain ⟨hpos, hl0', hlp, hl, hr, htop, hbot, hout⟩ :=
    cvLoop_rows c base.left base.right base.bottom base.top lag0 last hb.2.2 hb.1.2 (last - lag0).toNat lag0 lag0
      base [] (by omega) ⟨Int.le_refl _, Int.le_refl _, rfl, rfl, rfl, Int.le_refl _, by simp⟩
  generalize cvLoop c (last - lag0).toNat lag0 lag0 base [] = x at hp hpos hl0' hlp hl hr htop hbot hout
  obtain ⟨pos, lag, b, out⟩ := x
  simp only [] at hpos hl0' hlp hl hr htop hbot hout hp
  simp only [List.reverse_cons, List.mem_append, List.mem_reverse, List.mem_singleton] at hp
  rcases hp with e | rfl
  · have := hout p e
    exact ⟨this.1, this.2.1, fun _ => this.2.2⟩
  · -- at the final cut `pos = max lag0 last`, so `lag ≤ pos - maxIGap ≤ top`
    split
    · exact ⟨hl, hr, fun hg => ⟨hbot, by simp only []; omega⟩⟩
    · exact ⟨hl, hr, fun hg => ⟨hbot, by omega⟩⟩

theorem clip_within (tr : Trap) (a b : Int) :
    tr.left ≤ (clip tr a b).left ∧ (clip tr a b).right ≤ tr.right ∧
    tr.bottom ≤ (clip tr a b).bottom ∧ (clip tr a b).top ≤ tr.top := by
  unfold clip
  simp only []
  refine ⟨?_, ?_, ?_, ?_⟩ <;> split <;> omega

theorem ctLoop_out (c : Cfg) (base : Trap) :
    ∀ (n : Nat) (pos lag lagClip : Int) (out : List Trap),
      ∀ p ∈ (ctLoop c n pos lag lagClip base out).2.2.2, p ∈ out ∨ ∃ a b, p = clip base a b := by
  intro n
  induction n with
  | zero => intro pos lag lagClip out p hp; exact Or.inl hp
  | succ n ih =>
    intro pos lag lagClip out p hp
    unfold ctLoop at hp
    split at hp
    · split at hp
      · split at hp
        · rcases ih _ _ _ _ p hp with h | h
          · rcases List.mem_cons.mp h with rfl | h
            · exact Or.inr ⟨_, _, rfl⟩
            · exact Or.inl h
          · exact Or.inr h
        · exact ih _ _ _ _ p hp
      · exact ih _ _ _ _ p hp
    · exact ih _ _ _ _ p hp

theorem clipTrap1_within (c : Cfg) (base : Trap) :
    ∀ p ∈ clipTrap1 c base, base.left ≤ p.left ∧ p.right ≤ base.right ∧
      base.bottom ≤ p.bottom ∧ p.top ≤ base.top := by
  intro p hp
  unfold clipTrap1 at hp
  split at hp
  · rw [List.mem_singleton.mp hp]
    omega
  · simp only [List.reverse_cons, List.mem_append, List.mem_reverse, List.mem_singleton] at hp
    rcases hp with e | rfl
    · rcases ctLoop_out c base _ _ _ _ [] p e with h | ⟨a, b, rfl⟩
      · cases h
      · exact clip_within base a b
    · exact clip_within base _ _

/-- **neither clipping pass ever grows a trapezoid**: every trapezoid of the clipped list comes from
    a trapezoid of the merged list whose diagonal range contains its own — for arbitrary letters
    (runs of `N` anywhere) — and, for `maxIGap ≥ 1`, whose query rows contain its own -/
theorem finalList_within (c : Cfg) (s : St) :
    ∀ p ∈ finalList c s, ∃ t, (t ∈ s.active ∨ t ∈ s.done) ∧ t.left ≤ p.left ∧ p.right ≤ t.right ∧
      (1 ≤ c.maxIGap → t.bottom ≤ p.bottom ∧ p.top ≤ t.top) := by
  intro p hp
  unfold finalList clipTrapezoids clipVertical at hp
  obtain ⟨m, hm, hpm⟩ := List.mem_flatMap.mp hp
  obtain ⟨t, ht, hmt⟩ := List.mem_flatMap.mp hm
  have d1 := clipVertical1_within c t m hmt
  have d2 := clipTrap1_within c m p hpm
  exact ⟨t, by simpa using ht, by omega, by omega, fun hg => by have := d1.2.2 hg; omega⟩

theorem inserts_byBottom : Inserts (fun x y : Trap => ¬ y.bottom ≤ x.bottom) insertByBottom :=
  ⟨fun _ => rfl, fun _ _ _ => (ite_not ..).symm⟩

theorem sortByBottom_perm (l : List Trap) : (sortByBottom l).Perm l :=
  inserts_byBottom.sort_perm rfl (fun _ _ => rfl) l

theorem mem_sortByBottom (l : List Trap) (y : Trap) : y ∈ sortByBottom l ↔ y ∈ l :=
  (sortByBottom_perm l).mem_iff

theorem sortByBottom_sorted (l : List Trap) : (sortByBottom l).Pairwise (fun a b => a.bottom ≤ b.bottom) :=
  inserts_byBottom.sort_pairwise (r := fun a b => a.bottom ≤ b.bottom) rfl (fun _ _ => rfl) Int.le_trans
    (fun h => Int.le_of_lt (Int.not_le.mp h)) Decidable.of_not_not l

theorem sortByBottom_length : ∀ l : List Trap, (sortByBottom l).length = l.length :=
  fun l => (sortByBottom_perm l).length_eq

end Biogo.Proofs.PalsMerge
