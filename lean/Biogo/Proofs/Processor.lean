/-
Invariants of the repaired Processor protocol (`Biogo.Processor.sys c` with `c.fixed = true`),
for any number of workers, producers and collectors, any buffer sizes, any lists of operations
and every schedule.

Three layers: `InvA`, the workers' bookkeeping (tokens, exit counter, wait group, close of `out`,
no crash); `InvC`, coherence of `out` with several receivers (queue of waiting collectors,
hand-overs); `InvB`, the data (nothing lost or invented, FIFO queue, per-producer order).  What an
enabled step does is read off the model once, as a `Shape` (`shape_of_step`, which needs `InvA`);
`InvC`'s step uses `InvA` and `InvB`'s uses both, so it is their conjunction that is inductive.
-/
import Biogo.Model.Processor
import Biogo.Proofs.ActorTables

namespace Biogo.Processor
open Biogo.LTS

/-- number of workers that have left their loop (kept opaque for `simp`) -/
def nEx (ws : List WPc) : Nat := ws.countP WPc.exiting

def WPc.isSendErr : WPc → Bool
  | .sendErr _ => true
  | _ => false

def nErr (ws : List WPc) : Nat := ws.countP WPc.isSendErr

structure InvA (c : Cfg) (s : St) : Prop where
  len : s.ws.length = c.threads
  nocrash : s.crashed = none
  exited_eq : s.exited = s.ws.countP WPc.isDone
  wg_eq : s.wgDone = s.exited
  closes_eq : s.closes = if s.exited = c.threads then 1 else 0
  tokens : s.work + s.ws.countP WPc.holds = c.threads
  /-- the three exits of `for input := range p.in`; C19's final statement excludes two and reads "drained" off the third -/
  exit_why : 0 < nEx s.ws →
    s.stop = true ∨ (s.inClosed = true ∧ s.inq = []) ∨ s.taken.any Op.isPan = true
  /-- only a panic leads into the deferred `recover`; gives `exit_why` its third case at the step `sendErr → tokret` -/
  err_why : 0 < nErr s.ws → s.taken.any Op.isPan = true

theorem invA_init (c : Cfg) (ht : 0 < c.threads) : InvA c (init c) := by
  have hne : ¬ (0 = c.threads) := by omega
  constructor <;>
    simp [init, List.countP_replicate, hne, nEx, nErr, WPc.isDone, WPc.holds, WPc.exiting, WPc.isSendErr]

theorem closes_zero_of_active {c : Cfg} {s : St} (hI : InvA c s) {i : Nat} {pc : WPc}
    (hget : s.ws[i]? = some pc) (hpc : pc.isDone = false) : s.closes = 0 ∧ s.exited < c.threads := by
  have h1 := countP_lt_length_of WPc.isDone s.ws i pc hget hpc
  have h2 := hI.len
  have h3 := hI.exited_eq
  have h4 := hI.closes_eq
  have : s.exited ≠ c.threads := by omega
  simp [this] at h4
  exact ⟨h4, by omega⟩

theorem closes_le_one {c : Cfg} {s : St} (hA : InvA c s) (h : s.closes > 0) : s.closes = 1 := by
  have := hA.closes_eq
  split at this <;> omega

/-- What a worker at `pc`, holding `r`, does once its send on `out` has gone through: it goes on
    to the next operation, unless `Stop` was called or the operation had panicked; then it
    returns its token (`w'` is the new number of tokens). -/
inductive AfterSend (s : St) (r : Res) : WPc → WPc → Nat → Prop
  | next (hst : s.stop = false) : AfterSend s r (.send r) .recv s.work
  | stopped (hst : s.stop = true) : AfterSend s r (.send r) .tokret (s.work + 1)
  | recovered : AfterSend s r (.sendErr r) .tokret (s.work + 1)

inductive Shape (c : Cfg) (s : St) : Actor → St → Prop
  | w_idle (i : Nat) (hget : s.ws[i]? = some .idle) (hw : 0 < s.work) :
      Shape c s (.worker i) { s with work := s.work - 1, ws := s.ws.set i .recv }
  | w_take (i : Nat) (op : Op) (rest : List Op) (hget : s.ws[i]? = some .recv) (hq : s.inq = op :: rest) :
      Shape c s (.worker i)
        { s with inq := rest, taken := s.taken ++ [op],
                 ws := s.ws.set i (if op.isPan then .sendErr (eval op) else .send (eval op)) }
  | w_closed (i : Nat) (hget : s.ws[i]? = some .recv) (hq : s.inq = []) (hcl : s.inClosed = true) :
      Shape c s (.worker i) { s with work := s.work + 1, ws := s.ws.set i .tokret }
  /-- a send (of a result or of a recovered panic's error) handed to the oldest waiting collector -/
  | w_hand (i : Nat) (pc pc' : WPc) (r : Res) (w' k : Nat) (rest : List Nat)
      (hget : s.ws[i]? = some pc) (hnext : AfterSend s r pc pc' w')
      (hc0 : s.closes = 0) (hq : s.recvq = k :: rest) :
      Shape c s (.worker i)
        { s with handoff := s.handoff.set k (some r), recvq := rest, work := w', ws := s.ws.set i pc' }
  | w_buf (i : Nat) (pc pc' : WPc) (r : Res) (w' : Nat)
      (hget : s.ws[i]? = some pc) (hnext : AfterSend s r pc pc' w')
      (hc0 : s.closes = 0) (hq : s.recvq = []) (hroom : s.outq.length < c.outCap) :
      Shape c s (.worker i) { s with outq := s.outq ++ [r], work := w', ws := s.ws.set i pc' }
  | w_exit (i : Nat) (cl : Nat) (hget : s.ws[i]? = some .tokret)
      (hcl : cl = if s.exited + 1 = c.threads then 1 else s.closes) :
      Shape c s (.worker i)
        { s with exited := s.exited + 1, closes := cl, wgDone := s.wgDone + 1, ws := s.ws.set i .done }
  | p_submit (p : Nat) (op : Op) (rest : List Op) (hget : s.todo[p]? = some (op :: rest))
      (hncl : s.inClosed = false) (hroom : s.inq.length < c.inCap) :
      Shape c s (.producer p)
        { s with todo := s.todo.set p rest, inq := s.inq ++ [op], subm := s.subm ++ [(p, op)] }
  | p_close (p : Nat) (hall : allSubmitted s = true) (hncl : s.inClosed = false) (hwc : c.wantClose = true) :
      Shape c s (.producer p) { s with inClosed := true }
  | c_take (k : Nat) (r : Res) (rest : List Res) (hget : s.cpcs[k]? = some .ready) (hq : s.outq = r :: rest) :
      Shape c s (.collector k)
        { s with outq := rest, delivered := s.delivered.set k (s.delivered.getD k [] ++ [r]) }
  | c_seen_ready (k : Nat) (hget : s.cpcs[k]? = some .ready) (hq : s.outq = []) (hcl : s.closes > 0) :
      Shape c s (.collector k) { s with cpcs := s.cpcs.set k .closedSeen }
  | c_wait (k : Nat) (hget : s.cpcs[k]? = some .ready) (hq : s.outq = []) (hcl : s.closes = 0) :
      Shape c s (.collector k) { s with recvq := s.recvq ++ [k], cpcs := s.cpcs.set k .receiving }
  | c_hand (k : Nat) (r : Res) (hget : s.cpcs[k]? = some .receiving) (hh : s.handoff.getD k none = some r) :
      Shape c s (.collector k)
        { s with handoff := s.handoff.set k none,
                 delivered := s.delivered.set k (s.delivered.getD k [] ++ [r]),
                 cpcs := s.cpcs.set k .ready }
  | c_seen_recv (k : Nat) (hget : s.cpcs[k]? = some .receiving) (hh : s.handoff.getD k none = none)
      (hcl : s.closes > 0) :
      Shape c s (.collector k) { s with recvq := s.recvq.erase k, cpcs := s.cpcs.set k .closedSeen }
  | stop (hst : s.stop = false) : Shape c s .stopper { s with stop := true }
  | wait (hwr : s.waitReturned = false) (hwg : s.wgDone = c.threads) :
      Shape c s .waiter { s with waitReturned := true }

theorem sendOut_cases {c : Cfg} {s s1 : St} {r : Res} (h : sendOut c s r = some s1) (hc0 : s.closes = 0) :
    (∃ k rest, s.recvq = k :: rest ∧ s1 = { s with handoff := s.handoff.set k (some r), recvq := rest }) ∨
    (s.recvq = [] ∧ s.outq.length < c.outCap ∧ s1 = { s with outq := s.outq ++ [r] }) := by
  have hgt : ¬ (s.closes > 0) := by omega
  simp only [sendOut, hgt, if_false] at h
  split at h
  · rename_i k rest hq
    cases h; exact Or.inl ⟨k, rest, hq, rfl⟩
  · rename_i hq
    split at h
    · rename_i hroom; cases h; exact Or.inr ⟨hq, hroom, rfl⟩
    · cases h

variable {c : Cfg} {s s' : St} {i : Nat}

theorem shape_of_step (hfix : c.fixed = true) {a : Actor} (hA : InvA c s)
    (h : step c s a = some s') : Shape c s a s' := by
  have hnc := hA.nocrash
  simp only [step, hnc, Option.isSome_none, Bool.false_eq_true, if_false] at h
  cases a with
  | worker i =>
    simp only at h
    cases hget : s.ws[i]? with
    | none => simp [workerStep, hget] at h
    | some pc =>
      simp only [workerStep, hget] at h
      cases pc with
      | idle =>
        simp only at h
        split at h
        · rename_i hw; cases h; exact .w_idle i hget hw
        · cases h
      | recv =>
        simp only at h
        split at h
        · rename_i op rest hq; cases h; exact .w_take i op rest hget hq
        · rename_i hq
          split at h
          · rename_i hcl; cases h; exact .w_closed i hget hq hcl
          · cases h
      | send r =>
        simp only at h
        have ⟨hc0, _⟩ := closes_zero_of_active hA hget (pc := .send r) rfl
        cases hso : sendOut c s r with
        | none => simp [hso] at h
        | some s1 =>
          simp only [hso] at h
          rcases sendOut_cases hso hc0 with ⟨k, rest, hq, rfl⟩ | ⟨hq, hroom, rfl⟩ <;> split at h
          · rename_i hcr; simp [hnc] at hcr
          · split at h <;> cases h <;> rename_i hst
            · exact .w_hand i _ _ r _ k rest hget (.stopped hst) hc0 hq
            · exact .w_hand i _ _ r _ k rest hget (.next (by simpa using hst)) hc0 hq
          · rename_i hcr; simp [hnc] at hcr
          · split at h <;> cases h <;> rename_i hst
            · exact .w_buf i _ _ r _ hget (.stopped hst) hc0 hq hroom
            · exact .w_buf i _ _ r _ hget (.next (by simpa using hst)) hc0 hq hroom
      | sendErr r =>
        simp only at h
        have ⟨hc0, _⟩ := closes_zero_of_active hA hget (pc := .sendErr r) rfl
        cases hso : sendOut c s r with
        | none => simp [hso] at h
        | some s1 =>
          simp only [hso] at h
          rcases sendOut_cases hso hc0 with ⟨k, rest, hq, rfl⟩ | ⟨hq, hroom, rfl⟩ <;> split at h
          · rename_i hcr; simp [hnc] at hcr
          · cases h; exact .w_hand i _ _ r _ k rest hget .recovered hc0 hq
          · rename_i hcr; simp [hnc] at hcr
          · cases h; exact .w_buf i _ _ r _ hget .recovered hc0 hq hroom
      | tokret =>
        simp only at h
        have ⟨hc0, _⟩ := closes_zero_of_active hA hget (pc := .tokret) rfl
        cases h
        by_cases hlast : s.exited + 1 = c.threads
        · have : (s.exited + 1 == c.threads) = true := by simpa using hlast
          simp only [exitBlock, hfix, this, hc0, if_true, Nat.lt_irrefl, gt_iff_lt, if_false]
          exact .w_exit i 1 hget (by rw [if_pos hlast])
        · have : (s.exited + 1 == c.threads) = false := by simpa using hlast
          simp only [exitBlock, hfix, this, if_true, Bool.false_eq_true, if_false]
          exact .w_exit i s.closes hget (by rw [if_neg hlast])
      | done => simp at h
  | producer p =>
    simp only [producerStep] at h
    split at h
    · cases h
    · rename_i op rest hget
      split at h
      · cases h
      · rename_i hncl
        split at h
        · rename_i hroom; cases h
          exact .p_submit p op rest hget (by simpa using hncl) hroom
        · cases h
    · split at h
      · rename_i hcond
        cases h
        simp at hcond
        exact .p_close p hcond.2 hcond.1.2 hcond.1.1.2
      · cases h
  | collector k =>
    simp only [collectorStep] at h
    split at h
    · cases h
    · rename_i hget
      split at h
      · rename_i r rest hq; cases h; exact .c_take k r rest hget hq
      · rename_i hq
        split at h
        · rename_i hcl; cases h; exact .c_seen_ready k hget hq hcl
        · rename_i hcl; cases h; exact .c_wait k hget hq (by omega)
    · rename_i hget
      split at h
      · rename_i r hh; cases h; exact .c_hand k r hget hh
      · rename_i hh
        split at h
        · rename_i hcl; cases h; exact .c_seen_recv k hget hh hcl
        · cases h
    · cases h
  | stopper =>
    simp only at h
    split at h
    · cases h
    · rename_i hst; cases h
      have hw := Shape.stop (c := c) (s := s) (by simpa using hst)
      simp only [hnc] at hw; exact hw
  | waiter =>
    simp only at h
    split at h
    · rename_i hw; cases h
      simp at hw
      have hw' := Shape.wait (c := c) (s := s) hw.1 hw.2
      simp only [hnc] at hw'; exact hw'
    · cases h

/-- Worker `i` moves from pc `a` to `b`, neither of them `done`: the token it takes or returns is
    accounted for in `w'`, and if `b` is outside the loop, or holds an error result, and `a` was
    not, then the new queue `q` and the new list `tk` of operations taken say why. -/
theorem invA_move (hI : InvA c s) {a : WPc} (hget : s.ws[i]? = some a) (b : WPc) (w' : Nat)
    (ha : a.isDone = false) (hb : b.isDone = false)
    (htok : w' + (if b.holds then 1 else 0) = s.work + (if a.holds then 1 else 0))
    {q tk : List Op} (hq : s.inq = [] → q = [])
    (htk : s.taken.any Op.isPan = true → tk.any Op.isPan = true)
    (hexit : b.exiting = true → a.exiting = true ∨
      s.stop = true ∨ (s.inClosed = true ∧ q = []) ∨ tk.any Op.isPan = true)
    (herr : b.isSendErr = true → a.isSendErr = true ∨ tk.any Op.isPan = true)
    (o : List Res) (ho : List (Option Res)) (rq : List Nat) :
    InvA c { s with work := w', ws := s.ws.set i b, inq := q, taken := tk,
                    outq := o, handoff := ho, recvq := rq } := by
  have hD := countP_set WPc.isDone s.ws i a b hget
  have hH := countP_set WPc.holds s.ws i a b hget
  have hE : nEx (s.ws.set i b) + _ = nEx s.ws + _ := countP_set WPc.exiting s.ws i a b hget
  have hR : nErr (s.ws.set i b) + _ = nErr s.ws + _ := countP_set WPc.isSendErr s.ws i a b hget
  refine ⟨by simp [hI.len], hI.nocrash, ?_, hI.wg_eq, hI.closes_eq, ?_, ?_, ?_⟩
  · show s.exited = (s.ws.set i b).countP WPc.isDone
    rw [ha, hb] at hD; rw [hI.exited_eq]; omega
  · show w' + (s.ws.set i b).countP WPc.holds = c.threads
    have := hI.tokens; omega
  · intro (hpos : 0 < nEx (s.ws.set i b))
    have old := fun h => (hI.exit_why h).imp_right (Or.imp (And.imp_right hq) htk)
    cases hbe : b.exiting with
    | true => exact (hexit hbe).elim (fun h => old (List.countP_pos_iff.2 ⟨a, List.mem_of_getElem? hget, h⟩)) id
    | false => rw [hbe] at hE; exact old (by simp at hE; omega)
  · intro (hpos : 0 < nErr (s.ws.set i b))
    cases hbe : b.isSendErr with
    | true => exact (herr hbe).elim (fun h => htk (hI.err_why (List.countP_pos_iff.2 ⟨a, List.mem_of_getElem? hget, h⟩))) id
    | false => rw [hbe] at hR; exact htk (hI.err_why (by simp at hR; omega))

/-- the worker's move after its send on `out`, whatever the send did to `out` -/
theorem invA_afterSend (hI : InvA c s) {pc pc' : WPc} {r : Res} {w' : Nat} (hget : s.ws[i]? = some pc)
    (hnext : AfterSend s r pc pc' w') (o : List Res) (ho : List (Option Res)) (rq : List Nat) :
    InvA c { s with outq := o, handoff := ho, recvq := rq, work := w', ws := s.ws.set i pc' } := by
  cases hnext with
  | next hst => exact invA_move hI hget .recv s.work rfl rfl rfl id id nofun nofun o ho rq
  | stopped hst =>
    exact invA_move hI hget .tokret (s.work + 1) rfl rfl rfl id id (fun _ => .inr (.inl hst)) nofun o ho rq
  | recovered =>
    have hpan := hI.err_why (List.countP_pos_iff.2 ⟨_, List.mem_of_getElem? hget, rfl⟩)
    exact invA_move hI hget .tokret (s.work + 1) rfl rfl rfl id id (fun _ => .inr (.inr (.inr hpan))) nofun
      o ho rq

theorem invA_exit (hI : InvA c s) (hget : s.ws[i]? = some .tokret) {cl : Nat}
    (hcl : cl = if s.exited + 1 = c.threads then 1 else s.closes) :
    InvA c { s with exited := s.exited + 1, closes := cl, wgDone := s.wgDone + 1,
                    ws := s.ws.set i .done } := by
  have hD := countP_set WPc.isDone s.ws i _ .done hget
  have hH := countP_set WPc.holds s.ws i _ .done hget
  have hE : nEx (s.ws.set i .done) + _ = nEx s.ws + _ := countP_set WPc.exiting s.ws i _ .done hget
  have hR : nErr (s.ws.set i .done) + _ = nErr s.ws + _ := countP_set WPc.isSendErr s.ws i _ .done hget
  simp only [WPc.isDone, WPc.holds, WPc.exiting, WPc.isSendErr, if_true, Bool.false_eq_true, if_false,
    Nat.add_zero, Nat.add_right_cancel_iff] at hD hH hE hR
  refine ⟨by simp [hI.len], hI.nocrash, ?_, ?_, ?_, ?_, ?_, ?_⟩
  · show s.exited + 1 = (s.ws.set i .done).countP WPc.isDone
    rw [hD, hI.exited_eq]
  · show s.wgDone + 1 = s.exited + 1
    rw [hI.wg_eq]
  · show cl = if s.exited + 1 = c.threads then 1 else 0
    rw [hcl, (closes_zero_of_active hI hget rfl).1]
  · show s.work + (s.ws.set i .done).countP WPc.holds = c.threads
    rw [hH]; exact hI.tokens
  · show 0 < nEx (s.ws.set i .done) → _
    rw [hE]; exact hI.exit_why
  · show 0 < nErr (s.ws.set i .done) → _
    rw [hR]; exact hI.err_why

theorem invA_step (hfix : c.fixed = true) {a : Actor}
    (hI : InvA c s) (h : step c s a = some s') : InvA c s' := by
  cases shape_of_step hfix hI h with
  | w_idle i hget hw =>
    exact invA_move hI hget .recv (s.work - 1) rfl rfl (by simp [WPc.holds]; omega) id id nofun nofun _ _ _
  | w_take i op rest hget hq =>
    have hq' : s.inq = [] → rest = [] := fun h => by rw [hq] at h; cases h
    have htk : s.taken.any Op.isPan = true → (s.taken ++ [op]).any Op.isPan = true := fun h => by simp [h]
    cases hp : op.isPan
    · exact invA_move hI hget (.send (eval op)) s.work rfl rfl rfl hq' htk nofun nofun _ _ _
    · exact invA_move hI hget (.sendErr (eval op)) s.work rfl rfl rfl hq' htk nofun
        (fun _ => .inr (by simp [hp])) _ _ _
  | w_closed i hget hq hcl =>
    exact invA_move hI hget .tokret (s.work + 1) rfl rfl rfl id id (fun _ => .inr (.inr (.inl ⟨hcl, hq⟩))) nofun
      _ _ _
  | w_hand i pc pc' r w' k rest hget hnext hc0 hq => exact invA_afterSend hI hget hnext _ _ _
  | w_buf i pc pc' r w' hget hnext hc0 hq hroom => exact invA_afterSend hI hget hnext _ _ _
  | w_exit i cl hget hcl => exact invA_exit hI hget hcl
  | p_submit p op rest hget hncl hroom =>
    -- the fields not listed read only components the step leaves alone, and keep their proofs
    exact { hI with
      exit_why := fun hpos => (hI.exit_why hpos).imp_right
        (Or.imp_left fun h => by rw [hncl] at h; cases h.1) }
  | p_close p hall hncl hwc =>
    exact { hI with exit_why := fun hpos => (hI.exit_why hpos).imp_right (Or.imp_left fun h => ⟨rfl, h.2⟩) }
  | stop hst => exact { hI with exit_why := fun _ => .inl rfl }
  | _ => exact { hI with }

structure InvC (c : Cfg) (s : St) : Prop where
  clen : s.cpcs.length = c.ncoll
  hlen : s.handoff.length = c.ncoll
  dlen : s.delivered.length = c.ncoll
  rq_coh : ∀ k : Nat, k ∈ s.recvq → s.cpcs[k]? = some CPc.receiving ∧ s.handoff.getD k none = none
  rq_nodup : s.recvq.Nodup
  ho_coh : ∀ k : Nat, (s.handoff.getD k none).isSome = true → s.cpcs[k]? = some CPc.receiving
  recv_coh : ∀ k : Nat, s.cpcs[k]? = some CPc.receiving → k ∈ s.recvq ∨ (s.handoff.getD k none).isSome = true
  recv_empty : s.recvq ≠ [] → s.outq = []
  seen_coh : ∀ k : Nat, s.cpcs[k]? = some CPc.closedSeen → s.outq = [] ∧ s.closes = 1

theorem invC_init (c : Cfg) : InvC c (init c) := by
  constructor
  · simp [init]
  · simp [init]
  · simp [init]
  · intro k h; simp [init] at h
  · simp [init]
  · intro k h
    simp [init, List.getD_eq_getElem?_getD, List.getElem?_replicate] at h
    split at h <;> simp at h
  · intro k h
    simp [init, List.getElem?_replicate] at h
  · intro h; simp [init] at h
  · intro k h
    simp [init, List.getElem?_replicate] at h

theorem InvC.head_waiting (hC : InvC c s) {k : Nat} {rest : List Nat} (hq : s.recvq = k :: rest) :
    s.cpcs[k]? = some CPc.receiving ∧ s.handoff[k]? = some none := by
  have hk := hC.rq_coh k (by rw [hq]; exact List.mem_cons_self ..)
  have hklt : k < s.handoff.length := by rw [hC.hlen, ← hC.clen]; exact lt_of_getElem? hk.1
  have h2 := hk.2
  rw [List.getD_eq_getElem?_getD, List.getElem?_eq_getElem hklt] at h2
  exact ⟨hk.1, by rw [List.getElem?_eq_getElem hklt]; exact congrArg some h2⟩

theorem InvC.delivered_get (hC : InvC c s) {k : Nat} {pc : CPc} (hget : s.cpcs[k]? = some pc) :
    s.delivered[k]? = some (s.delivered.getD k []) := by
  have hklt : k < s.delivered.length := by rw [hC.dlen, ← hC.clen]; exact lt_of_getElem? hget
  simp [List.getD_eq_getElem?_getD, hklt]

/-- A step that touches, of what layer C reads, only `recvq` and the pc and hand-over slot of one
    collector `k`: the layer holds afterwards if what it says of `k` does. -/
theorem InvC.update (hI : InvC c s) (k : Nat) {cp : List CPc} {ho : List (Option Res)} {rq : List Nat}
    (hcl : cp.length = s.cpcs.length) (hhl : ho.length = s.handoff.length)
    (hpc : ∀ j, j ≠ k → cp[j]? = s.cpcs[j]?)
    (hho : ∀ j, j ≠ k → ho.getD j none = s.handoff.getD j none)
    (hrq : ∀ j, j ≠ k → (j ∈ rq ↔ j ∈ s.recvq))
    (hnd : rq.Nodup)
    (hk_rq : k ∈ rq → cp[k]? = some .receiving ∧ ho.getD k none = none)
    (hk_ho : (ho.getD k none).isSome = true → cp[k]? = some .receiving)
    (hk_recv : cp[k]? = some .receiving → k ∈ rq ∨ (ho.getD k none).isSome = true)
    (hk_seen : cp[k]? = some .closedSeen → s.outq = [] ∧ s.closes = 1)
    (hne : rq ≠ [] → s.outq = [])
    (dl : List (List Res)) (hdl : dl.length = s.delivered.length) (w : Nat) (ws : List WPc) :
    InvC c { s with cpcs := cp, handoff := ho, recvq := rq, delivered := dl, work := w, ws := ws } := by
  refine ⟨hcl.trans hI.clen, hhl.trans hI.hlen, hdl.trans hI.dlen, fun j hj => ?_, hnd, fun j hj => ?_,
    fun j hj => ?_, hne, fun j hj => ?_⟩ <;> by_cases e : j = k
  · exact e ▸ hk_rq (e ▸ hj)
  · exact hpc j e ▸ hho j e ▸ hI.rq_coh j ((hrq j e).1 hj)
  · exact e ▸ hk_ho (e ▸ hj)
  · exact hpc j e ▸ hI.ho_coh j (hho j e ▸ hj)
  · exact e ▸ hk_recv (e ▸ hj)
  · exact (hI.recv_coh j (hpc j e ▸ hj)).imp (hrq j e).2 (hho j e ▸ id)
  · exact hk_seen (e ▸ hj)
  · exact hI.seen_coh j (hpc j e ▸ hj)

theorem invC_step (hfix : c.fixed = true) {a : Actor} (hA : InvA c s) (hI : InvC c s)
    (h : step c s a = some s') : InvC c s' := by
  cases shape_of_step hfix hA h with
  | w_hand i pc pc' r w' k rest hget hnext hc0 hq =>
    have hk := hI.head_waiting hq
    have hnd : k ∉ rest ∧ rest.Nodup := List.nodup_cons.1 (hq ▸ hI.rq_nodup)
    exact hI.update k rfl (List.length_set ..)
      (hpc := fun _ _ => rfl)
      (hho := fun j e => by rw [getD_set, if_neg (Ne.symm e)])
      (hrq := fun j e => by rw [hq, List.mem_cons]; exact ⟨.inr, fun h => h.resolve_left e⟩)
      (hnd := hnd.2)
      (hk_rq := fun h => absurd h hnd.1)
      (hk_ho := fun _ => hk.1)
      (hk_recv := fun _ => .inr (by rw [getD_set, if_pos rfl, if_pos (lt_of_getElem? hk.2)]; rfl))
      (hk_seen := fun h => by rw [hk.1] at h; cases h)
      (hne := fun _ => hI.recv_empty (by rw [hq]; exact List.cons_ne_nil _ _))
      _ rfl _ _
  | w_buf i pc pc' r w' hget hnext hc0 hq hroom =>
    exact { hI with
      recv_empty := fun hne => absurd hq hne
      seen_coh := fun j hj => by have := (hI.seen_coh j hj).2; omega }
  | w_exit i cl hget hcl =>
    exact { hI with
      seen_coh := fun j hj => by
        have := hI.seen_coh j hj
        refine ⟨this.1, ?_⟩
        show cl = 1
        rw [hcl]; split
        · rfl
        · exact this.2 }
  | c_take k r rest hget hq =>
    have hrq : s.recvq = [] := by
      cases hr : s.recvq with
      | nil => rfl
      | cons a l => have := hI.recv_empty (by rw [hr]; simp); rw [this] at hq; cases hq
    exact { hI with
      dlen := by simp [hI.dlen]
      recv_empty := fun hne => absurd hrq hne
      seen_coh := fun j hj => by have := (hI.seen_coh j hj).1; rw [this] at hq; cases hq }
  | c_seen_ready k hget hq hcl =>
    have hk' := List.getElem?_set_self (a := CPc.closedSeen) (lt_of_getElem? hget)
    -- `k` was `ready`: it neither waits nor is handed anything
    have hnr : s.cpcs[k]? ≠ some .receiving := by rw [hget]; nofun
    exact hI.update k (List.length_set ..) rfl
      (hpc := fun j e => List.getElem?_set_ne (Ne.symm e))
      (hho := fun _ _ => rfl) (hrq := fun _ _ => Iff.rfl) (hnd := hI.rq_nodup)
      (hk_rq := fun h => absurd (hI.rq_coh k h).1 hnr)
      (hk_ho := fun h => absurd (hI.ho_coh k h) hnr)
      (hk_recv := fun h => by rw [hk'] at h; cases h)
      (hk_seen := fun _ => ⟨hq, closes_le_one hA hcl⟩)
      (hne := fun _ => hq)
      _ rfl _ _
  | c_wait k hget hq hcl =>
    have hk' := List.getElem?_set_self (a := CPc.receiving) (lt_of_getElem? hget)
    have hnr : s.cpcs[k]? ≠ some .receiving := by rw [hget]; nofun
    have hknot : k ∉ s.recvq := fun h => hnr (hI.rq_coh k h).1
    have hkh : s.handoff.getD k none = none :=
      Option.not_isSome_iff_eq_none.1 fun h => hnr (hI.ho_coh k h)
    exact hI.update k (List.length_set ..) rfl
      (hpc := fun j e => List.getElem?_set_ne (Ne.symm e))
      (hho := fun _ _ => rfl)
      (hrq := fun j e => by simp [e])
      (hnd := List.nodup_append.2 ⟨hI.rq_nodup, List.pairwise_singleton _ k,
        fun a ha b hb => by cases List.mem_singleton.1 hb; exact fun e => hknot (e ▸ ha)⟩)
      (hk_rq := fun _ => ⟨hk', hkh⟩)
      (hk_ho := fun _ => hk')
      (hk_recv := fun _ => .inl (List.mem_append_right _ (List.mem_singleton_self k)))
      (hk_seen := fun h => by rw [hk'] at h; cases h)
      (hne := fun _ => hq)
      _ rfl _ _
  | c_hand k r hget hh =>
    have hk' := List.getElem?_set_self (a := CPc.ready) (lt_of_getElem? hget)
    have hkn : (s.handoff.set k none).getD k none = none := by
      rw [getD_set, if_pos rfl]; split <;> rfl
    have hknot : k ∉ s.recvq := fun h => by have := (hI.rq_coh k h).2; rw [hh] at this; cases this
    exact hI.update k (List.length_set ..) (List.length_set ..)
      (hpc := fun j e => List.getElem?_set_ne (Ne.symm e))
      (hho := fun j e => by rw [getD_set, if_neg (Ne.symm e)])
      (hrq := fun _ _ => Iff.rfl) (hnd := hI.rq_nodup)
      (hk_rq := fun h => absurd h hknot)
      (hk_ho := fun h => by rw [hkn] at h; cases h)
      (hk_recv := fun h => by rw [hk'] at h; cases h)
      (hk_seen := fun h => by rw [hk'] at h; cases h)
      (hne := hI.recv_empty)
      _ (List.length_set ..) _ _
  | c_seen_recv k hget hh hcl =>
    have hk' := List.getElem?_set_self (a := CPc.closedSeen) (lt_of_getElem? hget)
    have hkin : k ∈ s.recvq := (hI.recv_coh k hget).resolve_right (by rw [hh]; nofun)
    have hout : s.outq = [] := hI.recv_empty (List.ne_nil_of_mem hkin)
    exact hI.update k (List.length_set ..) rfl
      (hpc := fun j e => List.getElem?_set_ne (Ne.symm e))
      (hho := fun _ _ => rfl)
      (hrq := fun j e => List.mem_erase_of_ne e)
      (hnd := hI.rq_nodup.erase k)
      (hk_rq := fun h => absurd h hI.rq_nodup.not_mem_erase)
      (hk_ho := fun h => by rw [hh] at h; cases h)
      (hk_recv := fun h => by rw [hk'] at h; cases h)
      (hk_seen := fun _ => ⟨hout, closes_le_one hA hcl⟩)
      (hne := fun _ => hout)
      _ rfl _ _
  | _ => exact { hI with }

structure InvB (c : Cfg) (s : St) : Prop where
  /-- `p_submit` finds its producer in `todo`, `subm_ids` wants it in `c.prods` -/
  tlen : s.todo.length = c.prods.length
  counts : ∀ x, (results s).count x = (s.taken.map eval).count x
  fifo : s.taken ++ s.inq = s.subm.map Prod.snd
  perprod : ∀ p : Nat, submittedBy s p ++ s.todo.getD p [] = c.prods.getD p []
  mset : ∀ x, (s.taken ++ s.inq ++ s.todo.flatten).count x = c.ops.count x
  /-- the model's `Close` comes after the last `Process` (guard of `p_close`); with `exit_why`: `todo` empty at the end -/
  closedTodo : s.inClosed = true → allSubmitted s = true
  /-- so that with one producer all of the ghost `subm` is its (`each_op_one_result_one_producer`) -/
  subm_ids : ∀ e ∈ s.subm, e.1 < c.prods.length

theorem flatten_replicate_nil {α : Type} (n : Nat) : (List.replicate n ([] : List α)).flatten = [] :=
  List.flatten_replicate_nil

theorem invB_init (c : Cfg) : InvB c (init c) := by
  have h4 : (List.replicate c.threads WPc.idle).filterMap heldOf = [] :=
    List.filterMap_replicate_of_none rfl
  have h5 : (List.replicate c.ncoll (none : Option Res)).filterMap id = [] :=
    List.filterMap_replicate_of_none rfl
  constructor
  · simp [init]
  · intro x; simp [init, results, held, handed, allDelivered, h4, h5]
  · simp [init]
  · intro p; simp [init, submittedBy]
  · intro x; simp [init, Cfg.ops]
  · intro h; simp [init] at h
  · intro e h; simp [init] at h

theorem results_count (s : St) (x : Res) :
    (results s).count x = (held s).count x + s.outq.count x + (handed s).count x + (allDelivered s).count x := by
  simp [results, List.count_append]; omega

theorem AfterSend.held_count {s : St} {r : Res} {pc pc' : WPc} {w' : Nat} (h : AfterSend s r pc pc' w')
    {i : Nat} (hget : s.ws[i]? = some pc) (x : Res) :
    [r].count x + ((s.ws.set i pc').filterMap heldOf).count x = (s.ws.filterMap heldOf).count x := by
  have := count_filterMap_set heldOf s.ws i pc pc' hget x
  cases h <;> simpa [heldOf] using this

theorem InvB.counts_ws (hI : InvB c s) {a b : WPc} (hget : s.ws[i]? = some a) (ha : heldOf a = none)
    (hb : heldOf b = none) {s' : St} (hws : s'.ws = s.ws.set i b) (ho : s'.outq = s.outq)
    (hh : s'.handoff = s.handoff) (hd : s'.delivered = s.delivered) (ht : s'.taken = s.taken) (x : Res) :
    (results s').count x = (s'.taken.map eval).count x := by
  have := count_filterMap_set heldOf s.ws i a b hget x
  rw [ha, hb] at this
  simp only [Option.toList, List.count_nil, Nat.zero_add] at this
  rw [ht, ← hI.counts x]
  simp only [results_count, held, handed, allDelivered, hws, ho, hh, hd, this]

theorem invB_step (hfix : c.fixed = true) {a : Actor} (hA : InvA c s) (hC : InvC c s) (hI : InvB c s)
    (h : step c s a = some s') : InvB c s' := by
  cases shape_of_step hfix hA h with
  | w_idle i hget hw =>
    exact { hI with counts := hI.counts_ws hget rfl rfl rfl rfl rfl rfl rfl }
  | w_take i op rest hget hq =>
    have hP := count_filterMap_set heldOf s.ws i _ (if op.isPan then WPc.sendErr (eval op) else WPc.send (eval op)) hget
    have hheld : heldOf (if op.isPan then WPc.sendErr (eval op) else WPc.send (eval op)) = some (eval op) := by
      cases op.isPan <;> rfl
    exact { hI with
      counts := fun x => by
        have h1 := hP x
        have h2 := hI.counts x
        rw [hheld] at h1
        simp only [results_count, held, handed, allDelivered, heldOf] at h1 h2 ⊢
        simp only [List.map_append, List.count_append, List.map_cons, List.map_nil] at h1 h2 ⊢
        simp at h1; omega
      fifo := by
        show (s.taken ++ [op]) ++ rest = _
        rw [← hI.fifo, hq]; simp
      mset := fun x => by
        have := hI.mset x
        rw [hq] at this
        show ((s.taken ++ [op]) ++ rest ++ s.todo.flatten).count x = _
        simpa [List.count_append, List.count_cons] using this }
  | w_closed i hget hq hcl =>
    exact { hI with counts := hI.counts_ws hget rfl rfl rfl rfl rfl rfl rfl }
  | w_hand i pc pc' r w' k rest hget hnext hc0 hq =>
    refine { hI with counts := fun x => Eq.trans ?_ (hI.counts x) }
    have h1 := hnext.held_count hget x
    have h2 := count_filterMap_set id s.handoff k none (some r) (hC.head_waiting hq).2 x
    simp only [results_count, held, handed, allDelivered, id, Option.toList, List.count_nil] at h1 h2 ⊢
    omega
  | w_buf i pc pc' r w' hget hnext hc0 hq hroom =>
    refine { hI with counts := fun x => Eq.trans ?_ (hI.counts x) }
    have h1 := hnext.held_count hget x
    simp only [results_count, held, handed, allDelivered, List.count_append] at h1 ⊢
    omega
  | w_exit i cl hget hcl =>
    exact { hI with counts := hI.counts_ws hget rfl rfl rfl rfl rfl rfl rfl }
  | p_submit p op rest hget hncl hroom =>
    have hplt := lt_of_getElem? hget
    exact { hI with
      tlen := by simp [hI.tlen]
      fifo := by
        show s.taken ++ (s.inq ++ [op]) = (s.subm ++ [(p, op)]).map Prod.snd
        rw [← List.append_assoc, hI.fifo]; simp
      perprod := fun q => by
        have := hI.perprod q
        show ((s.subm ++ [(p, op)]).filter (·.1 == q)).map Prod.snd ++ (s.todo.set p rest).getD q [] = _
        rw [getD_set, List.filter_append, List.map_append]
        simp only [submittedBy] at this
        rw [← this]
        by_cases e : p = q
        · subst e
          rw [List.getD_eq_getElem?_getD, hget]
          simp [hplt]
        · have e' : (p == q) = false := by simpa using e
          rw [if_neg e]
          simp [e']
      mset := fun x => by
        have h1 := hI.mset x
        have h2 := count_flatten_set s.todo p (op :: rest) rest hget x
        show (s.taken ++ (s.inq ++ [op]) ++ (s.todo.set p rest).flatten).count x = _
        simp only [List.count_append, List.count_cons, List.count_nil] at h1 h2 ⊢
        omega
      closedTodo := fun hcl => by
        have : s.inClosed = true := hcl
        rw [hncl] at this; cases this
      subm_ids := fun e he => by
        rcases List.mem_append.1 he with h' | h'
        · exact hI.subm_ids e h'
        · cases List.mem_singleton.1 h'; rw [← hI.tlen]; exact hplt }
  | p_close p hall hncl hwc => exact { hI with closedTodo := fun _ => hall }
  | c_take k r rest hget hq =>
    refine { hI with counts := fun x => Eq.trans ?_ (hI.counts x) }
    have h2 := count_flatten_set s.delivered k _ (s.delivered.getD k [] ++ [r]) (hC.delivered_get hget) x
    have h3 : (r :: rest).count x = [r].count x + rest.count x := by
      rw [← List.count_append]; rfl
    simp only [results_count, held, handed, allDelivered, hq, List.count_append] at h2 ⊢
    omega
  | c_hand k r hget hh =>
    have hks := getElem?_of_getD_some hh
    refine { hI with counts := fun x => Eq.trans ?_ (hI.counts x) }
    have h1 := count_filterMap_set id s.handoff k (some r) none hks x
    have h2 := count_flatten_set s.delivered k _ (s.delivered.getD k [] ++ [r]) (hC.delivered_get hget) x
    simp only [results_count, held, handed, allDelivered, List.count_append, id, Option.toList, List.count_nil] at h1 h2 ⊢
    omega
  | _ => exact { hI with }

structure Inv (c : Cfg) (s : St) : Prop where
  a : InvA c s
  b : InvB c s
  c' : InvC c s

theorem inv_init (c : Cfg) (ht : 0 < c.threads) : Inv c (init c) :=
  ⟨invA_init c ht, invB_init c, invC_init c⟩

theorem inv_step (hfix : c.fixed = true) {a : Actor} (hI : Inv c s) (h : step c s a = some s') : Inv c s' :=
  ⟨invA_step hfix hI.a h, invB_step hfix hI.a hI.c' hI.b h, invC_step hfix hI.a hI.c' h⟩

theorem inv_reach (hfix : c.fixed = true) (ht : 0 < c.threads) :
    ∀ s, Reach (sys c) s → Inv c s :=
  inv_induction (S := sys c) (Inv c) (inv_init c ht) (fun _ _ _ hI h => inv_step hfix hI h)

theorem invB_reach (hfix : c.fixed = true) (ht : 0 < c.threads) :
    ∀ s, Reach (sys c) s → InvB c s :=
  fun s hr => (inv_reach hfix ht s hr).b

/-- Weights of `mu`, each 1 above what its step adds elsewhere, from the collectors backwards: hand-over 2 (`receiving →
    ready` +1), `send` 5 (hand-over +2, `recv` +2), `inq` entry 4 (`recv → send` +3), `todo` entry 5 (`inq` entry +4). -/
def rank : WPc → Nat
  | .idle => 3 | .recv => 2 | .send _ => 5 | .sendErr _ => 5 | .tokret => 1 | .done => 0

def crank : CPc → Nat
  | .ready => 2 | .receiving => 1 | .closedSeen => 0

def rankSum (ws : List WPc) : Nat := (ws.map rank).sum

def crankSum (cs : List CPc) : Nat := (cs.map crank).sum

def todoLen (todo : List (List Op)) : Nat := (todo.map List.length).sum

def nHand (ho : List (Option Res)) : Nat := ho.countP Option.isSome

def mu (c : Cfg) (s : St) : Nat :=
  5 * todoLen s.todo + (if c.wantClose && !s.inClosed then 1 else 0) + 4 * s.inq.length + rankSum s.ws
  + s.outq.length + 2 * nHand s.handoff + crankSum s.cpcs
  + (if s.stop then 0 else 1) + (if s.waitReturned then 0 else 1)

theorem rankSum_set (ws : List WPc) (i : Nat) (a b : WPc) (h : ws[i]? = some a) :
    rankSum (ws.set i b) + rank a = rankSum ws + rank b := sum_map_set rank ws i a b h

theorem crankSum_set (cs : List CPc) (i : Nat) (a b : CPc) (h : cs[i]? = some a) :
    crankSum (cs.set i b) + crank a = crankSum cs + crank b := sum_map_set crank cs i a b h

theorem todoLen_set (todo : List (List Op)) (p : Nat) (a b : List Op) (h : todo[p]? = some a) :
    todoLen (todo.set p b) + a.length = todoLen todo + b.length := sum_map_set List.length todo p a b h

theorem nHand_set (ho : List (Option Res)) (k : Nat) (a b : Option Res) (h : ho[k]? = some a) :
    nHand (ho.set k b) + (if a.isSome then 1 else 0) = nHand ho + (if b.isSome then 1 else 0) :=
  countP_set Option.isSome ho k a b h

theorem AfterSend.rank {r : Res} {pc pc' : WPc} {w' : Nat} (h : AfterSend s r pc pc' w') :
    rank pc = 5 ∧ rank pc' ≤ 2 := by
  cases h <;> exact ⟨rfl, by decide⟩

/-- The contribution of the three flags to `mu`: one atom for `omega` in the steps that leave
    them alone (as three `if`s they are split into eight cases each time). -/
def muFlags (c : Cfg) (inClosed stop waitReturned : Bool) : Nat :=
  (if c.wantClose && !inClosed then 1 else 0) + (if stop then 0 else 1) + (if waitReturned then 0 else 1)

/-- the summands most steps leave alone come last: `Nat.add_lt_add_iff_right` cancels them -/
theorem mu_eq (c : Cfg) (s : St) :
    mu c s = rankSum s.ws + crankSum s.cpcs + 2 * nHand s.handoff + s.outq.length + 4 * s.inq.length
      + 5 * todoLen s.todo + muFlags c s.inClosed s.stop s.waitReturned := by
  simp only [mu, muFlags]; omega

theorem mu_step (hfix : c.fixed = true) {a : Actor}
    (hI : Inv c s) (h : step c s a = some s') : mu c s' < mu c s := by
  cases shape_of_step hfix hI.a h with
  | w_idle i hget hw =>
    have hr := rankSum_set s.ws i _ WPc.recv hget
    simp only [mu_eq, Nat.add_lt_add_iff_right, rank] at hr ⊢; omega
  | w_take i op rest hget hq =>
    have hr := rankSum_set s.ws i _ (if op.isPan then WPc.sendErr (eval op) else WPc.send (eval op)) hget
    have h5 : rank (if op.isPan then WPc.sendErr (eval op) else WPc.send (eval op)) = 5 := by
      cases op.isPan <;> rfl
    rw [h5] at hr
    simp only [mu_eq, Nat.add_lt_add_iff_right, rank, hq, List.length_cons] at hr ⊢; omega
  | w_closed i hget hq hcl =>
    have hr := rankSum_set s.ws i _ WPc.tokret hget
    simp only [mu_eq, Nat.add_lt_add_iff_right, rank] at hr ⊢; omega
  | w_hand i pc pc' r w' k rest hget hnext hc0 hq =>
    have hn := nHand_set s.handoff k none (some r) (hI.c'.head_waiting hq).2
    have hr := rankSum_set s.ws i _ pc' hget
    have := hnext.rank
    rw [this.1] at hr
    simp only [mu_eq, Nat.add_lt_add_iff_right] at hr hn ⊢
    simp at hn; omega
  | w_buf i pc pc' r w' hget hnext hc0 hq hroom =>
    have hr := rankSum_set s.ws i _ pc' hget
    have := hnext.rank
    rw [this.1] at hr
    simp only [mu_eq, Nat.add_lt_add_iff_right, List.length_append, List.length_cons, List.length_nil] at hr ⊢; omega
  | w_exit i cl hget hcl =>
    have hr := rankSum_set s.ws i _ WPc.done hget
    simp only [mu_eq, Nat.add_lt_add_iff_right, rank] at hr ⊢; omega
  | p_submit p op rest hget hncl hroom =>
    have ht := todoLen_set s.todo p _ rest hget
    simp only [mu_eq, Nat.add_lt_add_iff_right, List.length_append, List.length_cons, List.length_nil] at ht ⊢; omega
  | p_close p hall hncl hwc =>
    simp only [mu_eq, muFlags, hwc, hncl]; simp
  | c_take k r rest hget hq =>
    simp only [mu_eq, Nat.add_lt_add_iff_right, hq, List.length_cons]; omega
  | c_seen_ready k hget hq hcl =>
    have hr := crankSum_set s.cpcs k _ CPc.closedSeen hget
    simp only [mu_eq, Nat.add_lt_add_iff_right, crank] at hr ⊢; omega
  | c_wait k hget hq hcl =>
    have hr := crankSum_set s.cpcs k _ CPc.receiving hget
    simp only [mu_eq, Nat.add_lt_add_iff_right, crank] at hr ⊢; omega
  | c_hand k r hget hh =>
    have hr := crankSum_set s.cpcs k _ CPc.ready hget
    have hn := nHand_set s.handoff k (some r) none (getElem?_of_getD_some hh)
    simp only [mu_eq, Nat.add_lt_add_iff_right, crank] at hr hn ⊢
    simp at hn; omega
  | c_seen_recv k hget hh hcl =>
    have hr := crankSum_set s.cpcs k _ CPc.closedSeen hget
    simp only [mu_eq, Nat.add_lt_add_iff_right, crank] at hr ⊢; omega
  | stop hst => simp only [mu_eq, muFlags, hst]; simp
  | wait hwr hwg => simp only [mu_eq, muFlags, hwr]; simp

theorem collector_stuck (hI : Inv c s) {k : Nat} {pc : CPc} (hget : s.cpcs[k]? = some pc)
    (hc : collectorStep s k = none) :
    pc = .closedSeen ∨ (pc = .receiving ∧ k ∈ s.recvq ∧ s.closes = 0) := by
  simp only [collectorStep, hget] at hc
  cases pc with
  | ready =>
    simp only at hc
    split at hc
    · cases hc
    · split at hc <;> cases hc
  | receiving =>
    right
    simp only at hc
    split at hc
    · cases hc
    · rename_i hh
      split at hc
      · cases hc
      · rename_i hcl
        rcases hI.c'.recv_coh k hget with h' | h'
        · exact ⟨rfl, h', by omega⟩
        · rw [hh] at h'; cases h'
  | closedSeen => left; rfl

theorem send_blocked_absurd (hn : 0 < c.ncoll) (hI : Inv c s) (hc0 : s.closes = 0)
    (hrq : s.recvq = []) (hc : ∀ k, collectorStep s k = none) : False := by
  have hlt : 0 < s.cpcs.length := by rw [hI.c'.clen]; exact hn
  have hget : s.cpcs[0]? = some s.cpcs[0] := by simp [hlt]
  rcases collector_stuck hI hget (hc 0) with h' | ⟨_, h', _⟩
  · rw [h'] at hget
    have := (hI.c'.seen_coh 0 hget).2
    omega
  · rw [hrq] at h'; cases h'

theorem stuck_worker_done (hn : 0 < c.ncoll) (hI : Inv c s) (hcl : s.inClosed = true) {i : Nat} {pc : WPc}
    (hget : s.ws[i]? = some pc)
    (hw : workerStep c s i = none) (hc : ∀ k, collectorStep s k = none) : pc = .done := by
  have hnc := hI.a.nocrash
  cases pc with
  | idle =>
    simp only [workerStep, hget] at hw
    split at hw
    · cases hw
    · have h1 := countP_lt_length_of WPc.holds s.ws i _ hget rfl
      have h2 := hI.a.tokens
      have h3 := hI.a.len
      omega
  | recv =>
    simp only [workerStep, hget] at hw
    split at hw
    · cases hw
    · simp [hcl] at hw
  | send r | sendErr r =>
    exfalso
    simp only [workerStep, hget] at hw
    have ⟨hc0, _⟩ := closes_zero_of_active hI.a hget rfl
    have hgt : ¬ (s.closes > 0) := by omega
    cases hrq : s.recvq with
    | nil => exact send_blocked_absurd hn hI hc0 hrq hc
    -- a collector waits: the send goes through, whatever the worker does next
    | cons k rest => simp [sendOut, hgt, hrq, hnc] at hw <;> split at hw <;> cases hw
  | tokret => simp [workerStep, hget] at hw
  | done => rfl

theorem allDone_iff (hI : Inv c s) : allDone s = true ↔ s.exited = c.threads := by
  rw [hI.a.exited_eq, ← hI.a.len, List.countP_eq_length]
  simp [allDone, List.all_eq_true]

theorem closes_one_iff (hI : Inv c s) : s.closes = 1 ↔ allDone s = true := by
  rw [allDone_iff hI, hI.a.closes_eq]
  by_cases e : s.exited = c.threads <;> simp [e]

theorem stuck_final (hn : 0 < c.ncoll) (hI : Inv c s) (hcl : s.inClosed = true)
    (hw : ∀ i, step c s (.worker i) = none) (hc : ∀ k, step c s (.collector k) = none) :
    allDone s = true ∧ s.closes = 1 ∧ s.wgDone = c.threads ∧ allSeen s = true := by
  have hnc := hI.a.nocrash
  simp only [step, hnc, Option.isSome_none, Bool.false_eq_true, if_false] at hw hc
  have hall : allDone s = true :=
    List.all_eq_true.2 fun pc hmem => by
      obtain ⟨i, hi, rfl⟩ := List.getElem_of_mem hmem
      rw [stuck_worker_done hn hI hcl (List.getElem?_eq_getElem hi) (hw i) hc]; rfl
  have hcloses := (closes_one_iff hI).2 hall
  refine ⟨hall, hcloses, by rw [hI.a.wg_eq, (allDone_iff hI).1 hall], List.all_eq_true.2 fun pc hmem => ?_⟩
  obtain ⟨k, hk, rfl⟩ := List.getElem_of_mem hmem
  rcases collector_stuck hI (List.getElem?_eq_getElem hk) (hc k) with h' | ⟨_, _, h'⟩
  · rw [h']; rfl
  · omega

theorem held_nil_of_allDone (h : allDone s = true) : held s = [] :=
  List.filterMap_eq_nil_iff.2 fun pc hm => by
    have := List.all_eq_true.1 h pc hm
    cases pc <;> first | rfl | cases this

/-- a hand-over is to a collector inside its receive -/
theorem handed_nil_of_allSeen (hC : InvC c s) (h : allSeen s = true) : handed s = [] :=
  List.filterMap_eq_nil_iff.2 fun v hv => by
    obtain ⟨k, hk, rfl⟩ := List.getElem_of_mem hv
    refine Option.not_isSome_iff_eq_none.1 fun hs => ?_
    have := hC.ho_coh k (by rwa [List.getD_eq_getElem?_getD, List.getElem?_eq_getElem hk])
    have := List.all_eq_true.1 h _ (List.mem_of_getElem? this)
    cases this

theorem nEx_pos_of_allDone (hI : Inv c s) (ht : 0 < c.threads) (h : allDone s = true) : 0 < nEx s.ws := by
  have h1 : s.ws.countP WPc.isDone ≤ nEx s.ws :=
    List.countP_mono_left fun pc _ hd => by cases pc <;> first | rfl | cases hd
  have h2 := hI.a.exited_eq
  have h3 := (allDone_iff hI).1 h
  omega

theorem InvB.taken_sub (hB : InvB c s) {op : Op} (h : op ∈ s.taken) : op ∈ c.ops := by
  rw [← List.count_pos_iff, ← hB.mset op, List.count_pos_iff]
  exact List.mem_append_left _ (List.mem_append_left _ h)

end Biogo.Processor
