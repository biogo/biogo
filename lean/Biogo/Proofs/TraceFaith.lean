/-
Faithful pair scores: as long as the traceback only takes `case`s that belong to its current
layer (the ghost flag `TB.tie` stays false), the score accumulated for the current segment is
the score recomputed from the letters — a block is the sum of its letter pairs, a gap run is
its per-letter gap scores plus `gapOpen` exactly when the run has been closed by its opening
step.  The layer-aware switch (after the repair of K5) never raises the flag (`loop_tie_aware`);
the layer-blind switch it replaced could (finding K5).  `loop_run` is the run of the loop with all
that holds of the state it returns, `GlobalBorders.run` that run over a table with the borders of the
global table (`NWAffine`, `FittedAffine`): it ends on the border with every pending gap charged.
-/
import Biogo.Proofs.TraceWF

namespace Biogo.Proofs.TraceFaith
open Biogo.Spec.Alignment Biogo.AlignAff Biogo.Spec.AffPairs Biogo.Proofs.TraceSum Biogo.Proofs.TraceWF

theorem sumRange_zero (f : Nat → Int) : sumRange 0 f = 0 := rfl

theorem sumRange_succ (n : Nat) (f : Nat → Int) :
    sumRange (n + 1) f = f 0 + sumRange n (fun k => f (k + 1)) := by
  simp only [sumRange, List.range_succ_eq_map, List.map_cons, List.sum_cons, List.map_map]
  rfl

theorem sumRange_succ_last (n : Nat) (f : Nat → Int) : sumRange (n + 1) f = sumRange n f + f n := by
  simp only [sumRange, List.range_succ, List.map_append, List.map_cons, List.map_nil, List.sum_append,
    List.sum_cons, List.sum_nil]
  omega

/-- what a step of kind `k` over the letters `x`, `y` scores, `gapOpen` apart -/
def letterScore (S : Matrix) (k : Kind) (x y : Nat) : Int :=
  match k with
  | .m => S x y
  | .u => S x 0
  | .l => S 0 y

/-- the letter scores of a run of kind `k` and length `n` that starts at `(i, j)`; of a gap run
    only the row or the column is read -/
def runSum (S : Matrix) (r q : List Nat) (k : Kind) (i j n : Nat) : Int :=
  sumRange n fun t => letterScore S k (r.getD (i + t) 0) (q.getD (j + t) 0)

theorem runSum_zero (S : Matrix) (r q : List Nat) (k : Kind) (i j : Nat) : runSum S r q k i j 0 = 0 := rfl

theorem runSum_succ (S : Matrix) (r q : List Nat) (k : Kind) (i j n : Nat) :
    runSum S r q k i j (n + 1) = letterScore S k (r.getD i 0) (q.getD j 0) + runSum S r q k (i + 1) (j + 1) n := by
  simp only [runSum, sumRange_succ, Nat.add_zero]
  congr 2
  funext t
  rw [Nat.add_assoc, Nat.add_comm 1 t, Nat.add_assoc j, Nat.add_comm 1 t]

theorem faithful_cons (S : Matrix) (o : Int) (r q : List Nat) (p : Pair) (ps : List Pair) :
    faithful S o r q (p :: ps) = true ↔ p.score = pairScore S o r q p ∧ faithful S o r q ps = true := by
  simp only [faithful, List.all_cons, Bool.and_eq_true, beq_iff_eq]

theorem pairScore_block (S : Matrix) (o : Int) (r q : List Nat) (i mi j mj : Nat) (s : Int)
    (h : mi - i = mj - j) : pairScore S o r q ⟨i, mi, j, mj, s⟩ = runSum S r q .m i j (mi - i) := by
  simp only [pairScore]
  by_cases h0 : mi - i = 0
  · have : mj - j = 0 := by omega
    simp [h0, this, runSum, sumRange_zero]
  · rw [if_neg (fun hh => h0 hh.1), if_pos h]
    rfl

theorem pairScore_up (S : Matrix) (o : Int) (r q : List Nat) (i mi j : Nat) (s : Int) (hi : i < mi) :
    pairScore S o r q ⟨i, mi, j, j, s⟩ = o + runSum S r q .u i j (mi - i) := by
  have h2 : mi - i ≠ 0 := by omega
  simp [pairScore, h2, runSum, letterScore]

theorem pairScore_left (S : Matrix) (o : Int) (r q : List Nat) (i j mj : Nat) (s : Int) (hj : j < mj) :
    pairScore S o r q ⟨i, i, j, mj, s⟩ = o + runSum S r q .l i j (mj - j) := by
  have h2 : (0 : Nat) ≠ mj - j := by omega
  have h3 : mj - j ≠ 0 := by omega
  simp [pairScore, h2, h3, runSum, letterScore]

/-- `gapOpen` for a gap run whose layer is no longer its own, nothing otherwise: what a `case`
    `(mv, pl, _)` of the switch adds to the letter score, and what a pending run of kind `mv` has
    been charged once the traceback is in layer `pl` (a run still in its own layer has not been
    charged yet; it is when it leaves for the match layer or, since the repair of K1, for the other
    gap layer) -/
def charge (o : Int) (mv pl : Kind) : Int := if mv ≠ .m ∧ pl ≠ mv then o else 0

theorem charge_of {o : Int} {mv pl : Kind} (h : mv = .m ∨ mv = pl) : charge o mv pl = 0 :=
  if_neg fun hc => h.elim hc.1 fun e => hc.2 e.symm

/-- a run of kind `k` that ends at `(mI, mJ)`, one step further -/
theorem runSum_step (S : Matrix) (r q : List Nat) (k : Kind) {i j mI mJ : Nat} (hi0 : 0 < i) (hj0 : 0 < j)
    (hI : i ≤ mI) (hJ : j ≤ mJ) :
    runSum S r q k (if k = .l then i else i - 1) (if k = .u then j else j - 1)
        (if k = .l then mJ - (if k = .u then j else j - 1) else mI - (if k = .l then i else i - 1)) =
      letterScore S k (r.getD (i - 1) 0) (q.getD (j - 1) 0) +
        runSum S r q k i j (if k = .l then mJ - j else mI - i) := by
  have hi1 : i - 1 + 1 = i := Nat.sub_add_cancel hi0
  have hj1 : j - 1 + 1 = j := Nat.sub_add_cancel hj0
  have hI1 : mI - (i - 1) = (mI - i) + 1 := by omega
  have hJ1 : mJ - (j - 1) = (mJ - j) + 1 := by omega
  cases k <;> simp only [reduceCtorEq, if_true, if_false]
  · rw [hI1, runSum_succ, hi1, hj1]
  · rw [hI1, runSum_succ, hi1]; rfl
  · rw [hJ1, runSum_succ, hj1]; rfl

/-- every `case` of the switch adds the letter score of its move, and `gapOpen` exactly when it is a
    gap step that comes from another layer -/
theorem cands_add {cross sw : Bool} {S : Matrix} {o : Int} {x y : Nat} {mv pl : Kind} {add : Int}
    (h : (mv, pl, add) ∈ cands cross sw S o x y) : add = charge o mv pl + letterScore S mv x y := by
  simp only [cands, List.mem_append] at h
  rcases h with (h | h) | h
  · simp only [List.mem_cons, Prod.mk.injEq, List.not_mem_nil, or_false] at h
    rcases h with ⟨rfl, rfl, rfl⟩ | ⟨rfl, rfl, rfl⟩ | ⟨rfl, rfl, rfl⟩ | ⟨rfl, rfl, rfl⟩ <;> simp [charge, letterScore]
  · split at h
    · simp only [List.mem_cons, Prod.mk.injEq, List.not_mem_nil, or_false] at h
      rcases h with ⟨rfl, rfl, rfl⟩ | ⟨rfl, rfl, rfl⟩ <;> simp [charge, letterScore]
    · cases h
  · split at h <;> simp only [List.mem_cons, Prod.mk.injEq, List.not_mem_nil, or_false] at h <;>
      rcases h with ⟨rfl, _, rfl⟩ | ⟨rfl, _, rfl⟩ | ⟨rfl, _, rfl⟩ <;> simp [charge, letterScore]

structure Faith (S : Matrix) (o : Int) (r q : List Nat) (st : TB) : Prop where
  done : faithful S o r q st.aln = true
  seg : st.score = charge o st.last st.layer +
    runSum S r q st.last st.i st.j (if st.last = .l then st.maxJ - st.j else st.maxI - st.i)
  /-- `termi`, `termj`: steps leave from `i, j > 0`; `left` keeps `i`, `up` keeps `j`.  Used by `border_emit`. -/
  termi : st.i = 0 → st.last ≠ .l
  termj : st.j = 0 → st.last ≠ .u

section
variable {S : Matrix} {o : Int} {r q : List Nat} {R C I0 J0 : Nat} {st : TB}

/-- the pending segment carries its recomputed score as soon as a pending gap run has left its
    layer (and so has been charged `gapOpen`) -/
theorem Faith.pending (hf : Faith S o r q st) (hinv : Inv R C I0 J0 st) (h : st.last ≠ .m → st.layer ≠ st.last) :
    st.score = pairScore S o r q ⟨st.i, st.maxI, st.j, st.maxJ, st.score⟩ := by
  have hs := hf.seg
  cases hk : st.last with
  | m =>
    rw [hk] at hs
    rw [pairScore_block S o r q _ _ _ _ _ (hinv.segm hk), hs, charge_of (Or.inl rfl), Int.zero_add]
    rfl
  | u =>
    have hlay : st.layer ≠ .u := by rw [hk] at h; exact h (by decide)
    obtain ⟨e1, e2⟩ := hinv.segu hk
    rw [hk] at hs
    rw [← e1, pairScore_up S o r q _ _ _ _ (e2.resolve_right hlay), hs, charge, if_pos ⟨by decide, hlay⟩]
    rfl
  | l =>
    have hlay : st.layer ≠ .l := by rw [hk] at h; exact h (by decide)
    obtain ⟨e1, e2⟩ := hinv.segl hk
    rw [hk] at hs
    rw [← e1, pairScore_left S o r q _ _ _ _ (e2.resolve_right hlay), hs, charge, if_pos ⟨by decide, hlay⟩]
    rfl

theorem Faith.emit (hf : Faith S o r q st) (hinv : Inv R C I0 J0 st) (h : st.last ≠ .m → st.layer ≠ st.last) :
    faithful S o r q st.emit.aln = true :=
  (faithful_cons S o r q _ _).2 ⟨hf.pending hinv h, hf.done⟩

/-- A traceback over a table whose row 0 holds values only in the `left` layer and whose column 0
    only in the `up` layer (the global and the fitted table) stops on the border with its pending
    gap run, if any, charged `gapOpen`: a run not yet opened is still in its own layer, and an
    `up` run cannot stand in column 0 nor a `left` run in row 0. -/
theorem Faith.border_emit {T : Table} (hf : Faith S o r q st) (hinv : Inv R C I0 J0 st)
    (hstop : st.i = 0 ∨ st.j = 0) {v : Int} (hv : (T.at st.i st.j).get st.layer = some v)
    (row0 : ∀ j, j < C → ∀ k v, (T.at 0 (j + 1)).get k = some v → k = .l)
    (col0 : ∀ i, i < R → ∀ k v, (T.at (i + 1) 0).get k = some v → k = .u) :
    faithful S o r q st.emit.aln = true := by
  refine hf.emit hinv fun _ hl => ?_
  cases hk : st.last with
  | m => contradiction
  | u =>
    obtain ⟨j', hj'⟩ := Nat.exists_eq_add_one_of_ne_zero fun e => hf.termj e hk
    rw [hstop.resolve_right (by rw [hj']; exact Nat.succ_ne_zero _), hj'] at hv
    have hC : j' + 1 ≤ C := hj' ▸ Nat.le_trans hinv.hj hinv.hC
    have := row0 j' hC _ v hv
    rw [hl, hk] at this; cases this
  | l =>
    obtain ⟨i', hi'⟩ := Nat.exists_eq_add_one_of_ne_zero fun e => hf.termi e hk
    rw [hstop.resolve_left (by rw [hi']; exact Nat.succ_ne_zero _), hi'] at hv
    have hR : i' + 1 ≤ R := hi' ▸ Nat.le_trans hinv.hi hinv.hR
    have := col0 i' hR _ v hv
    rw [hl, hk] at this; cases this

theorem move_faith (hinv : Inv R C I0 J0 st) (hf : Faith S o r q st) (hi0 : 0 < st.i) (hj0 : 0 < st.j)
    (mv pl : Kind) (v pv : Int) (hlayer : st.layer = mv)
    (hadd : v - pv = charge o mv pl + letterScore S mv (r.getD (st.i - 1) 0) (q.getD (st.j - 1) 0)) :
    Faith S o r q (st.move (decide (st.i = R ∧ st.j = C)) mv pl v pv) := by
  have hti : (if mv = .l then st.i else st.i - 1) = 0 → mv ≠ .l := fun h e => by rw [if_pos e] at h; omega
  have htj : (if mv = .u then st.j else st.j - 1) = 0 → mv ≠ .u := fun h e => by rw [if_pos e] at h; omega
  have hempty : ∀ i j, runSum S r q mv st.i st.j (if mv = .l then j - j else i - i) = 0 := fun i j => by
    rw [Nat.sub_self, Nat.sub_self, ite_self, runSum_zero]
  by_cases hc : st.last ≠ mv ∧ (mv = .m ∨ ¬ decide (st.i = R ∧ st.j = C) = true)
  · -- the pending segment is emitted (its run, if a gap, has left its layer) and a new run starts
    rw [move_emit st _ mv pl v pv hc]
    have hp := hf.pending hinv (fun _ e => hc.1 (by rw [← e, hlayer]))
    refine ⟨(faithful_cons S o r q _ _).2 ⟨hp, hf.done⟩, ?_, hti, htj⟩
    simp only []
    rw [runSum_step S r q mv hi0 hj0 (Nat.le_refl _) (Nat.le_refl _), hempty, hadd]
    omega
  · -- the pending run grows: it is of kind `mv` and in its layer, or still empty in the end corner
    rw [move_keep st _ mv pl v pv hc]
    have hscore : st.score = runSum S r q mv st.i st.j (if mv = .l then st.maxJ - st.j else st.maxI - st.i) := by
      rcases keep_cases hc with hl | ⟨_, he⟩
      · have := hf.seg
        rwa [hl, charge_of (Or.inr hlayer.symm), Int.zero_add] at this
      · obtain ⟨e1, e2, e3⟩ := corner_empty hinv he
        rw [e1, e2, e3, hempty]
    refine ⟨hf.done, ?_, hti, htj⟩
    simp only []
    rw [runSum_step S r q mv hi0 hj0 hinv.hi hinv.hj, hadd, hscore]
    omega

theorem step_faith {aware cross sw : Bool} {T : Table} {v : Int} {mv pl : Kind} {add : Int}
    (hinv : Inv R C I0 J0 st) (hf : Faith S o r q st) (hfire : Fires aware cross sw T S o r q st v mv pl add)
    (hlay : st.layer = mv) : Faith S o r q (stepOf T R C st v mv pl) := by
  obtain ⟨pv, hpv, hadd⟩ := hfire.pred
  refine move_faith hinv hf hfire.hi hfire.hj mv pl v _ hlay ?_
  rw [← cands_add hfire.mem, hpv]
  simp only [vget]
  omega

end

theorem step_inv_faith {aware cross sw : Bool} {T : Table} {S : Matrix} {o : Int} {r q : List Nat} {R C I0 J0 : Nat}
    {st : TB} {v : Int} {mv pl : Kind} {add : Int} (h : Inv R C I0 J0 st ∧ (st.tie = false → Faith S o r q st))
    (hfire : Fires aware cross sw T S o r q st v mv pl add) :
    Inv R C I0 J0 (stepOf T R C st v mv pl) ∧
      ((stepOf T R C st v mv pl).tie = false → Faith S o r q (stepOf T R C st v mv pl)) := by
  obtain ⟨hi, hf⟩ := h
  refine ⟨move_inv hi hfire.hi hfire.hj mv pl v _, fun htie => ?_⟩
  -- the flag is still down after the step: it was down before, and the step stayed in its layer
  rw [move_tie, Bool.or_eq_false_iff, decide_eq_false_iff_not, Decidable.not_not] at htie
  exact step_faith hi (hf htie.1) hfire htie.2

/-- the layer-aware switch only takes `case`s of the current layer: the ghost flag never changes -/
theorem loop_tie_aware (cross sw : Bool) (T : Table) (S : Matrix) (o : Int) (r q : List Nat) (R C : Nat)
    (fuel : Nat) (st st' : TB) (hl : tbLoop true cross sw T S o r q R C fuel st = .ok st') : st'.tie = st.tie :=
  tbLoop_ind (P := fun s => s.tie = st.tie)
    (fun s v mv pl add hp hfire => by rw [move_tie, hp, hfire.layer]; simp) fuel st st' rfl hl

/-- the initial state: no segment pending (`last = .m`), or (`last = layer`, FittedAffine) an empty
    run of the start layer that has not been charged anything -/
theorem init_faith (S : Matrix) (o : Int) (r q : List Nat) (I0 J0 : Nat) (layer last : Kind)
    (hl : last = .m ∨ last = layer) (hI : 0 < I0) (hJ : 0 < J0) :
    Faith S o r q { i := I0, j := J0, layer, last, score := 0, maxI := I0, maxJ := J0, aln := [] } where
  done := rfl
  seg := by
    show (0 : Int) = charge o last layer + runSum S r q last I0 J0 (if last = .l then J0 - J0 else I0 - I0)
    rw [charge_of hl, Nat.sub_self, Nat.sub_self, ite_self, runSum_zero]
    rfl
  termi := fun h => by simp only [] at h; omega
  termj := fun h => by simp only [] at h; omega

theorem loop_run (aware cross sw : Bool) {T : Table} {S : Matrix} {o : Int} {r q : List Nat} (R C : Nat)
    (H : Covered cross sw T S o r q R C)
    {I0 J0 : Nat} (layer last : Kind) (hl : last = .m ∨ last = layer) (hI0 : 0 < I0) (hJ0 : 0 < J0)
    (hI : I0 ≤ R) (hJ : J0 ≤ C) {x : Int} (hx : (T.at I0 J0).get layer = some x) :
    ∃ st, tbLoop aware cross sw T S o r q R C (I0 + J0)
        { i := I0, j := J0, layer, last, score := 0, maxI := I0, maxJ := J0, aln := [] } = .ok st ∧
      Inv R C I0 J0 st ∧ (st.tie = false → Faith S o r q st) ∧ Good T R C x st ∧ Stopped sw T st := by
  obtain ⟨st, hloop, ⟨⟨hinv, hfaith⟩, hgood⟩, hs⟩ :=
    tbLoop_run (aware := aware) (r := r) (q := q)
      (P := fun st => (Inv R C I0 J0 st ∧ (st.tie = false → Faith S o r q st)) ∧ Good T R C x st)
      (fun _ _ _ _ _ hp hfire => ⟨step_inv_faith hp.1 hfire, good_step hp.2 hfire⟩)
      (fun _ hp hs => hp.2.fires H hs) (I0 + J0) _
      ⟨⟨init_inv_of R C I0 J0 layer last hl hI hJ, fun _ => init_faith S o r q I0 J0 layer last hl hI0 hJ0⟩,
        hI, hJ, x, hx, by simp [total]⟩ (Nat.le_refl _)
  exact ⟨st, hloop, hinv, hfaith, hgood, hs⟩

/-- What a traceback needs to know of a table: the recurrence `nwCell` and the borders of the global table.
    `nwTable` is one (`NWAffine.nwTable_borders`), the fitted table another (`FittedAffine.fitTable_borders`). -/
structure GlobalBorders (cross : Bool) (T : Table) (S : Matrix) (o : Int) (r q : List Nat) : Prop where
  inner : ∀ i j, i < r.length → j < q.length →
    T.at (i + 1) (j + 1) =
      nwCell cross S o (r.getD i 0) (T.at i j) (T.at i (j + 1)) (T.at (i + 1) j) (q.getD j 0)
  orig : ∀ k v, (T.at 0 0).get k = some v → k = .m ∧ v = 0
  row0 : ∀ j, j < q.length → ∀ k v, (T.at 0 (j + 1)).get k = some v → k = .l
  col0 : ∀ i, i < r.length → ∀ k v, (T.at (i + 1) 0).get k = some v → k = .u

/-- the layer the leading gap of the result is read from -/
theorem GlobalBorders.border {cross : Bool} {T : Table} {S : Matrix} {o : Int} {r q : List Nat}
    (F : GlobalBorders cross T S o r q) {i j : Nat} {k : Kind} {v : Int} (hi : i ≤ r.length) (hj : j ≤ q.length)
    (h0 : i = 0 ∨ j = 0) (hv : (T.at i j).get k = some v) :
    (i = j → v = 0) ∧ (i ≠ j → k = if i = 0 then .l else .u) := by
  cases i with
  | zero =>
    cases j with
    | zero => exact ⟨fun _ => (F.orig k v hv).2, fun h => absurd rfl h⟩
    | succ j => exact ⟨fun h => (by omega), fun _ => F.row0 j hj k v hv⟩
  | succ i =>
    cases j with
    | zero => exact ⟨fun h => (by omega), fun _ => F.col0 i hi k v hv⟩
    | succ j => exact absurd h0 (by simp)

theorem GlobalBorders.covered {cross : Bool} {T : Table} {S : Matrix} {o : Int} {r q : List Nat}
    (F : GlobalBorders cross T S o r q) : Covered cross false T S o r q r.length q.length :=
  fun i j hi hj k v h _ => exists_cand_of_inner cross false T S o _ _ i j k v (F.inner i j hi hj ▸ h)

theorem GlobalBorders.run {cross : Bool} {T : Table} {S : Matrix} {o : Int} {r q : List Nat}
    (F : GlobalBorders cross T S o r q) (aware : Bool) {I0 J0 : Nat} (layer last : Kind)
    (hl : last = .m ∨ last = layer) (hI0 : 0 < I0) (hJ0 : 0 < J0) (hI : I0 ≤ r.length) (hJ : J0 ≤ q.length) {x : Int}
    (hx : (T.at I0 J0).get layer = some x) :
    ∃ st v, tbLoop aware cross false T S o r q r.length q.length (I0 + J0)
        { i := I0, j := J0, layer, last, score := 0, maxI := I0, maxJ := J0, aln := [] } = .ok st ∧
      Inv r.length q.length I0 J0 st ∧ (st.i = 0 ∨ st.j = 0) ∧ (T.at st.i st.j).get st.layer = some v ∧
      v + total st.emit.aln = x ∧ (st.tie = false → faithful S o r q st.emit.aln = true) := by
  obtain ⟨st, hloop, hinv, hfaith, ⟨_, _, v, hv, hsum⟩, hend⟩ :=
    loop_run aware cross false r.length q.length F.covered layer last hl hI0 hJ0 hI hJ hx
  exact ⟨st, v, hloop, hinv, hend.border, hv, by simp only [TB.emit, total_cons]; omega,
    fun ht => (hfaith ht).border_emit hinv hend.border hv F.row0 F.col0⟩

end Biogo.Proofs.TraceFaith
