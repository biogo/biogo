/-
The q-gram lemma (Ukkonen) for substitution-only matches (C14), with the facts about the mismatch
flags of a diagonal and about the threshold `MinWordsPerFilterHit` that the completeness proof
(`Proofs/FilterComplete.lean`) and the checker (`Properties/C14_checker.lean`) share.
-/
import Biogo.Spec.Kmer
import Biogo.Spec.Filter
import Biogo.Model.Filter
import Biogo.Proofs.Kmer

namespace Biogo.Proofs.Filter
open Biogo.Spec.Kmer Biogo.Spec.Filter Biogo.Proofs.Kmer

theorem countP_range_lt (S : Nat → Bool) (m n : Nat) :
    (List.range n).countP (fun i => decide (i < m) && S i) = (List.range (min m n)).countP S := by
  induction n with
  | zero => simp
  | succ n ih =>
    rw [List.range_succ, List.countP_append, ih, List.countP_singleton]
    by_cases h : n < m
    · rw [Nat.min_eq_right (by omega), Nat.min_eq_right (by omega), List.range_succ, List.countP_append,
        List.countP_singleton]
      simp [h]
    · rw [Nat.min_eq_left (by omega), Nat.min_eq_left (by omega)]
      simp [h]

/-- length of the mismatch-free prefix (`true` flags a mismatch); a clean window starts where `lead ≥ k` -/
def lead : List Bool → Nat
  | false :: ms => lead ms + 1
  | _ => 0

/-- number of positions at which a window of `k` flags, all `false`, starts -/
def cleanStarts (k : Nat) : List Bool → Nat
  | [] => 0
  | m :: ms => (if lead (m :: ms) ≥ k then 1 else 0) + cleanStarts k ms

/-- every mismatch destroys at most `k` of the `|ms| - k + 1` windows -/
theorem cleanStarts_bound (k : Nat) (hk : 1 ≤ k) (ms : List Bool) :
    cleanStarts k ms + k * ms.countP id + min (lead ms) (k - 1) ≥ ms.length := by
  induction ms with
  | nil => simp [cleanStarts]
  | cons m ms ih =>
    cases m with
    | true =>
      have hl : lead (true :: ms) = 0 := rfl
      have hc : (true :: ms).countP id = ms.countP id + 1 := by rw [List.countP_cons]; rfl
      rw [cleanStarts, if_neg (by rw [hl]; omega), hl, hc, Nat.mul_add, List.length_cons]
      omega
    | false =>
      have hl : lead (false :: ms) = lead ms + 1 := rfl
      have hc : (false :: ms).countP id = ms.countP id := by rw [List.countP_cons]; simp
      rw [cleanStarts, hc, List.length_cons]
      by_cases h : lead (false :: ms) ≥ k
      · rw [if_pos h]; rw [hl] at h ⊢; omega
      · rw [if_neg h]; rw [hl] at h ⊢; omega

theorem lead_le_length (ms : List Bool) : lead ms ≤ ms.length := by
  induction ms with
  | nil => simp [lead]
  | cons m ms ih => cases m <;> simp [lead]; omega

theorem cleanStarts_eq (k : Nat) (ms : List Bool) :
    cleanStarts k ms = (List.range ms.length).countP fun i => decide (lead (ms.drop i) ≥ k) := by
  induction ms with
  | nil => simp [cleanStarts]
  | cons m ms ih =>
    rw [cleanStarts, ih, List.length_cons, List.range_succ_eq_map, List.countP_cons, List.countP_map]
    simp only [List.drop_zero, decide_eq_true_eq]
    have : ((fun i => decide (lead (List.drop i (m :: ms)) ≥ k)) ∘ Nat.succ)
        = fun i => decide (lead (ms.drop i) ≥ k) := by
      funext i; simp
    rw [this]; omega

theorem flagsFrom_length (lk : Lookup) (t q : List UInt8) (a b n : Nat) :
    (flagsFrom lk t q a b n).length = n := by
  induction n generalizing a b with
  | zero => rfl
  | succ n ih => simp [flagsFrom, ih]

theorem flagsFrom_add (lk : Lookup) (t q : List UInt8) (i n : Nat) : ∀ a b,
    flagsFrom lk t q a b (i + n) = flagsFrom lk t q a b i ++ flagsFrom lk t q (a + i) (b + i) n := by
  induction i with
  | zero => intro a b; simp [flagsFrom]
  | succ i ih =>
    intro a b
    have : i + 1 + n = (i + n) + 1 := by omega
    rw [this]
    simp only [flagsFrom, List.cons_append]
    rw [ih (a + 1) (b + 1)]
    have h1 : a + 1 + i = a + (i + 1) := by omega
    have h2 : b + 1 + i = b + (i + 1) := by omega
    rw [h1, h2]

theorem drop_flagsFrom (lk : Lookup) (t q : List UInt8) (a b : Nat) {n i : Nat} (h : i ≤ n) :
    (flagsFrom lk t q a b n).drop i = flagsFrom lk t q (a + i) (b + i) (n - i) := by
  have := flagsFrom_add lk t q i (n - i) a b
  rw [Nat.add_sub_cancel' h] at this
  rw [this, List.drop_left' (flagsFrom_length lk t q a b i)]

theorem mismatches_add (lk : Lookup) (t q : List UInt8) (a b i n : Nat) :
    mismatches lk t q a b (i + n) = mismatches lk t q a b i + mismatches lk t q (a + i) (b + i) n := by
  unfold mismatches
  rw [flagsFrom_add, List.countP_append]

theorem mismatches_succ (lk : Lookup) (t q : List UInt8) (a b i : Nat) :
    mismatches lk t q a b (i + 1) =
      mismatches lk t q a b i + (if mismatchAt lk t q (a + i) (b + i) then 1 else 0) := by
  rw [mismatches_add]
  congr 1
  unfold mismatches
  simp only [flagsFrom]
  cases mismatchAt lk t q (a + i) (b + i) <;> simp

theorem mismatchAt_false {lk : Lookup} {t q : List UInt8} {i j : Nat} (h : mismatchAt lk t q i j = false) :
    ∃ x y d, t[i]? = some x ∧ q[j]? = some y ∧ lk x = some d ∧ lk y = some d := by
  unfold mismatchAt at h
  cases hx : t[i]? with
  | none => simp [hx] at h
  | some x =>
    cases hy : q[j]? with
    | none => simp [hx, hy] at h
    | some y =>
      cases hdx : lk x with
      | none => simp [hx, hy, hdx] at h
      | some dx =>
        cases hdy : lk y with
        | none => simp [hx, hy, hdx, hdy] at h
        | some dy =>
          simp [hx, hy, hdx, hdy] at h
          exact ⟨x, y, dx, rfl, rfl, hdx, by rw [hdy, h]⟩

/-- a window of `k` clean columns spells the same word in both sequences -/
theorem words_of_no_mismatch (lk : Lookup) (t q : List UInt8) (k a b m : Nat)
    (h : lead (flagsFrom lk t q a b m) ≥ k) :
    k ≤ m ∧ ∃ w, wordAt lk k t a = some w ∧ wordAt lk k q b = some w := by
  induction k generalizing a b m with
  | zero => exact ⟨Nat.zero_le _, 0, by simp [wordAt, wordOf, digits, encode], by simp [wordAt, wordOf, digits, encode]⟩
  | succ k ih =>
    cases m with
    | zero => simp [flagsFrom, lead] at h
    | succ m =>
      rw [flagsFrom] at h
      cases hm : mismatchAt lk t q a b with
      | true => rw [hm] at h; simp [lead] at h
      | false =>
        rw [hm] at h
        obtain ⟨h1, w, hw1, hw2⟩ := ih (a + 1) (b + 1) m (by simp [lead] at h; omega)
        obtain ⟨x, y, d, hx, hy, hdx, hdy⟩ := mismatchAt_false hm
        obtain ⟨ha, hxa⟩ := List.getElem?_eq_some_iff.mp hx
        obtain ⟨hb, hyb⟩ := List.getElem?_eq_some_iff.mp hy
        refine ⟨by omega, d * 4 ^ k + w, ?_, ?_⟩
        · unfold wordAt at hw1 ⊢
          rw [List.drop_eq_getElem_cons ha, hxa, wordOf_cons, hdx, hw1]
        · unfold wordAt at hw2 ⊢
          rw [List.drop_eq_getElem_cons hb, hyb, wordOf_cons, hdy, hw2]

def sharedAt (lk : Lookup) (k : Nat) (t q : List UInt8) (a b : Nat) (i : Nat) : Bool :=
  match wordAt lk k t (a + i), wordAt lk k q (b + i) with
  | some w, some w' => w == w'
  | _, _ => false

theorem sharedKmers_eq (lk : Lookup) (k : Nat) (t q : List UInt8) (a b n : Nat) :
    sharedKmers lk k t q a b n = (List.range (n + 1 - k)).filter (sharedAt lk k t q a b) := rfl

theorem sharedAt_words {lk : Lookup} {k : Nat} {t q : List UInt8} {a b i : Nat}
    (h : sharedAt lk k t q a b i = true) :
    ∃ w, wordAt lk k t (a + i) = some w ∧ wordAt lk k q (b + i) = some w := by
  unfold sharedAt at h
  cases hw : wordAt lk k t (a + i) with
  | none => simp [hw] at h
  | some w =>
    cases hw' : wordAt lk k q (b + i) with
    | none => simp [hw, hw'] at h
    | some w' =>
      simp only [hw, hw', beq_iff_eq] at h
      exact ⟨w, rfl, by rw [h]⟩

/-- Ukkonen's q-gram lemma for substitution-only matches: two windows of `n` letters that differ
    in at most `e` columns share at least `n + 1 - k(e+1)` k-mers at equal offsets -/
theorem sharedKmers_bound (lk : Lookup) (k : Nat) (hk : 1 ≤ k) (t q : List UInt8) (a b n e : Nat)
    (hm : mismatches lk t q a b n ≤ e) :
    (sharedKmers lk k t q a b n).length + k * (e + 1) ≥ n + 1 := by
  have hb := cleanStarts_bound k hk (flagsFrom lk t q a b n)
  rw [flagsFrom_length, cleanStarts_eq, flagsFrom_length] at hb
  unfold mismatches at hm
  have hle : k * (flagsFrom lk t q a b n).countP id ≤ k * e := Nat.mul_le_mul_left k hm
  -- a clean window start is an offset below n + 1 - k at which the k-mers are shared
  have hmono : (List.range n).countP (fun i => decide (lead ((flagsFrom lk t q a b n).drop i) ≥ k)) ≤
      (List.range n).countP (fun i => decide (i < n + 1 - k) && sharedAt lk k t q a b i) := by
    apply List.countP_mono_left
    intro i hi hP
    rw [List.mem_range] at hi
    simp only [decide_eq_true_eq] at hP
    rw [drop_flagsFrom lk t q a b (Nat.le_of_lt hi)] at hP
    obtain ⟨h1, w, hw1, hw2⟩ := words_of_no_mismatch lk t q k (a + i) (b + i) (n - i) hP
    unfold sharedAt
    rw [hw1, hw2]
    simp; omega
  rw [countP_range_lt, Nat.min_eq_left (by omega)] at hmono
  rw [sharedKmers_eq, ← List.countP_eq_length_filter, Nat.mul_add]
  omega

theorem minWords_le_iff (n k e m : Nat) :
    Biogo.Filter.minWordsPerFilterHit n k e ≤ (m : Int) ↔ n + 1 ≤ m + k * (e + 1) := by
  unfold Biogo.Filter.minWordsPerFilterHit
  have : ((k * (e + 1) : Nat) : Int) = (k : Int) * ((e : Int) + 1) := by simp
  omega

/-- the threshold is positive exactly when `e + 1` disjoint k-mers fit into the window -/
theorem thr_pos_iff (n k e : Nat) : 0 < Biogo.Filter.minWordsPerFilterHit n k e ↔ k * (e + 1) ≤ n := by
  have := minWords_le_iff n k e 0
  omega

end Biogo.Proofs.Filter
