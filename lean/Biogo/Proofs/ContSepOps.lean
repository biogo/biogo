/-
The effect (`Eff`) of every operation of the C05/C07 histories on the object it is applied to,
for every container kind.  The shapes the operations share, each stated once:
in place — cells of the object's arrays overwritten, every slice kept (`Eff.of_writesOnly`,
`eff_rows_inPlace`, `Eff.aln_inPlace`; no hypothesis on the object); a loop over the rows, each written
in place or moved to a new array (`eff_thread_rows` over `RowStep`); one slice replaced
(`SlicesCapWF.set`, the loop of `Add`); new slices appended (`eff_aln_newColumns`: `AppendColumns` and
`AppendEach`; `Multi.add`); slices re-sliced or dropped without a write (`Truncate`, `Delete` of a multi).
-/
import Biogo.Proofs.ContSep

namespace Biogo.Containers
open Biogo.Go

theorem CapValid.writesOnly {P : Nat → Prop} {h h' : Cells} {s : Slice} (hv : CapValid h s) (hs : WritesOnly P h h') :
    CapValid h' s := CapValidG.writesOnly hv hs

theorem SlicesCapWF.writesOnly {P : Nat → Prop} {h h' : Cells} {ss : List Slice} (hw : SlicesCapWF h ss)
    (hs : WritesOnly P h h') : SlicesCapWF h' ss := ⟨fun s hm => (hw.1 s hm).writesOnly hs, hw.2⟩

theorem ColsCapWF.writesOnly {P : Nat → Prop} {h h' : Cells} {n : Nat} {cols : List Slice} (hw : ColsCapWF h n cols)
    (hs : WritesOnly P h h') : ColsCapWF h' n cols := ⟨hw.1.writesOnly hs, hw.2⟩

theorem Eff.of_writesOnly {P : Nat → Prop} {h h' : Cells} {o o' : Obj} (hs : WritesOnly P h h')
    (hP : ∀ b, P b → b ∈ o.arrs) (harrs : ∀ a' ∈ o'.arrs, a' ∈ o.arrs) (hwf : ObjWF h o → ObjWF h' o') :
    Eff h o h' o' :=
  ⟨(hs.mono hP).within, fun a' ha' => Or.inl (harrs a' ha'), hwf⟩

theorem InPlace.eff {g : Cells → Lin → Cells × Lin} (hg : InPlace g) (h : Cells) (l : Lin) :
    Eff h (.lin l) (g h l).1 (.lin (g h l).2) :=
  Eff.of_writesOnly (hg.writes h l) (fun _ e => List.mem_singleton.mpr e.symm)
    (fun _ ha => by rw [Obj.arrs, hg.slice] at ha; exact ha)
    (fun hw => by rw [ObjWF, hg.slice]; exact CapValid.writesOnly hw (hg.writes h l))

/-- `…_facts` of a copying operation: the premises of `Owned.step_addObj` — heap extended, arrays new, copy well formed. -/
theorem lin_clone_facts (cx : Ctx) (h : Cells) (l : Lin) :
    (l.clone cx h).2.s.arr = h.arrays.length ∧ CapValid (l.clone cx h).1 (l.clone cx h).2.s ∧
    Extends h (l.clone cx h).1 := by
  obtain ⟨a, _, _, d, e, _⟩ := ofList_factsG h (h.read l.s) (cx.grow 0 l.s.len) zeroQL
  exact ⟨a, d, e⟩

theorem Eff.rows {h h' : Cells} {rows rows' : List Lin} (within : Within (· ∈ rows.map (·.s.arr)) h h')
    (foot : ∀ r' ∈ rows', r'.s.arr ∈ rows.map (·.s.arr) ∨ h.arrays.length ≤ r'.s.arr)
    (wf : RowsCapWF h' rows') : Eff h (.multi ⟨rows⟩) h' (.multi ⟨rows'⟩) :=
  .of_wf within (fun a' ha' => by
    obtain ⟨r', hr', rfl⟩ := List.mem_map.mp ha'
    exact foot r' hr') wf

theorem Eff.refl (h : Cells) (o : Obj) : Eff h o h o :=
  ⟨.refl _ h, fun _ ha => Or.inl ha, id⟩

theorem Eff.trans {h1 h2 h3 : Cells} {o1 o2 o3 : Obj} (a : Eff h1 o1 h2 o2) (b : Eff h2 o2 h3 o3) :
    Eff h1 o1 h3 o3 := by
  refine ⟨a.within.trans b.within fun x hx => (a.foot x hx).imp id (·.1), fun a' ha' => ?_, fun hw => b.wf (a.wf hw)⟩
  have := a.within.size
  have := b.within.size
  rcases b.foot a' ha' with hin | hfresh
  · rcases a.foot a' hin with hin2 | hfresh2
    · exact Or.inl hin2
    · exact Or.inr (by omega)
  · exact Or.inr (by omega)

/-- a set owns the same arrays, and is well formed under the same condition, as the multi with its rows -/
theorem Eff.toSet {h h' : Cells} {m m' : Multi} (e : Eff h (.multi m) h' (.multi m')) :
    Eff h (.set m) h' (.set m') := ⟨e.within, e.foot, e.wf⟩

theorem eff_thread_rows {ι : Type} (row : ι → Lin) (g : Cells → ι → Cells × Lin) (hg : RowStep row g) (xs : List ι)
    (h : Cells) (hwf : RowsCapWF h (xs.map row)) :
    Eff h (.multi ⟨xs.map row⟩) (thread g xs h).1 (.multi ⟨(thread g xs h).2⟩) := by
  obtain ⟨hall, hwf', hwin⟩ := thread_rows row g hg (fun _ _ _ _ => True) (fun _ _ _ => trivial) xs h hwf
  have hmem : ∀ x ∈ xs, (row x).s.arr ∈ (xs.map row).map (·.s.arr) := fun x hx =>
    List.mem_map_of_mem (List.mem_map_of_mem hx)
  refine .rows (hwin.mono fun b ⟨x, hx, e⟩ => e ▸ hmem x hx) ?_ hwf'
  intro r' hr'
  obtain ⟨x, hx, hxr⟩ := hall.exists_left r' hr'
  exact hxr.2.imp (fun (e : r'.s.arr = _) => e ▸ hmem x hx) id

theorem eff_foldRows (g : Cells → Lin → Cells × Lin) (hg : RowStep id g) (rows : List Lin) (h : Cells)
    (hwf : RowsCapWF h rows) :
    Eff h (.multi ⟨rows⟩) (Multi.foldRows g rows h).1 (.multi ⟨(Multi.foldRows g rows h).2⟩) := by
  have := eff_thread_rows id g hg rows h (by rw [List.map_id]; exact hwf)
  rw [List.map_id] at this
  rw [foldRows_thread]
  exact this

theorem eff_rows_inPlace {h h' : Cells} {rows rows' : List Lin} (hs : WritesOnly (· ∈ rows.map (·.s.arr)) h h')
    (hm : rows'.map (·.s) = rows.map (·.s)) : Eff h (.multi ⟨rows⟩) h' (.multi ⟨rows'⟩) := by
  have harr : rows'.map (·.s.arr) = rows.map (·.s.arr) := by
    have := congrArg (List.map Slice.arr) hm
    simp only [List.map_map] at this
    exact this
  have hsub : ∀ a' ∈ rows'.map (·.s.arr), a' ∈ rows.map (·.s.arr) := fun a' ha' => harr ▸ ha'
  exact Eff.of_writesOnly hs (fun _ hb => hb) hsub fun hw => by
    rw [ObjWF, rowsCapWF_iff, hm]; exact ((rowsCapWF_iff _ _).mp hw).writesOnly hs

theorem thread_slices {g : Cells → Lin → Cells × Lin} (hg : InPlace g) :
    ∀ (rows : List Lin) (h : Cells), (thread g rows h).2.map (·.s) = rows.map (·.s) := by
  intro rows
  induction rows with
  | nil => intro h; rfl
  | cons r rs ih => intro h; simp only [thread, List.map_cons, hg.slice, ih]

theorem eff_thread_inPlace {g : Cells → Lin → Cells × Lin} (hg : InPlace g) {h : Cells} {rows : List Lin}
    {p : Cells × Multi} (e : p = ((thread g rows h).1, ⟨(thread g rows h).2⟩)) :
    Eff h (.multi ⟨rows⟩) p.1 (.multi p.2) := by
  rw [e]
  exact eff_rows_inPlace
    ((thread_writesOnly g (·.s.arr) hg.writes rows h).mono fun b ⟨x, hx, e⟩ => e ▸ List.mem_map_of_mem hx)
    (thread_slices hg rows h)

theorem Multi.setRevComp_thread (cx : Ctx) (h : Cells) (m : Multi) :
    m.setRevComp cx h = ((thread (fun h (r : Lin) => r.revComp cx h) m.rows h).1,
      { m with rows := (thread (fun h (r : Lin) => r.revComp cx h) m.rows h).2 }) :=
  congrArg (fun p : Cells × List Lin => (p.1, ({ m with rows := p.2 } : Multi)))
    (foldl_thread_nil (fun h (r : Lin) => r.revComp cx h) m.rows h)

theorem Multi.setReverse_thread (h : Cells) (m : Multi) :
    m.setReverse h = ((thread (fun h (r : Lin) => r.reverse h) m.rows h).1,
      { m with rows := (thread (fun h (r : Lin) => r.reverse h) m.rows h).2 }) :=
  congrArg (fun p : Cells × List Lin => (p.1, ({ m with rows := p.2 } : Multi)))
    (foldl_thread_nil (fun h (r : Lin) => r.reverse h) m.rows h)

theorem Multi.onRow_eq (h : Cells) (m : Multi) (i : Nat) (g : Cells → Lin → Cells × Lin) (r : Lin)
    (hi : m.rows[i]? = some r) :
    m.onRow h i g = ((g h r).1, { m with rows := m.rows.set i (g h r).2 }) := by
  simp only [Multi.onRow, hi]

theorem Multi.onRow_none (h : Cells) (m : Multi) (i : Nat) (g : Cells → Lin → Cells × Lin)
    (hi : m.rows[i]? = none) : m.onRow h i g = (h, m) := by
  simp only [Multi.onRow, hi]

theorem eff_onRow (g : Cells → Lin → Cells × Lin) (hg : InPlace g) (h : Cells) (m : Multi) (i : Nat) :
    Eff h (.multi m) (m.onRow h i g).1 (.multi (m.onRow h i g).2) := by
  cases hi : m.rows[i]? with
  | none => rw [Multi.onRow_none h m i g hi]; exact eff_rows_inPlace (.refl _ h) rfl
  | some r =>
    rw [Multi.onRow_eq h m i g r hi]
    refine eff_rows_inPlace ((hg.writes h r).mono fun b e => e ▸ List.mem_map_of_mem (List.mem_of_getElem? hi)) ?_
    rw [List.map_set, hg.slice]
    exact set_getElem?_self _ _ _ (by rw [List.getElem?_map, hi]; rfl)

theorem multi_clone_facts (cx : Ctx) (h : Cells) (m : Multi) :
    Extends h (m.clone cx h).1 ∧ RowsCapWF (m.clone cx h).1 (m.clone cx h).2.rows ∧
    ∀ r' ∈ (m.clone cx h).2.rows, h.arrays.length ≤ r'.s.arr := by
  obtain ⟨hall, hpw, hext⟩ := cloneRows_spec cx m.rows h
  rw [Multi.clone_thread]
  exact ⟨hext, ⟨fun c hc => by obtain ⟨_, _, hr⟩ := hall.exists_left c hc; exact hr.1, hpw⟩,
    fun c hc => by obtain ⟨_, _, hr⟩ := hall.exists_left c hc; exact hr.2.1⟩

theorem eff_multi_delete (h : Cells) (m : Multi) (hw : RowsCapWF h m.rows) (i : Nat) :
    Eff h (.multi m) h (.multi (m.delete i)) := by
  refine .rows (.refl _ h) ?_ ⟨?_, ?_⟩
  · intro r' hr'
    exact Or.inl (List.mem_map.mpr ⟨r', List.mem_of_mem_eraseIdx hr', rfl⟩)
  · intro r' hr'
    exact hw.1 r' (List.mem_of_mem_eraseIdx hr')
  · exact hw.2.sublist (List.eraseIdx_sublist _ _)

theorem newLins_facts (cx : Ctx) (h : Cells) (sps : List SeqSpec) :
    Extends h (newLins cx h sps).1 ∧ RowsCapWF (newLins cx h sps).1 (newLins cx h sps).2 ∧
    ∀ l ∈ (newLins cx h sps).2, h.arrays.length ≤ l.s.arr := by
  obtain ⟨hall, hpw, hext⟩ := newRows_spec cx sps h
  rw [newLins_thread]
  exact ⟨hext, ⟨fun l hl => (hall l hl).2, hpw⟩, fun l hl => (hall l hl).1⟩

/-- the rows `linear.NewSeq/NewQSeq` build for a multi satisfy `RowsCapWF` -/
theorem newLins_rowsCapWF (cx : Ctx) (h : Cells) (sps : List SeqSpec) :
    RowsCapWF (newLins cx h sps).1 (newLins cx h sps).2 :=
  (newLins_facts cx h sps).2.1

theorem eff_multi_add (cx : Ctx) (h : Cells) (m : Multi) (hw : RowsCapWF h m.rows) (sps : List SeqSpec) :
    Eff h (.multi m) (newLins cx h sps).1 (.multi (m.add (newLins cx h sps).2)) := by
  obtain ⟨hg, hnw, hfresh⟩ := newLins_facts cx h sps
  refine .rows (hg.within _) ?_ (hw.append hg hnw hfresh)
  intro r' hr'
  rcases List.mem_append.mp hr' with hm | hm
  · exact Or.inl (List.mem_map.mpr ⟨r', hm, rfl⟩)
  · exact Or.inr (hfresh r' hm)

theorem eff_rows_append (cx : Ctx) (payload : Nat → List QL) (h : Cells) (rows : List Lin)
    (hwf : RowsCapWF h rows) :
    let res := rows.foldl (fun (acc : Cells × List Lin × Nat) r =>
        ((r.appendQL cx acc.1 (payload acc.2.2)).1, acc.2.1 ++ [(r.appendQL cx acc.1 (payload acc.2.2)).2], acc.2.2 + 1))
        (h, [], 0)
    Eff h (.multi ⟨rows⟩) res.1 (.multi ⟨res.2.1⟩) := by
  intro res
  obtain ⟨hlen, hrows, hwf', hwin⟩ := appendRows_within cx payload h rows hwf
  refine .rows (hwin.mono fun b ⟨r, hr, e⟩ => e ▸ List.mem_map_of_mem hr) ?_ hwf'
  intro r' hr'
  obtain ⟨i, hi⟩ := List.getElem?_of_mem hr'
  have hil : i < rows.length := hlen ▸ (List.getElem?_eq_some_iff.mp hi).1
  obtain ⟨r'', h1, _, hfoot⟩ := hrows i rows[i] (List.getElem?_eq_getElem hil)
  obtain rfl : r'' = r' := Option.some.inj (h1.symm.trans hi)
  exact hfoot.imp (fun (e : r''.s.arr = _) => e ▸ List.mem_map_of_mem (List.getElem_mem hil)) id

theorem eff_multi_appendColumns (cx : Ctx) (h : Cells) (m : Multi) (hw : RowsCapWF h m.rows) (colsIn : List (List QL))
    (h' : Cells) (m' : Multi) (happ : m.appendColumns cx h colsIn = some (h', m')) :
    Eff h (.multi m) h' (.multi m') := by
  unfold Multi.appendColumns at happ
  split at happ
  · cases happ
  · cases happ
    -- stated first, so that the loop bodies are compared only once both are known
    have := eff_rows_append cx (fun k => colsIn.map fun c => c.getD k zeroQL) h m.rows hw
    exact this

theorem eff_multi_appendEach (cx : Ctx) (h : Cells) (m : Multi) (hw : RowsCapWF h m.rows) (runs : List (List QL))
    (h' : Cells) (m' : Multi) (happ : m.appendEach cx h runs = some (h', m')) :
    Eff h (.multi m) h' (.multi m') := by
  unfold Multi.appendEach at happ
  split at happ
  · cases happ
  · cases happ
    have := eff_rows_append cx (fun k => runs.getD k []) h m.rows hw
    exact this

theorem eff_multi_flush (cx : Ctx) (h : Cells) (m : Multi) (hw : RowsCapWF h m.rows) (wh : Nat) (fill : UInt8) :
    Eff h (.multi m) (m.flush cx h wh fill).1 (.multi (m.flush cx h wh fill).2) := by
  unfold Multi.flush
  by_cases hf : m.isFlush wh = true
  · simp only [hf, if_true]; exact .refl h _
  · simp only [hf, Bool.false_eq_true, if_false]
    have e1 : Eff h (.multi m)
        (if wh % 2 == 1 then Multi.foldRows (Multi.flushStartStep cx m.start fill) m.rows h else (h, m.rows)).1
        (.multi ⟨(if wh % 2 == 1 then Multi.foldRows (Multi.flushStartStep cx m.start fill) m.rows h else (h, m.rows)).2⟩) := by
      by_cases hw1 : (wh % 2 == 1) = true
      · rw [if_pos hw1]; exact eff_foldRows _ (rowStep_flushStart cx m.start fill) m.rows h hw
      · rw [if_neg hw1]; exact .refl h _
    generalize (if wh % 2 == 1 then Multi.foldRows (Multi.flushStartStep cx m.start fill) m.rows h else (h, m.rows)) = p1 at e1
    by_cases hw2 : ((wh / 2) % 2 == 1) = true
    · rw [if_pos hw2]
      exact e1.trans (eff_foldRows _ (rowStep_flushEnd cx _ fill) p1.2 p1.1 (e1.wf hw))
    · rw [if_neg hw2]; exact e1

theorem Lin.truncate_capValid (h : Cells) (l l' : Lin) (st en : Int) (ht : l.truncate st en = some l')
    (hv : CapValid h l.s) : CapValid h l'.s ∧ l'.s.arr = l.s.arr := by
  obtain ⟨h1, h2, _, h4, rfl⟩ := (Lin.truncate_eq_some l l' st en).mp ht
  have e1 : l.start = l.off := rfl
  obtain ⟨v1, v2, v3⟩ := hv
  refine ⟨⟨v1, ?_, ?_⟩, rfl⟩
  · show (en - l.off).toNat - (st - l.off).toNat ≤ l.s.cap - (st - l.off).toNat
    omega
  · show l.s.off + (st - l.off).toNat + (l.s.cap - (st - l.off).toNat) ≤ (h.arr l.s.arr).length
    omega

theorem rowsCapWF_of_all2 {h h' : Cells} {rows rows' : List Lin}
    (hall : All2 (fun r r' => r'.s.arr = r.s.arr ∧ CapValid h' r'.s) rows rows')
    (hwf : RowsCapWF h rows) : RowsCapWF h' rows' :=
  ⟨fun r' hr' => by obtain ⟨r, _, hx⟩ := hall.exists_left r' hr'; exact hx.2,
   pairwise_arr_of_map_eq (fun (r : Lin) => r.s.arr) (hall.map_eq _ _ fun a b hab => hab.1.symm).symm hwf.2⟩

theorem truncFold_all2 (h : Cells) (st en : Int) : ∀ (rows : List Lin) (acc : List Lin) (flag : Bool),
    (∀ r ∈ rows, CapValid h r.s) →
    ∃ rs', (rows.foldl (Multi.truncStep st en) (acc, flag)).1 = acc ++ rs' ∧
      All2 (fun r r' => r'.s.arr = r.s.arr ∧ CapValid h r'.s) rows rs' := by
  intro rows
  induction rows with
  | nil => intro acc flag _; exact ⟨[], by simp, .nil⟩
  | cons r rs ih =>
    intro acc flag hv
    have hvr := hv r List.mem_cons_self
    have hvs : ∀ x ∈ rs, CapValid h x.s := fun x hx => hv x (List.mem_cons_of_mem _ hx)
    simp only [List.foldl_cons]
    -- whatever the step does, the row it emits is in the same array and valid
    have hstep : ∃ r1 f1, Multi.truncStep st en (acc, flag) r = (acc ++ [r1], f1) ∧
        r1.s.arr = r.s.arr ∧ CapValid h r1.s := by
      unfold Multi.truncStep
      cases flag with
      | false => exact ⟨r, false, by simp, rfl, hvr⟩
      | true =>
        simp only [Bool.not_true, Bool.false_eq_true, if_false]
        cases ht : r.truncate st en with
        | none => exact ⟨r, false, rfl, rfl, hvr⟩
        | some r' =>
          obtain ⟨c1, c2⟩ := Lin.truncate_capValid h r r' st en ht hvr
          exact ⟨r', true, rfl, c2, c1⟩
    obtain ⟨r1, f1, e, a1, a2⟩ := hstep
    rw [e]
    obtain ⟨rs', h1, h2⟩ := ih (acc ++ [r1]) f1 hvs
    exact ⟨r1 :: rs', by rw [h1]; simp, .cons ⟨a1, a2⟩ h2⟩

theorem eff_multi_truncate (h : Cells) (m : Multi) (hw : RowsCapWF h m.rows) (st en : Int) :
    Eff h (.multi m) h (.multi (m.truncate st en).1) := by
  obtain ⟨rs', h1, h2⟩ := truncFold_all2 h st en m.rows [] true hw.1
  have hr : (m.truncate st en).1 = ⟨rs'⟩ := by
    simp only [Multi.truncate]
    rw [h1]; simp
  rw [hr]
  refine .rows (.refl _ h) ?_ (rowsCapWF_of_all2 h2 hw)
  intro r' hr'
  obtain ⟨r, hrm, hx⟩ := h2.exists_left r' hr'
  exact Or.inl (List.mem_map.mpr ⟨r, hrm, hx.1.symm⟩)

theorem subseqFold_wf (cx : Ctx) (st en : Int) (h0 : Cells) : ∀ (rows : List Lin) (hc : Cells) (acc : List Lin)
    (flag : Bool), Extends h0 hc → RowsCapWF hc acc → (∀ c ∈ acc, h0.arrays.length ≤ c.s.arr) →
    Extends h0 (rows.foldl (Multi.subseqStep cx st en) (hc, acc, flag)).1 ∧
    RowsCapWF (rows.foldl (Multi.subseqStep cx st en) (hc, acc, flag)).1
      (rows.foldl (Multi.subseqStep cx st en) (hc, acc, flag)).2.1 ∧
    ∀ c ∈ (rows.foldl (Multi.subseqStep cx st en) (hc, acc, flag)).2.1, h0.arrays.length ≤ c.s.arr := by
  intro rows
  induction rows with
  | nil => intro hc acc flag hg hv hp; exact ⟨hg, hv, hp⟩
  | cons r rs ih =>
    intro hc acc flag hg hv hnew
    simp only [List.foldl_cons]
    cases flag with
    | false =>
      have : Multi.subseqStep cx st en (hc, acc, false) r = (hc, acc, false) := by simp [Multi.subseqStep]
      rw [this]; exact ih hc acc false hg hv hnew
    | true =>
      obtain ⟨carr, cvalid, cgrow⟩ := lin_clone_facts cx hc r
      cases ht : ((r.clone cx hc).2).truncate st en with
      | none =>
        have : Multi.subseqStep cx st en (hc, acc, true) r = ((r.clone cx hc).1, acc, false) := by
          simp [Multi.subseqStep, ht]
        rw [this]
        exact ih _ acc false (hg.trans cgrow) (hv.extends cgrow) hnew
      | some c' =>
        have : Multi.subseqStep cx st en (hc, acc, true) r = ((r.clone cx hc).1, acc ++ [c'], true) := by
          simp [Multi.subseqStep, ht]
        rw [this]
        obtain ⟨t1, t2⟩ := Lin.truncate_capValid (r.clone cx hc).1 _ c' st en ht cvalid
        have hc' : hc.arrays.length ≤ c'.s.arr := by rw [t2, carr]; exact Nat.le_refl _
        refine ih _ (acc ++ [c']) true (hg.trans cgrow) (hv.concat cgrow t1 hc') fun c hm => ?_
        rcases List.mem_append.mp hm with hm | hm
        · exact hnew c hm
        · rw [List.mem_singleton.mp hm]; exact Nat.le_trans hg.size hc'

theorem multi_subseq_facts (cx : Ctx) (h : Cells) (m : Multi) (st en : Int) :
    Extends h (m.subseq cx h st en).1 ∧
    ∀ m', (m.subseq cx h st en).2 = some m' →
      RowsCapWF (m.subseq cx h st en).1 m'.rows ∧ ∀ r' ∈ m'.rows, h.arrays.length ≤ r'.s.arr := by
  obtain ⟨a, b, c⟩ := subseqFold_wf cx st en h m.rows h [] true (Extends.refl h) ⟨by simp, .nil⟩ (by simp)
  refine ⟨a, ?_⟩
  intro m' hm'
  simp only [Multi.subseq] at hm'
  split at hm'
  · cases hm'
    exact ⟨b, c⟩
  · cases hm'

theorem Eff.aln_inPlace {h h' : Cells} {a a' : Aln} (hs : WritesOnly (· ∈ a.cols.map (·.arr)) h h')
    (hcols : a'.cols = a.cols) (hoff : a'.off = a.off) (hsubs : a'.subs.length = a.subs.length) :
    Eff h (.aln a) h' (.aln a') :=
  Eff.of_writesOnly hs (fun _ hb => hb) (fun _ ha => by rwa [Obj.arrs, hcols] at ha) fun hw => by
    obtain ⟨h0, n, hc, hsub⟩ := hw
    rw [ObjWF, hcols, hoff, hsubs]
    exact ⟨h0, n, hc.writesOnly hs, hsub⟩

theorem Aln.reverse_cols (a : Aln) : a.reverse.cols = a.cols.reverse := twoPtr_reverse a.cols

theorem eff_aln_reverse (h : Cells) (a : Aln) : Eff h (.aln a) h (.aln a.reverse) := by
  refine Eff.of_writesOnly (.refl (fun _ => False) h) (fun _ hb => hb.elim) ?_ fun hw => ?_
  · intro a' ha'
    simp only [Obj.arrs, Aln.reverse_cols, List.map_reverse, List.mem_reverse] at ha'
    exact ha'
  · obtain ⟨h0, n, hc, hsub⟩ := hw
    refine ⟨h0, n, ⟨⟨?_, ?_⟩, ?_⟩, ?_⟩
    · intro c hc'
      rw [Aln.reverse_cols, List.mem_reverse] at hc'
      exact hc.1.1 c hc'
    · rw [Aln.reverse_cols, List.pairwise_reverse]
      exact hc.1.2.imp fun hxy => Ne.symm hxy
    · intro c hc'
      rw [Aln.reverse_cols, List.mem_reverse] at hc'
      exact hc.2 c hc'
    · intro hne
      apply hsub
      intro e
      apply hne
      rw [Aln.reverse_cols, e]; rfl

theorem writesOnly_aln_set (h : Cells) (a : Aln) (r : Nat) (pos : Int) (c : QL) :
    WritesOnly (· ∈ a.cols.map (·.arr)) h (a.set h r pos c) := by
  unfold Aln.set
  split
  · exact .refl _ h
  · split
    · rename_i col hcol
      exact (WritesOnly.set h col r _).mono fun b hb => hb ▸ List.mem_map_of_mem (List.mem_of_getElem? hcol)
    · exact .refl _ h

theorem eff_aln_rowLoop (f : QL → QL) (mid : Bool) (g : Ann → Ann) (h : Cells) (a : Aln) (r : Nat) :
    Eff h (.aln a) (Aln.rowLoop f mid a.cols r (loopFuel a.cols.length) 0 a.cols.length h)
      (.aln { a with subs := Aln.modSub a.subs r g }) :=
  Eff.aln_inPlace (a' := { a with subs := Aln.modSub a.subs r g })
    (writesOnly_rowLoop f mid a.cols r (loopFuel a.cols.length) 0 a.cols.length h) rfl rfl
    (by simp only [Aln.modSub, List.length_modify])

theorem ColsCapWF.append {h h' : Cells} {n : Nat} {cols news : List Slice} (hw : ColsCapWF h n cols) (e : Extends h h')
    (hnew : ∀ s ∈ news, CapValid h' s ∧ h.arrays.length ≤ s.arr ∧ s.len = n)
    (hpw : news.Pairwise (fun a b => a.arr ≠ b.arr)) : ColsCapWF h' n (cols ++ news) := by
  refine ⟨hw.1.append e ⟨fun s hs => (hnew s hs).1, hpw⟩ fun s hs => (hnew s hs).2.1, fun c hm => ?_⟩
  rcases List.mem_append.mp hm with hm | hm
  · exact hw.2 c hm
  · exact (hnew c hm).2.2

/-- Only an alignment's copy needs its source well formed (the columns must read one length), so that part is stated apart. -/
theorem aln_clone_alloc (cx : Ctx) (h : Cells) (a : Aln) :
    Extends h (a.clone cx h).1 ∧
    ∀ x ∈ (Obj.aln (a.clone cx h).2).arrs, h.arrays.length ≤ x ∧ x < (a.clone cx h).1.arrays.length := by
  obtain ⟨hall, _, hext⟩ := cloneCols_spec cx a.cols h
  rw [Aln.clone_thread]
  refine ⟨hext, fun x hx => ?_⟩
  obtain ⟨c, hc, rfl⟩ := List.mem_map.mp hx
  obtain ⟨_, _, hr⟩ := hall.exists_left c hc
  exact ⟨hr.2.1, hr.1.1⟩

theorem aln_clone_facts (cx : Ctx) (h : Cells) (a : Aln) (hw : ObjWF h (.aln a)) :
    ObjWF (a.clone cx h).1 (.aln (a.clone cx h).2) := by
  obtain ⟨h0, n, hc, hsub⟩ := hw
  obtain ⟨hall, hpw, _⟩ := cloneCols_spec cx a.cols h
  rw [Aln.clone_thread]
  refine ⟨h0, n, ⟨⟨fun c' hc' => ?_, hpw⟩, fun c' hc' => ?_⟩, fun hne => hsub fun e => hne ?_⟩
  · obtain ⟨_, _, hx⟩ := hall.exists_left c' hc'; exact hx.1
  · obtain ⟨c, hcm, hx⟩ := hall.exists_left c' hc'; exact (hx.2.2 n (hc.toColsWF.1 c hcm)).2
  · exact List.length_eq_zero_iff.mp (by rw [← hall.length_eq, e]; rfl)

theorem Aln.appendColumns_some {cx : Ctx} {h h' : Cells} {a a' : Aln} {rows : Nat} {colsIn : List (List QL)}
    (happ : a.appendColumns cx h rows colsIn = some (h', a')) :
    (∀ c ∈ colsIn, c.length = rows) ∧ h' = (thread (Aln.newColumn cx a.q) colsIn h).1 ∧
      a' = { a with cols := a.cols ++ (thread (Aln.newColumn cx a.q) colsIn h).2 } := by
  have hok : colsIn.any (fun c => c.length != rows) = false := by
    cases hc : colsIn.any (fun c => c.length != rows) with
    | false => rfl
    | true => simp [Aln.appendColumns, hc] at happ
  rw [Aln.appendColumns_thread cx h a rows colsIn hok] at happ
  cases happ
  exact ⟨fun c hc => by simpa using List.any_eq_false.mp hok c hc, rfl, rfl⟩

theorem eff_aln_newColumns (cx : Ctx) (h : Cells) (a : Aln) (hw : ObjWF h (.aln a)) (rows : Nat)
    (hr : a.rows? = some rows) (colsIn : List (List QL)) (hlen : ∀ c ∈ colsIn, c.length = rows) :
    Eff h (.aln a) (thread (Aln.newColumn cx a.q) colsIn h).1
      (.aln { a with cols := a.cols ++ (thread (Aln.newColumn cx a.q) colsIn h).2 }) := by
  obtain ⟨hoff, n, hc, hsub⟩ := hw
  obtain rfl := Aln.rows?_eq hc hr
  obtain ⟨hall, hpw, hext⟩ := newColumns_spec cx a.q colsIn h
  have hnew : ∀ s ∈ (thread (Aln.newColumn cx a.q) colsIn h).2,
      CapValid (thread (Aln.newColumn cx a.q) colsIn h).1 s ∧ h.arrays.length ≤ s.arr ∧ s.len = rows := fun s hs => by
    obtain ⟨c, hcm, hx⟩ := hall.exists_left s hs
    exact ⟨hx.2.1, hx.2.2.1, hx.2.2.2.trans (hlen c hcm)⟩
  refine .of_wf (hext.within _) (fun a' ha' => ?_)
    ⟨hoff, rows, hc.append hext hnew hpw, fun _ => hsub (Aln.cols_ne_nil hr)⟩
  simp only [Obj.arrs, List.map_append, List.mem_append, List.mem_map] at ha'
  rcases ha' with ⟨c, hm, rfl⟩ | ⟨c, hm, rfl⟩
  · exact Or.inl (List.mem_map.mpr ⟨c, hm, rfl⟩)
  · exact Or.inr (hnew c hm).2.1

theorem eff_aln_appendColumns (cx : Ctx) (h : Cells) (a : Aln) (hw : ObjWF h (.aln a)) (rows : Nat)
    (hr : a.rows? = some rows) (colsIn : List (List QL)) (h' : Cells) (a' : Aln)
    (happ : a.appendColumns cx h rows colsIn = some (h', a')) : Eff h (.aln a) h' (.aln a') := by
  obtain ⟨hlen, rfl, rfl⟩ := Aln.appendColumns_some happ
  exact eff_aln_newColumns cx h a hw rows hr colsIn hlen

/-- `AppendEach` is `AppendColumns` of the columns it builds from the runs -/
theorem eff_aln_appendEach (cx : Ctx) (h : Cells) (a : Aln) (hw : ObjWF h (.aln a)) (rows : Nat)
    (hr : a.rows? = some rows) (runs : List (List QL)) (h' : Cells) (a' : Aln)
    (happ : a.appendEach cx h rows runs = some (h', a')) : Eff h (.aln a) h' (.aln a') := by
  unfold Aln.appendEach at happ
  split at happ
  · cases happ
  · rename_i hlen
    have hrl : runs.length = rows := by simpa using hlen
    rw [eachFold_eq cx rows runs hrl] at happ
    cases happ
    refine eff_aln_newColumns cx h a hw rows hr _ fun c hc => ?_
    obtain ⟨i, _, rfl⟩ := List.mem_map.mp hc
    rw [eachColumn_length, hrl]

theorem eff_aln_delete (h : Cells) (a : Aln) (hw : ObjWF h (.aln a)) (i : Nat) (hi : i < a.rows) :
    Eff h (.aln a) (a.delete h i).1 (.aln (a.delete h i).2) := by
  obtain ⟨h0, n, hc, hsub⟩ := hw
  have hin : i < n := Aln.lt_of_lt_rows hc hi
  obtain ⟨hall, hs⟩ := delCols_spec i n hin a.cols h hc.toColsWF hc.cap
  rw [Aln.delete_thread]
  have hm : (thread (fun h c => Aln.delCol h c i) a.cols h).2.map (·.arr) = a.cols.map (·.arr) :=
    (hall.map_eq _ _ fun c c' hcc => by rw [hcc.2]).symm
  have hne : a.cols ≠ [] := Aln.ne_nil_of_lt_rows hi
  refine Eff.of_writesOnly hs (fun _ ⟨c, hc, e⟩ => e ▸ List.mem_map_of_mem hc)
    (by simp only [Obj.arrs, hm]; exact fun _ ha => ha) fun _ => ⟨h0, n - 1, ⟨⟨?_, ?_⟩, ?_⟩, fun _ => by
      show (a.subs.eraseIdx i).length = n - 1
      rw [List.length_eraseIdx, hsub hne]; simp [hin]⟩
  · intro c' hc'
    obtain ⟨c, hcm, _, rfl⟩ := hall.exists_left c' hc'
    obtain ⟨v1, v2, v3⟩ := (hc.1.1 c hcm).writesOnly hs
    have := hc.2 c hcm
    exact ⟨v1, by show n - 1 ≤ c.cap; omega, v3⟩
  · exact pairwise_arr_of_map_eq Slice.arr hm hc.1.2
  · intro c' hc'
    obtain ⟨c, _, _, rfl⟩ := hall.exists_left c' hc'
    rfl

/-- the body of the loop of `Aln.add`, under a name so that the loop invariant can speak of one iteration
    (`Aln.add_eq` is `rfl`) -/
def addStep (cx : Ctx) (a : Aln) (seqs : List Lin) (acc : Cells × List Slice) (k : Nat) : Cells × List Slice :=
  let pos : Int := a.off + (k : Int)
  match acc.2[pos.toNat]? with
  | some c =>
    ((acc.1.append cx.grow c (Aln.addColumn cx acc.1 a.q seqs pos) zeroQL).1,
     acc.2.set pos.toNat (acc.1.append cx.grow c (Aln.addColumn cx acc.1 a.q seqs pos) zeroQL).2)
  | none => acc

theorem Aln.add_eq (cx : Ctx) (h : Cells) (a : Aln) (seqs : List Lin) :
    a.add cx h seqs = (((List.range a.cols.length).foldl (addStep cx a seqs) (h, a.cols)).1,
      { a with cols := ((List.range a.cols.length).foldl (addStep cx a seqs) (h, a.cols)).2,
               subs := a.subs ++ seqs.map fun ss => ⟨ss.name, ss.off, ss.strand⟩ }) := rfl

theorem addColumn_length (cx : Ctx) (h : Cells) (q : Bool) (seqs : List Lin) (pos : Int) :
    (Aln.addColumn cx h q seqs pos).length = seqs.length := by simp [Aln.addColumn]

/-- the loop of `Add` after `k` columns: the first `k` columns have grown to `len` entries (in
    place or into a new array), the others are as they were -/
structure AddInv (h : Cells) (a : Aln) (len k : Nat) (acc : Cells × List Slice) : Prop where
  length : acc.2.length = a.cols.length
  wf : SlicesCapWF acc.1 acc.2
  cols : ∀ (j : Nat) (c : Slice), acc.2[j]? = some c →
    (c.arr ∈ a.cols.map (·.arr) ∨ h.arrays.length ≤ c.arr) ∧ if j < k then c.len = len else a.cols[j]? = some c
  within : Within (· ∈ a.cols.map (·.arr)) h acc.1

theorem AddInv.zero {h : Cells} {a : Aln} {len : Nat} (hw : SlicesCapWF h a.cols) : AddInv h a len 0 (h, a.cols) :=
  ⟨rfl, hw, fun j c hc => ⟨Or.inl (List.mem_map_of_mem (List.mem_of_getElem? hc)), by rw [if_neg (Nat.not_lt_zero j)]; exact hc⟩,
   .refl _ h⟩

/-- one iteration is `SlicesCapWF.set` applied to Go's `append` on column `k` -/
theorem AddInv.step (cx : Ctx) {h : Cells} {a : Aln} (seqs : List Lin) {n k : Nat} {acc : Cells × List Slice}
    (hoff : a.off = 0) (hn : ∀ c ∈ a.cols, c.len = n) (hk : k < a.cols.length)
    (inv : AddInv h a (n + seqs.length) k acc) :
    AddInv h a (n + seqs.length) (k + 1) (addStep cx a seqs acc k) := by
  obtain ⟨hk', cur⟩ := acc
  obtain ⟨hlen, hwf, hcols, hin⟩ := inv
  simp only at hlen hwf hcols hin
  -- the column the step works on is still the original one
  have hget : cur[k]? = some a.cols[k] := by
    have hc := List.getElem?_eq_getElem (hlen ▸ hk : k < cur.length)
    have := (hcols k _ hc).2
    rw [if_neg (Nat.lt_irrefl k), List.getElem?_eq_getElem hk] at this
    rw [hc, Option.some.inj this]
  have hmem : a.cols[k].arr ∈ a.cols.map (·.arr) := List.mem_map.mpr ⟨_, List.getElem_mem hk, rfl⟩
  have hpos : (a.off + (k : Int)).toNat = k := by omega
  obtain ⟨_, r2, r3, r4, r5⟩ := append_specG cx.grow hk' a.cols[k]
    (Aln.addColumn cx hk' a.q seqs (a.off + (k : Int))) zeroQL (hwf.1 _ (List.mem_of_getElem? hget))
  simp only [addStep, hpos, hget]
  generalize hk'.append cx.grow a.cols[k] (Aln.addColumn cx hk' a.q seqs (a.off + (k : Int))) zeroQL = ap
    at r2 r3 r4 r5
  obtain ⟨h2, c'⟩ := ap
  simp only at r2 r3 r4 r5 ⊢
  refine ⟨by rw [List.length_set, hlen], hwf.set hget r5 r2 r4, ?_, hin.trans r5 fun _ e => Or.inl (e ▸ hmem)⟩
  · intro j c hc
    rcases LTS.getElem?_set_cases hc with ⟨rfl, rfl⟩ | ⟨e, hc'⟩
    · refine ⟨r4.imp (fun (e : c.arr = _) => e ▸ hmem) (fun e => Nat.le_trans hin.size e), ?_⟩
      rw [if_pos (Nat.lt_succ_self j), r3, addColumn_length, hn _ (List.getElem_mem hk)]
    · refine ⟨(hcols j c hc').1, ?_⟩
      have := (hcols j c hc').2
      by_cases hjk : j < k
      · rw [if_pos hjk] at this; rw [if_pos (by omega)]; exact this
      · rw [if_neg hjk] at this; rw [if_neg (by omega)]; exact this

theorem aln_add_inv (cx : Ctx) (h : Cells) (a : Aln) (seqs : List Lin) (n : Nat) (hoff : a.off = 0)
    (hw : ColsCapWF h n a.cols) : ∀ k, k ≤ a.cols.length →
      AddInv h a (n + seqs.length) k ((List.range k).foldl (addStep cx a seqs) (h, a.cols)) := by
  intro k
  induction k with
  | zero => intro _; exact AddInv.zero hw.1
  | succ k ih =>
    intro hk
    rw [List.range_succ, List.foldl_append]
    exact (ih (by omega)).step cx seqs hoff hw.2 (by omega)

theorem eff_aln_add (cx : Ctx) (h : Cells) (a : Aln) (hw : ObjWF h (.aln a)) (seqs : List Lin) :
    Eff h (.aln a) (a.add cx h seqs).1 (.aln (a.add cx h seqs).2) := by
  obtain ⟨h0, n, hc, hsub⟩ := hw
  have inv := aln_add_inv cx h a seqs n h0 hc a.cols.length (Nat.le_refl _)
  rw [Aln.add_eq]
  -- every column has been through the loop
  have hall : ∀ c ∈ ((List.range a.cols.length).foldl (addStep cx a seqs) (h, a.cols)).2,
      (c.arr ∈ a.cols.map (·.arr) ∨ h.arrays.length ≤ c.arr) ∧ c.len = n + seqs.length := by
    intro c hm
    obtain ⟨j, hj⟩ := List.getElem?_of_mem hm
    have hjl : j < a.cols.length := inv.length ▸ (List.getElem?_eq_some_iff.mp hj).1
    have := inv.cols j c hj
    rw [if_pos hjl] at this
    exact this
  refine .of_wf inv.within ?_ ⟨h0, n + seqs.length, ⟨inv.wf, fun c hm => (hall c hm).2⟩, ?_⟩
  · intro a' ha'
    obtain ⟨c, hm, rfl⟩ := List.mem_map.mp ha'
    exact (hall c hm).1
  · intro hne
    have hne' : a.cols ≠ [] := fun e => hne (List.length_eq_zero_iff.mp (by rw [inv.length, e]; rfl))
    simp only [List.length_append, List.length_map, hsub hne']

theorem ObjWF.grow {h h' : Cells} {o : Obj} (hw : ObjWF h o) (hg : Extends h h') : ObjWF h' o :=
  hw.mono hg.size fun a ha => hg.old a (hw.arrs_lt a ha)

theorem Eff.after_grow {h h1 h2 : Cells} {o o' : Obj} (hg : Extends h h1) (he : Eff h1 o h2 o') : Eff h o h2 o' :=
  ⟨(hg.within _).trans he.within fun _ hx => Or.inl hx,
   fun a' ha' => (he.foot a' ha').imp id fun hge => ⟨Nat.le_trans hg.size hge.1, hge.2⟩,
   fun hw => he.wf (hw.grow hg)⟩

end Biogo.Containers
