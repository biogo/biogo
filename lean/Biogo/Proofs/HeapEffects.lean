/-
How a heap of backing arrays changes, and the loop that threads a heap through a list of items.

A Go function on slices does one of two things to the heap.  It overwrites cells of arrays it was handed
(`WritesOnly P`: nothing is allocated, no array changes its length, the arrays outside `P` are untouched; so
every slice that was valid stays valid), or it allocates (`Extends`: every array there was is there as it was).
`Within P` is what the two have in common and what composes: Go `append` is the one or the other depending on
capacity, and a loop of appends is neither.  The models' loops over rows and over columns are of the form
`thread` (`foldl_thread`); `All2` relates the items of a loop to its results.  Nothing here mentions the
container model.
-/
import Biogo.Go.Slice
import Biogo.Proofs.All2

namespace Biogo.Containers
open Biogo.Go

theorem pairwise_arr_of_map_eq {α : Type} (f : α → Nat) {l l' : List α} (hm : l'.map f = l.map f)
    (hp : l.Pairwise (fun x y => f x ≠ f y)) : l'.Pairwise (fun x y => f x ≠ f y) := by
  rw [← List.pairwise_map (R := (· ≠ ·))] at hp ⊢
  rw [hm]; exact hp

section effects
variable {α : Type}

theorem read_congr_arr (h h' : Heap α) (t : Slice) (e : h'.arr t.arr = h.arr t.arr) :
    h'.read t = h.read t := by
  simp only [Heap.read, e]

theorem length_read (h : Heap α) (s : Slice) (hs : s.off + s.len ≤ (h.arr s.arr).length) :
    (h.read s).length = s.len := by
  simp only [Heap.read, List.length_take, List.length_drop]
  omega

structure WritesOnly (P : Nat → Prop) (h h' : Heap α) : Prop where
  size : h'.arrays.length = h.arrays.length
  arrlen : ∀ b, (h'.arr b).length = (h.arr b).length
  frame : ∀ b, ¬ P b → h'.arr b = h.arr b

theorem WritesOnly.refl (P : Nat → Prop) (h : Heap α) : WritesOnly P h h :=
  ⟨rfl, fun _ => rfl, fun _ _ => rfl⟩

theorem WritesOnly.trans {P : Nat → Prop} {h1 h2 h3 : Heap α} (a : WritesOnly P h1 h2) (b : WritesOnly P h2 h3) :
    WritesOnly P h1 h3 :=
  ⟨b.size.trans a.size, fun x => (b.arrlen x).trans (a.arrlen x), fun x hx => (b.frame x hx).trans (a.frame x hx)⟩

theorem WritesOnly.mono {P Q : Nat → Prop} {h h' : Heap α} (a : WritesOnly P h h') (hPQ : ∀ b, P b → Q b) :
    WritesOnly Q h h' :=
  ⟨a.size, a.arrlen, fun x hx => a.frame x fun hp => hx (hPQ x hp)⟩

theorem WritesOnly.set (h : Heap α) (s : Slice) (i : Nat) (v : α) : WritesOnly (s.arr = ·) h (h.set s i v) :=
  ⟨Heap.length_set _ _ _ _, fun _ => Heap.length_arr_set _ _ _ _ _, fun _ hb => Heap.arr_set_other _ _ _ _ _ hb⟩

theorem WritesOnly.foldl {ι : Type} {P : Nat → Prop} (step : Heap α → ι → Heap α)
    (hstep : ∀ h x, WritesOnly P h (step h x)) : ∀ (xs : List ι) (h : Heap α), WritesOnly P h (xs.foldl step h) := by
  intro xs
  induction xs with
  | nil => intro h; exact .refl P h
  | cons x xs ih => intro h; exact (hstep h x).trans (ih _)

structure Extends (h h' : Heap α) : Prop where
  size : h.arrays.length ≤ h'.arrays.length
  old : ∀ b, b < h.arrays.length → h'.arr b = h.arr b

theorem Extends.refl (h : Heap α) : Extends h h := ⟨Nat.le_refl _, fun _ _ => rfl⟩

theorem Extends.trans {h1 h2 h3 : Heap α} (a : Extends h1 h2) (b : Extends h2 h3) : Extends h1 h3 :=
  ⟨Nat.le_trans a.size b.size, fun x hx => (b.old x (Nat.lt_of_lt_of_le hx a.size)).trans (a.old x hx)⟩

theorem Extends.ofList (h : Heap α) (xs : List α) (cap : Nat) (z : α) : Extends h (h.ofList xs cap z).1 :=
  ⟨Nat.le_of_lt (Nat.lt_of_lt_of_eq (Nat.lt_succ_self _) (Heap.size_ofList h xs cap z).symm),
    fun _ hb => Heap.arr_alloc_old _ _ _ hb⟩

/-- `h'` is `h` except inside the arrays `P` and for arrays allocated since -/
structure Within (P : Nat → Prop) (h h' : Heap α) : Prop where
  size : h.arrays.length ≤ h'.arrays.length
  frame : ∀ b, ¬ P b → b < h.arrays.length → h'.arr b = h.arr b

theorem Within.refl (P : Nat → Prop) (h : Heap α) : Within P h h := ⟨Nat.le_refl _, fun _ _ _ => rfl⟩

theorem WritesOnly.within {P : Nat → Prop} {h h' : Heap α} (a : WritesOnly P h h') : Within P h h' :=
  ⟨Nat.le_of_eq a.size.symm, fun b hb _ => a.frame b hb⟩

theorem Extends.within {h h' : Heap α} (a : Extends h h') (P : Nat → Prop) : Within P h h' :=
  ⟨a.size, fun b _ hb => a.old b hb⟩

theorem Within.mono {P Q : Nat → Prop} {h h' : Heap α} (a : Within P h h') (hPQ : ∀ b, P b → Q b) : Within Q h h' :=
  ⟨a.size, fun b hb => a.frame b fun hp => hb (hPQ b hp)⟩

/-- the second change may also write what the first allocated -/
theorem Within.trans {P Q : Nat → Prop} {h1 h2 h3 : Heap α} (a : Within P h1 h2) (b : Within Q h2 h3)
    (hQ : ∀ x, Q x → P x ∨ h1.arrays.length ≤ x) : Within P h1 h3 :=
  ⟨Nat.le_trans a.size b.size, fun x hx hl =>
    (b.frame x (fun hq => (hQ x hq).elim hx (Nat.not_le_of_lt hl)) (Nat.lt_of_lt_of_le hl a.size)).trans (a.frame x hx hl)⟩

/-- what lived in array `a` was written in place or moved to a new array `a'` -/
theorem Within.other {h h' : Heap α} {a a' b : Nat} (w : Within (a = ·) h h') (hf : a' = a ∨ h.arrays.length ≤ a')
    (hb : b < h.arrays.length) (hne : b ≠ a) : h'.arr b = h.arr b ∧ b ≠ a' :=
  ⟨w.frame b (fun e => hne e.symm) hb, fun e => hf.elim (fun e' => hne (e.trans e')) fun e' => Nat.not_le_of_lt hb (e ▸ e')⟩

end effects

section loops
variable {α ι ο : Type}

/-- `for _, x := range xs { out = append(out, g(x)) }` with the heap threaded through -/
def thread (g : Heap α → ι → Heap α × ο) : List ι → Heap α → Heap α × List ο
  | [], h => (h, [])
  | x :: xs, h => ((thread g xs (g h x).1).1, (g h x).2 :: (thread g xs (g h x).1).2)

/-- the loop as the model writes it, with its accumulator -/
theorem foldl_thread (g : Heap α → ι → Heap α × ο) : ∀ (xs : List ι) (h : Heap α) (acc : List ο),
    xs.foldl (fun acc x => ((g acc.1 x).1, acc.2 ++ [(g acc.1 x).2])) (h, acc)
      = ((thread g xs h).1, acc ++ (thread g xs h).2) := by
  intro xs
  induction xs with
  | nil => intro h acc; simp [thread]
  | cons x xs ih => intro h acc; simp only [List.foldl_cons, ih, thread, List.append_assoc, List.singleton_append]

theorem foldl_thread_nil (g : Heap α → ι → Heap α × ο) (xs : List ι) (h : Heap α) :
    xs.foldl (fun acc x => ((g acc.1 x).1, acc.2 ++ [(g acc.1 x).2])) (h, []) = thread g xs h :=
  foldl_thread g xs h []

/-- for steps that write their item's array whatever the heap is (the in-place operations on a `Lin`).
    `thread_inPlace` below is for steps that are in place only on a valid item (`Delete` on a column): there the
    validity of the items still to come is carried along the loop, which needs their arrays pairwise different. -/
theorem thread_writesOnly (g : Heap α → ι → Heap α × ο) (key : ι → Nat)
    (hg : ∀ h x, WritesOnly (key x = ·) h (g h x).1) :
    ∀ (xs : List ι) (h : Heap α), WritesOnly (fun b => ∃ x ∈ xs, key x = b) h (thread g xs h).1 := by
  intro xs
  induction xs with
  | nil => intro h; exact .refl _ h
  | cons x xs ih =>
    intro h
    exact ((hg h x).mono fun b e => ⟨x, List.mem_cons_self, e⟩).trans
      ((ih (g h x).1).mono fun b ⟨y, hy, e⟩ => ⟨y, List.mem_cons_of_mem _ hy, e⟩)

/-- a loop over items that each own a slice (`sl`) in an array of their own: a step writes only the
    item's array or moves the item to an array that did not exist (`sl'` of its result).  What a step
    establishes between what the item read before and reads after (`Rel`) still holds at the end, because
    no other step touches the item's array.  `V` is the validity of a slice (allocated, inside its array),
    or anything as stable under changes to other arrays (`hVa`, `hV`). -/
theorem thread_spec (g : Heap α → ι → Heap α × ο) (sl : ι → Slice) (sl' : ο → Slice) (V : Heap α → Slice → Prop)
    (hVa : ∀ h s, V h s → s.arr < h.arrays.length)
    (hV : ∀ h h' s, V h s → h.arrays.length ≤ h'.arrays.length → h'.arr s.arr = h.arr s.arr → V h' s)
    (hg : ∀ h x, V h (sl x) → Within ((sl x).arr = ·) h (g h x).1 ∧
      ((sl' (g h x).2).arr = (sl x).arr ∨ h.arrays.length ≤ (sl' (g h x).2).arr) ∧ V (g h x).1 (sl' (g h x).2))
    (Rel : List α → ι → List α → ο → Prop)
    (hrel : ∀ h x, V h (sl x) → Rel (h.read (sl x)) x ((g h x).1.read (sl' (g h x).2)) (g h x).2) :
    ∀ (xs : List ι) (h : Heap α), (∀ x ∈ xs, V h (sl x)) → xs.Pairwise (fun a b => (sl a).arr ≠ (sl b).arr) →
      All2 (fun x o => Rel (h.read (sl x)) x ((thread g xs h).1.read (sl' o)) o ∧
          ((sl' o).arr = (sl x).arr ∨ h.arrays.length ≤ (sl' o).arr) ∧ V (thread g xs h).1 (sl' o))
        xs (thread g xs h).2 ∧
      (thread g xs h).2.Pairwise (fun a b => (sl' a).arr ≠ (sl' b).arr) ∧
      Within (fun b => ∃ x ∈ xs, (sl x).arr = b) h (thread g xs h).1 := by
  intro xs
  induction xs with
  | nil => intro h _ _; exact ⟨.nil, .nil, .refl _ h⟩
  | cons x xs ih =>
    intro h hvs hpw
    have hpw := List.pairwise_cons.mp hpw
    have hv := hvs x List.mem_cons_self
    obtain ⟨hw, hfoot, hv1⟩ := hg h x hv
    -- the step leaves the arrays of the later items alone, and its result is in none of them
    have hoth : ∀ y ∈ xs, (g h x).1.arr (sl y).arr = h.arr (sl y).arr ∧ (sl y).arr ≠ (sl' (g h x).2).arr := fun y hy =>
      hw.other hfoot (hVa _ _ (hvs y (List.mem_cons_of_mem _ hy))) (Ne.symm (hpw.1 y hy))
    obtain ⟨hall, hpw', hwin⟩ := ih (g h x).1
      (fun y hy => hV _ _ _ (hvs y (List.mem_cons_of_mem _ hy)) hw.size (hoth y hy).1) hpw.2
    -- so the rest of the loop leaves the array of the step's result alone
    have hk : (thread g xs (g h x).1).1.arr (sl' (g h x).2).arr = (g h x).1.arr (sl' (g h x).2).arr :=
      hwin.frame _ (fun ⟨y, hy, e⟩ => (hoth y hy).2 e) (hVa _ _ hv1)
    refine ⟨.cons ⟨?_, hfoot, hV _ _ _ hv1 hwin.size hk⟩ ?_, List.pairwise_cons.mpr ⟨fun o ho => ?_, hpw'⟩, ?_⟩
    · show Rel _ _ ((thread g xs (g h x).1).1.read _) _
      rw [read_congr_arr _ _ _ hk]; exact hrel h x hv
    · refine hall.imp_mem fun y o hy hyo => ⟨?_, hyo.2.1.imp_right (Nat.le_trans hw.size), hyo.2.2⟩
      rw [← read_congr_arr _ _ _ (hoth y hy).1]; exact hyo.1
    · obtain ⟨y, hy, hyo⟩ := hall.exists_left o ho
      rcases hyo.2.1 with e | e
      · rw [e]; exact ((hoth y hy).2).symm
      · exact Nat.ne_of_lt (Nat.lt_of_lt_of_le (hVa _ _ hv1) e)
    · exact (hw.mono (Q := fun b => ∃ z ∈ x :: xs, (sl z).arr = b) fun b e => ⟨x, List.mem_cons_self, e⟩).trans
        (hwin.mono (Q := fun b => ∃ z ∈ x :: xs, (sl z).arr = b) fun b ⟨y, hy, e⟩ => ⟨y, List.mem_cons_of_mem _ hy, e⟩)
        fun _ => Or.inl

theorem thread_inPlace (g : Heap α → ι → Heap α × ο) (sl : ι → Slice) (V : Heap α → Slice → Prop)
    (hV : ∀ h h' s, V h s → h.arrays.length ≤ h'.arrays.length → h'.arr s.arr = h.arr s.arr → V h' s)
    (hg : ∀ h x, V h (sl x) → WritesOnly ((sl x).arr = ·) h (g h x).1) :
    ∀ (xs : List ι) (h : Heap α), (∀ x ∈ xs, V h (sl x)) → xs.Pairwise (fun a b => (sl a).arr ≠ (sl b).arr) →
      WritesOnly (fun b => ∃ x ∈ xs, (sl x).arr = b) h (thread g xs h).1 := by
  intro xs
  induction xs with
  | nil => intro h _ _; exact .refl _ h
  | cons x xs ih =>
    intro h hvs hpw
    have hpw := List.pairwise_cons.mp hpw
    have hw := hg h x (hvs x List.mem_cons_self)
    exact (hw.mono fun b e => ⟨x, List.mem_cons_self, e⟩).trans
      ((ih (g h x).1 (fun y hy => hV _ _ _ (hvs y (List.mem_cons_of_mem _ hy)) (Nat.le_of_eq hw.size.symm)
        (hw.frame _ (hpw.1 y hy))) hpw.2).mono fun b ⟨y, hy, e⟩ => ⟨y, List.mem_cons_of_mem _ hy, e⟩)

end loops

end Biogo.Containers
