/-
`NWAffine`: every returned pair carries the score recomputed from letters, matrix and gap
parameters whenever the traceback never left its layer (`nwAlignT_faithful` on `tie = false`):
always for the layer-aware traceback after the repair of K5 (`nwAlignT_aware_tie`), and for the
layer-blind traceback it replaced (`aware = false`) on the inputs without a tie.
-/
import Biogo.Proofs.NWAffine
import Biogo.Proofs.TraceFaith

namespace Biogo.Proofs.NWFaith
open Biogo.Spec.Alignment Biogo.AlignAff Biogo.Spec.AffPairs
open Biogo.Proofs.TraceSum Biogo.Proofs.NWAffine Biogo.Proofs.TraceFaith

/-- a leading query gap whose score is read from the `left` layer of row 0 carries its recomputed
    score (`NWAffine` and, on the same row 0, `FittedAffine`) -/
theorem lead_left (cross : Bool) (S : Matrix) (o : Int) (r q : List Nat) {j : Nat} (hj0 : j ≠ 0) (hj : j ≤ q.length) :
    vget ((nwTable cross S o r q).at 0 j).l =
      pairScore S o r q ⟨0, 0, 0, j, vget ((nwTable cross S o r q).at 0 j).l⟩ := by
  obtain ⟨j', rfl⟩ := Nat.exists_eq_add_one_of_ne_zero hj0
  rw [pairScore_left S o r q 0 0 (j' + 1) _ (Nat.succ_pos _), nwTable_row0 cross S o r q j' hj]
  rfl

/-- Faithful pair scores for either switch and either fill: if the traceback of the model of
    `NWAffine` only takes cases of its current layer, every pair's score is the recomputed one. -/
theorem nwAlignT_faithful (aware cross : Bool) (S : Matrix) (o : Int) (r q : List Nat) (hr : r ≠ []) (hq : q ≠ [])
    (ps : List Pair) (h : nwAlignT aware cross S o r q = .ok (ps, false)) : faithful S o r q ps = true := by
  have F := nwTable_borders cross S o r q
  obtain ⟨x, hx, _⟩ := nw_start cross S o r q hr hq
  obtain ⟨st, v, hloop, hinv, hstop, _, _, hemit⟩ := F.run aware _ .m (Or.inl rfl) (List.length_pos_iff.mpr hr)
    (List.length_pos_iff.mpr hq) (Nat.le_refl _) (Nat.le_refl _) hx
  obtain ⟨st', hloop', htie, rfl⟩ := nwAlignT_ok.1 h
  cases hloop.symm.trans hloop'
  split
  · -- the leading gap carries the value of the border cell the loop stopped in
    refine (faithful_cons S o r q _ _).2 ⟨?_, hemit htie⟩
    simp only []
    by_cases hi0 : st.i = 0
    · rw [if_pos hi0, hi0]
      exact lead_left cross S o r q (fun e => by omega) (Nat.le_trans hinv.hj hinv.hC)
    · obtain ⟨i', hi'⟩ := Nat.exists_eq_add_one_of_ne_zero hi0
      have hiR : i' + 1 ≤ r.length := hi' ▸ Nat.le_trans hinv.hi hinv.hR
      rw [if_neg hi0, hstop.resolve_left hi0, hi', pairScore_up S o r q 0 (i' + 1) 0 _ (Nat.succ_pos _), Cell.get,
        nwTable_col0 cross S o r q i' hiR]
      rfl
  · exact hemit htie

/-- the layer-aware traceback of `NWAffine` never raises the ghost flag -/
theorem nwAlignT_aware_tie (cross : Bool) (S : Matrix) (o : Int) (r q : List Nat) (ps : List Pair) (t : Bool)
    (h : nwAlignT true cross S o r q = .ok (ps, t)) : t = false := by
  obtain ⟨st, hl, rfl, _⟩ := nwAlignT_ok.1 h
  exact loop_tie_aware cross false _ S o r q _ _ _ _ st hl

end Biogo.Proofs.NWFaith
