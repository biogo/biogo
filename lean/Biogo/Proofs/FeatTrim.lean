/-
The library for `bytes.TrimSpace`, `Fields`-join, `lines` and `crlf` as transcribed in Biogo.Go.BytesFeat.
Three kinds of fact: a trailing ASCII white-space byte is ignored (`trimSpace_append_space`); a string
without a white-space rune at either end is a fixed point (`trimSpace_of_ends`, for visible ASCII ends
`trimSpace_of_ascii_ends`, for `Plain` strings also of `removeSpaces`); a text is read line by line
(`lf_induction`).  The FASTA and FASTQ proofs use it through `Proofs/Bytes`, which shows that `Go/Bytes.lean`
defines the same functions.
-/
import Biogo.Go.BytesFeat

namespace Biogo.BytesFeat

theorem isAsciiSpace_lt (a : UInt8) (h : isAsciiSpace a = true) : a < 128 := by
  simp only [isAsciiSpace, Bool.or_eq_true, beq_iff_eq] at h
  rcases h with ((((h | h) | h) | h) | h) | h <;> subst h <;> decide

/-- every byte of the two-byte encoding of a white-space rune has its high bit set … -/
theorem isSpace2_of_lt {a b : UInt8} (h : a < 128 ∨ b < 128) : isSpace2 a b = false := by
  cases hs : isSpace2 a b with
  | false => rfl
  | true =>
    simp only [isSpace2, Bool.and_eq_true, Bool.or_eq_true, beq_iff_eq] at hs
    rcases hs with ⟨rfl, rfl | rfl⟩ <;> exact absurd h (by decide)

/-- … and so has every byte of a three-byte encoding -/
theorem isSpace3_of_lt {a b c : UInt8} (h : a < 128 ∨ b < 128 ∨ c < 128) : isSpace3 a b c = false := by
  cases hs : isSpace3 a b c with
  | false => rfl
  | true =>
    simp only [isSpace3, Bool.or_eq_true, Bool.and_eq_true, beq_iff_eq, decide_eq_true_eq] at hs
    rcases hs with ((⟨⟨rfl, rfl⟩, rfl⟩ | ⟨⟨rfl, rfl⟩, hc⟩) | ⟨⟨rfl, rfl⟩, rfl⟩) | ⟨⟨rfl, rfl⟩, rfl⟩
    · exact absurd h (by decide)
    · rcases hc with ((⟨hc, _⟩ | rfl) | rfl) | rfl
      · rcases h with h | h | h
        · exact absurd h (by decide)
        · exact absurd h (by decide)
        · exact absurd (UInt8.lt_of_lt_of_le h hc) (UInt8.lt_irrefl _)
      all_goals exact absurd h (by decide)
    · exact absurd h (by decide)
    · exact absurd h (by decide)

theorem trimLeft_space {a : UInt8} (r : Bytes) (h : isAsciiSpace a = true) :
    trimLeft (a :: r) = trimLeft r := by
  rw [trimLeft.eq_def]; simp [h]

theorem trimLeft_one {a : UInt8} (h : ¬ isAsciiSpace a = true) : trimLeft [a] = [a] := by
  simp [trimLeft, h]

theorem trimLeft_two {a b : UInt8} (r : Bytes) (h : ¬ isAsciiSpace a = true) (h2 : isSpace2 a b = true) :
    trimLeft (a :: b :: r) = trimLeft r := by
  rw [trimLeft.eq_def]; simp [h, h2]

theorem trimLeft_two_keep {a b : UInt8} (h : ¬ isAsciiSpace a = true) (h2 : ¬ isSpace2 a b = true) :
    trimLeft [a, b] = [a, b] := by
  simp [trimLeft, h, h2]

theorem trimLeft_three {a b c : UInt8} (r : Bytes) (h : ¬ isAsciiSpace a = true) (h2 : ¬ isSpace2 a b = true)
    (h3 : isSpace3 a b c = true) : trimLeft (a :: b :: c :: r) = trimLeft r := by
  rw [trimLeft]; simp [h, h2, h3]

theorem trimLeft_three_keep {a b c : UInt8} (r : Bytes) (h : ¬ isAsciiSpace a = true) (h2 : ¬ isSpace2 a b = true)
    (h3 : ¬ isSpace3 a b c = true) : trimLeft (a :: b :: c :: r) = a :: b :: c :: r := by
  rw [trimLeft]; simp [h, h2, h3]

theorem trimLeft_append_space (c : UInt8) (hc : isAsciiSpace c = true) (l : Bytes) :
    trimLeft (l ++ [c]) = trimLeft l ++ [c] ∨ (trimLeft (l ++ [c]) = [] ∧ trimLeft l = []) := by
  fun_induction trimLeft l with
  | case1 => right; simp [trimLeft, hc]
  | case2 a r ha ih =>
    rw [List.cons_append, trimLeft_space _ ha]
    exact ih
  | case3 a ha =>
    left
    have h2 : ¬ isSpace2 a c = true := by simp [isSpace2_of_lt (.inr (isAsciiSpace_lt c hc))]
    show trimLeft [a, c] = [a] ++ [c]
    rw [trimLeft_two_keep ha h2]; rfl
  | case4 a ha b r hb ih =>
    rw [List.cons_append, List.cons_append, trimLeft_two _ ha hb]
    exact ih
  | case5 a ha b hb =>
    left
    have h3 : ¬ isSpace3 a b c = true := by simp [isSpace3_of_lt (.inr (.inr (isAsciiSpace_lt c hc)))]
    show trimLeft [a, b, c] = [a, b] ++ [c]
    rw [trimLeft_three_keep [] ha hb h3]; rfl
  | case6 a ha b hb c' r hc' ih =>
    rw [List.cons_append, List.cons_append, List.cons_append, trimLeft_three _ ha hb hc']
    exact ih
  | case7 a ha b hb c' r hc' =>
    left
    rw [List.cons_append, List.cons_append, List.cons_append, trimLeft_three_keep _ ha hb hc']

theorem trimRight_nil : trimRight [] = [] := by simp [trimRight, dropSpaceRev]

theorem trimRight_append_space (c : UInt8) (hc : isAsciiSpace c = true) (l : Bytes) :
    trimRight (l ++ [c]) = trimRight l := by
  unfold trimRight
  rw [List.reverse_append, List.reverse_singleton, List.singleton_append, dropSpaceRev.eq_def]
  simp [hc]

/-- `bytes.TrimSpace` ignores a trailing ASCII white-space byte (`\n`, `\r`, …) -/
theorem trimSpace_append_space (c : UInt8) (hc : isAsciiSpace c = true) (l : Bytes) :
    trimSpace (l ++ [c]) = trimSpace l := by
  unfold trimSpace
  rcases trimLeft_append_space c hc l with h | ⟨h1, h2⟩
  · rw [h, trimRight_append_space c hc]
  · rw [h1, h2]

theorem trimSpace_append_nl (l : Bytes) : trimSpace (l ++ [10]) = trimSpace l :=
  trimSpace_append_space 10 (by decide) l

theorem trimSpace_append_crnl (l : Bytes) : trimSpace (l ++ [13, 10]) = trimSpace l := by
  have : l ++ [13, 10] = (l ++ [13]) ++ [10] := by simp
  rw [this, trimSpace_append_nl, trimSpace_append_space 13 (by decide)]

theorem trimLeft_of_spaceLen (s : Bytes) (h : spaceLen s = 0) : trimLeft s = s := by
  match s with
  | [] => rfl
  | [a] =>
    have ha : ¬ isAsciiSpace a = true := by intro e; simp [spaceLen, e] at h
    exact trimLeft_one ha
  | [a, b] =>
    have ha : ¬ isAsciiSpace a = true := by intro e; simp [spaceLen, e] at h
    have hb : ¬ isSpace2 a b = true := by intro e; simp [spaceLen, ha, e] at h
    exact trimLeft_two_keep ha hb
  | a :: b :: c :: r =>
    have ha : ¬ isAsciiSpace a = true := by intro e; simp [spaceLen, e] at h
    have hb : ¬ isSpace2 a b = true := by intro e; simp [spaceLen, ha, e] at h
    have hc : ¬ isSpace3 a b c = true := by intro e; simp [spaceLen, ha, hb, e] at h
    exact trimLeft_three_keep r ha hb hc

theorem dropSpaceRev_of_spaceLenRev (s : Bytes) (h : spaceLenRev s = 0) : dropSpaceRev s = s := by
  match s with
  | [] => rfl
  | [a] =>
    have ha : ¬ isAsciiSpace a = true := by intro e; simp [spaceLenRev, e] at h
    simp [dropSpaceRev, ha]
  | [a, b] =>
    have ha : ¬ isAsciiSpace a = true := by intro e; simp [spaceLenRev, e] at h
    have hb : ¬ isSpace2 b a = true := by intro e; simp [spaceLenRev, ha, e] at h
    simp [dropSpaceRev, ha, hb]
  | a :: b :: c :: r =>
    have ha : ¬ isAsciiSpace a = true := by intro e; simp [spaceLenRev, e] at h
    have hb : ¬ isSpace2 b a = true := by intro e; simp [spaceLenRev, ha, e] at h
    have hc : ¬ isSpace3 c b a = true := by intro e; simp [spaceLenRev, ha, hb, e] at h
    rw [dropSpaceRev.eq_def]; simp [ha, hb, hc]

theorem trimSpace_of_ends (s : Bytes) (h1 : spaceLen s = 0) (h2 : spaceLenRev s.reverse = 0) : trimSpace s = s := by
  unfold trimSpace trimRight
  rw [trimLeft_of_spaceLen s h1, dropSpaceRev_of_spaceLenRev _ h2, List.reverse_reverse]

/-- ASCII without white space: what the printed numbers, the keywords and the sequence letters are made of -/
def Plain (s : Bytes) : Prop := ∀ c ∈ s, c < 128 ∧ isAsciiSpace c = false

instance (s : Bytes) : Decidable (Plain s) :=
  inferInstanceAs (Decidable (∀ c ∈ s, c < 128 ∧ isAsciiSpace c = false))

theorem Plain.cons {a : UInt8} {s : Bytes} (h1 : a < 128) (h2 : isAsciiSpace a = false) (h : Plain s) :
    Plain (a :: s) := by
  intro c hc
  rcases List.mem_cons.mp hc with rfl | hc
  · exact ⟨h1, h2⟩
  · exact h c hc

theorem Plain.append {s t : Bytes} (hs : Plain s) (ht : Plain t) : Plain (s ++ t) :=
  fun c hc => (List.mem_append.mp hc).elim (hs c) (ht c)

theorem Plain.not_mem {s : Bytes} (h : Plain s) {k : UInt8} (hk : isAsciiSpace k = true) : k ∉ s :=
  fun hm => by rw [(h k hm).2] at hk; cases hk

theorem spaceLen_ascii_head (a : UInt8) (r : Bytes) (h1 : a < 128) (h2 : isAsciiSpace a = false) :
    spaceLen (a :: r) = 0 := by
  match r with
  | [] => simp [spaceLen, h2]
  | [b] => simp [spaceLen, h2, isSpace2_of_lt (.inl h1)]
  | b :: c :: r => simp [spaceLen, h2, isSpace2_of_lt (.inl h1), isSpace3_of_lt (.inl h1)]

theorem spaceLenRev_ascii_head (a : UInt8) (r : Bytes) (h1 : a < 128) (h2 : isAsciiSpace a = false) :
    spaceLenRev (a :: r) = 0 := by
  match r with
  | [] => simp [spaceLenRev, h2]
  | [b] => simp [spaceLenRev, h2, isSpace2_of_lt (.inr h1)]
  | b :: c :: r => simp [spaceLenRev, h2, isSpace2_of_lt (.inr h1), isSpace3_of_lt (.inr (.inr h1))]

theorem trimSpace_of_ascii_ends (s : Bytes) (hh : ∀ a ∈ s.head?, a < 128 ∧ isAsciiSpace a = false)
    (hl : ∀ a ∈ s.getLast?, a < 128 ∧ isAsciiSpace a = false) : trimSpace s = s := by
  cases s with
  | nil => rfl
  | cons a r =>
    refine trimSpace_of_ends _ (spaceLen_ascii_head a r (hh a rfl).1 (hh a rfl).2) ?_
    cases hr : (a :: r).reverse with
    | nil => simp at hr
    | cons z zs =>
      have hz := hl z (by rw [List.getLast?_eq_head?_reverse, hr]; rfl)
      exact spaceLenRev_ascii_head z zs hz.1 hz.2

theorem trimSpace_ascii (s : Bytes) (h : Plain s) : trimSpace s = s :=
  trimSpace_of_ascii_ends s (fun a ha => h a (List.mem_of_mem_head? ha)) (fun a ha => h a (List.mem_of_getLast? ha))

theorem removeSpaces_plain_append (l r : Bytes) (h : Plain l) : removeSpaces (l ++ r) = l ++ removeSpaces r := by
  unfold removeSpaces
  induction l with
  | nil => rfl
  | cons a l ih =>
    have ha := h a (by simp)
    rw [List.cons_append, removeSpacesAux, spaceLen_ascii_head a _ ha.1 ha.2]
    simp only []
    rw [ih (fun c hc => h c (List.mem_cons_of_mem _ hc))]; rfl

theorem removeSpaces_ascii (s : Bytes) (h : Plain s) : removeSpaces s = s := by
  simpa [removeSpaces, removeSpacesAux] using removeSpaces_plain_append s [] h

theorem removeSpaces_spaces (p : Bytes) (hp : ∀ b ∈ p, isAsciiSpace b = true) : removeSpaces p = [] := by
  unfold removeSpaces
  induction p with
  | nil => rfl
  | cons a p ih =>
    rw [removeSpacesAux, show spaceLen (a :: p) = 1 by simp [spaceLen, hp a (by simp)]]
    exact ih (fun b hb => hp b (List.mem_cons_of_mem _ hb))

/-! A text is a newline-free piece, or a newline-free piece, a newline and a text (`lf_induction`); `lines` and
`crlf` are given by their values on the two shapes. -/

theorem first_lf (bs : Bytes) : (10 : UInt8) ∉ bs ∨ ∃ l post, bs = l ++ 10 :: post ∧ (10 : UInt8) ∉ l :=
  (Decidable.em ((10 : UInt8) ∈ bs)).symm.imp id List.eq_append_cons_of_mem

theorem lf_induction {P : Bytes → Prop} (last : ∀ l, (10 : UInt8) ∉ l → P l)
    (line : ∀ l post, (10 : UInt8) ∉ l → P post → P (l ++ 10 :: post)) (bs : Bytes) : P bs := by
  generalize hn : bs.length = n
  induction n using Nat.strongRecOn generalizing bs with
  | _ n ih =>
    rcases first_lf bs with hno | ⟨l, post, rfl, hl⟩
    · exact last bs hno
    · exact line l post hl (ih _ (by rw [← hn, List.length_append, List.length_cons]; omega) post rfl)

theorem lines_line (l post : Bytes) (hl : (10 : UInt8) ∉ l) : lines (l ++ 10 :: post) = (l ++ [10]) :: lines post := by
  induction l with
  | nil => rw [List.nil_append, lines]; rfl
  | cons c l ih =>
    have hc : (c == 10) = false := beq_false_of_ne (List.ne_of_not_mem_cons hl).symm
    rw [List.cons_append, lines, ih (List.not_mem_of_not_mem_cons hl)]
    simp [hc]

theorem lines_last (l : Bytes) (hl : (10 : UInt8) ∉ l) (hne : l ≠ []) : lines l = [l] := by
  induction l with
  | nil => exact absurd rfl hne
  | cons c l ih =>
    have hc : (c == 10) = false := beq_false_of_ne (List.ne_of_not_mem_cons hl).symm
    rw [lines]
    cases l with
    | nil => simp [hc, lines]
    | cons d r => simp [hc, ih (List.not_mem_of_not_mem_cons hl) (List.cons_ne_nil d r)]

theorem crlf_last (l : Bytes) (hl : (10 : UInt8) ∉ l) : crlf l = l := by
  induction l with
  | nil => rfl
  | cons c l ih =>
    have hc : (c == 10) = false := beq_false_of_ne (List.ne_of_not_mem_cons hl).symm
    rw [crlf, ih (List.not_mem_of_not_mem_cons hl)]
    simp [hc]

theorem crlf_line (l post : Bytes) (hl : (10 : UInt8) ∉ l) : crlf (l ++ 10 :: post) = l ++ 13 :: 10 :: crlf post := by
  induction l with
  | nil => rw [List.nil_append, crlf]; rfl
  | cons c l ih =>
    have hc : (c == 10) = false := beq_false_of_ne (List.ne_of_not_mem_cons hl).symm
    rw [List.cons_append, crlf, ih (List.not_mem_of_not_mem_cons hl)]
    simp [hc]

theorem lines_crlf (bs : Bytes) : lines (crlf bs) = (lines bs).map crlf := by
  induction bs using lf_induction with
  | last l hl =>
    rw [crlf_last l hl]
    by_cases hne : l = []
    · rw [hne]; rfl
    · rw [lines_last l hl hne, List.map_singleton, crlf_last l hl]
  | line l post hl ih =>
    have h13 : (10 : UInt8) ∉ l ++ [13] := by simp [hl]
    rw [crlf_line l post hl, lines_line l post hl, List.map_cons, ← ih,
      show l ++ [10] = l ++ 10 :: [] from rfl, crlf_line l [] hl,
      show l ++ 13 :: 10 :: crlf post = (l ++ [13]) ++ 10 :: crlf post by simp, lines_line _ _ h13]
    simp [crlf]

/-- C04: the trimmed lines of a file do not depend on LF vs CRLF -/
theorem map_trimSpace_lines_crlf (bs : Bytes) :
    (lines (crlf bs)).map trimSpace = (lines bs).map trimSpace := by
  induction bs using lf_induction with
  | last l hl => rw [crlf_last l hl]
  | line l post hl ih =>
    have h13 : (10 : UInt8) ∉ l ++ [13] := by simp [hl]
    rw [crlf_line l post hl, show l ++ 13 :: 10 :: crlf post = (l ++ [13]) ++ 10 :: crlf post by simp,
      lines_line _ _ h13, lines_line l post hl, List.map_cons, List.map_cons, ih,
      show (l ++ [13]) ++ [10] = l ++ [13, 10] by simp, trimSpace_append_crnl, trimSpace_append_nl]

/-- C04: the trimmed lines of a file do not depend on the presence of the final newline -/
theorem map_trimSpace_lines_append_nl (x : Bytes) (hx : x ≠ []) (hlast : x.getLast hx ≠ 10) :
    (lines (x ++ [10])).map trimSpace = (lines x).map trimSpace := by
  induction x using lf_induction with
  | last l hl =>
    rw [show l ++ [10] = l ++ 10 :: [] from rfl, lines_line l [] hl, lines_last l hl hx]
    simp [lines, trimSpace_append_nl]
  | line l post hl ih =>
    have hp : post ≠ [] := by
      rintro rfl
      exact hlast (by simp)
    have hpl : post.getLast hp ≠ 10 := by
      rwa [List.getLast_append_of_ne_nil hx (List.cons_ne_nil _ _), List.getLast_cons hp] at hlast
    rw [List.append_assoc, List.cons_append, lines_line l _ hl, lines_line l post hl, List.map_cons, List.map_cons,
      ih hp hpl]

theorem lines_flatten (bodies : List Bytes) (h : ∀ b ∈ bodies, (10 : UInt8) ∉ b) :
    lines ((bodies.map (· ++ [10])).flatten) = bodies.map (· ++ [10]) := by
  induction bodies with
  | nil => rfl
  | cons b bs ih =>
    simp only [List.map_cons, List.flatten_cons, List.append_assoc, List.singleton_append]
    rw [lines_line _ _ (h b (by simp)), ih (fun x hx => h x (List.mem_cons_of_mem _ hx))]

/-- what the readers make of such a text: `ReadBytes('\n')` followed by `bytes.TrimSpace` -/
theorem map_trimSpace_lines_flatten (bodies : List Bytes) (h : ∀ b ∈ bodies, (10 : UInt8) ∉ b) :
    (lines ((bodies.map (· ++ [10])).flatten)).map trimSpace = bodies.map trimSpace := by
  rw [lines_flatten bodies h, List.map_map]
  exact List.map_congr_left fun b _ => trimSpace_append_nl b

theorem lines_length_append_nl (x : Bytes) (hx : x ≠ []) (hlast : x.getLast hx ≠ 10) :
    (lines (x ++ [10])).length = (lines x).length := by
  have := congrArg List.length (map_trimSpace_lines_append_nl x hx hlast)
  simpa using this

end Biogo.BytesFeat
