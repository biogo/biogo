/-
`Biogo.Spec.AffineOpt.optRows` is optimal: every layer of every cell is the maximum of
`scoreAff` over the alignments of the corresponding prefixes that end in that layer's kind
(`IsOpt`: an upper bound for every member of the class, attained by a member; `none` iff the
class is empty).
-/
import Biogo.Spec.AffineOpt
import Biogo.Proofs.AffineAln
import Biogo.Proofs.AlignAffTable

namespace Biogo.Proofs.AffineOpt
open Biogo.Spec.Alignment Biogo.AlignAff Biogo.Spec.AffineOpt Biogo.Proofs.AffineAln
open Biogo.Proofs.AlignAffTable

def IsOpt (P : Aln → Prop) (f : Aln → Int) (v : V) : Prop :=
  (∀ a, P a → ∃ x, v = some x ∧ f a ≤ x) ∧ (∀ x, v = some x → ∃ a, P a ∧ f a = x)

theorem isOpt_none {P : Aln → Prop} {f : Aln → Int} (h : ∀ a, ¬ P a) : IsOpt P f none :=
  ⟨fun a ha => absurd ha (h a), fun _ hx => by cases hx⟩

theorem isOpt_congr {P Q : Aln → Prop} {f : Aln → Int} {v : V} (h : ∀ a, P a ↔ Q a)
    (hp : IsOpt P f v) : IsOpt Q f v :=
  ⟨fun a ha => hp.1 a ((h a).mpr ha), fun x hx => let ⟨a, ha, e⟩ := hp.2 x hx; ⟨a, (h a).mp ha, e⟩⟩

theorem isOpt_and {P Q : Aln → Prop} {f : Aln → Int} {v : V} (h : IsOpt (fun a => P a ∧ Q a) f v) :
    (∀ a, P a → Q a → ∃ x, v = some x ∧ f a ≤ x) ∧ (∀ x, v = some x → ∃ a, P a ∧ Q a ∧ f a = x) :=
  ⟨fun a hp hq => h.1 a ⟨hp, hq⟩, fun x hx => let ⟨a, ha, e⟩ := h.2 x hx; ⟨a, ha.1, ha.2, e⟩⟩

theorem isOpt_some {P : Aln → Prop} {f : Aln → Int} {x : Int} :
    IsOpt P f (some x) ↔ (∀ a, P a → f a ≤ x) ∧ ∃ a, P a ∧ f a = x :=
  ⟨fun h => ⟨fun a ha => let ⟨_, hy, hle⟩ := h.1 a ha; Option.some.inj hy ▸ hle, h.2 x rfl⟩,
   fun h => ⟨fun a ha => ⟨x, rfl, h.1 a ha⟩, fun _ hy => Option.some.inj hy ▸ h.2⟩⟩

theorem isOpt_some_mono {P Q : Aln → Prop} {f : Aln → Int} {x y : Int} (hp : IsOpt P f (some x))
    (hq : IsOpt Q f (some y)) (h : ∀ a, P a → Q a) : x ≤ y :=
  let ⟨a, ha, e⟩ := (isOpt_some.mp hp).2
  e ▸ (isOpt_some.mp hq).1 a (h a ha)

theorem isOpt_unique {P : Aln → Prop} {f : Aln → Int} {v w : V} (hv : IsOpt P f v) (hw : IsOpt P f w) :
    v = w := by
  cases v with
  | none =>
    cases w with
    | none => rfl
    | some y =>
      obtain ⟨a, ha, _⟩ := hw.2 y rfl
      obtain ⟨x, hx, _⟩ := hv.1 a ha
      cases hx
  | some x =>
    cases w with
    | none =>
      obtain ⟨a, ha, _⟩ := hv.2 x rfl
      obtain ⟨y, hy, _⟩ := hw.1 a ha
      cases hy
    | some y =>
      exact congrArg some (Int.le_antisymm (isOpt_some_mono hv hw fun _ h => h) (isOpt_some_mono hw hv fun _ h => h))

/-- Two classes `P ⊆ Q`, the optimum of each given twice: as a value (`some x`, `some y`) and as the term (`v`, `w`)
    the caller's equation is about — `k1_repair_conservative_*`: the aligners' totals, and `globalOpt false` /
    `globalOpt true`.  By `isOpt_unique` an equation `v = w` is one between the values. -/
theorem isOpt_sub {P Q : Aln → Prop} {f : Aln → Int} {x y : Int} {v w : V} (hp : IsOpt P f (some x))
    (hq : IsOpt Q f (some y)) (h : ∀ a, P a → Q a) (hv : IsOpt P f v) (hw : IsOpt Q f w) :
    x ≤ y ∧ (v = w → x = y) :=
  ⟨isOpt_some_mono hp hq h, fun e => Option.some.inj (by rw [isOpt_unique hp hv, isOpt_unique hq hw, e])⟩

theorem isOpt_of_dominated {P Q : Aln → Prop} {f : Aln → Int} {v : V} (hsub : ∀ a, P a → Q a)
    (hdom : ∀ a, Q a → ∃ a', P a' ∧ f a ≤ f a') (h : IsOpt P f v) : IsOpt Q f v :=
  ⟨fun a ha => let ⟨a', ha', hle⟩ := hdom a ha; let ⟨x, hx, hle'⟩ := h.1 a' ha'; ⟨x, hx, Int.le_trans hle hle'⟩,
   fun x hx => let ⟨a, ha, e⟩ := h.2 x hx; ⟨a, hsub a ha, e⟩⟩

theorem isOpt_max2 {P Q : Aln → Prop} {f : Aln → Int} {v w : V} (hp : IsOpt P f v) (hq : IsOpt Q f w) :
    IsOpt (fun a => P a ∨ Q a) f (max2 v w) := by
  obtain ⟨hsel, hl, hr⟩ := max2_spec v w
  constructor
  · rintro a (ha | ha)
    · obtain ⟨x, rfl, hle⟩ := hp.1 a ha
      obtain ⟨y, hy, hxy⟩ := vle_some hl
      exact ⟨y, hy, Int.le_trans hle hxy⟩
    · obtain ⟨x, rfl, hle⟩ := hq.1 a ha
      obtain ⟨y, hy, hxy⟩ := vle_some hr
      exact ⟨y, hy, Int.le_trans hle hxy⟩
  · intro x hx
    rcases hsel with h | h <;> rw [h] at hx
    · obtain ⟨a, ha, e⟩ := hp.2 x hx
      exact ⟨a, Or.inl ha, e⟩
    · obtain ⟨a, ha, e⟩ := hq.2 x hx
      exact ⟨a, Or.inr ha, e⟩

/-- the three kinds in the two orders the layers of a cell are listed in -/
theorem kinds_mul (k : Kind) : k = .m ∨ k = .u ∨ k = .l := by cases k <;> simp
theorem kinds_mlu (k : Kind) : k = .m ∨ k = .l ∨ k = .u := by cases k <;> simp

theorem isOpt_kinds {P : Kind → Aln → Prop} {f : Aln → Int} {g : Kind → V} {k1 k2 k3 : Kind}
    (hcov : ∀ k, k = k1 ∨ k = k2 ∨ k = k3) (h : ∀ k, IsOpt (P k) f (g k)) :
    IsOpt (fun a => ∃ k, P k a) f (max3 (g k1) (g k2) (g k3)) := by
  refine isOpt_congr (fun a => ?_) (isOpt_max2 (h k3) (isOpt_max2 (h k2) (h k1)))
  constructor
  · rintro (h | h | h) <;> exact ⟨_, h⟩
  · rintro ⟨k, hk⟩
    rcases hcov k with rfl | rfl | rfl
    · exact Or.inr (Or.inr hk)
    · exact Or.inr (Or.inl hk)
    · exact Or.inl hk

theorem isOpt_guard (p : Prop) [Decidable p] {P : Aln → Prop} {f : Aln → Int} {v : V} (h : IsOpt P f v) :
    IsOpt (fun a => p ∧ P a) f (if p then v else none) := by
  by_cases hp : p
  · rw [if_pos hp]; exact isOpt_congr (fun a => (and_iff_right hp).symm) h
  · rw [if_neg hp]; exact isOpt_none fun a ha => hp ha.1

theorem isOpt_snoc {P : Aln → Prop} {f : Aln → Int} {v : V} (c : Col) (x : Int)
    (h : ∀ a, P a → f (a ++ [c]) = f a + x) (hp : IsOpt P f v) :
    IsOpt (fun b => ∃ a, P a ∧ b = a ++ [c]) f (vadd v x) := by
  constructor
  · rintro b ⟨a, ha, rfl⟩
    obtain ⟨y, hy, hle⟩ := hp.1 a ha
    exact ⟨y + x, by rw [hy]; rfl, by rw [h a ha]; omega⟩
  · intro y hy
    cases v with
    | none => cases hy
    | some z =>
      have : z + x = y := by simpa [vadd] using hy
      obtain ⟨a, ha, e⟩ := hp.2 z rfl
      exact ⟨a ++ [c], ⟨a, ha, rfl⟩, by rw [h a ha]; omega⟩

theorem isOpt_emptyAt (S : Matrix) (o : Int) (ok : Bool) :
    IsOpt (fun a => ok = true ∧ a = []) (scoreAff S o) (emptyAt ok) := by
  cases ok with
  | false => exact isOpt_none (fun a h => by cases h.1)
  | true => exact isOpt_some.mpr ⟨fun a ha => by rw [ha.2]; exact Int.le_refl _, [], ⟨rfl, rfl⟩, rfl⟩

/-- `x`: what an alignment ending at a cell consumes of a sequence; `p`: the cell's prefix of it; `free`: free start -/
def fits (free : Bool) (x p : List Nat) : Prop := if free then x <:+ p else x = p

theorem fits_snoc (free : Bool) (x p : List Nat) (a b : Nat) :
    fits free (x ++ [a]) (p ++ [b]) ↔ a = b ∧ fits free x p := by
  cases free
  · simp only [fits, Bool.false_eq_true, if_false, List.append_singleton_inj, and_comm]
  · -- a suffix is a prefix of the reversed lists, which start with the two last letters
    simp only [fits, if_true, ← List.reverse_prefix, List.reverse_append, List.reverse_cons, List.reverse_nil,
      List.nil_append, List.singleton_append, List.cons_prefix_cons]

theorem fits_nil_left (free : Bool) (p : List Nat) : fits free [] p ↔ (free = true ∨ p = []) := by
  cases free with
  | false => simp [fits, eq_comm]
  | true => simp [fits]

theorem fits_nil_right (free : Bool) (x : List Nat) : fits free x [] ↔ x = [] := by
  cases free <;> simp [fits]

/-- the alignments cell `(rp, qp)` (`r.take i`, `q.take j`) stands for in the class `fl`; `cellBest` is their optimum -/
def Adm (fl : Flags) (rp qp : List Nat) (a : Aln) : Prop :=
  fits fl.freeR (projR a) rp ∧ fits fl.freeQ (projQ a) qp ∧ (fl.cross = true ∨ noAdj a = true)

/-- the alignments a layer of cell `(rp, qp)` stands for -/
def Cls (fl : Flags) (rp qp : List Nat) (k : Kind) (a : Aln) : Prop := Adm fl rp qp a ∧ endK a = k

def CellOK (fl : Flags) (S : Matrix) (o : Int) (rp qp : List Nat) (c : Cell) : Prop :=
  ∀ k, IsOpt (Cls fl rp qp k) (scoreAff S o) (c.get k)

theorem endK_of_proj_nil (a : Aln) :
    (projR a = [] → endK a ≠ .u ∧ (endK a = .m → a = [])) ∧ (projQ a = [] → endK a ≠ .l ∧ (endK a = .m → a = [])) := by
  rcases List.eq_nil_or_concat a with rfl | ⟨a', c, rfl⟩
  · exact ⟨fun _ => ⟨by decide, fun _ => rfl⟩, fun _ => ⟨by decide, fun _ => rfl⟩⟩
  · rw [List.concat_eq_append, projR_append, projQ_append, endK_snoc]
    cases c <;> simp [projR, projQ, Col.kind]

theorem compat_u (k : Kind) : compat k .u = true ↔ k ≠ .l := by cases k <;> simp [compat]
theorem compat_l (k : Kind) : compat k .l = true ↔ k ≠ .u := by cases k <;> simp [compat]
theorem compat_m (k : Kind) : compat k .m = true := by cases k <;> rfl

theorem cls_snoc (fl : Flags) (R Q : List Nat) (k : Kind) (a : Aln) (c : Col) :
    Cls fl R Q k (a ++ [c]) ↔
      (fits fl.freeR (projR a ++ projR [c]) R ∧ fits fl.freeQ (projQ a ++ projQ [c]) Q ∧
        (fl.cross = true ∨ noAdj a = true ∧ compat (endK a) c.kind = true)) ∧ c.kind = k := by
  simp only [Cls, Adm, projR_append, projQ_append, noAdj_snoc, endK_snoc, Bool.and_eq_true]

theorem fits_snoc_col (fR fQ : Bool) (pr pq rp qp : List Nat) {c c' : Col} (hk : c'.kind = c.kind) :
    fits fR (pr ++ projR [c']) (rp ++ projR [c]) ∧ fits fQ (pq ++ projQ [c']) (qp ++ projQ [c]) ↔
      c' = c ∧ fits fR pr rp ∧ fits fQ pq qp := by
  cases c <;> cases c' <;> try cases hk
  all_goals simp [projR, projQ, fits_snoc, and_assoc, and_left_comm]

theorem cls_snoc_col (fl : Flags) {R Q rp qp : List Nat} (c : Col) (hR : R = rp ++ projR [c])
    (hQ : Q = qp ++ projQ [c]) (a : Aln) :
    Cls fl R Q c.kind a ∧ a ≠ [] ↔
      ∃ a', a = a' ++ [c] ∧ Adm fl rp qp a' ∧ (fl.cross = true ∨ compat (endK a') c.kind = true) := by
  subst hR hQ
  constructor
  · rintro ⟨h, hne⟩
    obtain ⟨a', c', rfl⟩ := eq_snoc_of_ne_nil a hne
    obtain ⟨⟨hr, hq, hn⟩, hk⟩ := (cls_snoc ..).mp h
    obtain ⟨rfl, hr, hq⟩ := (fits_snoc_col _ _ _ _ _ _ hk).mp ⟨hr, hq⟩
    exact ⟨a', rfl, ⟨hr, hq, hn.imp_right And.left⟩, hn.imp_right And.right⟩
  · rintro ⟨a', rfl, ⟨hr, hq, hn⟩, hc⟩
    obtain ⟨hr', hq'⟩ := (fits_snoc_col fl.freeR fl.freeQ _ _ rp qp (rfl : c.kind = c.kind)).mpr ⟨rfl, hr, hq⟩
    exact ⟨(cls_snoc ..).mpr ⟨⟨hr', hq', hn.elim Or.inl fun hn => hc.imp_right fun hc => ⟨hn, hc⟩⟩, rfl⟩, by simp⟩

/-- what layer `k` of the cell a last column `c` comes from contributes to the cell `c` leads to -/
def stepFrom (fl : Flags) (S : Matrix) (o : Int) (cell : Cell) (c : Col) (k : Kind) : V :=
  if fl.cross = true ∨ compat k c.kind = true then vadd (cell.get k) (stepCost S o k c) else none

/-- The recurrence, for any last column `c`: the non-empty members of the class of the cell `c` leads to
    are the members of the three classes of the cell it comes from that `c` may follow, with `c` appended
    (`k1 k2 k3`: the three kinds in the order the model's `max3` takes them).
    Stated for the members that satisfy a further predicate (`Qo` before the step, `Qn` after it) which `c`
    carries over: `CellOK` is the case of no further predicate, the class the table of `FittedAffine` explores
    (`Proofs/FittedClass`) another. -/
theorem step_on {fl : Flags} {S : Matrix} {o : Int} {R Q rp qp : List Nat} {cell : Cell} (c : Col)
    (hR : R = rp ++ projR [c]) (hQ : Q = qp ++ projQ [c]) {k1 k2 k3 : Kind} (hcov : ∀ k, k = k1 ∨ k = k2 ∨ k = k3)
    {Qo Qn : Aln → Prop}
    (hc : ∀ a, Adm fl rp qp a → (Qn (a ++ [c]) ↔ Qo a))
    (h : ∀ k, IsOpt (fun a => Cls fl rp qp k a ∧ Qo a) (scoreAff S o) (cell.get k)) :
    IsOpt (fun b => (Cls fl R Q c.kind b ∧ b ≠ []) ∧ Qn b) (scoreAff S o)
      (max3 (stepFrom fl S o cell c k1) (stepFrom fl S o cell c k2) (stepFrom fl S o cell c k3)) := by
  refine isOpt_congr (fun b => ?_) (isOpt_kinds hcov fun k => isOpt_guard _ (isOpt_snoc c (stepCost S o k c)
    (fun a (ha : Cls fl rp qp k a ∧ Qo a) => by rw [scoreAff_snoc, ha.1.2]) (h k)))
  rw [cls_snoc_col fl c hR hQ]
  constructor
  · rintro ⟨k, hk, a, ⟨ha, hq⟩, rfl⟩
    exact ⟨⟨a, rfl, ha.1, ha.2 ▸ hk⟩, (hc a ha.1).mpr hq⟩
  · rintro ⟨⟨a, rfl, ha, hk⟩, hq⟩
    exact ⟨endK a, hk, a, ⟨⟨ha, rfl⟩, (hc a ha).mp hq⟩, rfl⟩

/-! the three kinds of last column, in the words of `optCell` -/

theorem u_step_on {fl : Flags} {S : Matrix} {o : Int} {rp Q : List Nat} {c : Cell} (x : Nat) {Qo Qn : Aln → Prop}
    (hQ : ∀ a, Adm fl rp Q a → (Qn (a ++ [.u x]) ↔ Qo a))
    (h : ∀ k, IsOpt (fun a => Cls fl rp Q k a ∧ Qo a) (scoreAff S o) (c.get k)) :
    IsOpt (fun a => Cls fl (rp ++ [x]) Q .u a ∧ Qn a) (scoreAff S o) (gapVal fl o (S x 0) c.d c.u c.l) := by
  have hs := step_on (R := rp ++ [x]) (.u x) rfl (List.append_nil Q).symm kinds_mul hQ h
  simp [stepFrom, stepCost, compat, Col.kind, colScore, Cell.get] at hs
  exact isOpt_congr (fun b => and_congr_left' (and_iff_left_of_imp fun hb =>
    endK_ne_m_ne_nil b (by rw [hb.2]; decide))) hs

theorem l_step_on {fl : Flags} {S : Matrix} {o : Int} {R qp : List Nat} {c : Cell} (y : Nat) {Qo Qn : Aln → Prop}
    (hQ : ∀ a, Adm fl R qp a → (Qn (a ++ [.l y]) ↔ Qo a))
    (h : ∀ k, IsOpt (fun a => Cls fl R qp k a ∧ Qo a) (scoreAff S o) (c.get k)) :
    IsOpt (fun a => Cls fl R (qp ++ [y]) .l a ∧ Qn a) (scoreAff S o) (gapVal fl o (S 0 y) c.d c.l c.u) := by
  have hs := step_on (Q := qp ++ [y]) (.l y) (List.append_nil R).symm rfl kinds_mlu hQ h
  simp [stepFrom, stepCost, compat, Col.kind, colScore, Cell.get] at hs
  exact isOpt_congr (fun b => and_congr_left' (and_iff_left_of_imp fun hb =>
    endK_ne_m_ne_nil b (by rw [hb.2]; decide))) hs

theorem m_step_on {fl : Flags} {S : Matrix} {o : Int} {rp qp : List Nat} {c : Cell} (x y : Nat) {Qo Qn : Aln → Prop}
    (hQ : ∀ a, Adm fl rp qp a → (Qn (a ++ [.m x y]) ↔ Qo a)) (hnil : (fl.freeR && fl.freeQ) = true → Qn [])
    (h : ∀ k, IsOpt (fun a => Cls fl rp qp k a ∧ Qo a) (scoreAff S o) (c.get k)) :
    IsOpt (fun a => Cls fl (rp ++ [x]) (qp ++ [y]) .m a ∧ Qn a) (scoreAff S o)
      (max2 (emptyAt (fl.freeR && fl.freeQ)) (vadd (max3 c.d c.u c.l) (S x y))) := by
  have hs := step_on (R := rp ++ [x]) (Q := qp ++ [y]) (.m x y) rfl rfl kinds_mul hQ h
  simp [stepFrom, stepCost, compat_m, Col.kind, colScore, Cell.get] at hs
  rw [max3_eq_max2, vadd_max2, vadd_max2, ← max3_eq_max2] at hs
  refine isOpt_congr (fun b => ?_) (isOpt_max2 (isOpt_emptyAt S o (fl.freeR && fl.freeQ)) hs)
  by_cases hb : b = []
  · subst hb
    have hcls : Cls fl (rp ++ [x]) (qp ++ [y]) .m [] ↔ (fl.freeR && fl.freeQ) = true := by
      simp [Cls, Adm, projR, projQ, fits_nil_left, noAdj, endK_nil]
    constructor
    · rintro (⟨hf, _⟩ | ⟨⟨_, hne⟩, _⟩)
      · exact ⟨hcls.mpr hf, hnil hf⟩
      · exact absurd rfl hne
    · rintro ⟨hc, _⟩
      exact Or.inl ⟨hcls.mp hc, rfl⟩
  · simp [hb]

theorem CellOK.on {fl : Flags} {S : Matrix} {o : Int} {rp qp : List Nat} {c : Cell} (h : CellOK fl S o rp qp c)
    (k : Kind) : IsOpt (fun a => Cls fl rp qp k a ∧ True) (scoreAff S o) (c.get k) :=
  isOpt_congr (fun _ => (and_iff_left trivial).symm) (h k)

theorem isOpt_true {P : Aln → Prop} {f : Aln → Int} {v : V} (h : IsOpt (fun a => P a ∧ True) f v) : IsOpt P f v :=
  isOpt_congr (fun _ => and_iff_left trivial) h

theorem isOpt_u_rnil (fl : Flags) (S : Matrix) (o : Int) (Q : List Nat) :
    IsOpt (Cls fl [] Q .u) (scoreAff S o) none :=
  isOpt_none fun a ⟨⟨hr, _, _⟩, he⟩ => ((endK_of_proj_nil a).1 ((fits_nil_right ..).mp hr)).1 he

theorem isOpt_l_qnil (fl : Flags) (S : Matrix) (o : Int) (R : List Nat) :
    IsOpt (Cls fl R [] .l) (scoreAff S o) none :=
  isOpt_none fun a ⟨⟨_, hq, _⟩, he⟩ => ((endK_of_proj_nil a).2 ((fits_nil_right ..).mp hq)).1 he

theorem isOpt_m_border (fl : Flags) (S : Matrix) (o : Int) (R Q : List Nat) (h : R = [] ∨ Q = []) (ok : Bool)
    (hok : ok = true ↔ (fl.freeR = true ∨ R = []) ∧ (fl.freeQ = true ∨ Q = [])) :
    IsOpt (Cls fl R Q .m) (scoreAff S o) (emptyAt ok) := by
  refine isOpt_congr (fun a => ?_) (isOpt_emptyAt S o ok)
  rw [hok]
  constructor
  · rintro ⟨⟨hr, hq⟩, rfl⟩
    exact ⟨⟨(fits_nil_left ..).mpr hr, (fits_nil_left ..).mpr hq, Or.inr rfl⟩, rfl⟩
  · rintro ⟨⟨hr, hq, _⟩, he⟩
    have ha : a = [] := by
      rcases h with rfl | rfl
      · exact ((endK_of_proj_nil a).1 ((fits_nil_right ..).mp hr)).2 he
      · exact ((endK_of_proj_nil a).2 ((fits_nil_right ..).mp hq)).2 he
    subst ha
    exact ⟨⟨(fits_nil_left ..).mp hr, (fits_nil_left ..).mp hq⟩, rfl⟩

theorem cellOK_origin (fl : Flags) (S : Matrix) (o : Int) : CellOK fl S o [] [] origin := by
  intro k
  cases k with
  | m => exact isOpt_m_border fl S o [] [] (Or.inl rfl) true (by simp)
  | u => exact isOpt_u_rnil fl S o []
  | l => exact isOpt_l_qnil fl S o []

theorem cellOK_row0 {fl : Flags} {S : Matrix} {o : Int} {qp : List Nat} {lc : Cell} (y : Nat)
    (h : CellOK fl S o [] qp lc) :
    CellOK fl S o [] (qp ++ [y])
      { d := emptyAt fl.freeQ, u := none, l := gapVal fl o (S 0 y) lc.d lc.l lc.u } := by
  intro k
  cases k with
  | m => exact isOpt_m_border fl S o [] (qp ++ [y]) (Or.inl rfl) fl.freeQ (by simp)
  | u => exact isOpt_u_rnil fl S o _
  | l => exact isOpt_true (l_step_on y (fun _ _ => Iff.rfl) h.on)

theorem cellOK_first {fl : Flags} {S : Matrix} {o : Int} {rp : List Nat} {pc : Cell} (b : Bool) (x : Nat)
    (h : CellOK fl S o rp [] pc) :
    CellOK fl S o (rp ++ [x]) [] (optFirst fl S o b pc x) := by
  intro k
  cases k with
  | m => exact isOpt_m_border fl S o (rp ++ [x]) [] (Or.inr rfl) fl.freeR (by simp)
  | u => exact isOpt_true (u_step_on x (fun _ _ => Iff.rfl) h.on)
  | l => exact isOpt_l_qnil fl S o _

theorem cellOK_inner {fl : Flags} {S : Matrix} {o : Int} {rp qp : List Nat} {pd pu lc : Cell} (x y : Nat)
    (hd : CellOK fl S o rp qp pd) (hu : CellOK fl S o rp (qp ++ [y]) pu)
    (hl : CellOK fl S o (rp ++ [x]) qp lc) :
    CellOK fl S o (rp ++ [x]) (qp ++ [y]) (optCell fl S o x pd pu lc y) := by
  intro k
  cases k with
  | m => exact isOpt_true (m_step_on x y (fun _ _ => Iff.rfl) (fun _ => trivial) hd.on)
  | u => exact isOpt_true (u_step_on x (fun _ _ => Iff.rfl) hu.on)
  | l => exact isOpt_true (l_step_on y (fun _ _ => Iff.rfl) hl.on)

/-- every cell of the reference table is the optimum of its class -/
theorem optRows_ok (fl : Flags) (S : Matrix) (o : Int) (r q : List Nat) (i j : Nat)
    (hi : i ≤ r.length) (hj : j ≤ q.length) :
    CellOK fl S o (r.take i) (q.take j) (rowAt (optRows fl S o r q) i j) := by
  refine table_induction (P := fun i j => CellOK fl S o (r.take i) (q.take j) (rowAt (optRows fl S o r q) i j))
    r.length q.length ?_ ?_ ?_ ?_ i hi j hj
  · rw [optRows_origin]
    exact cellOK_origin fl S o
  · intro j hj h
    rw [optRows_row0 fl S o r q j hj, take_succ_getD q j hj]
    exact cellOK_row0 _ h
  · intro i hi h
    rw [optRows_col0 fl S o r q i hi, take_succ_getD r i hi]
    exact cellOK_first _ _ h
  · intro i j hi hj hd hu hl
    rw [take_succ_getD r i hi] at hl ⊢
    rw [take_succ_getD q j hj] at hu ⊢
    rw [optRows_cell fl S o r q i j hi hj]
    exact cellOK_inner _ _ hd hu hl

theorem cellBest_isOpt {fl : Flags} {S : Matrix} {o : Int} {rp qp : List Nat} {c : Cell}
    (h : CellOK fl S o rp qp c) : IsOpt (Adm fl rp qp) (scoreAff S o) (cellBest c) :=
  isOpt_congr (fun _ => ⟨fun ⟨_, hk⟩ => hk.1, fun ha => ⟨_, ha, rfl⟩⟩) (isOpt_kinds kinds_mul h)

/-- `globalOpt cross` is the maximum of the affine score over the global alignments of `r`
    and `q` (all of them when `cross`, those without adjacent opposite gaps otherwise) -/
theorem globalOpt_isOpt (cross : Bool) (S : Matrix) (o : Int) (r q : List Nat) :
    IsOpt (fun a => IsGlobal a r q ∧ (cross = true ∨ NoAdj a)) (scoreAff S o)
      (globalOpt cross S o r q) := by
  have h := cellBest_isOpt (optRows_ok ⟨cross, false, false⟩ S o r q r.length q.length
    (Nat.le_refl _) (Nat.le_refl _))
  simp only [List.take_length] at h
  exact isOpt_congr (fun a => by simp [Adm, fits, IsGlobal, NoAdj, and_assoc]) h

theorem isOpt_foldl {α} {f : Aln → Int} (g : α → V) (Ps : α → Aln → Prop) :
    ∀ (l : List α) (init : V) (P0 : Aln → Prop), IsOpt P0 f init → (∀ x ∈ l, IsOpt (Ps x) f (g x)) →
      IsOpt (fun a => P0 a ∨ ∃ x ∈ l, Ps x a) f (l.foldl (fun acc x => max2 acc (g x)) init)
  | [], _, _, h0, _ => isOpt_congr (fun a => by simp) h0
  | x :: l, _, _, h0, h =>
    isOpt_congr (fun a => by simp [or_assoc])
      (isOpt_foldl g Ps l _ _ (isOpt_max2 h0 (h x List.mem_cons_self)) fun y hy => h y (List.mem_cons_of_mem _ hy))

/-- `localOpt cross` is the maximum of the affine score over the local alignments of `r` and
    `q`, the empty alignment (score 0) included -/
theorem localOpt_isOpt (cross : Bool) (S : Matrix) (o : Int) (r q : List Nat) :
    IsOpt (fun a => IsLocal a r q ∧ (cross = true ∨ NoAdj a)) (scoreAff S o)
      (localOpt cross S o r q) := by
  have hmem := mem_flatten_iff_rowAt (optRows ⟨cross, true, true⟩ S o r q) r.length q.length
    (by simp [optRows, fillRows_length]) (rows_getD_len _ _ q r _ (optRow0_length _ S o q))
  -- a cell stands for the alignments of every position it occurs at
  have hcells : ∀ c ∈ (optRows ⟨cross, true, true⟩ S o r q).flatten,
      IsOpt (fun a => ∃ i j, i ≤ r.length ∧ j ≤ q.length ∧
        c = rowAt (optRows ⟨cross, true, true⟩ S o r q) i j ∧ Adm ⟨cross, true, true⟩ (r.take i) (q.take j) a)
        (scoreAff S o) (cellBest c) := by
    intro c hc
    obtain ⟨i, j, hi, hj, rfl⟩ := (hmem c).mp hc
    refine ⟨?_, fun x hx => ?_⟩
    · rintro a ⟨i', j', hi', hj', e, ha⟩
      rw [e]
      exact (cellBest_isOpt (optRows_ok _ S o r q i' j' hi' hj')).1 a ha
    · obtain ⟨a, ha, e⟩ := (cellBest_isOpt (optRows_ok _ S o r q i j hi hj)).2 x hx
      exact ⟨a, ⟨i, j, hi, hj, rfl, ha⟩, e⟩
  have h := isOpt_foldl cellBest _ _ (some 0) (fun a => a = [])
    (isOpt_congr (fun a => by simp) (isOpt_emptyAt S o true)) hcells
  rw [List.foldl_flatten] at h
  refine isOpt_congr (fun a => ?_) h
  constructor
  · rintro (rfl | ⟨c, _, i, j, hi, hj, _, hr, hq, hn⟩)
    · exact ⟨isLocal_iff.mpr ⟨0, 0, Nat.zero_le _, Nat.zero_le _, by simp [projR], by simp [projQ]⟩,
        Or.inr rfl⟩
    · exact ⟨isLocal_iff.mpr ⟨i, j, hi, hj, hr, hq⟩, hn⟩
  · rintro ⟨hloc, hn⟩
    obtain ⟨i, j, hi, hj, hr, hq⟩ := isLocal_iff.mp hloc
    exact Or.inr ⟨_, (hmem _).mpr ⟨i, j, hi, hj, rfl⟩, i, j, hi, hj, rfl, hr, hq, hn⟩

theorem adm_fitted_iff (cross : Bool) (r q : List Nat) (e : Nat) (he : e ≤ r.length) (a : Aln) :
    Adm ⟨cross, true, false⟩ (r.take e) q a ↔ IsFitted a r q e ∧ (cross = true ∨ NoAdj a) := by
  simp only [Adm, fits, if_true, Bool.false_eq_true, if_false, isFitted_iff he, NoAdj, and_assoc]

/-- `fittedOpt cross … e` is the maximum of the affine score over the alignments of all of `q`
    with a segment of `r` that ends just before `e` -/
theorem fittedOpt_isOpt (cross : Bool) (S : Matrix) (o : Int) (r q : List Nat) (e : Nat) (he : e ≤ r.length) :
    IsOpt (fun a => IsFitted a r q e ∧ (cross = true ∨ NoAdj a)) (scoreAff S o)
      (fittedOpt cross S o r q e) := by
  have h := cellBest_isOpt (optRows_ok ⟨cross, true, false⟩ S o r q e q.length he (Nat.le_refl _))
  rw [List.take_length] at h
  exact isOpt_congr (adm_fitted_iff cross r q e he) h

theorem vle_vadd {a : V} {s x : Int} (h : vle a (some s)) (hx : x ≤ 0) : vle (vadd a x) (some s) := by
  rcases a with _ | y
  · trivial
  · have : y ≤ s := h
    show y + x ≤ s
    omega

theorem gapVal_le (fl : Flags) (o g : Int) (ho : o ≤ 0) (hg : g ≤ 0) (s : Int) (pd ps po : V)
    (h1 : vle pd (some s)) (h2 : vle ps (some s)) (h3 : vle po (some s)) :
    vle (gapVal fl o g pd ps po) (some s) := by
  unfold gapVal
  rcases max3_sel (vadd pd (o + g)) (vadd ps g) (if fl.cross then vadd po (o + g) else none) with e | e | e <;>
    rw [e]
  · exact vle_vadd h1 (Int.add_nonpos ho hg)
  · exact vle_vadd h2 hg
  · split
    · exact vle_vadd h3 (Int.add_nonpos ho hg)
    · trivial

/-- column 0 with a free start in the reference: in the `up` layer the reference prefix against gaps,
    never better than skipping it -/
theorem optRows_col0_free (fl : Flags) (hf : fl.freeR = true) (S : Matrix) (o : Int) (ho : o ≤ 0)
    (hg : ∀ x, S x 0 ≤ 0) (r q : List Nat) (i : Nat) (hi : i ≤ r.length) :
    (rowAt (optRows fl S o r q) i 0).d = some 0 ∧ vle (rowAt (optRows fl S o r q) i 0).u (some 0) ∧
      (rowAt (optRows fl S o r q) i 0).l = none := by
  induction i with
  | zero => rw [optRows_origin]; exact ⟨rfl, trivial, rfl⟩
  | succ i ih =>
    obtain ⟨hd, hu, hl⟩ := ih (by omega)
    rw [optRows_col0 fl S o r q i hi]
    refine ⟨by simp only [optFirst, emptyAt, hf, if_true], ?_, rfl⟩
    exact gapVal_le fl o _ ho (hg _) 0 _ _ _ (by rw [hd]; exact Int.le_refl 0) hu (by rw [hl]; trivial)

theorem optRows_row0_free (fl : Flags) (hf : fl.freeQ = true) (S : Matrix) (o : Int) (ho : o ≤ 0)
    (hg : ∀ y, S 0 y ≤ 0) (r q : List Nat) (j : Nat) (hj : j ≤ q.length) :
    (rowAt (optRows fl S o r q) 0 j).d = some 0 ∧ (rowAt (optRows fl S o r q) 0 j).u = none ∧
      vle (rowAt (optRows fl S o r q) 0 j).l (some 0) := by
  induction j with
  | zero => rw [optRows_origin]; exact ⟨rfl, rfl, trivial⟩
  | succ j ih =>
    obtain ⟨hd, hu, hl⟩ := ih (by omega)
    rw [optRows_row0 fl S o r q j hj]
    refine ⟨by simp only [emptyAt, hf, if_true], rfl, ?_⟩
    exact gapVal_le fl o _ ho (hg _) 0 _ _ _ (by rw [hd]; exact Int.le_refl 0) hl (by rw [hu]; trivial)

end Biogo.Proofs.AffineOpt
