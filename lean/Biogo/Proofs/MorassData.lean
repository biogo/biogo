/-
The data invariant of the hand-off protocol of the concurrent sorter model: where every value
pushed in the current cycle is.  `wb` = runs waiting in `writable`, `A` = the `write()` activations,
`fs` = the registered run files, `cp` = the caller's chunk, `xs` = the values pushed so far.  `DI` is a
predicate on these five lists; every block of an activation keeps it (`DI_wstep`, through `DI.set`),
and so do `Push` and the two hand-overs.
-/
import Biogo.Model.MorassConc
import Biogo.Proofs.Morass
import Biogo.Proofs.MorassConc

namespace Biogo.MorassConc
open Biogo.Morass Biogo.Interleave

structure DI (wb : List (List Elem)) (A : List Writer) (fs : List File) (cp xs : List Elem) : Prop where
  perm : ∀ a, List.count a cp + List.count a wb.flatten + List.count a (A.flatMap (·.todo))
            + List.count a (fs.flatMap (·.data)) = List.count a xs
  runsNe : ∀ r ∈ wb, r ≠ []
  todoNil : ∀ w ∈ A, w.pc ≠ .register → w.pc ≠ .encode → w.todo = []
  regOK : ∀ w ∈ A, w.pc = .register → Sorted w.todo ∧ w.todo ≠ []
  encOK : ∀ w ∈ A, w.pc = .encode → ∃ f, fs[w.file]? = some f ∧ Sorted (f.data ++ w.todo) ∧ w.todo ≠ []
  encUniq : ∀ (i j : Nat) (wi wj : Writer), A[i]? = some wi → A[j]? = some wj → wi.pc = .encode → wj.pc = .encode →
              wi.file = wj.file → i = j
  filesOK : ∀ f ∈ fs, Sorted f.data
  filesNe : ∀ (i : Nat) (f : File), fs[i]? = some f → f.data = [] → ∃ w ∈ A, w.pc = .encode ∧ w.file = i

/-- Activation `i` makes a block: `w` becomes `w'`, the waiting runs `wb'`, the files `fs'`.
    What has to be shown concerns `w'` alone, the elements that moved (`hperm`), and the files:
    those of the other encoders are untouched (`hkeep`), `w'` does not take one of them (`huniq`),
    and an empty file still has its encoder (`hne`). -/
theorem DI.set {wb wb' : List (List Elem)} {A : List Writer} {fs fs' : List File} {cp xs : List Elem}
    {i : Nat} {w w' : Writer} (h : DI wb A fs cp xs) (hi : A[i]? = some w)
    (hperm : ∀ a, List.count a wb'.flatten + List.count a w'.todo + List.count a (fs'.flatMap (·.data))
        = List.count a wb.flatten + List.count a w.todo + List.count a (fs.flatMap (·.data)))
    (hruns : ∀ r ∈ wb', r ≠ [])
    (hnil : w'.pc ≠ .register → w'.pc ≠ .encode → w'.todo = [])
    (hreg : w'.pc = .register → Sorted w'.todo ∧ w'.todo ≠ [])
    (henc : w'.pc = .encode → ∃ f, fs'[w'.file]? = some f ∧ Sorted (f.data ++ w'.todo) ∧ w'.todo ≠ [])
    (hkeep : ∀ j w0, A[j]? = some w0 → j ≠ i → w0.pc = .encode → fs'[w0.file]? = fs[w0.file]?)
    (huniq : w'.pc = .encode → ∀ j w0, A[j]? = some w0 → j ≠ i → w0.pc = .encode → w0.file ≠ w'.file)
    (hfiles : ∀ f ∈ fs', Sorted f.data)
    (hne : ∀ k f, fs'[k]? = some f → f.data = [] → (w'.pc = .encode ∧ w'.file = k)
        ∨ (∃ f0, fs[k]? = some f0 ∧ f0.data = [] ∧ ¬ (w.pc = .encode ∧ w.file = k))) :
    DI wb' (A.set i w') fs' cp xs := by
  have mem : ∀ w0 ∈ A.set i w', w0 = w' ∨ ∃ j, j ≠ i ∧ A[j]? = some w0 := by
    intro w0 hw0
    obtain ⟨j, hj⟩ := List.mem_iff_getElem?.mp hw0
    rcases LTS.getElem?_set_cases hj with ⟨_, rfl⟩ | ⟨hji, hj'⟩
    · exact Or.inl rfl
    · exact Or.inr ⟨j, hji, hj'⟩
  refine ⟨?_, hruns, ?_, ?_, ?_, ?_, hfiles, ?_⟩
  · intro a
    have h1 := h.perm a
    have h2 := LTS.count_flatMap_set (·.todo) A i w w' hi a
    have h3 := hperm a
    omega
  · intro w0 hw0 h1 h2
    rcases mem w0 hw0 with rfl | ⟨j, _, hj⟩
    · exact hnil h1 h2
    · exact h.todoNil w0 (List.mem_of_getElem? hj) h1 h2
  · intro w0 hw0 h1
    rcases mem w0 hw0 with rfl | ⟨j, _, hj⟩
    · exact hreg h1
    · exact h.regOK w0 (List.mem_of_getElem? hj) h1
  · intro w0 hw0 h1
    rcases mem w0 hw0 with rfl | ⟨j, hji, hj⟩
    · exact henc h1
    · obtain ⟨f, hf, hs⟩ := h.encOK w0 (List.mem_of_getElem? hj) h1
      exact ⟨f, (hkeep j w0 hj hji h1).trans hf, hs⟩
  · intro a b wa wb0 ha hb hpa hpb hf
    rcases LTS.getElem?_set_cases ha with ⟨rfl, rfl⟩ | ⟨hai, ha'⟩ <;> rcases LTS.getElem?_set_cases hb with ⟨rfl, rfl⟩ | ⟨hbi, hb'⟩
    · rfl
    · exact absurd hf.symm (huniq hpa b wb0 hb' hbi hpb)
    · exact absurd hf (huniq hpb a wa ha' hai hpa)
    · exact h.encUniq a b wa wb0 ha' hb' hpa hpb hf
  · intro k f hk hd
    rcases hne k f hk hd with ⟨hp, hfile⟩ | ⟨f0, hk0, hd0, hnot⟩
    · have hlt := (List.getElem?_eq_some_iff.mp hi).1
      exact ⟨w', List.mem_of_getElem? (List.getElem?_set_self hlt), hp, hfile⟩
    · obtain ⟨w0, hm, hp, hfile⟩ := h.filesNe k f0 hk0 hd0
      obtain ⟨j, hj⟩ := List.mem_iff_getElem?.mp hm
      have hne' : i ≠ j := by
        rintro rfl
        rw [hi] at hj; cases hj
        exact hnot ⟨hp, hfile⟩
      exact ⟨w0, List.mem_of_getElem? ((List.getElem?_set_ne hne').trans hj), hp, hfile⟩

/-- write.recv: the activation takes the oldest run and sorts it -/
theorem DI_recv {r : List Elem} {wb A fs cp xs} {i : Nat} {w : Writer}
    (h : DI (r :: wb) A fs cp xs) (hi : A[i]? = some w) (hpc : w.pc = .recv) :
    DI wb (A.set i { w with pc := .register, todo := sortRun r }) fs cp xs := by
  have hw0 : w.todo = [] := h.todoNil w (List.mem_of_getElem? hi) (by rw [hpc]; simp) (by rw [hpc]; simp)
  refine h.set hi (fun a => ?_) (fun r' hr' => h.runsNe r' (List.mem_cons_of_mem _ hr')) (fun h1 => absurd rfl h1)
    (fun _ => ⟨sortRun_sorted r, sortRun_ne_nil (h.runsNe r (by simp))⟩) nofun (fun _ _ _ _ _ => rfl) nofun h.filesOK
    (fun k fk hk hd => Or.inr ⟨fk, hk, hd, fun hp => by rw [hpc] at hp; cases hp.1⟩)
  simp only [List.flatten_cons, List.count_append, hw0, List.count_nil, (sortRun_perm r).count_eq]
  omega

/-- write.register: the activation appends its (still empty) file to `m.files` -/
theorem DI_register {wb A fs cp xs} {i : Nat} {w : Writer}
    (h : DI wb A fs cp xs) (hi : A[i]? = some w) (hpc : w.pc = .register) :
    DI wb (A.set i { w with pc := .encode, file := fs.length }) (fs ++ [mkFile []]) cp xs := by
  obtain ⟨hsorted, hne⟩ := h.regOK w (List.mem_of_getElem? hi) hpc
  have hlt : ∀ (j : Nat) (w0 : Writer), A[j]? = some w0 → w0.pc = .encode → w0.file < fs.length := by
    intro j w0 hj hp
    obtain ⟨f, hf, _⟩ := h.encOK w0 (List.mem_of_getElem? hj) hp
    exact (List.getElem?_eq_some_iff.mp hf).1
  refine h.set hi (fun a => ?_) h.runsNe (fun _ h2 => absurd rfl h2) nofun
    (fun _ => ⟨mkFile [], by simp, by simpa [mkFile] using hsorted, hne⟩)
    (fun j w0 hj _ hp => List.getElem?_append_left (hlt j w0 hj hp))
    (fun _ j w0 hj _ hp => Nat.ne_of_lt (hlt j w0 hj hp)) ?_ ?_
  · simp [List.flatMap_append, mkFile]
  · intro f hf
    rcases List.mem_append.mp hf with hf | hf
    · exact h.filesOK f hf
    · simp only [List.mem_singleton] at hf; subst hf; simp [mkFile, Sorted]
  · intro k fk hk hd
    by_cases hklt : k < fs.length
    · rw [List.getElem?_append_left hklt] at hk
      exact Or.inr ⟨fk, hk, hd, fun hp => by rw [hpc] at hp; cases hp.1⟩
    · have := (List.getElem?_eq_some_iff.mp hk).1
      simp only [List.length_append, List.length_cons, List.length_nil] at this
      exact Or.inl ⟨rfl, by show fs.length = k; omega⟩

/-- write.encode: the activation encodes the next element of its run into its own file -/
theorem DI_encode {wb A fs cp xs} {i : Nat} {w : Writer} {e : Elem} {t : List Elem}
    (h : DI wb A fs cp xs) (hi : A[i]? = some w) (hpc : w.pc = .encode) (htodo : w.todo = e :: t) :
    DI wb (A.set i { w with pc := if t.isEmpty then .sync else .encode, todo := t })
       (appendData fs w.file e) cp xs := by
  obtain ⟨f0, hf0, hs0, _⟩ := h.encOK w (List.mem_of_getElem? hi) hpc
  rw [htodo] at hs0
  have hs0' : Sorted ((f0.data ++ [e]) ++ t) := by simpa [List.append_assoc] using hs0
  let g : File → File := fun f => { f with data := f.data ++ [e] }
  have hmod : ∀ k, (appendData fs w.file e)[k]? = (fun a => if w.file = k then g a else a) <$> fs[k]? :=
    fun k => List.getElem?_modify g w.file fs k
  have file_at : ∀ k f, (appendData fs w.file e)[k]? = some f →
      (w.file = k ∧ f = g f0) ∨ (w.file ≠ k ∧ fs[k]? = some f) := by
    intro k f hk
    rw [hmod] at hk
    cases hfk : fs[k]? with
    | none => rw [hfk] at hk; cases hk
    | some a =>
      rw [hfk] at hk
      simp only [Option.map_eq_map, Option.map_some, Option.some.injEq] at hk
      by_cases hwk : w.file = k
      · rw [if_pos hwk] at hk
        have : a = f0 := by rw [← hwk, hf0] at hfk; exact (Option.some.inj hfk).symm
        exact Or.inl ⟨hwk, by rw [← hk, this]⟩
      · rw [if_neg hwk] at hk
        exact Or.inr ⟨hwk, hk ▸ rfl⟩
  have hother : ∀ j w0, A[j]? = some w0 → j ≠ i → w0.pc = .encode → w0.file ≠ w.file :=
    fun j w0 hj hji hp hfile => hji (h.encUniq j i w0 w hj hi hp hpc hfile)
  refine h.set hi (fun a => ?_) h.runsNe ?_ ?_ ?_ ?_ (fun _ => hother) ?_ ?_
  · have h3 := LTS.count_flatMap_set (fun f : File => f.data) fs w.file f0 (g f0) hf0 a
    rw [← LTS.modify_eq_set g hf0] at h3
    simp only [htodo, List.count_cons, List.count_append, List.count_nil, g] at h3 ⊢
    show _ + _ + List.count a ((fs.modify w.file g).flatMap (·.data)) = _
    simp only [g]
    omega
  · intro _ h2
    cases t with
    | nil => rfl
    | cons _ _ => exact absurd rfl h2
  · intro h1; simp only at h1; split at h1 <;> cases h1
  · intro h1
    have htne : t ≠ [] := by rintro rfl; cases h1
    exact ⟨g f0, by rw [hmod, hf0]; simp, hs0', htne⟩
  · intro j w0 hj hji hp
    have hne' : ¬ w.file = w0.file := fun e' => hother j w0 hj hji hp e'.symm
    rw [hmod]
    cases fs[w0.file]? <;> simp [hne']
  · intro f hf
    obtain ⟨k, hk⟩ := List.mem_iff_getElem?.mp hf
    rcases file_at k f hk with ⟨_, rfl⟩ | ⟨_, hk'⟩
    · exact List.Pairwise.sublist (List.sublist_append_left _ t) hs0'
    · exact h.filesOK f (List.mem_of_getElem? hk')
  · intro k f hk hd
    rcases file_at k f hk with ⟨_, rfl⟩ | ⟨hwk, hk'⟩
    · simp [g] at hd
    · exact Or.inr ⟨f, hk', hd, fun hp => hwk hp.2⟩

/-- write.sync, write.return, and any other move that neither owns a run nor touches a file -/
theorem DI_pc {wb A fs cp xs} {i : Nat} {w w' : Writer}
    (h : DI wb A fs cp xs) (hi : A[i]? = some w) (h1 : w.pc ≠ .register) (h2 : w.pc ≠ .encode)
    (h1' : w'.pc ≠ .register) (h2' : w'.pc ≠ .encode) (ht : w'.todo = []) :
    DI wb (A.set i w') fs cp xs := by
  have hw0 : w.todo = [] := h.todoNil w (List.mem_of_getElem? hi) h1 h2
  exact h.set hi (fun a => by rw [hw0, ht]) h.runsNe (fun _ _ => ht) (fun a => absurd a h1') (fun a => absurd a h2')
    (fun _ _ _ _ _ => rfl) (fun a => absurd a h2') h.filesOK
    (fun k f hk hd => Or.inr ⟨f, hk, hd, fun hp => h2 hp.1⟩)

theorem DI_init : DI [] [] [] [] [] :=
  ⟨fun _ => by simp, by simp, by simp, by simp, by simp, by simp, by simp, by simp⟩

theorem DI_push {wb A fs cp xs} (h : DI wb A fs cp xs) (e : Elem) : DI wb A fs (cp ++ [e]) (xs ++ [e]) := by
  refine ⟨?_, h.runsNe, h.todoNil, h.regOK, h.encOK, h.encUniq, h.filesOK, h.filesNe⟩
  intro a
  have := h.perm a
  simp only [List.count_append]
  omega

/-- a fresh `write()` activation (about to receive its run) -/
def newWriter : Writer := { pc := .recv, todo := [], file := 0 }

theorem newWriter_eq : ({} : Writer) = newWriter := rfl

/-- `m.writable <- m.chunk` together with the start of a `write()` activation -/
theorem DI_send {wb A fs cp xs} (h : DI wb A fs cp xs) (hcp : cp ≠ []) :
    DI (wb ++ [cp]) (A ++ [newWriter]) fs [] xs := by
  have hlen : ∀ (k : Nat) (wk : Writer), (A ++ [newWriter])[k]? = some wk → wk.pc = .encode → A[k]? = some wk := by
    intro k wk hk hp
    by_cases hlt : k < A.length
    · rw [List.getElem?_append_left hlt] at hk; exact hk
    · rw [List.getElem?_append_right (by omega)] at hk
      cases hk' : k - A.length with
      | zero => rw [hk'] at hk; simp at hk; subst hk; simp [newWriter] at hp
      | succ m => rw [hk'] at hk; simp at hk
  refine ⟨?_, ?_, ?_, ?_, ?_, ?_, h.filesOK, ?_⟩
  · intro a
    have := h.perm a
    simp only [List.flatten_append, List.flatten_cons, List.flatten_nil, List.append_nil, List.count_append,
      List.flatMap_append, List.flatMap_cons, List.flatMap_nil, List.count_nil, newWriter]
    omega
  · intro r hr
    rcases List.mem_append.mp hr with hr | hr
    · exact h.runsNe r hr
    · simp only [List.mem_singleton] at hr; subst hr; exact hcp
  · intro w hw h1 h2
    rcases List.mem_append.mp hw with hw | hw
    · exact h.todoNil w hw h1 h2
    · simp only [List.mem_singleton] at hw; subst hw; rfl
  · intro w hw h1
    rcases List.mem_append.mp hw with hw | hw
    · exact h.regOK w hw h1
    · simp only [List.mem_singleton] at hw; subst hw; simp [newWriter] at h1
  · intro w hw h1
    rcases List.mem_append.mp hw with hw | hw
    · exact h.encOK w hw h1
    · simp only [List.mem_singleton] at hw; subst hw; simp [newWriter] at h1
  · intro a b wa wb' ha hb hpa hpb hf
    exact h.encUniq a b wa wb' (hlen a wa ha hpa) (hlen b wb' hb hpb) hpa hpb hf
  · intro k fk hk hd
    obtain ⟨w, hw, hp, hf⟩ := h.filesNe k fk hk hd
    exact ⟨w, List.mem_append_left _ hw, hp, hf⟩

/-- the caller's own `write()` has returned: it is no longer an activation -/
theorem DI_dropDone {wb A fs cp xs} {w : Writer} (h : DI wb (A ++ [w]) fs cp xs) (hd : w.pc = .done) :
    DI wb A fs cp xs := by
  have hw0 : w.todo = [] := h.todoNil w (by simp) (by rw [hd]; simp) (by rw [hd]; simp)
  refine ⟨?_, h.runsNe, fun w0 hw0' => h.todoNil w0 (List.mem_append_left _ hw0'),
          fun w0 hw0' => h.regOK w0 (List.mem_append_left _ hw0'),
          fun w0 hw0' => h.encOK w0 (List.mem_append_left _ hw0'), ?_, h.filesOK, ?_⟩
  · intro a
    have := h.perm a
    simp only [List.flatMap_append, List.flatMap_cons, List.flatMap_nil, hw0, List.append_nil] at this
    exact this
  · intro a b wa wb' ha hb hpa hpb hf
    have la : a < A.length := (List.getElem?_eq_some_iff.mp ha).1
    have lb : b < A.length := (List.getElem?_eq_some_iff.mp hb).1
    exact h.encUniq a b wa wb' (by rw [List.getElem?_append_left la]; exact ha)
      (by rw [List.getElem?_append_left lb]; exact hb) hpa hpb hf
  · intro k fk hk hdd
    obtain ⟨w0, hw0', hp, hf⟩ := h.filesNe k fk hk hdd
    rcases List.mem_append.mp hw0' with hm | hm
    · exact ⟨w0, hm, hp, hf⟩
    · simp only [List.mem_singleton] at hm; subst hm; rw [hd] at hp; simp at hp

theorem setErr_some (m : Morass.State) (e : Res) : (setErr m e).err = some e := rfl

theorem DI_wstep {s s' : CState} {A : List Writer} {i : Nat} {w w' : Writer} {cp xs : List Elem}
    (h : DI s.writable.buf A s.m.files cp xs) (hi : A[i]? = some w) (hw : wstep s w = some (w', s'))
    (he' : s'.m.err = none) : DI s'.writable.buf (A.set i w') s'.m.files cp xs := by
  have hmem := List.mem_of_getElem? hi
  cases wstep_cases hw with
  | recvBad | encodeBad | syncBad => cases he'
  | recvOk r ch flt hpc hr =>
    rw [(Chan.recv_buf hr).1] at h
    exact DI_recv h hi hpc
  | register hpc =>
    have : w.todo.isEmpty = false := by simpa using (h.regOK w hmem hpc).2
    simp only [this, Bool.false_eq_true, if_false]
    exact DI_register h hi hpc
  | encodeNil hpc htodo =>
    obtain ⟨_, _, _, hne⟩ := h.encOK w hmem hpc
    exact absurd htodo hne
  | encodeOk e t flt hpc htodo => exact DI_encode h hi hpc htodo
  | syncOk _ hpc | ret hpc =>
    have h1 : w.pc ≠ .register := by rw [hpc]; simp
    have h2 : w.pc ≠ .encode := by rw [hpc]; simp
    exact DI_pc h hi h1 h2 (by simp) (by simp) (h.todoNil w hmem h1 h2)

end Biogo.MorassConc
