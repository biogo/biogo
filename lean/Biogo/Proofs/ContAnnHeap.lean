/-
Facts about slices on a heap of any element type (the heap of cells and the heap of
`seq.Annotation`): `writeList` seen through a slice, allocation and the loops that allocate
(`thread_ofList`), Go `append`, the in-place delete idiom `s[:i+copy(s[i:], s[i+1:])]`, an in-place
update.  Core-only.
-/
import Biogo.Model.ContAnn
import Biogo.Proofs.Containers
import Biogo.Proofs.ActorTables

namespace Biogo.Containers
open Biogo.Go

section generic
variable {α : Type}

theorem arr_writeList_same (h : Heap α) (s : Slice) (xs : List α) (ha : s.arr < h.arrays.length) :
    (h.writeList s xs).arr s.arr
      = (h.arr s.arr).take s.off ++ xs.take (min s.len xs.length) ++ (h.arr s.arr).drop (s.off + min s.len xs.length) :=
  Heap.arr_modify_same h s.arr _ ha

theorem arr_writeList_other (h : Heap α) (s : Slice) (xs : List α) (b : Nat) (hne : s.arr ≠ b) :
    (h.writeList s xs).arr b = h.arr b :=
  Heap.arr_modify_other h s.arr b _ hne

theorem length_writeList (h : Heap α) (s : Slice) (xs : List α) :
    (h.writeList s xs).arrays.length = h.arrays.length := by
  simp [Heap.writeList]

theorem writesOnly_writeList (h : Heap α) (a o m c : Nat) (xs : List α) (ha : a < h.arrays.length)
    (hfit : o + min m xs.length ≤ (h.arr a).length) : WritesOnly (a = ·) h (h.writeList ⟨a, o, m, c⟩ xs) := by
  refine ⟨length_writeList _ _ _, fun b => ?_, fun b hb => arr_writeList_other h ⟨a, o, m, c⟩ xs b hb⟩
  by_cases e : a = b
  · subst e
    have hw : (h.writeList ⟨a, o, m, c⟩ xs).arr a = _ := arr_writeList_same h ⟨a, o, m, c⟩ xs ha
    rw [hw, List.length_append, List.length_append, List.length_drop,
      List.length_take_of_le (Nat.le_trans (Nat.le_add_right _ _) hfit),
      List.length_take_of_le (Nat.min_le_right _ _), Nat.add_sub_cancel' hfit]
  · exact congrArg List.length (arr_writeList_other h ⟨a, o, m, c⟩ xs b e)

/-- `xs` spliced into `A` at `off + k`, seen through the window of `k + |xs|` cells at `off` -/
theorem take_drop_splice (A xs Z : List α) (off k : Nat) (hk : off + k ≤ A.length) :
    ((A.take (off + k) ++ xs ++ Z).drop off).take (k + xs.length) = (A.drop off).take k ++ xs := by
  have h1 : off ≤ (A.take (off + k)).length := by rw [List.length_take]; omega
  rw [List.append_assoc, List.drop_append_of_le_length h1, List.drop_take, Nat.add_sub_cancel_left,
    ← List.append_assoc]
  exact List.take_left' (by rw [List.length_append, List.length_take, List.length_drop]; omega)

/-- all of `xs` written through a window that starts `k` cells after `off`: the `k + |xs|`
    cells at `off` are the `k` old ones followed by `xs`.  Both Go `append` in place (`k = len`)
    and the delete idiom (`k = i`) are this. -/
theorem read_writeList (h : Heap α) (a off k m c : Nat) (xs : List α) (ha : a < h.arrays.length)
    (hk : off + k ≤ (h.arr a).length) (hm : xs.length ≤ m) :
    (((h.writeList ⟨a, off + k, m, c⟩ xs).arr a).drop off).take (k + xs.length)
      = ((h.arr a).drop off).take k ++ xs := by
  have hw : (h.writeList ⟨a, off + k, m, c⟩ xs).arr a
      = (h.arr a).take (off + k) ++ xs.take (min m xs.length) ++ (h.arr a).drop (off + k + min m xs.length) :=
    arr_writeList_same h ⟨a, off + k, m, c⟩ xs ha
  rw [hw, Nat.min_eq_right hm, List.take_length]
  exact take_drop_splice _ _ _ _ _ hk

/- Validity of a slice has five spellings.  `CapValidG` (any heap: allocated, `len ≤ cap`, the whole capacity
   inside the array) and `CapValid` (ContAppend: the same at `Cells`) are what Go `append` and re-slicing need.
   `Lin.Valid` (Containers) and `ColValid h n` (ContAln; with `len = n` besides) ask only that the `len` cells
   that are read lie inside the array, which is all the in-place operations need (`CapValidG.toValid`).
   `Slice.ValidIn` (Go/Slice) is `CapValidG` without "allocated". -/
def CapValidG (h : Heap α) (s : Slice) : Prop :=
  s.arr < h.arrays.length ∧ s.len ≤ s.cap ∧ s.off + s.cap ≤ (h.arr s.arr).length

theorem CapValidG.length_read {h : Heap α} {s : Slice} (hv : CapValidG h s) : (h.read s).length = s.len :=
  Containers.length_read h s (by have := hv.2.1; have := hv.2.2; omega)

theorem CapValidG.mono {h h' : Heap α} {s : Slice} (hv : CapValidG h s)
    (hl : h.arrays.length ≤ h'.arrays.length) (ha : h'.arr s.arr = h.arr s.arr) : CapValidG h' s :=
  ⟨Nat.lt_of_lt_of_le hv.1 hl, hv.2.1, by rw [ha]; exact hv.2.2⟩

theorem CapValidG.extends {h h' : Heap α} {s : Slice} (hv : CapValidG h s) (e : Extends h h') : CapValidG h' s :=
  hv.mono e.size (e.old _ hv.1)

theorem CapValidG.writesOnly {P : Nat → Prop} {h h' : Heap α} {s : Slice} (hv : CapValidG h s)
    (w : WritesOnly P h h') : CapValidG h' s :=
  ⟨by rw [w.size]; exact hv.1, hv.2.1, by rw [w.arrlen]; exact hv.2.2⟩

theorem ofList_factsG (h : Heap α) (xs : List α) (cap : Nat) (z : α) :
    (h.ofList xs cap z).2.arr = h.arrays.length ∧
    (h.ofList xs cap z).2.len = xs.length ∧
    (h.ofList xs cap z).1.arrays.length = h.arrays.length + 1 ∧
    CapValidG (h.ofList xs cap z).1 (h.ofList xs cap z).2 ∧
    Extends h (h.ofList xs cap z).1 ∧
    (h.ofList xs cap z).1.read (h.ofList xs cap z).2 = xs := by
  have hsz : (h.ofList xs cap z).1.arrays.length = h.arrays.length + 1 := Heap.size_ofList _ _ _ _
  have hnew : (h.ofList xs cap z).1.arr (h.ofList xs cap z).2.arr
      = xs ++ List.replicate (max xs.length cap - xs.length) z := Heap.arr_alloc_new h _
  refine ⟨rfl, rfl, hsz, ⟨?_, ?_, ?_⟩, .ofList h xs cap z, Heap.read_ofList _ _ _ _⟩
  · rw [hsz]; exact Nat.lt_succ_self _
  · exact Nat.le_max_left _ _
  · rw [hnew, List.length_append, List.length_replicate]
    show 0 + max xs.length cap ≤ _
    omega

section allocLoop
variable {ι ο : Type}

/-- a loop that gives each item a new array holding `content` (which may read the heap, e.g. the slice being
    cloned) and wraps the new slice into its result (`mk`), as `Clone`, `NewSeq`, `AppendColumns` do.  `Q` is
    what makes an item's content independent of what the loop allocates meanwhile. -/
theorem thread_ofList (content : Heap α → ι → List α) (cap : ι → Nat) (z : α)
    (mk : ι → Slice → ο) (sl : ο → Slice) (hsl : ∀ x s, sl (mk x s) = s) (Q : Heap α → ι → Prop)
    (hQ : ∀ h h' x, Extends h h' → Q h x → Q h' x)
    (hc : ∀ h h' x, Extends h h' → Q h x → content h' x = content h x) :
    ∀ (xs : List ι) (h : Heap α),
      All2 (fun x o => o = mk x (sl o) ∧
          CapValidG (thread (fun h x => ((h.ofList (content h x) (cap x) z).1, mk x (h.ofList (content h x) (cap x) z).2)) xs h).1 (sl o) ∧
          h.arrays.length ≤ (sl o).arr ∧
          (Q h x → (thread (fun h x => ((h.ofList (content h x) (cap x) z).1, mk x (h.ofList (content h x) (cap x) z).2)) xs h).1.read (sl o)
              = content h x ∧ (sl o).len = (content h x).length))
        xs (thread (fun h x => ((h.ofList (content h x) (cap x) z).1, mk x (h.ofList (content h x) (cap x) z).2)) xs h).2 ∧
      (thread (fun h x => ((h.ofList (content h x) (cap x) z).1, mk x (h.ofList (content h x) (cap x) z).2)) xs h).2.Pairwise
        (fun a b => (sl a).arr ≠ (sl b).arr) ∧
      Extends h (thread (fun h x => ((h.ofList (content h x) (cap x) z).1, mk x (h.ofList (content h x) (cap x) z).2)) xs h).1 := by
  intro xs
  induction xs with
  | nil => intro h; exact ⟨.nil, .nil, .refl h⟩
  | cons x xs ih =>
    intro h
    obtain ⟨harr, hlen, hsz, hv, hext, hread⟩ := ofList_factsG h (content h x) (cap x) z
    obtain ⟨hall, hpw, hext'⟩ := ih (h.ofList (content h x) (cap x) z).1
    refine ⟨.cons ⟨?_, ?_, ?_, fun _ => ⟨?_, ?_⟩⟩
        (hall.imp fun y o hyo => ⟨hyo.1, hyo.2.1, Nat.le_trans hext.size hyo.2.2.1, fun hq => ?_⟩),
      List.pairwise_cons.mpr ⟨fun o ho => ?_, hpw⟩, hext.trans hext'⟩
    · rw [hsl]
    · rw [hsl]; exact hv.extends hext'
    · rw [hsl, harr]; exact Nat.le_refl _
    · rw [hsl]; exact (read_congr_arr _ _ _ (hext'.old _ hv.1)).trans hread
    · rw [hsl]; exact hlen
    -- a later item is allocated on a larger heap, on which its content is what it was
    · rw [← hc h _ y hext hq]; exact hyo.2.2.2 (hQ _ _ y hext hq)
    · obtain ⟨y, _, hyo⟩ := hall.exists_left o ho
      rw [hsl, harr]
      exact Nat.ne_of_lt (Nat.lt_of_lt_of_le (Nat.lt_of_lt_of_eq (Nat.lt_succ_self _) hsz.symm) hyo.2.2.1)

end allocLoop

/-- **Go `append`**: the result reads as the old elements followed by the new ones; it is
    either the same array written in place (only when the capacity suffices) or a new array;
    no other array changes. -/
theorem append_specG (grow : Nat → Nat → Nat) (h : Heap α) (s : Slice) (xs : List α) (z : α) (hv : CapValidG h s) :
    (h.append grow s xs z).1.read (h.append grow s xs z).2 = h.read s ++ xs ∧
    CapValidG (h.append grow s xs z).1 (h.append grow s xs z).2 ∧
    (h.append grow s xs z).2.len = s.len + xs.length ∧
    ((h.append grow s xs z).2.arr = s.arr ∨ h.arrays.length ≤ (h.append grow s xs z).2.arr) ∧
    Within (s.arr = ·) h (h.append grow s xs z).1 := by
  obtain ⟨ha, hlc, hcap⟩ := hv
  by_cases hfit : s.len + xs.length ≤ s.cap
  · have happ : h.append grow s xs z =
        (h.writeList ⟨s.arr, s.off + s.len, xs.length, s.cap - s.len⟩ xs, { s with len := s.len + xs.length }) := by
      simp only [Heap.append, hfit, if_true]
    rw [happ]
    have hw := writesOnly_writeList h s.arr (s.off + s.len) xs.length (s.cap - s.len) xs ha (by omega)
    exact ⟨read_writeList h s.arr s.off s.len xs.length _ xs ha (by omega) (Nat.le_refl _),
      CapValidG.writesOnly (s := { s with len := s.len + xs.length }) ⟨ha, hfit, hcap⟩ hw, rfl, Or.inl rfl, hw.within⟩
  · have happ : h.append grow s xs z = h.ofList (h.read s ++ xs) (grow s.cap (s.len + xs.length)) z := by
      simp only [Heap.append, hfit, if_false]
    rw [happ]
    obtain ⟨oarr, olen, _, ovalid, oold, oread⟩ := ofList_factsG h (h.read s ++ xs) (grow s.cap (s.len + xs.length)) z
    refine ⟨oread, ovalid, ?_, Or.inr (Nat.le_of_eq oarr.symm), oold.within _⟩
    rw [olen, List.length_append, length_read h s (by omega)]

/-- the delete idiom `s[:i+copy(s[i:], s[i+1:])]`: the slice loses one cell and reads as before
    without entry `i`; only cells of its own array are written -/
theorem delSlice_eq (h : Heap α) (c : Slice) (i : Nat) (ha : c.arr < h.arrays.length) (hcap : c.len ≤ c.cap)
    (harr : c.off + c.len ≤ (h.arr c.arr).length) (hi : i < c.len) :
    (delSlice h c i).2 = { c with len := c.len - 1 } ∧
    (delSlice h c i).1.read (delSlice h c i).2 = (h.read c).eraseIdx i ∧
    WritesOnly (c.arr = ·) h (delSlice h c i).1 := by
  -- `d = c[i:]` (`n + 1` cells) is written with `src = c[i+1:]` (`n` cells)
  obtain ⟨n, hn⟩ : ∃ n, c.len = i + 1 + n := ⟨c.len - (i + 1), (Nat.add_sub_cancel' hi).symm⟩
  have e1 : c.len - (i + 1) = n := by rw [hn, Nat.add_sub_cancel_left]
  have e2 : c.len - i = n + 1 := by rw [hn, Nat.add_assoc, Nat.add_sub_cancel_left, Nat.add_comm]
  have e3 : c.len - 1 = i + n := by rw [hn, Nat.add_right_comm, Nat.add_sub_cancel]
  have hL : c.off + (i + 1) + n ≤ (h.arr c.arr).length := by rw [Nat.add_assoc, ← hn]; exact harr
  have hsrc : (h.read ⟨c.arr, c.off + (i + 1), n, c.cap - (i + 1)⟩).length = n := length_read h _ hL
  have hdel : delSlice h c i =
      (h.writeList ⟨c.arr, c.off + i, n + 1, c.cap - i⟩ (h.read ⟨c.arr, c.off + (i + 1), n, c.cap - (i + 1)⟩),
       { c with len := i + n }) := by
    simp only [delSlice, Slice.slice, Heap.copy, e1, e2]
    rw [if_pos ⟨Nat.le_of_lt hi, hcap⟩, if_pos ⟨hi, hcap⟩]
    simp only [Nat.min_eq_right (Nat.le_succ n)]
  rw [hdel, e3]
  refine ⟨rfl, ?_, writesOnly_writeList h _ _ _ _ _ ha (by rw [hsrc, Nat.min_eq_right (Nat.le_succ n)]; omega)⟩
  have hw := read_writeList h c.arr c.off i (n + 1) (c.cap - i) _ ha (by omega) (by rw [hsrc]; exact Nat.le_succ n)
  rw [hsrc] at hw
  show (((h.writeList _ _).arr c.arr).drop c.off).take (i + n) = _
  rw [hw, List.eraseIdx_eq_take_drop_succ]
  simp only [Heap.read, List.take_take, List.drop_take, List.drop_drop, hn]
  congr 2
  · exact (Nat.min_eq_left (Nat.le_trans (Nat.le_succ i) (Nat.le_add_right _ n))).symm
  · exact (Nat.add_sub_cancel_left _ _).symm

theorem delSlice_of_le (h : Heap α) (c : Slice) (i : Nat) (hi : c.len ≤ i) : delSlice h c i = (h, c) := by
  have h2 : c.slice (i + 1) c.len = none := if_neg fun e => Nat.not_succ_le_self _ (Nat.le_trans e.1 hi)
  unfold delSlice
  rw [h2]
  cases c.slice i c.len <;> rfl

theorem delSlice_spec (h : Heap α) (c : Slice) (i : Nat) (hv : CapValidG h c) (hi : i < c.len) :
    (delSlice h c i).1.read (delSlice h c i).2 = (h.read c).eraseIdx i ∧
    CapValidG (delSlice h c i).1 (delSlice h c i).2 ∧
    (delSlice h c i).2.arr = c.arr ∧ WritesOnly (c.arr = ·) h (delSlice h c i).1 := by
  obtain ⟨e, hread, hw⟩ := delSlice_eq h c i hv.1 hv.2.1 (by have := hv.2.1; have := hv.2.2; omega) hi
  refine ⟨hread, ?_, by rw [e], hw⟩
  rw [e]
  exact CapValidG.writesOnly (s := { c with len := c.len - 1 }) ⟨hv.1, Nat.le_trans (Nat.sub_le _ _) hv.2.1, hv.2.2⟩ hw

theorem modAt_eq_modify (f : α → α) (l : List α) (i : Nat) : modAt f l i = l.modify i f := by
  unfold modAt
  cases h : l[i]? with
  | none => exact (List.modify_eq_self (List.getElem?_eq_none_iff.mp h)).symm
  | some x => exact (LTS.modify_eq_set f h).symm

/-- `modSlice` is `hModAt` of Model/Containers.lean -/
theorem modSlice_spec (h : Heap α) (s : Slice) (r : Nat) (f : α → α) (ha : s.arr < h.arrays.length) :
    (modSlice h s r f).read s = (h.read s).modify r f ∧ WritesOnly (s.arr = ·) h (modSlice h s r f) :=
  ⟨(read_hModAt f h s r ha).trans (modAt_eq_modify f _ r), writesOnly_hModAt f h s r⟩

end generic

theorem CapValidG.toValid {h : Cells} {l : Lin} (hv : CapValidG h l.s) : l.Valid h :=
  ⟨hv.1, by have := hv.2.1; have := hv.2.2; omega⟩

/-- the loop of `Add` over the annotation slice: one Go `append` per added sequence -/
theorem appendAnns_spec (grow : Nat → Nat → Nat) : ∀ (xs : List Ann) (h : Heap Ann) (s : Slice), CapValidG h s →
    (appendAnns grow h s xs).1.read (appendAnns grow h s xs).2 = h.read s ++ xs ∧
    CapValidG (appendAnns grow h s xs).1 (appendAnns grow h s xs).2 ∧
    ((appendAnns grow h s xs).2.arr = s.arr ∨ h.arrays.length ≤ (appendAnns grow h s xs).2.arr) ∧
    Within (s.arr = ·) h (appendAnns grow h s xs).1 := by
  intro xs
  induction xs with
  | nil => intro h s hv; exact ⟨by simp [appendAnns], hv, Or.inl rfl, .refl _ h⟩
  | cons x xs ih =>
    intro h s hv
    obtain ⟨a1, a2, _, a3, a4⟩ := append_specG grow h s [x] zeroAnn hv
    obtain ⟨b1, b2, b3, b4⟩ := ih _ _ a2
    have hfold : appendAnns grow h s (x :: xs)
        = appendAnns grow (h.append grow s [x] zeroAnn).1 (h.append grow s [x] zeroAnn).2 xs := rfl
    rw [hfold]
    -- the array the rest of the loop writes is `s`'s or was allocated by the first `append`
    exact ⟨by rw [b1, a1]; simp, b2, b3.elim (fun e => e ▸ a3) fun e => Or.inr (Nat.le_trans a4.size e),
      a4.trans b4 fun b e => e ▸ a3.imp Eq.symm id⟩

end Biogo.Containers
