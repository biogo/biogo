/-
`FittedAffine`, C09, for either fill, end selection and switch: the layer-aware traceback never leaves its
layer (`fitAlignT_aware_tie`), and a traceback that does not returns pairs with the recomputed scores, the
leading query gap of fix K2b included (`fitAlignT_faithful`) — read off `TraceFaith.GlobalBorders.run` over
the fitted table (`FittedAffine.fitTable_borders`), the leading gap off row 0, which is the global table's.
-/
import Biogo.Proofs.FittedAffine
import Biogo.Proofs.NWFaith

namespace Biogo.Proofs.FitFaith
open Biogo.Spec.Alignment Biogo.AlignAff Biogo.Spec.AffineOpt Biogo.Spec.AffPairs
open Biogo.Proofs.AffineOpt Biogo.Proofs.AlignAffTable Biogo.Proofs.TraceSum Biogo.Proofs.NWAffine
open Biogo.Proofs.TraceWF Biogo.Proofs.TraceFaith Biogo.Proofs.FittedAffine Biogo.Proofs.NWFaith

/-- the layer-aware traceback of `FittedAffine` never raises the ghost flag -/
theorem fitAlignT_aware_tie (cross ends : Bool) (S : Matrix) (o : Int) (r q : List Nat) (ps : List Pair) (t : Bool)
    (h : fitAlignT true cross ends S o r q = .ok (ps, t)) : t = false := by
  obtain ⟨st, hl, rfl, _⟩ := (fitAlignT_ok rfl).1 h
  exact loop_tie_aware cross false _ S o r q _ _ _ _ st hl

/-- **Faithful pair scores, `FittedAffine`** (either switch, fill and end selection): if the
    traceback only takes cases of its current layer every pair carries the score recomputed from
    the letters, the matrix and the gap parameters, the leading query gap (fix K2b) included. -/
theorem fitAlignT_faithful (aware cross ends : Bool) (S : Matrix) (o : Int) (r q : List Nat) (hr : r ≠ [])
    (hq : q ≠ []) (ps : List Pair) (h : fitAlignT aware cross ends S o r q = .ok (ps, false)) :
    faithful S o r q ps = true := by
  obtain ⟨hE1, hE, _, x, hx⟩ := fitStart_spec cross ends S o r q hr hq
  obtain ⟨st, hloop, htie, rfl⟩ := (fitAlignT_ok rfl).1 h
  obtain ⟨st', v, hloop', hinv, hstop, _, _, hemit⟩ := (fitTable_borders cross S o r q).run aware _ _ (Or.inr rfl) hE1
    (List.length_pos_iff.mpr hq) hE (Nat.le_refl _) hx
  cases hloop.symm.trans hloop'
  split
  · -- the leading query gap carries the value of the cell of row 0 the loop stopped in
    rename_i hj0
    have hjC : st.j ≤ q.length := Nat.le_trans hinv.hj hinv.hC
    refine (faithful_cons S o r q _ _).2 ⟨?_, hemit htie⟩
    simp only []
    rw [hstop.resolve_right hj0, fitTable_row0 cross S o r q _ hjC]
    exact lead_left cross S o r q hj0 hjC
  · exact hemit htie

end Biogo.Proofs.FitFaith
