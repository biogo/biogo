/-
Lists as per-actor tables.  A table is its entry `i` and the rest (`perm_eraseIdx`), and so is the
table with that entry replaced (`perm_set`): what replacing one entry does to a count, a sum or a
`filterMap` over the table is read off these two.  Then what reading an entry of a modified,
one-row or `range`-built table gives, and that some actor is enabled or all are blocked (excluded middle).
-/
namespace Biogo.LTS

universe u v
variable {α : Type u}

theorem lt_of_getElem? {l : List α} {k : Nat} {a : α} (h : l[k]? = some a) : k < l.length :=
  (List.getElem?_eq_some_iff.1 h).1

theorem perm_eraseIdx {l : List α} {i : Nat} {a : α} (h : l[i]? = some a) :
    l.Perm (a :: l.eraseIdx i) := by
  induction l generalizing i with
  | nil => simp at h
  | cons x xs ih =>
    cases i with
    | zero => simp at h; subst h; exact .refl _
    | succ n => exact ((ih (by simpa using h)).cons x).trans (.swap ..)

theorem perm_set {l : List α} {i : Nat} {a : α} (b : α) (h : l[i]? = some a) :
    (l.set i b).Perm (b :: l.eraseIdx i) :=
  List.eraseIdx_set_eq ▸ perm_eraseIdx (List.getElem?_set_self (lt_of_getElem? h))

theorem countP_set (p : α → Bool) (l : List α) (i : Nat) (a b : α) (h : l[i]? = some a) :
    (l.set i b).countP p + (if p a then 1 else 0) = l.countP p + (if p b then 1 else 0) := by
  rw [(perm_set b h).countP_eq, (perm_eraseIdx h).countP_eq, List.countP_cons, List.countP_cons]
  omega

theorem countP_lt_length_of (p : α → Bool) (l : List α) (i : Nat) (a : α)
    (h : l[i]? = some a) (hp : p a = false) : l.countP p < l.length := by
  have := List.countP_le_length (p := p) (l := l.eraseIdx i)
  rw [(perm_eraseIdx h).countP_eq, (perm_eraseIdx h).length_eq, List.countP_cons, hp, List.length_cons]
  simpa using Nat.lt_succ_of_le this

theorem sum_map_set (f : α → Nat) (l : List α) (i : Nat) (a b : α) (h : l[i]? = some a) :
    ((l.set i b).map f).sum + f a = (l.map f).sum + f b := by
  rw [((perm_set b h).map f).sum_nat, ((perm_eraseIdx h).map f).sum_nat, List.map_cons, List.map_cons,
    List.sum_cons, List.sum_cons]
  omega

theorem count_filterMap_set {β : Type v} [BEq β] (f : α → Option β) (l : List α) (i : Nat) (a b : α)
    (h : l[i]? = some a) (x : β) :
    (f a).toList.count x + ((l.set i b).filterMap f).count x
      = (f b).toList.count x + (l.filterMap f).count x := by
  rw [((perm_set b h).filterMap f).count_eq, ((perm_eraseIdx h).filterMap f).count_eq,
    List.filterMap_cons, List.filterMap_cons]
  cases f a <;> cases f b <;> simp [List.count_cons] <;> omega

theorem count_flatten_set [BEq α] (l : List (List α)) (k : Nat) (a b : List α)
    (h : l[k]? = some a) (x : α) :
    (l.set k b).flatten.count x + a.count x = l.flatten.count x + b.count x := by
  rw [List.count_flatten, List.count_flatten]
  exact sum_map_set (List.count x) l k a b h

theorem count_flatMap_set {β : Type v} [BEq β] (f : α → List β) (l : List α) (i : Nat) (a b : α)
    (h : l[i]? = some a) (x : β) :
    ((l.set i b).flatMap f).count x + (f a).count x = (l.flatMap f).count x + (f b).count x := by
  rw [((perm_set b h).flatMap_right f).count_eq, ((perm_eraseIdx h).flatMap_right f).count_eq,
    List.flatMap_cons, List.flatMap_cons, List.count_append, List.count_append]
  omega

theorem getElem?_set_cases {l : List α} {i j : Nat} {b x : α} (h : (l.set i b)[j]? = some x) :
    (j = i ∧ x = b) ∨ (j ≠ i ∧ l[j]? = some x) := by
  rw [List.getElem?_set] at h
  split at h
  · rename_i e
    split at h
    · exact .inl ⟨e.symm, (Option.some.inj h).symm⟩
    · cases h
  · rename_i e
    exact .inr ⟨fun e' => e e'.symm, h⟩

theorem getD_set (l : List α) (k j : Nat) (v d : α) :
    (l.set k v).getD j d = if k = j then (if k < l.length then v else d) else l.getD j d := by
  simp only [List.getD_eq_getElem?_getD, List.getElem?_set]
  split
  · split <;> simp_all
  · rfl

theorem map_set_same {β : Type v} (f : α → β) (l : List α) (k : Nat) (a b : α) (h : l[k]? = some a)
    (hf : f b = f a) : (l.set k b).map f = l.map f := by
  obtain ⟨hk, rfl⟩ := List.getElem?_eq_some_iff.1 h
  rw [List.map_set, hf, ← List.getElem_map f (h := by simpa using hk), List.set_getElem_self]

theorem modify_eq_set {l : List α} {i : Nat} {a : α} (f : α → α) (h : l[i]? = some a) :
    l.modify i f = l.set i (f a) := by
  haveI : Inhabited α := ⟨a⟩
  rw [List.modify_eq_set, h]; rfl

theorem getElem?_modify_if (l : List α) (r i : Nat) (f : α → α) :
    (l.modify r f)[i]? = if r = i then (l[i]?).map f else l[i]? := by
  rw [List.getElem?_modify]; split <;> simp [*]

theorem getElem?_of_getD_some {l : List (Option α)} {k : Nat} {r : α}
    (h : l.getD k none = some r) : l[k]? = some (some r) := by
  rw [List.getD_eq_getElem?_getD] at h
  cases hk : l[k]? with
  | none => rw [hk] at h; cases h
  | some v => rw [hk] at h; simp at h; rw [h]

theorem getElem?_singleton_some {x y : α} {i : Nat} (h : [x][i]? = some y) : i = 0 ∧ y = x := by
  simpa [List.getElem?_singleton, eq_comm] using h

theorem getElem?_map_range (f : Nat → α) (n i : Nat) (y : α) :
    ((List.range n).map f)[i]? = some y ↔ i < n ∧ y = f i := by
  rw [List.getElem?_map]
  by_cases hi : i < n
  · rw [List.getElem?_range hi]
    simp only [Option.map_some, Option.some.injEq, hi, true_and, eq_comm]
  · rw [List.getElem?_eq_none_iff.mpr (by rw [List.length_range]; omega)]
    simp only [Option.map_none, hi, false_and, reduceCtorEq]

theorem enabled_or_blocked {σ : Type u} (step : Nat → Option σ) :
    (∃ i, (step i).isSome = true) ∨ (∀ i, step i = none) :=
  (Classical.em _).imp_right fun h i => Option.not_isSome_iff_eq_none.1 fun hi => h ⟨i, hi⟩

end Biogo.LTS
