/-
What the table of `FittedAffine` explores (model `Biogo.AlignAff.fitTable`, either fill, every matrix and gap-open
value): every layer of every cell, from column 1 on, is the optimum of the fitted alignments of its prefixes that
end in that layer's kind and begin as the free-prefix column lets them — with a letter pair or with a gap in the
reference, never with a gap in the query; before the repair of K1 (`cross = false`: no adjacent opposite gaps, no
`up → left` transition out of column 0) with a gap in the reference only from reference position 0 (`fit_rcell`).
Column 0 — the free reference prefix kept as the empty alignment in the `up` layer — is no cell of a class and is
handled where it is read, in column 1 (`col1_single`).  For the aligner before the repairs of K1 and K3
(`fitAlignLegacy`) the class is `Spec.FittedRestricted.IsFittedRestricted` (`fitAlign_restricted_opt`).
-/
import Biogo.Proofs.FittedAffine
import Biogo.Spec.FittedRestricted
import Biogo.Spec.AffPairs

namespace Biogo.Proofs.FittedClass
open Biogo.Spec.Alignment Biogo.AlignAff Biogo.Spec.AffineOpt Biogo.Proofs.AffineAln
open Biogo.Proofs.AffineOpt Biogo.Proofs.AlignAffTable Biogo.Proofs.FittedAffine
open Biogo.Spec.FittedRestricted

theorem firstKind_snoc_ne (a : Aln) (c : Col) (h : a ≠ []) : firstKind (a ++ [c]) = firstKind a := by
  cases a with
  | nil => exact absurd rfl h
  | cons d t => rfl

theorem firstKind_single (c : Col) : firstKind [c] = some c.kind := rfl

theorem firstKind_u_of_projQ_nil (a : Aln) (h : projQ a = []) (hne : a ≠ []) : firstKind a = some .u := by
  cases a with
  | nil => exact absurd rfl hne
  | cons c t => cases c <;> simp [projQ] at h <;> rfl

theorem firstKind_l_of_projR_nil (a : Aln) (h : projR a = []) (hne : a ≠ []) : firstKind a = some .l := by
  cases a with
  | nil => exact absurd rfl hne
  | cons c t => cases c <;> simp [projR] at h <;> rfl

/-- fitted alignments: free start in the reference, whole query -/
def flFit (cross : Bool) : Flags := ⟨cross, true, false⟩

/-- what the free-prefix column lets an alignment start with: a letter pair, or a gap in the reference — before
    the repair of K1 (no `up → left` transition out of column 0) only at reference position 0 -/
def StartOK (cross : Bool) (rp : List Nat) (a : Aln) : Prop :=
  firstKind a = some .m ∨ (firstKind a = some .l ∧ (cross = true ∨ projR a = rp))

theorem startOK_snoc {cross : Bool} {R rp : List Nat} {c : Col} (hR : R = rp ++ projR [c]) (a : Aln) (h : a ≠ []) :
    StartOK cross R (a ++ [c]) ↔ StartOK cross rp a := by
  simp only [StartOK, hR, firstKind_snoc_ne a _ h, projR_append, List.append_left_inj]

def RCls (cross : Bool) (rp qp : List Nat) (k : Kind) (a : Aln) : Prop :=
  Cls (flFit cross) rp qp k a ∧ StartOK cross rp a

def RCellOK (cross : Bool) (S : Matrix) (o : Int) (rp qp : List Nat) (c : Cell) : Prop :=
  ∀ k, IsOpt (RCls cross rp qp k) (scoreAff S o) (c.get k)

theorem adm_ne_nil {cross : Bool} {rp qp : List Nat} {a : Aln} (h : Adm (flFit cross) rp qp a) (hq : qp ≠ []) :
    a ≠ [] := by
  rintro rfl
  have := h.2.1
  simp [fits, flFit, projQ] at this
  exact hq this

theorem r_u_step {cross : Bool} {S : Matrix} {o : Int} {rp Q : List Nat} {c : Cell} (x : Nat) (hQ : Q ≠ [])
    (h : RCellOK cross S o rp Q c) :
    IsOpt (RCls cross (rp ++ [x]) Q .u) (scoreAff S o) (gapLayer cross o (S x 0) c.d c.u c.l) :=
  gapLayer_eq (flFit cross) o _ _ _ _ ▸
    u_step_on x (fun a ha => startOK_snoc rfl a (adm_ne_nil ha hQ)) h

theorem r_l_step {cross : Bool} {S : Matrix} {o : Int} {R qp : List Nat} {c : Cell} (y : Nat) (hq : qp ≠ [])
    (h : RCellOK cross S o R qp c) :
    IsOpt (RCls cross R (qp ++ [y]) .l) (scoreAff S o) (gapLayer cross o (S 0 y) c.d c.l c.u) :=
  gapLayer_eq (flFit cross) o _ _ _ _ ▸
    l_step_on y (fun a ha => startOK_snoc (List.append_nil R).symm a (adm_ne_nil ha hq)) h

theorem r_m_step {cross : Bool} {S : Matrix} {o : Int} {rp qp : List Nat} {c : Cell} (x y : Nat) (hq : qp ≠ [])
    (h : RCellOK cross S o rp qp c) :
    IsOpt (RCls cross (rp ++ [x]) (qp ++ [y]) .m) (scoreAff S o) (vadd (max3 c.d c.u c.l) (S x y)) := by
  have := m_step_on x y (fun a ha => startOK_snoc rfl a (adm_ne_nil ha hq)) (fun hf => by cases hf) h
  rwa [show emptyAt ((flFit cross).freeR && (flFit cross).freeQ) = none from rfl, max2_none_left] at this

theorem not_startOK_snoc {cross : Bool} {rp : List Nat} {a : Aln} {c : Col} (hq : projQ a = []) (hne : a ≠ []) :
    ¬ StartOK cross rp (a ++ [c]) := by
  rintro (h | ⟨h, _⟩) <;>
    (rw [firstKind_snoc_ne a c hne, firstKind_u_of_projQ_nil a hq hne] at h; cases h)

/-- column 1: what precedes its one query letter uses no query letter, so it is empty — a non-empty one would
    start with a gap in the query.  (`hQ` and the prefix `[] ++ [y]`: the forms `cls_snoc_col` takes and
    `take_succ_getD` writes `q.take 1` in.) -/
theorem col1_single {cross : Bool} {R rp : List Nat} {y : Nat} (c : Col) (hR : R = rp ++ projR [c])
    (hQ : [] ++ [y] = [] ++ projQ [c]) (a : Aln) :
    RCls cross R ([] ++ [y]) c.kind a ↔ a = [c] ∧ StartOK cross R [c] := by
  constructor
  · rintro ⟨hc, hs⟩
    have hne : a ≠ [] := by rintro rfl; rcases hs with h | ⟨h, _⟩ <;> cases h
    obtain ⟨a', rfl, ha, _⟩ := (cls_snoc_col (flFit cross) c hR hQ a).mp ⟨hc, hne⟩
    by_cases hne' : a' = []
    · subst hne'; exact ⟨rfl, hs⟩
    · exact absurd hs (not_startOK_snoc (by simpa [fits, flFit] using ha.2.1) hne')
  · rintro ⟨rfl, hs⟩
    refine ⟨((cls_snoc_col (flFit cross) c hR hQ _).mpr ⟨[], rfl, ⟨?_, ?_, Or.inr rfl⟩, Or.inr rfl⟩).1, hs⟩
    · simp [fits, flFit, projR]
    · simp [fits, flFit, projQ]

theorem r_m_first (cross : Bool) (S : Matrix) (o : Int) (rp : List Nat) (x y : Nat) :
    IsOpt (RCls cross (rp ++ [x]) ([] ++ [y]) .m) (scoreAff S o) (some (S x y)) := by
  have hsc : scoreAff S o [.m x y] = S x y := by simp [scoreAff, scoreAffFrom, Col.kind, colScore]
  have hcls := col1_single (cross := cross) (rp := rp) (.m x y) rfl rfl
  exact isOpt_some.mpr ⟨fun a ha => by rw [((hcls a).mp ha).1, hsc]; exact Int.le_refl _, [.m x y],
    (hcls _).mpr ⟨rfl, Or.inl rfl⟩, hsc⟩

/-- `left` layer of column 1 below row 0: the one query letter against a gap, reached from the skipped prefix
    through the `up → left` transition — nothing before the repair of K1 -/
theorem r_l_first (cross : Bool) (S : Matrix) (o : Int) (rp : List Nat) (y : Nat) (hrp : rp ≠ []) :
    IsOpt (RCls cross rp ([] ++ [y]) .l) (scoreAff S o) (gapLayer cross o (S 0 y) none none (some 0)) := by
  have hsc : scoreAff S o [.l y] = o + S 0 y := by simp [scoreAff, scoreAffFrom, Col.kind, colScore]
  have hcls := col1_single (cross := cross) (rp := rp) (.l y) (List.append_nil rp).symm rfl
  cases cross with
  | false =>
    refine isOpt_none fun a ha => ?_
    rcases ((hcls a).mp ha).2 with h | ⟨_, h | h⟩
    · cases h
    · cases h
    · exact hrp h.symm
  | true =>
    rw [show gapLayer true o (S 0 y) none none (some 0) = some (o + S 0 y) by
      simp [gapLayer, max3, vgt, vadd]]
    exact isOpt_some.mpr ⟨fun a ha => by rw [((hcls a).mp ha).1, hsc]; exact Int.le_refl _, [.l y],
      (hcls _).mpr ⟨rfl, Or.inr ⟨rfl, Or.inl rfl⟩⟩, hsc⟩

theorem rcell_row0 {cross : Bool} {S : Matrix} {o : Int} {qp : List Nat} {c : Cell} (hq : qp ≠ [])
    (h : CellOK (Biogo.Proofs.NWAffine.flN cross) S o [] qp c) : RCellOK cross S o [] qp c := by
  intro k
  refine isOpt_congr (fun a => ?_) (h k)
  have hcls : Cls (Biogo.Proofs.NWAffine.flN cross) [] qp k a ↔ Cls (flFit cross) [] qp k a := by
    simp only [Cls, Adm, fits_nil_right]; exact Iff.rfl
  rw [hcls, RCls, iff_self_and]
  rintro ⟨ha, _⟩
  have hr := (fits_nil_right ..).mp ha.1
  exact Or.inr ⟨firstKind_l_of_projR_nil a hr (adm_ne_nil ha hq), Or.inr hr⟩

theorem take_ne_nil (l : List Nat) (j : Nat) (h : j < l.length) : l.take (j + 1) ≠ [] := by
  cases l with
  | nil => simp at h
  | cons a t => simp

theorem fit_rcell (cross : Bool) (S : Matrix) (o : Int) (r q : List Nat) (i j : Nat) (hi : i ≤ r.length)
    (hj : j < q.length) : RCellOK cross S o (r.take i) (q.take (j + 1)) (fitAt cross S o r q i (j + 1)) := by
  have hrow0 : ∀ j, j < q.length → RCellOK cross S o (r.take 0) (q.take (j + 1)) (fitAt cross S o r q 0 (j + 1)) := by
    intro j hj
    rw [fitAt_row0 cross S o r q _ cross]
    exact rcell_row0 (take_ne_nil q j hj)
      (optRows_ok (Biogo.Proofs.NWAffine.flN cross) S o r q 0 (j + 1) (Nat.zero_le _) (by omega))
  refine table_induction
    (P := fun i j => RCellOK cross S o (r.take i) (q.take (j + 1)) (fitAt cross S o r q i (j + 1)))
    r.length (q.length - 1) ?_ ?_ ?_ ?_ i hi j (by omega)
  · exact hrow0 0 (by omega)
  · intro j hj _; exact hrow0 (j + 1) (by omega)
  · intro i hi ih
    have hj : 0 < q.length := by omega
    rw [fitAt_inner cross S o r q i 0 hi hj, take_succ_getD r i hi]
    have hq1 : q.take (0 + 1) = [] ++ [q.getD 0 0] := take_succ_getD q 0 hj
    have hpd := fitAt_col0_best cross S o r q i (by omega)
    intro k
    cases k with
    | m =>
      simp only [Cell.get, nwCell, hpd, vadd, Int.zero_add]
      rw [hq1]
      exact r_m_first cross S o _ _ _
    | u => exact r_u_step _ (take_ne_nil q 0 hj) ih
    | l =>
      simp only [Cell.get, nwCell]
      rw [fitAt_col0 cross S o r q i hi, hq1, ← take_succ_getD r i hi]
      exact r_l_first cross S o _ _ (take_ne_nil r i hi)
  · intro i j hi hj hd hu hl
    rw [fitAt_inner cross S o r q i (j + 1) hi (by omega)]
    rw [take_succ_getD r i hi] at hl ⊢
    rw [take_succ_getD q (j + 1) (by omega)] at hu ⊢
    intro k
    cases k with
    | m => exact r_m_step _ _ (take_ne_nil q j (by omega)) hd
    | u => exact r_u_step _ (by rw [← take_succ_getD q (j + 1) (by omega)]; exact take_ne_nil q (j + 1) (by omega)) hu
    | l => exact r_l_step _ (take_ne_nil q j (by omega)) hl

/-- in particular every value of the table is the score of an alignment of its cell: row by row -/
theorem fitRow_of_table (S : Matrix) (o : Int) (r q : List Nat) (i : Nat) (hi : i ≤ r.length) :
    FitRow S o q (r.take i) ((fitRows false S o r q).getD i []) := by
  -- column 0 holds the empty alignment only: in the match layer (origin) or the `up` layer
  have h0 : ∀ k v, (fitAt false S o r q i 0).get k = some v →
      k ≠ .l ∧ Adm flF (r.take i) [] [] ∧ scoreAff S o [] = v := by
    intro k v hv
    rcases fitAt_col0_cases false S o r q i hi with e | e <;> rw [e] at hv <;> cases k <;> cases hv <;>
      exact ⟨by decide, ⟨List.nil_suffix, rfl, Or.inr rfl⟩, rfl⟩
  exact {
    len := rows_getD_len _ _ q r _ (nwRow0_len S o q) i hi
    weak0 := fun k v hv => ⟨[], (h0 k v hv).2⟩
    m0 := fun v hv => ⟨[], ⟨(h0 .m v hv).2.1, rfl⟩, (h0 .m v hv).2.2⟩
    l0 := fun v hv => absurd rfl (h0 .l v hv).1
    strong := fun j h1 hj k => by
      obtain ⟨j, rfl⟩ : ∃ j', j = j' + 1 := ⟨j - 1, by omega⟩
      exact att_mono (fun _ ha => ha.1) (att_of_isOpt (fit_rcell false S o r q i j hi (by omega) k)) }

theorem lastKind_eq_endK (a : Aln) (h : a ≠ []) : lastKind a = some (endK a) := by
  obtain ⟨a', c, rfl⟩ := eq_snoc_of_ne_nil a h
  rw [endK_snoc]
  simp [lastKind]

theorem rcls_iff_restricted (r q : List Nat) (e : Nat) (he : e ≤ r.length) (hq : q ≠ []) (a : Aln) :
    RCls false (r.take e) q .m a ↔ IsFittedRestricted a r q e := by
  have hlen : (r.take e).length = e := by rw [List.length_take]; omega
  constructor
  · rintro ⟨⟨ha, hk⟩, hs⟩
    have hne : a ≠ [] := adm_ne_nil ha hq
    obtain ⟨hfit, hna⟩ := (adm_fitted_iff false r q e he a).mp ha
    refine ⟨hfit, hna.resolve_left (by decide), by rw [lastKind_eq_endK a hne, hk], ?_⟩
    rcases hs with h | ⟨h1, h2⟩
    · exact Or.inl h
    · exact Or.inr ⟨h1, by rw [h2.resolve_left Bool.false_ne_true, hlen]⟩
  · rintro ⟨hfit, hna, hl, hs⟩
    have ha : Adm (flFit false) (r.take e) q a := (adm_fitted_iff false r q e he a).mpr ⟨hfit, Or.inr hna⟩
    have hne : a ≠ [] := adm_ne_nil ha hq
    refine ⟨⟨ha, ?_⟩, ?_⟩
    · have := lastKind_eq_endK a hne
      rw [hl] at this
      exact (Option.some.inj this).symm
    · rcases hs with h | ⟨h1, h2⟩
      · exact Or.inl h
      · exact Or.inr ⟨h1, Or.inr (List.IsSuffix.eq_of_length ha.1 (by rw [h2, hlen]))⟩

/-- for any row `e` the match-layer value of the last column is the optimum of the class for end `e`
    (the yardstick the driver of C08 uses for finding K3) -/
theorem fitTable_restricted_opt (S : Matrix) (o : Int) (r q : List Nat) (hq : q ≠ []) (e : Nat)
    (he : e ≤ r.length) :
    IsOpt (fun a => IsFittedRestricted a r q e) (scoreAff S o) ((fitTable false S o r q).at e q.length).d := by
  obtain ⟨C', hC'⟩ := Nat.exists_eq_add_one_of_ne_zero (mt List.length_eq_zero_iff.mp hq)
  have hcell := fit_rcell false S o r q e C' he (by omega) .m
  rw [← hC', List.take_length] at hcell
  rw [fitTable_at false S o r q e q.length (Nat.le_refl _)]
  exact isOpt_congr (rcls_iff_restricted r q e he hq) hcell

/-- **The legacy `FittedAffine` is optimal over the alignments it explored**: the pairs the model returns
    end at some row `e`, and their total is the maximum of the affine score over the
    alignments of the whole query with a reference segment ending at `e` that have no adjacent
    opposite gaps, end with a letter pair and start with a letter pair (or, from reference
    position 0, with a gap in the reference). -/
theorem fitAlign_restricted_opt (S : Matrix) (o : Int) (r q : List Nat) (hr : r ≠ []) (hq : q ≠ []) :
    ∃ ps, fitAlignLegacy S o r q = .ok ps ∧
      (∀ a, IsFittedRestricted a r q (Biogo.Spec.AffPairs.lastEnd ps).1 → scoreAff S o a ≤ total ps) ∧
      (∃ a, IsFittedRestricted a r q (Biogo.Spec.AffPairs.lastEnd ps).1 ∧ scoreAff S o a = total ps) := by
  obtain ⟨ps, hps, _, heR, hx⟩ := fitAlign_value S o r q hr hq
  have hopt := fitTable_restricted_opt S o r q hq _ heR
  rw [fitTable_at false S o r q _ q.length (Nat.le_refl _), hx] at hopt
  exact ⟨ps, hps, isOpt_some.mp hopt⟩

end Biogo.Proofs.FittedClass
