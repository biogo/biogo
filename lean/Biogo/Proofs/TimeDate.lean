/-
`time.Parse("2006-1-02", ·)` reads back what `Time.Format("2006-1-02")` writes.
-/
import Biogo.Go.TimeDate

namespace Biogo.Go.TimeDate

theorem digit_fin : ∀ k : Fin 10, isDigit (UInt8.ofNat (48 + k.val)) = true ∧ dval (UInt8.ofNat (48 + k.val)) = k.val := by
  decide

theorem digit_spec (n : Nat) : isDigit (digit n) = true ∧ dval (digit n) = n % 10 :=
  digit_fin ⟨n % 10, Nat.mod_lt _ (by decide)⟩

theorem getnum_one (n : Nat) (rest : Bytes) : getnum (digit n :: 45 :: rest) = some (n % 10, 45 :: rest) := by
  simp [getnum, (digit_spec n).1, (digit_spec n).2, show isDigit 45 = false by decide]

theorem getnum_two (a b : Nat) (rest : Bytes) :
    getnum (digit a :: digit b :: rest) = some (a % 10 * 10 + b % 10, rest) := by
  simp [getnum, (digit_spec a).1, (digit_spec a).2, (digit_spec b).1, (digit_spec b).2]

theorem getnum_month (month : Nat) (hm : month < 100) (rest : Bytes) :
    getnum ((if month < 10 then [digit month] else [digit (month / 10), digit month]) ++ 45 :: rest) =
      some (month, 45 :: rest) := by
  split
  · rw [List.singleton_append, getnum_one, Nat.mod_eq_of_lt ‹_›]
  · rw [List.cons_append, List.cons_append, List.nil_append, getnum_two]
    congr 2
    omega

/-- **`##date` round trip**: for every date of the years 0..9999, the text `Format("2006-1-02")`
    produces is parsed by `Parse("2006-1-02", ·)` as that date. -/
theorem parse_format (year month day : Nat) (hy : year ≤ 9999) (hm1 : 1 ≤ month) (hm2 : month ≤ 12)
    (hd1 : 1 ≤ day) (hd2 : day ≤ daysIn month year) :
    parseAstronomical (formatAstronomical year month day) = some (year, month, day) := by
  have hd31 : daysIn month year ≤ 31 := by
    unfold daysIn; split
    · split <;> omega
    · split <;> omega
  have hyear : year / 1000 % 10 * 1000 + year / 100 % 10 * 100 + year / 10 % 10 * 10 + year % 10 = year := by omega
  have hday : day / 10 % 10 * 10 + day % 10 = day := by omega
  have hnd : ¬ (day < 1 ∨ daysIn month year < day) := by omega
  have hmr : ¬ (month = 0 ∨ 12 < month) := by omega
  simp only [formatAstronomical, List.cons_append, List.nil_append, parseAstronomical,
    (digit_spec _).1, (digit_spec _).2, Bool.and_self, Bool.not_true, Bool.false_eq_true, if_false,
    getnum_month month (by omega), hyear, hday, beq_iff_eq, Bool.or_eq_true, decide_eq_true_eq, hmr, hnd, GT.gt]

end Biogo.Go.TimeDate
