/-
Results of the modelled functions are `Except` values; test vectors and refutation witnesses compare
them by evaluation, for which core Lean has no instance.
-/
namespace Biogo

deriving instance DecidableEq for Except

end Biogo
