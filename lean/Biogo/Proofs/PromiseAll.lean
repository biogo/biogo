/-
The repaired Promise protocol (`Biogo.Promise.sys c`, `c.fixed = true`) for EVERY flag
combination `(mutable, recoverable, relay)` and every kind of call (Fulfill, Fail, Recover,
Break, Wait — any number of each, any values, nil included), under every schedule.

Linearisability (`lin_reach`): every reachable state is explained by a sequential history of the
calls that have passed their linearisation point.  Without resetting calls (`NoReset`) the content
stays, and on an immutable promise only ever extends (`Ext`): one call reports success (`Wins`),
what a call has observed stays the content (`Obs`), nothing blocks once some call is a Fulfill or
Fail (`can_move`).  With any calls, the content comes from a call that reported success (`Prov`).
-/
import Biogo.Proofs.Promise

namespace Biogo.Promise
open Biogo.LTS

variable {c : Cfg} {s s' : St} {i : Nat}

/-- needs no `Scope` (unlike `Inv` of Proofs/Promise.lean): any flags, any calls; its fields are what `stuck_shape` asks -/
structure GInv (c : Cfg) (s : St) : Prop where
  len : s.pcs.length = c.calls.length
  mutex : Mutex s
  bor_wait : ∀ (i : Nat) (r : Res), s.pcs[i]? = some (.borrowed r) → c.calls[i]? = some .wait

theorem ginv_init (c : Cfg) : GInv c (init c) := by
  refine ⟨by simp [init], (inv_init c).mutex, fun i r h => ?_⟩
  simp [init, List.getElem?_replicate] at h

theorem ginv_step (hfix : c.fixed = true) (hI : GInv c s) (h : step c s i = some s') : GInv c s' := by
  have hM' := mutex_step hfix hI.mutex h
  obtain ⟨call, pc', hcall, hpcs, hb⟩ : ∃ call pc', c.calls[i]? = some call ∧
      s'.pcs = s.pcs.set i pc' ∧ (∀ r, pc' = .borrowed r → call = .wait) := by
    cases cur_step hfix hI.mutex h with
    | atomic call b ret hcall hnw hpc heq hcur' hpcs => exact ⟨call, _, hcall, hpcs, nofun⟩
    | wait r pc pc' hcall hpc hcur hcur' hpcs hkind => exact ⟨_, _, hcall, hpcs, fun _ _ => rfl⟩
  refine ⟨by rw [hpcs, List.length_set]; exact hI.len, hM', fun j r hj => ?_⟩
  rw [hpcs] at hj
  rcases getElem?_set_cases hj with ⟨e, e'⟩ | ⟨_, hj⟩
  · rw [e, hcall, hb r e'.symm]
  · exact hI.bor_wait j r hj

theorem ginv_reach (hfix : c.fixed = true) : ∀ s, Reach (sys c) s → GInv c s :=
  inv_induction (S := sys c) (GInv c) (ginv_init c) (fun _ _ _ hI h => ginv_step hfix hI h)

theorem seqExec_append (f : Flags) (calls : List Call) (b : Option Res) (h1 h2 : List (Nat × Ret)) :
    seqExec f calls b (h1 ++ h2) = (seqExec f calls b h1).bind (fun b' => seqExec f calls b' h2) := by
  induction h1 generalizing b with
  | nil => simp [seqExec]
  | cons e rest ih =>
    obtain ⟨i, ret⟩ := e
    simp only [List.cons_append, seqExec]
    cases calls[i]? with
    | none => simp
    | some call =>
      simp only
      cases seqCall f b call with
      | none => simp
      | some p =>
        obtain ⟨b', ret'⟩ := p
        simp only
        by_cases hr : ret' = ret
        · simp only [hr, if_true]; exact ih b'
        · simp [hr]

/-- `hist` explains `s`: executed sequentially from the empty promise it is possible, ends with
    the content of `s`, contains every call at most once, and contains exactly the calls that
    have passed their linearisation point, with the return values they have (or, for a Wait
    between its two blocks, will) deliver -/
def Explains (c : Cfg) (s : St) (hist : List (Nat × Ret)) : Prop :=
  seqExec c.flags c.calls none hist = some (cur s) ∧
  (hist.map Prod.fst).Nodup ∧
  ∀ (j : Nat) (ret : Ret), (j, ret) ∈ hist ↔ (s.pcs[j]?).bind lp = some ret

theorem explains_same {hist : List (Nat × Ret)} (hE : Explains c s hist) {pc pc' : APc}
    (hpc : s.pcs[i]? = some pc) (hlp : lp pc' = lp pc) (hcur : cur s' = cur s)
    (hpcs : s'.pcs = s.pcs.set i pc') : Explains c s' hist := by
  obtain ⟨h1, h2, h3⟩ := hE
  refine ⟨by rw [hcur]; exact h1, h2, ?_⟩
  intro j ret
  rw [h3 j ret, hpcs, List.getElem?_set]
  split
  · rename_i hij; subst hij
    simp only [lt_of_getElem? hpc, if_true, hpc, Option.bind_some, hlp]
  · rfl

theorem explains_snoc {hist : List (Nat × Ret)} (hE : Explains c s hist) {pc' : APc} {ret : Ret}
    {call : Call} (hcall : c.calls[i]? = some call)
    (hpc : s.pcs[i]? = some .start) (hlp : lp pc' = some ret)
    (hseq : seqCall c.flags (cur s) call = some (cur s', ret))
    (hpcs : s'.pcs = s.pcs.set i pc') : Explains c s' (hist ++ [(i, ret)]) := by
  obtain ⟨h1, h2, h3⟩ := hE
  have hnot : ∀ r', (i, r') ∉ hist := by
    intro r' hm
    have := (h3 i r').1 hm
    simp [hpc, lp] at this
  refine ⟨?_, ?_, ?_⟩
  · rw [seqExec_append, h1]
    simp [seqExec, hcall, hseq]
  · rw [List.map_append, List.nodup_append]
    refine ⟨h2, by simp, ?_⟩
    intro a ha b hb
    simp at hb; subst hb
    intro hab; subst hab
    rw [List.mem_map] at ha
    obtain ⟨⟨a', r'⟩, hm, hfst⟩ := ha
    simp at hfst; subst hfst
    exact hnot r' hm
  · intro j ret'
    rw [List.mem_append, h3 j ret', hpcs, List.mem_singleton, Prod.mk.injEq]
    by_cases hij : i = j
    · subst hij
      rw [List.getElem?_set_self (lt_of_getElem? hpc), hpc]
      simp [hlp, show lp APc.start = none from rfl, eq_comm]
    · rw [List.getElem?_set_ne hij]
      simp [Ne.symm hij]

theorem lin_step (hfix : c.fixed = true) (hM : Mutex s) (h : step c s i = some s')
    {hist : List (Nat × Ret)} (hE : Explains c s hist) : ∃ hist', Explains c s' hist' := by
  cases cur_step hfix hM h with
  | atomic call b ret hcall hnw hpc heq hcur' hpcs =>
    refine ⟨hist ++ [(i, ret)], explains_snoc hE hcall hpc (pc' := .done ret) rfl ?_ hpcs⟩
    rw [hcur']
    cases call <;> simp [seqCall, heq] at hnw ⊢
  | wait r pc pc' hcall hpc hcur hcur' hpcs hkind =>
    rcases hkind with ⟨rfl, rfl⟩ | ⟨rfl, rfl⟩
    · refine ⟨hist ++ [(i, .res r)], explains_snoc hE hcall hpc (pc' := .borrowed r) rfl ?_ hpcs⟩
      rw [hcur, hcur']; rfl
    · exact ⟨hist, explains_same hE hpc (pc' := .done (.res r)) rfl (by rw [hcur, hcur']) hpcs⟩

theorem lin_reach (hfix : c.fixed = true) : ∀ s, Reach (sys c) s → ∃ hist, Explains c s hist := by
  intro s hr
  induction hr with
  | init =>
    refine ⟨[], rfl, by simp, ?_⟩
    intro j ret
    show (j, ret) ∈ [] ↔ ((init c).pcs[j]?).bind lp = some ret
    simp only [init, List.getElem?_replicate]
    split <;> simp [lp]
  | step hr hs ih =>
    obtain ⟨hist, hE⟩ := ih
    exact lin_step hfix (ginv_reach hfix _ hr).mutex hs hE

/-- a Wait that stood at its start in `s₀` and has taken (or delivered) `r` in `s₁`: somewhere on
    the way it performed its take step, in a state whose mailbox held exactly `r` -/
theorem wait_history (hfix : c.fixed = true) {s₀ s₁ : St} (h : ReachFrom (sys c) s₀ s₁)
    (hcall : c.calls[i]? = some .wait) (h0 : s₀.pcs[i]? = some .start)
    {r : Res} (h1 : (s₁.pcs[i]?).bind lp = some (.res r)) :
    ∃ t t', ReachFrom (sys c) s₀ t ∧ step c t i = some t' ∧ ReachFrom (sys c) t' s₁ ∧
      t.pcs[i]? = some .start ∧ t.mu = none ∧ t.box = some r ∧ t'.pcs[i]? = some (.borrowed r) := by
  induction h with
  | refl => simp [h0, lp] at h1
  | step hprev hs ih =>
    rename_i m s₂ j
    by_cases hm : (m.pcs[i]?).bind lp = some (.res r)
    · obtain ⟨t, t', h1', h2', h3', h4'⟩ := ih hm
      exact ⟨t, t', h1', h2', .step h3' hs, h4'⟩
    · have hs' : step c m j = some s₂ := hs
      by_cases hji : i = j
      · subst hji
        cases step_cases hfix hs' with
        | atomic call b ret hcall' hnw _ _ _ _ => rw [hcall] at hcall'; cases hcall'; exact absurd rfl hnw
        | take r' _ hpc hmu hbox hst =>
          have hlt := lt_of_getElem? hpc
          have : r' = r := by
            rw [hst] at h1; simp [hlt, lp] at h1; exact h1
          subst this
          exact ⟨m, s₂, hprev, hs', .refl, hpc, hmu, hbox, by rw [hst]; simp [hlt]⟩
        | put r' _ hpc hst =>
          have hlt := lt_of_getElem? hpc
          exfalso; apply hm
          rw [hst] at h1; simp [hlt, lp] at h1
          simp [hpc, lp, h1]
      · exfalso; apply hm
        rw [← step_other_pcs hs' hji]; exact h1

/-- Break, and Recover on a recoverable promise, empty or overwrite the promise by design -/
def Call.resets (f : Flags) : Call → Bool
  | .brk => true
  | .recover _ => f.recoverable
  | _ => false

/-- Fulfill and Fail: the calls after which the promise is full whatever it held (`atomic_isSome`).  Beside it,
    `inScope` = `isFF` + Wait (what `Scope` admits; none of them `resets`); `isSetter` = all but Wait, hence `isFF`
    within `Scope` (only `C19.no_deadlock` states it); `PromiseCond.places` = `isFF` + the Recover that fulfils
    (recoverable promise, non-nil value): the calls that wake the sleepers. -/
def Call.isFF : Call → Bool
  | .fulfill _ => true
  | .fail _ _ => true
  | _ => false

def NoReset (c : Cfg) : Prop := ∀ call ∈ c.calls, call.resets c.flags = false

/-- `r'` extends `r`: same value, same error — or, with relay, the "already set" error has been
    relayed into a Result that had none -/
def Ext (f : Flags) (r r' : Res) : Prop :=
  r'.val = r.val ∧ (r'.err = r.err ∨ (f.relay = true ∧ r.err = none ∧ r'.err = some .alreadySet))

theorem Ext.refl (f : Flags) (r : Res) : Ext f r r := ⟨rfl, Or.inl rfl⟩

theorem Ext.trans {f : Flags} {a b d : Res} (h1 : Ext f a b) (h2 : Ext f b d) : Ext f a d := by
  obtain ⟨v1, e1⟩ := h1
  obtain ⟨v2, e2⟩ := h2
  refine ⟨v2.trans v1, ?_⟩
  rcases e1 with e1 | ⟨hr, ha, hb⟩
  · rcases e2 with e2 | ⟨hr, hb, hd⟩
    · exact Or.inl (e2.trans e1)
    · exact Or.inr ⟨hr, e1 ▸ hb, hd⟩
  · rcases e2 with e2 | ⟨_, hb', _⟩
    · exact Or.inr ⟨hr, ha, e2.trans hb⟩
    · rw [hb] at hb'; cases hb'

theorem Ext.eq_of_norelay {f : Flags} {a b : Res} (hr : f.relay = false) (h : Ext f a b) : b = a := by
  obtain ⟨v, e⟩ := h
  cases a; cases b
  simp at v e ⊢
  rcases e with e | ⟨h', _⟩
  · exact ⟨v, e⟩
  · rw [hr] at h'; cases h'

theorem fulfill_immutable (f : Flags) (hm : f.mutable = false) (r : Res) (v : Option Nat) :
    ∃ r' e, fulfill f (some r) v = (some r', some e) ∧ Ext f r r' := by
  obtain ⟨v0, err⟩ := r
  cases err with
  | none =>
    refine ⟨⟨v0, if f.relay then some .alreadySet else none⟩, .alreadySet,
      by rw [fulfill_fulfilled, hm]; rfl, rfl, ?_⟩
    cases hr : f.relay
    · exact .inl rfl
    · exact .inr ⟨rfl, rfl, rfl⟩
  | some e => exact ⟨_, _, fulfill_failed f v0 v e, Ext.refl f _⟩

theorem atomic_isSome (f : Flags) (call : Call) (box : Option Res) (hnr : call.resets f = false) :
    (atomicCall f box call).1.isSome = (box.isSome || call.isFF) := by
  cases call with
  | fulfill v => simp [atomicCall, fulfill_fst_isSome, Call.isFF]
  | fail v e => cases box <;> rfl
  | recover v => simp [atomicCall, recover, show f.recoverable = false from hnr, Call.isFF]
  | brk => cases hnr
  | wait => simp [atomicCall, Call.isFF]

theorem atomic_immutable (f : Flags) (hm : f.mutable = false) (call : Call) (r : Res)
    (hnr : call.resets f = false) :
    ∃ r', (atomicCall f (some r) call).1 = some r' ∧ Ext f r r' := by
  cases call with
  | fulfill v =>
    obtain ⟨r', e, h, hext⟩ := fulfill_immutable f hm r v
    exact ⟨r', by simp only [atomicCall, h], hext⟩
  | fail v e => exact ⟨r, by simp only [atomicCall, fail_set], Ext.refl f r⟩
  | recover v => exact ⟨r, by simp [atomicCall, recover, show f.recoverable = false from hnr], Ext.refl f r⟩
  | brk => cases hnr
  | wait => exact ⟨r, rfl, Ext.refl f r⟩

theorem Scope.noReset (hS : Scope c) : NoReset c := fun call h => by
  have := hS.calls call h
  cases call <;> first | rfl | cases this

theorem noReset_call (hN : NoReset c) {call : Call} (hcall : c.calls[i]? = some call) :
    call.resets c.flags = false := hN call (List.mem_of_getElem? hcall)

theorem cur_some_step (hfix : c.fixed = true) (hN : NoReset c) (hI : GInv c s)
    (h : step c s i = some s') (hcur : (cur s).isSome = true) : (cur s').isSome = true := by
  cases cur_step hfix hI.mutex h with
  | atomic call b ret hcall hnw hpc heq hcur' hpcs =>
    have := atomic_isSome c.flags call (cur s) (noReset_call hN hcall)
    rw [heq, hcur] at this
    rw [hcur']; exact this
  | wait r0 _ _ _ _ _ hcur' _ _ => rw [hcur']; rfl

/-- of the calls only the one that moves matters -/
theorem cur_ext_step (hfix : c.fixed = true) (hm : c.flags.mutable = false)
    (hnr : ∀ call, c.calls[i]? = some call → call.resets c.flags = false)
    (hI : GInv c s) (h : step c s i = some s') {r : Res} (hcur : cur s = some r) :
    ∃ r', cur s' = some r' ∧ Ext c.flags r r' := by
  cases cur_step hfix hI.mutex h with
  | atomic call b ret hcall hnw hpc heq hcur' hpcs =>
    obtain ⟨r', hr', hext⟩ := atomic_immutable c.flags hm call r (hnr call hcall)
    rw [← hcur, heq] at hr'
    exact ⟨r', hcur'.trans hr', hext⟩
  | wait r0 _ _ _ _ hcur0 hcur' _ _ =>
    rw [hcur0] at hcur; cases hcur; exact ⟨_, hcur', Ext.refl _ _⟩

theorem reachFrom_ginv (hfix : c.fixed = true) {s₀ s₁ : St} (hI : GInv c s₀)
    (h : ReachFrom (sys c) s₀ s₁) : GInv c s₁ :=
  inv_from (S := sys c) (GInv c) hI (fun _ _ _ hI h => ginv_step hfix hI h) s₁ h

theorem cur_some_stable (hfix : c.fixed = true) (hN : NoReset c) {s₀ s₁ : St} (hI : GInv c s₀)
    (h : ReachFrom (sys c) s₀ s₁) (hcur : (cur s₀).isSome = true) : (cur s₁).isSome = true := by
  induction h with
  | refl => exact hcur
  | step hprev hs ih => exact cur_some_step hfix hN (reachFrom_ginv hfix hI hprev) hs ih

theorem cur_ext_stable (hfix : c.fixed = true) (hm : c.flags.mutable = false) (hN : NoReset c)
    {s₀ s₁ : St} (hI : GInv c s₀) (h : ReachFrom (sys c) s₀ s₁) {r : Res} (hcur : cur s₀ = some r) :
    ∃ r', cur s₁ = some r' ∧ Ext c.flags r r' := by
  induction h with
  | refl => exact ⟨r, hcur, Ext.refl _ r⟩
  | step hprev hs ih =>
    obtain ⟨r1, h1, e1⟩ := ih
    obtain ⟨r2, h2, e2⟩ := cur_ext_step hfix hm (fun _ => noReset_call hN) (reachFrom_ginv hfix hI hprev) hs h1
    exact ⟨r2, h2, e1.trans e2⟩

theorem atomic_win (f : Flags) (hm : f.mutable = false) (call : Call) (box : Option Res)
    (hnr : call.resets f = false) (hnw : call ≠ .wait) :
    (APc.done (atomicCall f box call).2).isWin = (box.isNone && call.isFF) := by
  cases call with
  | fulfill v =>
    cases box with
    | none => simp only [atomicCall, fulfill_unset]; rfl
    | some r =>
      obtain ⟨r', e, h, _⟩ := fulfill_immutable f hm r v
      simp only [atomicCall, h]; rfl
  | fail v e =>
    cases box with
    | none => simp only [atomicCall, fail_unset]; rfl
    | some r => simp only [atomicCall, fail_set]; rfl
  | recover v => simp [atomicCall, recover, show f.recoverable = false from hnr, APc.isWin, Call.isFF]
  | brk => cases hnr
  | wait => exact absurd rfl hnw

def Wins (s : St) : Prop := s.pcs.countP APc.isWin = if cur s = none then 0 else 1

theorem wins_init (c : Cfg) : Wins (init c) := by
  simp [Wins, init, cur, List.countP_replicate, APc.isWin]

theorem wins_step (hfix : c.fixed = true) (hm : c.flags.mutable = false) (hN : NoReset c)
    (hI : GInv c s) (hW : Wins s) (h : step c s i = some s') : Wins s' := by
  unfold Wins at hW ⊢
  cases cur_step hfix hI.mutex h with
  | atomic call b ret hcall hnw hpc heq hcur' hpcs =>
    have hw1 := atomic_win c.flags hm call (cur s) (noReset_call hN hcall) hnw
    have hw2 := atomic_isSome c.flags call (cur s) (noReset_call hN hcall)
    rw [heq] at hw1 hw2
    have hcnt := countP_set APc.isWin s.pcs i _ (.done ret) hpc
    rw [hw1, hW] at hcnt
    rw [hpcs, hcur']
    cases hb : cur s <;> cases hff : call.isFF <;> cases hb' : b <;>
      simp [hb, hff, hb', APc.isWin] at hw2 hcnt ⊢ <;> exact hcnt
  | wait r pc pc' hcall hpc hcur hcur' hpcs hkind =>
    have hcnt := countP_set APc.isWin s.pcs i pc pc' hpc
    rw [hpcs, hcur']; rw [hcur] at hW
    rcases hkind with ⟨rfl, rfl⟩ | ⟨rfl, rfl⟩ <;> simpa [APc.isWin, hW] using hcnt

theorem wins_reach (hfix : c.fixed = true) (hm : c.flags.mutable = false) (hN : NoReset c) :
    ∀ s, Reach (sys c) s → Wins s :=
  inv_induction' (S := sys c) Wins (wins_init c)
    (fun _ _ _ hr hW h => wins_step hfix hm hN (ginv_reach hfix _ hr) hW h)

/-- the Result a call's return value speaks about: a successful Fulfill its value, a successful
    Fail its value and error, a Wait what it delivers -/
def obsRes : Call → Ret → Option Res
  | .fulfill v, .ferr none => some ⟨v, none⟩
  | .fail v e, .bool true => some ⟨v, e⟩
  | .wait, .res r => some r
  | _, _ => none

def Obs (c : Cfg) (s : St) : Prop :=
  ∀ (j : Nat) (call : Call) (pc : APc) (ret : Ret) (r0 : Res),
    c.calls[j]? = some call → s.pcs[j]? = some pc → lp pc = some ret → obsRes call ret = some r0 →
    ∃ r, cur s = some r ∧ Ext c.flags r0 r

theorem obs_init (c : Cfg) : Obs c (init c) := by
  intro j call pc ret r0 _ hpc hlp _
  simp [init, List.getElem?_replicate] at hpc
  rw [← hpc.2] at hlp; simp [lp] at hlp

theorem atomic_obs (f : Flags) (call : Call) (box : Option Res) (r0 : Res)
    (hnw : call ≠ .wait) (ho : obsRes call (atomicCall f box call).2 = some r0)
    (hm : f.mutable = false) :
    (atomicCall f box call).1 = some r0 := by
  cases call with
  | fulfill v =>
    cases box with
    | none => simp only [atomicCall, fulfill_unset] at ho ⊢; exact ho
    | some r =>
      obtain ⟨r', e, h, _⟩ := fulfill_immutable f hm r v
      simp [atomicCall, h, obsRes] at ho
  | fail v e =>
    cases box with
    | none => simp only [atomicCall, fail_unset] at ho ⊢; exact ho
    | some r => simp [atomicCall, fail_set, obsRes] at ho
  | recover v => cases hb : (recover f box v).2 <;> simp [obsRes] at ho
  | brk => cases ho
  | wait => exact absurd rfl hnw

theorem obs_step (hfix : c.fixed = true) (hm : c.flags.mutable = false) (hN : NoReset c)
    (hI : GInv c s) (hO : Obs c s) (h : step c s i = some s') : Obs c s' := by
  intro j call pc ret r0 hcj hpj hlp hobs
  by_cases hji : j = i
  · subst hji
    cases cur_step hfix hI.mutex h with
    | atomic call' b ret' hcall hnw hpc heq hcur' hpcs =>
      rw [hcall] at hcj; cases hcj
      rw [hpcs, List.getElem?_set_self (lt_of_getElem? hpc)] at hpj; cases hpj
      cases hlp
      have hb := atomic_obs c.flags call (cur s) r0 hnw (by rw [heq]; exact hobs) hm
      rw [heq] at hb
      exact ⟨r0, hcur'.trans hb, Ext.refl _ _⟩
    | wait r pc0 pc' hcall hpc hcur hcur' hpcs hkind =>
      rw [hcall] at hcj; cases hcj
      rw [hpcs, List.getElem?_set_self (lt_of_getElem? hpc)] at hpj; cases hpj
      rcases hkind with ⟨_, rfl⟩ | ⟨_, rfl⟩ <;> cases hlp <;> cases hobs <;>
        exact ⟨_, hcur', Ext.refl _ _⟩
  · rw [step_other_pcs h hji] at hpj
    obtain ⟨r, hc, he⟩ := hO j call pc ret r0 hcj hpj hlp hobs
    obtain ⟨r', hc', he'⟩ := cur_ext_step hfix hm (fun _ => noReset_call hN) hI h hc
    exact ⟨r', hc', he.trans he'⟩

theorem obs_reach (hfix : c.fixed = true) (hm : c.flags.mutable = false) (hN : NoReset c) :
    ∀ s, Reach (sys c) s → Obs c s :=
  inv_induction' (S := sys c) (Obs c) (obs_init c)
    (fun _ _ _ hr hO h => obs_step hfix hm hN (ginv_reach hfix _ hr) hO h)

theorem Obs.waits_agree (hO : Obs c s) {j : Nat} {r0 r1 : Res}
    (hci : c.calls[i]? = some .wait) (hpi : s.pcs[i]? = some (.done (.res r0)))
    (hcj : c.calls[j]? = some .wait) (hpj : s.pcs[j]? = some (.done (.res r1))) :
    r1.val = r0.val ∧ (c.flags.relay = false → r1 = r0) := by
  obtain ⟨r, hc, he0⟩ := hO i .wait _ (.res r0) r0 hci hpi rfl rfl
  obtain ⟨r', hc', he1⟩ := hO j .wait _ (.res r1) r1 hcj hpj rfl rfl
  rw [hc] at hc'; cases hc'
  exact ⟨he1.1.symm.trans he0.1, fun hrl => by rw [← Ext.eq_of_norelay hrl he0, ← Ext.eq_of_norelay hrl he1]⟩

theorem obs_stable (hfix : c.fixed = true) (hm : c.flags.mutable = false) (hN : NoReset c)
    (hr : Reach (sys c) s) {call : Call} {pc : APc} {ret : Ret} {r0 : Res}
    (hcall : c.calls[i]? = some call) (hpc : s.pcs[i]? = some pc) (hlp : lp pc = some ret)
    (hobs : obsRes call ret = some r0) (hrf : ReachFrom (sys c) s s') :
    ∃ r', cur s' = some r' ∧ Ext c.flags r0 r' := by
  obtain ⟨r, hc, he⟩ := obs_reach hfix hm hN s hr i call pc ret r0 hcall hpc hlp hobs
  obtain ⟨r', hc', he'⟩ := cur_ext_stable hfix hm hN (ginv_reach hfix s hr) hrf hc
  exact ⟨r', hc', he.trans he'⟩

def Call.valueOf : Call → Option Nat
  | .fulfill v => v
  | .fail v _ => v
  | .recover v => v
  | _ => none

def Call.errOf : Call → Option ErrV
  | .fail _ e => e
  | _ => none

/-- the content is the value of a call that reported success, with that call's error or the
    relayed "already set" error -/
def Prov (c : Cfg) (s : St) : Prop :=
  ∀ r, cur s = some r →
    ∃ (j : Nat) (call : Call) (ret : Ret), c.calls[j]? = some call ∧ s.pcs[j]? = some (.done ret) ∧
      (APc.done ret).isWin = true ∧ r.val = call.valueOf ∧
      (r.err = call.errOf ∨ r.err = some .alreadySet)

theorem prov_init (c : Cfg) : Prov c (init c) := by
  intro r h; simp [init, cur] at h

theorem atomic_prov (f : Flags) (call : Call) (box : Option Res) (hnw : call ≠ .wait) (r' : Res)
    (h : (atomicCall f box call).1 = some r') :
    ((APc.done (atomicCall f box call).2).isWin = true ∧ r'.val = call.valueOf ∧ r'.err = call.errOf) ∨
    (∃ r, box = some r ∧ r'.val = r.val ∧ (r'.err = r.err ∨ r'.err = some .alreadySet)) := by
  cases call with
  | fulfill v =>
    cases box with
    | none =>
      simp only [atomicCall, fulfill_unset] at h ⊢
      cases h; exact .inl ⟨rfl, rfl, rfl⟩
    | some r =>
      obtain ⟨v0, err⟩ := r
      cases err with
      | none =>
        simp only [atomicCall, fulfill_fulfilled] at h ⊢
        cases hm : f.mutable <;> rw [hm] at h <;> cases h
        · refine .inr ⟨_, rfl, rfl, ?_⟩
          cases f.relay
          · exact .inl rfl
          · exact .inr rfl
        · exact .inl ⟨rfl, rfl, rfl⟩
      | some e =>
        simp only [atomicCall, fulfill_failed] at h
        cases h; exact .inr ⟨_, rfl, rfl, .inl rfl⟩
  | fail v e =>
    cases box with
    | none =>
      simp only [atomicCall, fail_unset] at h ⊢
      cases h; exact .inl ⟨rfl, rfl, rfl⟩
    | some r =>
      simp only [atomicCall, fail_set] at h
      cases h; exact .inr ⟨_, rfl, rfl, .inl rfl⟩
  | recover v =>
    cases hrc : f.recoverable with
    | false =>
      simp only [atomicCall, recover, hrc] at h
      exact .inr ⟨r', h, rfl, .inl rfl⟩
    | true =>
      cases v with
      | none => simp [atomicCall, recover, hrc] at h
      | some v =>
        simp [atomicCall, recover, hrc, fulfill_unset] at h ⊢
        cases h; exact .inl ⟨rfl, rfl, rfl⟩
  | brk => cases h
  | wait => exact absurd rfl hnw

theorem prov_step (hfix : c.fixed = true) (hI : GInv c s) (hP : Prov c s)
    (h : step c s i = some s') : Prov c s' := by
  intro r' hcur'
  have keep : ∀ (j : Nat) (ret : Ret), s.pcs[j]? = some (.done ret) → s'.pcs[j]? = some (.done ret) :=
    fun j ret hj => step_done_stable h hj
  cases cur_step hfix hI.mutex h with
  | atomic call b ret hcall hnw hpc heq hc' hpcs =>
    rw [hc'] at hcur'
    have hap := atomic_prov c.flags call (cur s) hnw r' (by rw [heq]; exact hcur')
    rw [heq] at hap
    rcases hap with ⟨hw, hv, he⟩ | ⟨r, hb, hv, he⟩
    · exact ⟨i, call, ret, hcall, by rw [hpcs]; exact List.getElem?_set_self (lt_of_getElem? hpc), hw, hv, Or.inl he⟩
    · obtain ⟨j, cj, rj, hcj, hpj, hwj, hvj, hej⟩ := hP r hb
      refine ⟨j, cj, rj, hcj, keep j rj hpj, hwj, hv.trans hvj, ?_⟩
      rcases he with he | he
      · exact hej.imp he.trans he.trans
      · exact Or.inr he
  | wait r pc pc' hcall hpc hcur hc' hpcs hkind =>
    rw [hc'] at hcur'; cases hcur'
    obtain ⟨j, cj, rj, hcj, hpj, rest⟩ := hP _ hcur
    exact ⟨j, cj, rj, hcj, keep j rj hpj, rest⟩

theorem prov_reach (hfix : c.fixed = true) : ∀ s, Reach (sys c) s → Prov c s :=
  inv_induction' (S := sys c) (Prov c) (prov_init c)
    (fun _ _ _ hr hP h => prov_step hfix (ginv_reach hfix _ hr) hP h)

def FFDone (c : Cfg) (s : St) : Prop :=
  ∀ (k : Nat) (call : Call) (ret : Ret), c.calls[k]? = some call → call.isFF = true →
    s.pcs[k]? = some (.done ret) → (cur s).isSome = true

theorem ffdone_step (hfix : c.fixed = true) (hN : NoReset c) (hI : GInv c s) (hF : FFDone c s)
    (h : step c s i = some s') : FFDone c s' := by
  intro k call ret hck hff hpk
  by_cases hki : k = i
  · subst hki
    cases cur_step hfix hI.mutex h with
    | atomic call' b ret' hcall hnw hpc heq hcur' hpcs =>
      rw [hcall] at hck; cases hck
      have := atomic_isSome c.flags call (cur s) (noReset_call hN hcall)
      rw [heq, hff, Bool.or_true] at this
      rw [hcur']; exact this
    | wait r _ _ hcall _ _ _ _ _ => rw [hcall] at hck; cases hck; cases hff
  · rw [step_other_pcs h hki] at hpk
    exact cur_some_step hfix hN hI h (hF k call ret hck hff hpk)

theorem ffdone_reach (hfix : c.fixed = true) (hN : NoReset c) : ∀ s, Reach (sys c) s → FFDone c s :=
  inv_induction' (S := sys c) (FFDone c)
    (by intro k call ret _ _ h; simp [sys, init, List.getElem?_replicate] at h)
    (fun _ _ _ hr hF h => ffdone_step hfix hN (ginv_reach hfix _ hr) hF h)

theorem can_move (hfix : c.fixed = true) (hN : NoReset c) (hr : Reach (sys c) s)
    (hsetter : ∃ (k : Nat) (call : Call), c.calls[k]? = some call ∧ call.isFF = true)
    (hnd : allDone s = false) : ∃ i, (step c s i).isSome = true := by
  have hI := ginv_reach hfix s hr
  refine (enabled_or_blocked (step c s)).resolve_right fun hstuck => ?_
  obtain ⟨_, h⟩ := stuck_shape hfix hI.mutex hI.len hI.bor_wait hstuck
  -- some call has not returned: it stands before an empty promise
  obtain ⟨j, pc, hpc, hp⟩ := exists_not_done hnd
  have hcur : cur s = none := (h j pc hpc hp).2.2.2
  -- the Fulfill/Fail is no Wait, so it has returned, so the promise holds something
  obtain ⟨k, call, hcall, hff⟩ := hsetter
  have hlt : k < s.pcs.length := hI.len ▸ lt_of_getElem? hcall
  have hpk : s.pcs[k]? = some s.pcs[k] := List.getElem?_eq_getElem hlt
  cases hk : s.pcs[k] with
  | done ret =>
    have := ffdone_reach hfix hN s hr k call ret hcall hff (hk ▸ hpk)
    rw [hcur] at this; cases this
  | start =>
    have := (h k .start (hk ▸ hpk) rfl).1
    rw [hcall] at this; cases this; cases hff
  | borrowed r => cases (h k (.borrowed r) (hk ▸ hpk) rfl).2.1

end Biogo.Promise
