/-
The model satisfies, on its own observations and in every well-formed state, the declarative
statements that the executable laws are proved to imply (Proofs/ContLawsSound.lean):
`FrameSpec` for every operation, `RowEqColumnSpec` for every object, Clone observed equal.
So the same `…Spec` propositions are (a) proved of the model for all reachable states and
(b) decided on the implementation's observations by sound executable laws.
-/
import Biogo.Proofs.ContLawsSound
import Biogo.Proofs.ContSepWorld

namespace Biogo.Containers
open Biogo.Go Biogo.Containers.Laws

theorem model_frame (cx : Ctx) (w : World) (hw : WorldWF w) (op : Op) :
    FrameSpec (w.view cx) ((apply cx w op).1.view cx) op.written := by
  intro j hj hk
  obtain ⟨_, hoth⟩ := step_all cx w hw op
  simp only [World.view, List.length_map] at hj
  have hoj := List.getElem?_eq_getElem hj
  obtain ⟨h1, h2⟩ := hoth j _ hk hoj
  simp only [World.view, List.getElem?_map, h1, hoj, Option.map_some, h2]

theorem model_clone_equal (cx : Ctx) (w : World) (hw : WorldWF w) (k : Nat) (o : Obj)
    (hk : w.objs[k]? = some o) (hclonable : ∀ m, o ≠ .set m) :
    ((apply cx w (.clone k)).1.view cx)[w.objs.length]? = (w.view cx)[k]? := by
  obtain ⟨c, hc, hv⟩ := clone_view_equal cx w hw k o hk hclonable
  simp only [World.view, List.getElem?_map, hc, hk, Option.map_some, hv]

theorem intRange_getElem? (a b : Int) (p : Nat) (hp : p < (b - a).toNat) :
    (intRange a b)[p]? = some (a + (p : Int)) := by
  simp only [intRange, List.getElem?_map, List.getElem?_range hp, Option.map_some]

theorem rowCell_multi (o : ObjV) (hk : o.kind = "multi") (h : Cells) (l : Lin) (hv : l.Valid h) (pos : Int) :
    rowCell o (linRowV h l) pos = Multi.cell h l pos := by
  have hkb : (o.kind == "multi") = true := by rw [hk]; rfl
  simp only [rowCell, hkb, if_true, Multi.cell]
  by_cases hc : Multi.covers l pos = true
  · have hcond : (decide ((linRowV h l).start ≤ pos) && decide (pos < (linRowV h l).«end»)) = true := hc
    rw [if_pos hcond, if_pos hc]
    have hsome := Lin.at?_isSome_of_covers h l hv pos hc
    have hc' := hc
    simp only [Multi.covers, Bool.and_eq_true, decide_eq_true_eq] at hc'
    have hge : l.off ≤ pos := hc'.1
    have hat := Lin.at?_eq_letters h l pos
    rw [if_neg (by omega)] at hat
    rw [hat] at hsome ⊢
    show (l.letters h)[(pos - l.off).toNat]? = _
    cases hx : (l.letters h)[(pos - l.off).toNat]? with
    | none => rw [hx] at hsome; cases hsome
    | some x => simp only [Option.getD_some]
  · have hcond : ¬ (decide ((linRowV h l).start ≤ pos) && decide (pos < (linRowV h l).«end»)) = true := hc
    rw [if_neg hcond, if_neg hc]

theorem rowEqColumn_multi (cx : Ctx) (h : Cells) (m : Multi) (hwf : RowsCapWF h m.rows) :
    RowEqColumnSpec cx.gap cx.amb (viewObj cx h (.multi m)) := by
  intro _
  have hkind : (viewObj cx h (.multi m)).kind = "multi" := rfl
  have hrowsV : (viewObj cx h (.multi m)).rows = m.rows.map (linRowV h) := rfl
  refine ⟨by simp [viewObj, Multi.nrows], rfl, ?_⟩
  intro p hp
  have hp' : p < (m.«end» - m.start).toNat := hp
  have hpos : (viewObj cx h (.multi m)).start + (p : Int) = m.start + (p : Int) := rfl
  have hcell : ∀ (i : Nat) (r : RowV), (viewObj cx h (.multi m)).rows[i]? = some r →
      ∃ l, m.rows[i]? = some l ∧
        rowCell (viewObj cx h (.multi m)) r (m.start + (p : Int)) = Multi.cell h l (m.start + (p : Int)) := by
    intro i r hr
    rw [hrowsV, List.getElem?_map, Option.map_eq_some_iff] at hr
    obtain ⟨l, hl, rfl⟩ := hr
    exact ⟨l, hl, rowCell_multi _ hkind h l (hwf.1 l (List.mem_of_getElem? hl)).toValid _⟩
  refine ⟨m.columnQL cx h (m.start + (p : Int)) true, m.column cx h (m.start + (p : Int)) true, ?_, ?_, ?_, ?_, ?_, ?_⟩
  · simp only [viewObj, List.getElem?_map, intRange_getElem? _ _ p hp', Option.map_some]
  · simp only [viewObj, List.getElem?_map, intRange_getElem? _ _ p hp', Option.map_some]
  · rw [Multi.columnQL_fill, hrowsV]; simp
  · rw [Multi.column_fill, hrowsV]; simp
  · intro i r hr
    obtain ⟨l, hl, hc⟩ := hcell i r hr
    rw [hpos, hc]
    constructor
    · rw [Multi.columnQL_fill, List.getElem?_map, hl]; rfl
    · rw [Multi.column_fill, List.getElem?_map, hl]
      simp only [Option.map_some, columnLetter, hkind]
      cases Multi.cell h l (m.start + (p : Int)) <;> rfl
  · intro _
    have hnf : (viewObj cx h (.multi m)).colsNF[p]? = some (m.column cx h (m.start + (p : Int)) false) := by
      simp only [viewObj, List.getElem?_map, intRange_getElem? _ _ p hp', Option.map_some]
    have hmap : (m.rows.map (linRowV h)).map (fun r => rowCell (viewObj cx h (.multi m)) r (m.start + (p : Int)))
        = m.rows.map fun l => Multi.cell h l (m.start + (p : Int)) := by
      rw [List.map_map]
      apply List.map_congr_left
      intro l hl
      exact rowCell_multi _ hkind h l (hwf.1 l hl).toValid _
    rw [hnf, Multi.column_nofill, hrowsV, hpos, hmap, List.filterMap_map]
    rfl

theorem rowEqColumn_aln (cx : Ctx) (h : Cells) (a : Aln) (n : Nat) (hc : ColsCapWF h n a.cols) :
    RowEqColumnSpec cx.gap cx.amb (viewObj cx h (.aln a)) := by
  intro _
  -- the fields of the observation, once, so that the record is not unfolded at every step
  obtain ⟨o, ho⟩ : ∃ o, o = viewObj cx h (.aln a) := ⟨_, rfl⟩
  have hkind : o.kind = if a.q then "qaln" else "aln" := by rw [ho]; rfl
  have hstart : o.start = a.off := by rw [ho]; rfl
  have hend : o.«end» = a.off + a.cols.length := by rw [ho]; rfl
  have hrowsV : o.rows = (List.range a.rows).map fun r =>
      (⟨(a.subs.getD r ⟨0, 0, 0⟩).off, (a.subs.getD r ⟨0, 0, 0⟩).off + a.len, (a.subs.getD r ⟨0, 0, 0⟩).strand,
        (a.subs.getD r ⟨0, 0, 0⟩).name, a.q, a.rowLetters h r⟩ : RowV) := by rw [ho]; rfl
  have hcols : o.cols = (List.range a.cols.length).map (a.column cx h) := by rw [ho]; rfl
  have hcolsQL : o.colsQL = (List.range a.cols.length).map (a.columnQL h) := by rw [ho]; rfl
  have hnm : (o.kind == "multi") = false := by rw [hkind]; cases a.q <;> rfl
  rw [← ho]
  have hspan : (o.«end» - o.start).toNat = a.cols.length := by rw [hend, hstart]; omega
  refine ⟨by rw [hrowsV, List.length_map, List.length_range, ho]; rfl,
    by rw [hend, hstart, ho]; simp only [viewObj, Aln.len]; omega, ?_⟩
  intro p hp
  rw [hspan] at hp
  have hcp := List.getElem?_eq_getElem hp
  have hmem : a.cols[p] ∈ a.cols := List.getElem_mem hp
  have hlen : (h.read a.cols[p]).length = n := by rw [(hc.1.1 _ hmem).length_read]; exact hc.2 _ hmem
  have hrows : a.rows = n := Aln.rows_eq hc (List.ne_nil_of_mem hmem)
  have hcolQ : a.columnQL h p = (h.read a.cols[p]).map (Lin.shown a.q) := by simp only [Aln.columnQL, hcp]
  have hcol : a.column cx h p = (h.read a.cols[p]).map fun x =>
      if a.q then (if x.Q ≥ alnThreshold then x.L else cx.amb) else x.L := by simp only [Aln.column, hcp]
  have hrl : o.rows.length = n := by rw [hrowsV, List.length_map, List.length_range, hrows]
  refine ⟨a.columnQL h p, a.column cx h p, by rw [hcolsQL, LTS.getElem?_map_range]; exact ⟨hp, rfl⟩,
    by rw [hcols, LTS.getElem?_map_range]; exact ⟨hp, rfl⟩,
    by rw [hcolQ, List.length_map, hlen, hrl], by rw [hcol, List.length_map, hlen, hrl], ?_, ?_⟩
  · intro i r hr
    rw [hrowsV, LTS.getElem?_map_range] at hr
    obtain ⟨hi, rfl⟩ := hr
    have hin : i < (h.read a.cols[p]).length := by rw [hlen, ← hrows]; exact hi
    -- the cell row `i` shows in column `p`
    have hidx : (o.start + (p : Int) - o.start).toNat = p := by omega
    rw [show rowCell o _ (o.start + (p : Int)) = some (Lin.shown a.q (h.read a.cols[p])[i]) by
      simp only [rowCell, hnm, Bool.false_eq_true, if_false, hidx, Aln.rowLetters, List.getElem?_map, hcp,
        Option.map_some, Heap.get, Heap.get?_eq_read, List.getElem?_eq_getElem hin, Option.getD_some]]
    constructor
    · rw [hcolQ, List.getElem?_map, List.getElem?_eq_getElem hin]; rfl
    · rw [hcol, List.getElem?_map, List.getElem?_eq_getElem hin]
      simp only [Option.map_some, columnLetter, hkind]
      rcases Bool.eq_false_or_eq_true a.q with hq | hq
      · simp only [hq, Lin.shown, if_true, beq_self_eq_true, Bool.true_and, decide_eq_true_eq]
        by_cases hlt : (h.read a.cols[p])[i].Q < alnThreshold
        · rw [if_pos hlt, if_neg (fun hge => UInt8.not_lt.mpr hge hlt)]
        · rw [if_neg hlt, if_pos (UInt8.not_lt.mp hlt)]
      · simp [hq, Lin.shown]
  · intro hk
    rw [hkind] at hk
    cases hq : a.q <;> simp [hq] at hk

theorem model_row_eq_column (cx : Ctx) (w : World) (hw : WorldWF w) :
    ∀ o ∈ w.view cx, RowEqColumnSpec cx.gap cx.amb o := by
  intro ov hov
  simp only [World.view, List.mem_map] at hov
  obtain ⟨o, ho, rfl⟩ := hov
  obtain ⟨k, hk⟩ := List.getElem?_of_mem ho
  have hwf := hw.obj k o hk
  cases o with
  | lin l => intro hal; simp only [viewObj, isAligned] at hal; cases hq : l.q <;> simp [hq] at hal
  | set m => intro hal; simp [viewObj, isAligned] at hal
  | multi m => exact rowEqColumn_multi cx _ m hwf
  | aln a =>
    obtain ⟨_, n, hc, _⟩ := hwf
    exact rowEqColumn_aln cx _ a n hc

end Biogo.Containers
