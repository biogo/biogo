/-
Consequences of the kernel contract `Biogo.Spec.PalsKernel` (C15): the hit assembled from two traces
under contract satisfies `HitOK` (`assemble_ok`), and a hit that satisfies `HitOK` passes the executable
consistency conditions the driver evaluates (`consistent_of_hitOK`).  Core Lean only.
-/
import Biogo.Spec.PalsKernel
import Biogo.Proofs.PalsOracle

namespace Biogo.Proofs.PalsKernel
open Biogo.Spec.Alignment Biogo.PalsOracle Biogo.Spec.PalsKernel

theorem slice_length (s : List Nat) (b e : Int) (h0 : 0 ≤ b) (h1 : b ≤ e) (h2 : e ≤ s.length) :
    ((slice s b e).length : Int) = e - b := by
  unfold slice
  rw [List.length_take, List.length_drop]
  omega

theorem assemble_ok (S : Matrix) (diffCost maxIGap : Int) (target query : List Nat) (mid low high : Int)
    (f : Fwd) (r : Rev) (hf : FwdOK S diffCost maxIGap target query mid low high f)
    (hr : RevOK S target query f.bepos f.aepos r) : HitOK S target query (assemble f r) := by
  obtain ⟨fr, fc, _, _⟩ := hf
  obtain ⟨rr, rc, rn, rp, rd1, rd2⟩ := hr
  refine ⟨?_, ?_, rn, rp, ?_, ?_⟩
  · simp only [assemble]; omega
  · simp only [assemble]; omega
  · simp only [assemble]; omega
  · simp only [assemble]; omega

theorem counts_of_path (aln : Aln) (A B : List Nat) (hg : IsGlobal aln A B) :
    ∃ m x u l : Nat, ((A.length : Int) = m + x + u) ∧ ((B.length : Int) = m + x + l) ∧
      scoreLin (palsS 1 3) aln = (m : Int) - 3 * ((x : Int) + u + l) := by
  have h1 := nmatch_add_cost aln
  have h2 := length_counts aln
  have h3 := nmatch_le_nM aln
  refine ⟨nmatch aln, nM aln - nmatch aln, nU aln, nL aln, ?_, ?_, ?_⟩
  · rw [← hg.1, projR_length]; omega
  · rw [← hg.2, projQ_length]; omega
  · rw [scoreLin_pals]; omega

theorem representable_of (total indel : Int) (g x t : Nat) (hg : (g : Int) = indel + 2 * t)
    (ht : total = 7 * g + 8 * x) (hi : 0 ≤ indel) : representable 1 3 total indel = true := by
  unfold representable
  rw [List.any_eq_true]
  refine ⟨t, List.mem_range.mpr (by omega), ?_⟩
  simp only [Bool.and_eq_true, decide_eq_true_eq]
  constructor <;> omega

/-- the two conditions of `consistent` on the score, for regions `a`, `b` long aligned with `m`
    matches, `x` mismatches and `u`, `l` gap letters: `|a − b| ≤ u + l` bounds the score, and
    `a + b − 2·score = 7(u + l) + 8x` with `u + l = |a − b| + 2·min(u, l)` -/
theorem consistent_arith (m x u l : Nat) (a b sc ind : Int) (ha : a = m + x + u) (hb : b = m + x + l)
    (hs : sc = m - 3 * ((x : Int) + u + l)) (hi : ind = (a - b).natAbs) :
    sc ≤ 1 * min a b - 3 * ind ∧ representable 1 3 (1 * (a + b) - 2 * sc) ind = true := by
  have hi' : ind = (u : Int) + l - 2 * (min u l : Nat) := by omega
  subst ha hb hs hi'
  exact ⟨by omega, representable_of _ _ (u + l) x (min u l) (by omega) (by omega) (by omega)⟩

theorem indel_eq (h : Hit) : h.indel = (h.alen - h.blen).natAbs := by
  unfold Hit.indel Hit.alen Hit.blen; omega

/-- **a hit under contract passes the driver's consistency conditions** (scoring `+1 / −3`) -/
theorem consistent_of_hitOK (target query : List Nat) (k : KHit) (ok : HitOK (palsS 1 3) target query k)
    (hb : k.h.bbpos < k.h.bepos) : consistent 1 3 k = true := by
  obtain ⟨ha, hbq, hn, hp, d1, d2⟩ := ok
  obtain ⟨aln, hg, hs⟩ := hp hb
  obtain ⟨m, x, u, l, eA, eB, eS⟩ := counts_of_path aln _ _ hg
  have lA := slice_length target k.h.abpos k.h.aepos ha.1 ha.2.1 ha.2.2
  have lB := slice_length query k.h.bbpos k.h.bepos hbq.1 hbq.2.1 hbq.2.2
  have ar := consistent_arith m x u l k.h.alen k.h.blen k.h.score k.h.indel (lA.symm.trans eA) (lB.symm.trans eB)
    (hs.symm.trans eS) (indel_eq k.h)
  unfold consistent
  simp only [Bool.and_eq_true, decide_eq_true_eq]
  exact ⟨⟨⟨⟨⟨⟨hn, ar.1⟩, ar.2⟩, d1.1⟩, d1.2⟩, d2.1⟩, d2.2⟩

end Biogo.Proofs.PalsKernel
