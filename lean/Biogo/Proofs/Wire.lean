/-
The wire format's byte-string encoding is lossless: decoding the hex token the harness (or the
driver) writes for a byte string gives that byte string back.  This takes `hexOfBytes` /
`bytesOfHex` — used by every driver to read inputs and observations — out of the "read, not
proved" part of the tie.  Core only.
-/
import Biogo.Go.Wire

namespace Biogo.Wire

theorem hexVal_hexDigit : ∀ n, n < 16 → hexVal (hexDigit n) = some n := by decide +kernel

theorem byte_split (b : UInt8) : UInt8.ofNat (b.toNat / 16 * 16 + b.toNat % 16) = b := by
  rw [Nat.div_add_mod']; exact UInt8.ofNat_toNat

theorem bytesOfHexAux_encode (bs : List UInt8) (acc : List UInt8) :
    bytesOfHexAux (bs.flatMap fun b => [hexDigit (b.toNat / 16), hexDigit (b.toNat % 16)]) acc
      = some (acc.reverse ++ bs) := by
  induction bs generalizing acc with
  | nil => simp [bytesOfHexAux]
  | cons b bs ih =>
    have hlt : b.toNat < 16 * 16 := b.toNat_lt
    simp only [List.flatMap_cons, List.cons_append, List.nil_append, bytesOfHexAux]
    rw [hexVal_hexDigit _ (Nat.div_lt_of_lt_mul hlt), hexVal_hexDigit _ (Nat.mod_lt _ (by decide))]
    simp only []
    rw [ih, byte_split]
    simp

example : (String.join ["ab", "cd"]).toList = ['a', 'b', 'c', 'd'] := by decide

/-- **the byte-string encoding of the wire format is lossless** -/
theorem bytesOfHex_hexOfBytes (bs : List UInt8) : bytesOfHex (hexOfBytes bs) = some bs := by
  unfold hexOfBytes
  cases bs with
  | nil => simp [bytesOfHex]
  | cons b bs =>
    have hlist : (String.join ((b :: bs).map hexOfByte)).toList =
        (b :: bs).flatMap fun b => [hexDigit (b.toNat / 16), hexDigit (b.toNat % 16)] := by
      rw [String.toList_join]
      simp only [List.flatMap_map, hexOfByte, String.toList_ofList]
    have hne : (String.join ((b :: bs).map hexOfByte) == "-") = false := by
      refine beq_eq_false_iff_ne.mpr fun h' => ?_
      have := congrArg (fun s => s.toList.length) h'
      simp only [hlist, List.flatMap_cons, List.cons_append, List.length_cons] at this
      simp at this
    simp only [List.isEmpty_cons, Bool.false_eq_true, if_false, bytesOfHex, hne]
    rw [hlist, bytesOfHexAux_encode]
    simp

end Biogo.Wire
