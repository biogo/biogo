/-
Kadane invariant for the modified-Mott running sum of `sequtils.Trim` (core only).
-/
import Biogo.Model.Sequtils

namespace Biogo.Sequtils

/-- prefix sums of a feature's values (it starts at `s0`; position `p` excluded): the `P` that `TrimInv` is used at -/
def pref (vs : List Int) (s0 p : Int) : Int := (vs.take (p - s0).toNat).sum

theorem windowSum_eq (vs : List Int) (s0 i j : Int) (h1 : s0 ≤ i) (h2 : i ≤ j) :
    windowSum vs s0 i j = pref vs s0 j - pref vs s0 i := by
  unfold windowSum pref
  rw [show (j - s0).toNat = (i - s0).toNat + (j - i).toNat by omega, List.take_add, List.sum_append_int]
  omega

theorem pref_self (vs : List Int) (s0 : Int) : pref vs s0 s0 = 0 := by
  simp [pref]

theorem pref_succ (vs : List Int) (s0 : Int) (k : Nat) (hk : k < vs.length) :
    pref vs s0 (s0 + k + 1) = pref vs s0 (s0 + k) + vs[k] := by
  unfold pref
  rw [show (s0 + k + 1 - s0).toNat = k + 1 by omega, show (s0 + k - s0).toNat = k by omega,
    List.take_succ_eq_append_getElem hk, List.sum_append_int, List.sum_singleton]

/-- Kadane's invariant after the positions below `i`, over any prefix-sum function `P`: the
    running sum is the largest sum of a window ending at `i` and belongs to the window starting at
    `cand`; `best` is the largest sum of a window ending at or before `i`, and is that of
    `[start, stop)` -/
structure TrimInv (P : Int → Int) (s0 : Int) (st : TrimSt Int) (i : Int) : Prop where
  cand_lo : s0 ≤ st.cand
  cand_hi : st.cand ≤ i
  sum_eq : st.sum = P i - P st.cand
  sum_max : ∀ a, s0 ≤ a → a ≤ i → P i - P a ≤ st.sum
  start_lo : s0 ≤ st.start
  start_stop : st.start ≤ st.stop
  stop_hi : st.stop ≤ i
  best_eq : st.best = P st.stop - P st.start
  best_max : ∀ a b, s0 ≤ a → a ≤ b → b ≤ i → P b - P a ≤ st.best

theorem trimStep_inv (P : Int → Int) (s0 : Int) (st : TrimSt Int) (i v : Int)
    (inv : TrimInv P s0 st i) (hp : P (i + 1) = P i + v) :
    TrimInv P s0 (trimStep st i v) (i + 1) := by
  obtain ⟨c1, c2, se, sm, s1, s2, s3, be, bm⟩ := inv
  have run : s0 ≤ (if st.sum + v < 0 then i + 1 else st.cand) ∧
      (if st.sum + v < 0 then i + 1 else st.cand) ≤ i + 1 ∧
      (if st.sum + v < 0 then 0 else st.sum + v) =
        P (i + 1) - P (if st.sum + v < 0 then i + 1 else st.cand) ∧
      ∀ a, s0 ≤ a → a ≤ i + 1 → P (i + 1) - P a ≤ (if st.sum + v < 0 then 0 else st.sum + v) := by
    have ext : ∀ m, st.sum + v ≤ m → 0 ≤ m → ∀ a, s0 ≤ a → a ≤ i + 1 → P (i + 1) - P a ≤ m := by
      intro m h1 h2 a ha1 ha2
      by_cases h : a ≤ i
      · have := sm a ha1 h; omega
      · have : a = i + 1 := by omega
        subst this; omega
    by_cases hneg : st.sum + v < 0
    · simp only [if_pos hneg]
      exact ⟨by omega, Int.le_refl _, by omega, ext 0 (by omega) (Int.le_refl _)⟩
    · simp only [if_neg hneg]
      exact ⟨c1, by omega, by omega, ext _ (Int.le_refl _) (by omega)⟩
  unfold trimStep
  dsimp only
  generalize (if st.sum + v < 0 then 0 else st.sum + v) = sum' at run ⊢
  generalize (if st.sum + v < 0 then i + 1 else st.cand) = cand' at run ⊢
  obtain ⟨r1, r2, r3, r4⟩ := run
  -- a window ending at or before `i` is bounded by the old best, one ending at `i + 1` by the new sum
  have bmax : ∀ best', st.best ≤ best' → sum' ≤ best' →
      ∀ a b, s0 ≤ a → a ≤ b → b ≤ i + 1 → P b - P a ≤ best' := by
    intro best' h1 h2 a b ha hab hb
    by_cases h : b ≤ i
    · exact Int.le_trans (bm a b ha hab h) h1
    · have : b = i + 1 := by omega
      subst this
      exact Int.le_trans (r4 a ha hab) h2
  by_cases hb : st.best ≤ sum'
  · rw [if_pos hb]
    exact ⟨r1, r2, r3, r4, r1, r2, Int.le_refl _, r3, bmax sum' hb (Int.le_refl _)⟩
  · rw [if_neg hb]
    exact ⟨r1, r2, r3, r4, s1, s2, Int.le_add_one s3, be, bmax st.best (Int.le_refl _) (by omega)⟩

theorem trimFrom_inv (P : Int → Int) (s0 : Int) : ∀ (vs : List Int) (st : TrimSt Int) (i : Int),
    (∀ (k : Nat) (hk : k < vs.length), P (i + k + 1) = P (i + k) + vs[k]) → TrimInv P s0 st i →
    TrimInv P s0 (trimFrom st i vs) (i + vs.length) := by
  intro vs
  induction vs with
  | nil =>
    intro st i _ inv
    rw [List.length_nil, Int.natCast_zero, Int.add_zero]
    exact inv
  | cons v vs ih =>
    intro st i hP inv
    have h0 := hP 0 (Nat.zero_lt_succ _)
    rw [Int.natCast_zero, Int.add_zero, List.getElem_cons_zero] at h0
    have := ih (trimStep st i v) (i + 1) (fun k hk => by
      have := hP (k + 1) (Nat.succ_lt_succ hk)
      rw [List.getElem_cons_succ, Int.natCast_add, Int.natCast_one, ← Int.add_assoc, Int.add_right_comm i k 1] at this
      exact this) (trimStep_inv P s0 st i v inv h0)
    rw [List.length_cons, Int.natCast_add, Int.natCast_one, ← Int.add_assoc, Int.add_right_comm]
    exact this

theorem trim_inv (vs : List Int) (s0 : Int) :
    TrimInv (pref vs s0) s0 (trimFrom { sum := 0, best := 0, cand := s0, start := s0, stop := s0 } s0 vs)
      (s0 + vs.length) := by
  refine trimFrom_inv (pref vs s0) s0 vs _ s0 (pref_succ vs s0)
    ⟨Int.le_refl _, Int.le_refl _, (Int.sub_self _).symm, ?_, Int.le_refl _, Int.le_refl _, Int.le_refl _,
      (Int.sub_self _).symm, ?_⟩
  · intro a h1 h2
    rw [Int.le_antisymm h2 h1]
    exact Int.le_of_eq (Int.sub_self _)
  · intro a b h1 h2 h3
    rw [Int.le_antisymm (Int.le_trans h2 h3) h1, Int.le_antisymm h3 (Int.le_trans h1 h2)]
    exact Int.le_of_eq (Int.sub_self _)

end Biogo.Sequtils
