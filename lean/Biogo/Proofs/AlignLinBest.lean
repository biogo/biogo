/-
SW's running end cell `(maxS, maxI, maxJ)`: after the fill it is at least every table cell
(under gap scores ≤ 0 — the end-cell filter `score == diagScore` loses nothing) and it is the
value of the cell it points to, so `maxS` is the optimum over the local alignments (`sw_opt`).
-/
import Biogo.Proofs.AlignLinTable

namespace Biogo.Proofs.AlignLin
open Biogo.Spec.Alignment Biogo.AlignLin

/-- One cell of SW's inner loop: the running best stays above the cell's value and never
    decreases.  A cell value above the running best comes from the diagonal (the other two
    candidates are a neighbour plus a gap score ≤ 0), so the end-cell filter `score == diagScore`
    loses nothing. -/
theorem best_step {d u l sab ga gb sc : Int} {best : Best} (i j : Nat)
    (hsc : sc = max3 (d + sab) (u + ga) (l + gb))
    (hga : ga ≤ 0) (hgb : gb ≤ 0) (h0 : 0 ≤ best.s) (hu : u ≤ best.s) (hl : l ≤ best.s) :
    best.s ≤ (if sc > 0 ∧ sc ≥ best.s ∧ sc = d + sab then ⟨sc, i, j⟩ else best).s ∧
    (if sc > 0 then sc else 0) ≤ (if sc > 0 ∧ sc ≥ best.s ∧ sc = d + sab then ⟨sc, i, j⟩ else best).s := by
  by_cases hc : sc > 0 ∧ sc ≥ best.s ∧ sc = d + sab
  · rw [if_pos hc, if_pos hc.1]
    exact ⟨hc.2.1, Int.le_refl _⟩
  · rw [if_neg hc]
    refine ⟨Int.le_refl _, ?_⟩
    split
    · have := max3_cases (d + sab) (u + ga) (l + gb)
      rw [← hsc] at this
      omega
    · exact h0

theorem swRowGo_bound (S : Matrix) (a i : Nat) (hga : S a 0 ≤ 0) :
    ∀ (rest : List Nat) (prev : List Int) (j : Nat) (d l : Int) (best : Best),
    (∀ y ∈ rest, S 0 y ≤ 0) → 0 ≤ best.s → l ≤ best.s → (∀ x ∈ prev, x ≤ best.s) →
    best.s ≤ (swRowGo S a i j d l prev rest best).2.s ∧
    ∀ x ∈ (swRowGo S a i j d l prev rest best).1, x ≤ (swRowGo S a i j d l prev rest best).2.s := by
  intro rest
  induction rest with
  | nil => intro prev j d l best _ _ _ _; cases prev <;> simp [swRowGo]
  | cons b rest ih =>
    intro prev j d l best hq h0 hl hprev
    cases prev with
    | nil => simp [swRowGo]
    | cons u prev' =>
      simp only [swRowGo]
      generalize hsc : max3 (d + S a b) (u + S a 0) (l + S 0 b) = sc
      have hstep := best_step i j hsc.symm hga (hq b List.mem_cons_self) h0 (hprev u List.mem_cons_self) hl
      generalize (if sc > 0 ∧ sc ≥ best.s ∧ sc = d + S a b then (⟨sc, i, j⟩ : Best) else best) = best'
        at hstep ⊢
      generalize (if sc > 0 then sc else 0) = v at hstep ⊢
      obtain ⟨h1, h2⟩ := ih prev' (j + 1) u v best' (fun y hy => hq y (List.mem_cons_of_mem _ hy))
        (Int.le_trans h0 hstep.1) hstep.2
        (fun x hx => Int.le_trans (hprev x (List.mem_cons_of_mem _ hx)) hstep.1)
      refine ⟨Int.le_trans hstep.1 h1, fun x hx => ?_⟩
      rcases List.mem_cons.mp hx with rfl | hx
      · exact Int.le_trans hstep.2 h1
      · exact h2 x hx

theorem swRowsFrom_bound (S : Matrix) (q : List Nat) (hq : ∀ y ∈ q, S 0 y ≤ 0) :
    ∀ (rest : List Nat) (prev : List Int) (i : Nat) (best : Best),
    (∀ x ∈ rest, S x 0 ≤ 0) → 0 ≤ best.s → (∀ x ∈ prev, x ≤ best.s) →
    best.s ≤ (swRowsFrom S q i prev rest best).2.s ∧
    ∀ row ∈ (swRowsFrom S q i prev rest best).1, ∀ x ∈ row, x ≤ (swRowsFrom S q i prev rest best).2.s := by
  intro rest
  induction rest with
  | nil => intro prev i best _ _ _; exact ⟨Int.le_refl _, nofun⟩
  | cons a rest ih =>
    intro prev i best hr h0 hprev
    cases prev with
    | nil => exact ⟨Int.le_refl _, nofun⟩
    | cons p0 prev' =>
      simp only [swRowsFrom]
      obtain ⟨hi1, hi2⟩ := swRowGo_bound S a i (hr a List.mem_cons_self) q prev' 1 p0 0 best hq h0 h0
        (fun x hx => hprev x (List.mem_cons_of_mem _ hx))
      generalize swRowGo S a i 1 p0 0 prev' q best = inner at hi1 hi2 ⊢
      have h0' := Int.le_trans h0 hi1
      have hrow : ∀ x ∈ (0 :: inner.1), x ≤ inner.2.s := fun x hx =>
        (List.mem_cons.mp hx).elim (fun e => e ▸ h0') (hi2 x)
      obtain ⟨h1, h2⟩ := ih (0 :: inner.1) (i + 1) inner.2 (fun x hx => hr x (List.mem_cons_of_mem _ hx)) h0' hrow
      refine ⟨Int.le_trans hi1 h1, fun row hr => ?_⟩
      rcases List.mem_cons.mp hr with rfl | hr
      · exact fun x hx => Int.le_trans (hrow x hx) h1
      · exact h2 row hr

theorem swFill_bound (S : Matrix) (r q : List Nat) (hg : GapsNonPos S r q) :
    0 ≤ (swFill S r q).2.s ∧ ∀ row ∈ (swFill S r q).1, ∀ x ∈ row, x ≤ (swFill S r q).2.s := by
  have hrep : ∀ x ∈ List.replicate (q.length + 1) (0 : Int), x ≤ 0 := fun x hx =>
    Int.le_of_eq (List.mem_replicate.mp hx).2
  obtain ⟨h1, h2⟩ := swRowsFrom_bound S q hg.2 r (List.replicate (q.length + 1) 0) 1 ⟨0, 0, 0⟩ hg.1
    (Int.le_refl _) hrep
  refine ⟨h1, fun row hr => ?_⟩
  rcases List.mem_cons.mp hr with rfl | hr
  · exact fun x hx => Int.le_trans (hrep x hx) h1
  · exact h2 row hr

/-- `…_pos`, for position: the running end cell points at a cell holding its value (unchanged, or a cell just filled). -/
theorem swRowGo_pos (S : Matrix) (a i : Nat) :
    ∀ (rest : List Nat) (prev : List Int) (j : Nat) (d l : Int) (best : Best),
    (swRowGo S a i j d l prev rest best).2 = best ∨
    ((swRowGo S a i j d l prev rest best).2.i = i ∧ ∃ k, (swRowGo S a i j d l prev rest best).2.j = j + k ∧
      (swRowGo S a i j d l prev rest best).1[k]? = some (swRowGo S a i j d l prev rest best).2.s) := by
  intro rest
  induction rest with
  | nil => intro prev j d l best; cases prev <;> exact .inl rfl
  | cons b rest ih =>
    intro prev j d l best
    cases prev with
    | nil => exact .inl rfl
    | cons u prev' =>
      simp only [swRowGo]
      generalize hsc : max3 (d + S a b) (u + S a 0) (l + S 0 b) = sc
      generalize hb' : (if sc > 0 ∧ sc ≥ best.s ∧ sc = d + S a b then (⟨sc, i, j⟩ : Best) else best) = best'
      generalize hv : (if sc > 0 then sc else 0) = v
      have := ih prev' (j + 1) u v best'
      generalize swRowGo S a i (j + 1) u v prev' rest best' = res at this ⊢
      rcases this with h | ⟨h1, k, h2, h3⟩
      · by_cases hc : sc > 0 ∧ sc ≥ best.s ∧ sc = d + S a b
        · rw [if_pos hc] at hb'
          rw [if_pos hc.1] at hv
          rw [h, ← hb', ← hv]
          exact .inr ⟨rfl, 0, rfl, rfl⟩
        · rw [if_neg hc] at hb'
          exact .inl (h.trans hb'.symm)
      · exact .inr ⟨h1, k + 1, by rw [h2, Nat.add_right_comm, Nat.add_assoc], h3⟩

theorem swRowsFrom_pos (S : Matrix) (q : List Nat) :
    ∀ (rest : List Nat) (prev : List Int) (i : Nat) (best : Best),
    (swRowsFrom S q i prev rest best).2 = best ∨
    ∃ k, (swRowsFrom S q i prev rest best).2.i = i + k ∧
      ((swRowsFrom S q i prev rest best).1[k]?).bind
        (·[(swRowsFrom S q i prev rest best).2.j]?) = some (swRowsFrom S q i prev rest best).2.s := by
  intro rest
  induction rest with
  | nil => intro prev i best; exact .inl rfl
  | cons a rest ih =>
    intro prev i best
    cases prev with
    | nil => exact .inl rfl
    | cons p0 prev' =>
      simp only [swRowsFrom]
      have hin := swRowGo_pos S a i q prev' 1 p0 0 best
      generalize swRowGo S a i 1 p0 0 prev' q best = inner at hin ⊢
      have hout := ih (0 :: inner.1) (i + 1) inner.2
      generalize swRowsFrom S q (i + 1) (0 :: inner.1) rest inner.2 = res at hout ⊢
      rcases hout with h | ⟨k, h1, h2⟩
      · rcases hin with h' | ⟨h1', k, h2', h3'⟩
        · exact .inl (h.trans h')
        · refine .inr ⟨0, by rw [h, h1']; rfl, ?_⟩
          rw [h, h2', Nat.add_comm 1 k]
          exact h3'
      · exact .inr ⟨k + 1, by rw [h1, Nat.add_right_comm, Nat.add_assoc], h2⟩

theorem swFill_pos (S : Matrix) (r q : List Nat) :
    ((swFill S r q).1[(swFill S r q).2.i]?).bind (·[(swFill S r q).2.j]?) = some (swFill S r q).2.s := by
  have := swRowsFrom_pos S q r (List.replicate (q.length + 1) 0) 1 ⟨0, 0, 0⟩
  simp only [swFill]
  generalize swRowsFrom S q 1 (List.replicate (q.length + 1) 0) r ⟨0, 0, 0⟩ = res at this ⊢
  rcases this with h | ⟨k, h1, h2⟩
  · rw [h]; simp
  · rw [h1, Nat.add_comm 1 k]; exact h2

theorem sw_cell_le (S : Matrix) (r q : List Nat) (hg : GapsNonPos S r q) (i j : Nat)
    (hi : i ≤ r.length) (hj : j ≤ q.length) : cell S true true r q i j ≤ swScore S r q := by
  obtain ⟨row, hrow, hx⟩ := spec_mem (dpRec S true true) r q i j hi hj
  rw [← swFill_fst] at hrow
  exact (swFill_bound S r q hg).2 row hrow _ hx

theorem sw_best_cell (S : Matrix) (r q : List Nat) :
    (swFill S r q).2.i ≤ r.length ∧ (swFill S r q).2.j ≤ q.length ∧
    cell S true true r q (swFill S r q).2.i (swFill S r q).2.j = swScore S r q := by
  have hp := swFill_pos S r q
  rw [swFill_fst] at hp
  exact spec_lookup _ r q hp

theorem sw_opt (S : Matrix) (r q : List Nat) (hg : GapsNonPos S r q) :
    (∀ a, IsLocal a r q → scoreLin S a ≤ swScore S r q) ∧
    ∃ a, IsLocal a r q ∧ scoreLin S a = swScore S r q := by
  constructor
  · intro a ha
    obtain ⟨i, j, hi, hj, hR, hQ⟩ := isLocal_iff.mp ha
    exact Int.le_trans ((cell_opt S true true r q i j (fun _ => hg.1) (fun _ => hg.2)).1 a hR hQ)
      (sw_cell_le S r q hg i j hi hj)
  · obtain ⟨hi, hj, hc⟩ := sw_best_cell S r q
    obtain ⟨a, hR, hQ, hs⟩ := (cell_opt S true true r q _ _ (fun _ => hg.1) (fun _ => hg.2)).2
    exact ⟨a, isLocal_iff.mpr ⟨_, _, hi, hj, hR, hQ⟩, hs.trans hc⟩

end Biogo.Proofs.AlignLin
