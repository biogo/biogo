/-
What `Def.build` returns, for any definition: the alphabet of `newAlphabet` and the pairing of
`newPairing`, the acceptance test of `NewComplementor` deciding nothing.  With it what is proved
of the two constructors holds of every built-in definition.
-/
import Biogo.Proofs.Alphabet

namespace Biogo.Alphabet

/-- `Def.build` without the acceptance test of `NewComplementor`: the form in which the kernel
    evaluates a built-in alphabet. -/
def Def.buildTables (d : Def) : Except Err (Alpha × Option Pairing) :=
  match d.pairS, d.pairC with
  | some s, some c =>
    match newPairing s c with
    | .error e => .error e
    | .ok p =>
      match newAlphabet d.letters d.gap d.ambiguous d.cased with
      | .error e => .error e
      | .ok a => .ok (a, some p)
  | _, _ =>
    match newAlphabet d.letters d.gap d.ambiguous d.cased with
    | .error e => .error e
    | .ok a => .ok (a, none)

theorem Def.build_eq_buildTables (d : Def) : d.build = d.buildTables := by
  unfold Def.build Def.buildTables
  cases d.pairS <;> cases d.pairC <;> try rfl
  rename_i s c
  dsimp only
  cases hp : newPairing s c with
  | error e => rfl
  | ok p =>
    dsimp only
    cases hA : newAlphabet d.letters d.gap d.ambiguous d.cased with
    | error e => simp [newComplementor, hA]
    | ok A => simp [newComplementor_of_newPairing hp hA]

theorem Def.build_ok {d : Def} {A : Alpha} {p : Option Pairing} (h : d.build = .ok (A, p)) :
    newAlphabet d.letters d.gap d.ambiguous d.cased = .ok A ∧
    ∀ q, p = some q → ∃ s c, newPairing s c = .ok q := by
  rw [Def.build_eq_buildTables] at h
  unfold Def.buildTables at h
  split at h
  · rename_i s c _ _
    split at h
    · cases h
    · rename_i q hq
      split at h
      · cases h
      · rename_i A' hA'
        cases h
        exact ⟨hA', fun q' e => by cases e; exact ⟨s, c, hq⟩⟩
  · split at h
    · cases h
    · rename_i A' hA'
      cases h
      exact ⟨hA', fun q e => by cases e⟩

theorem Def.build_isOk (d : Def)
    (hA : (newAlphabet d.letters d.gap d.ambiguous d.cased).isOk = true)
    (hp : (match d.pairS, d.pairC with
           | some s, some c => (newPairing s c).isOk
           | _, _ => true) = true) :
    ∃ r, d.build = .ok r := by
  cases hA' : newAlphabet d.letters d.gap d.ambiguous d.cased with
  | error e => rw [hA'] at hA; cases hA
  | ok A =>
    rw [Def.build_eq_buildTables]
    unfold Def.buildTables
    split
    · rename_i s c hs hc
      simp only [hs, hc] at hp
      cases hq : newPairing s c with
      | error e => rw [hq] at hp; cases hp
      | ok q => exact ⟨(A, some q), by simp only [hA']⟩
    · exact ⟨(A, none), by simp only [hA']⟩

end Biogo.Alphabet
