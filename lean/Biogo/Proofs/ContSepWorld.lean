/-
One operation: whatever `apply` does to a world (`Applies`, Proofs/ContApply.lean) keeps it owned, leaves every
object the operation is not applied to — and its complete observation — as it was, and keeps a well-formed world
well formed (`Applies.step`).  `RevComp`, `Reverse`, `Set`, `Row(r).RevComp()`, `Row(r).Reverse()` and `Clone`
need the world only owned (they look at no capacity, and a write through a slice that does not fit writes
nothing): `step_c05`; the operations that resize, and those on caller buffers, need it well formed: `step_all`.
The theorems about runs (`untouched_of`, `clone_deep_of`) are stated for any invariant the steps keep, and read at
`WorldWF` and at `Owned`.  Every state reachable from a constructor is well formed (`reach_wf`).
-/
import Biogo.Proofs.ContSepOps
import Biogo.Proofs.ContApply

namespace Biogo.Containers
open Biogo.Go

theorem Upd.eff {cx : Ctx} {w : World} {op : Op} {o o' : Obj} {h' : Cells} (hu : Upd cx w op o h' o')
    (hwf : op.isC05 = false → ObjWF w.cells o) : Eff w.cells o h' o' := by
  cases hu with
  | @revCompLin k l => exact (inPlace_revComp cx).eff w.cells l
  | @revCompAln k a =>
    exact Eff.aln_inPlace (a' := (a.revComp cx w.cells).2)
      (writesOnly_colLoop (compQL cx.comp) a.cols (loopFuel a.cols.length) 0 a.cols.length w.cells) rfl rfl rfl
  | @revCompMulti k m => exact eff_thread_inPlace (inPlace_gRevComp cx _ _) (Multi.revComp_thread cx w.cells m)
  | @revCompSet k m => exact (eff_thread_inPlace (inPlace_revComp cx) (Multi.setRevComp_thread cx w.cells m)).toSet
  | @reverseLin k l => exact inPlace_reverse.eff w.cells l
  | @reverseAln k a => exact eff_aln_reverse w.cells a
  | @reverseMulti k m => exact eff_thread_inPlace (inPlace_gReverse _ _) (Multi.reverse_thread w.cells m)
  | @reverseSet k m => exact (eff_thread_inPlace inPlace_reverse (Multi.setReverse_thread w.cells m)).toSet
  | @setLin k r pos c l _ => exact (inPlace_set pos c).eff w.cells l
  | @setAln k r pos c a _ => exact Eff.aln_inPlace (writesOnly_aln_set w.cells a r pos c) rfl rfl rfl
  | @setMulti k r pos c m _ => exact eff_onRow (fun h l => (l.set h pos c, l)) (inPlace_set pos c) w.cells m r
  | @setSet k r pos c m _ => exact (eff_onRow (fun h l => (l.set h pos c, l)) (inPlace_set pos c) w.cells m r).toSet
  | @rowRevCompAln k r a _ => exact eff_aln_rowLoop _ _ _ w.cells a r
  | @rowRevCompMulti k r m _ => exact eff_onRow (fun h l => l.revComp cx h) (inPlace_revComp cx) w.cells m r
  | @rowRevCompSet k r m _ => exact (eff_onRow (fun h l => l.revComp cx h) (inPlace_revComp cx) w.cells m r).toSet
  | @rowReverseAln k r a _ => exact eff_aln_rowLoop _ _ _ w.cells a r
  | @rowReverseMulti k r m _ => exact eff_onRow (fun h l => l.reverse h) inPlace_reverse w.cells m r
  | @rowReverseSet k r m _ => exact (eff_onRow (fun h l => l.reverse h) inPlace_reverse w.cells m r).toSet
  | @appendColsAln k bs a a' rows h' hr happ => exact eff_aln_appendColumns cx w.cells a (hwf rfl) rows hr _ h' a' happ
  | @appendColsMulti k bs m m' h' happ => exact eff_multi_appendColumns cx w.cells m (hwf rfl) _ h' m' happ
  | @appendEachAln k bs a a' rows h' hr happ => exact eff_aln_appendEach cx w.cells a (hwf rfl) rows hr _ h' a' happ
  | @appendEachMulti k bs m m' h' happ => exact eff_multi_appendEach cx w.cells m (hwf rfl) _ h' m' happ
  | @addAln k seqs a =>
    have hg := (newLins_facts cx w.cells seqs).1
    exact Eff.after_grow hg (eff_aln_add cx (newLins cx w.cells seqs).1 a ((hwf rfl).grow hg) (newLins cx w.cells seqs).2)
  | @addMulti k seqs m => exact eff_multi_add cx w.cells m (hwf rfl) seqs
  | @deleteAln k i a hp => exact eff_aln_delete w.cells a (hwf rfl) i hp
  | @deleteMulti k i m _ => exact eff_multi_delete w.cells m (hwf rfl) i
  | @flushMulti k wh fill m => exact eff_multi_flush cx w.cells m (hwf rfl) wh fill
  | @truncateMulti k st en m => exact eff_multi_truncate w.cells m (hwf rfl) st en

theorem Owned.step_addObj {cx : Ctx} {w : World} (ho : Owned w) (h' : Cells) (c : Obj) (hg : Extends w.cells h')
    (hfresh : ∀ a ∈ c.arrs, w.cells.arrays.length ≤ a ∧ a < h'.arrays.length) (hwf : WorldWF w → ObjWF h' c) :
    Owned { w with cells := h', objs := w.objs ++ [c] } ∧
    OthersKept cx w { w with cells := h', objs := w.objs ++ [c] } none ∧
    (WorldWF w → WorldWF { w with cells := h', objs := w.objs ++ [c] }) :=
  ⟨(ho.addObj cx h' c hg hfresh).1, (ho.addObj cx h' c hg hfresh).2,
    fun hw => (hw.addObj cx h' c hg (hwf hw) fun a ha => (hfresh a ha).1).1⟩

theorem Applies.step {cx : Ctx} {w w' : World} {op : Op} (ha : Applies cx w op w') (ho : Owned w)
    (hwf : op.isC05 = false → WorldWF w) :
    Owned w' ∧ OthersKept cx w w' op.written ∧ (WorldWF w → WorldWF w') := by
  have of_wf : ∀ {w'}, WorldWF w' ∧ OthersKept cx w w' none → Owned w' ∧ OthersKept cx w w' none ∧ (WorldWF w → WorldWF w') :=
    fun h => ⟨h.1.owned, h.2, fun _ => h.1⟩
  cases ha with
  | same => exact ⟨ho, fun _ _ _ hoj => ⟨hoj, rfl⟩, id⟩
  | @upd _ k o o' h' hwr hk hu =>
    have he := hu.eff fun hop => (hwf hop).obj k o hk
    rw [hwr]
    exact ⟨(ho.setObj cx k o hk h' o' he).1, (ho.setObj cx k o hk h' o' he).2, fun hw => (hw.setObj cx k o hk h' o' he).1⟩
  | @cloneLin k l hk =>
    obtain ⟨carr, cvalid, cgrow⟩ := lin_clone_facts cx w.cells l
    exact ho.step_addObj _ (.lin (l.clone cx w.cells).2) cgrow
      (fun a ha => by
        simp only [Obj.arrs, List.mem_singleton] at ha; subst ha
        exact ⟨Nat.le_of_eq carr.symm, cvalid.1⟩)
      fun _ => cvalid
  | @cloneAln k a hk =>
    obtain ⟨cgrow, cfresh⟩ := aln_clone_alloc cx w.cells a
    exact ho.step_addObj _ (.aln (a.clone cx w.cells).2) cgrow cfresh
      fun hw => aln_clone_facts cx w.cells a (hw.obj k _ hk)
  | @cloneMulti k m hk =>
    obtain ⟨cgrow, cwf, cfresh⟩ := multi_clone_facts cx w.cells m
    exact ho.step_addObj _ (.multi (m.clone cx w.cells).2) cgrow
      (fun a ha => by
        obtain ⟨r, hr, rfl⟩ := List.mem_map.mp ha
        exact ⟨cfresh r hr, (cwf.1 r hr).1⟩)
      fun _ => cwf
  | @subseqSome k st en m m' h' hk hs =>
    obtain ⟨hg, hsome⟩ := multi_subseq_facts cx w.cells m st en
    rw [hs] at hg hsome
    obtain ⟨cwf, cfresh⟩ := hsome m' rfl
    exact of_wf ((hwf rfl).addObj cx h' (.multi m') hg cwf (List.forall_mem_map.mpr cfresh))
  | @subseqNone k st en m h' hk hs =>
    have hg := (multi_subseq_facts cx w.cells m st en).1
    rw [hs] at hg
    exact of_wf ((hwf rfl).grow cx h' hg)
  | @mkbuf cs extra =>
    obtain ⟨oarr, _, osz, _, ogrow, _⟩ := ofList_factsG w.cells cs (cs.length + extra) zeroQL
    exact of_wf ((hwf rfl).addBuf cx _ (w.cells.ofList cs (cs.length + extra) zeroQL).2 ogrow
      (by rw [oarr]; exact Nat.le_refl _) (by rw [oarr, osz]; exact Nat.lt_succ_self _))
  | @mutbuf b i c s hb => exact of_wf ((hwf rfl).mutBuf cx b s hb i c)

theorem Op.written_of_isC05 {op : Op} (h : op.isC05 = true) : op.written = op.target := by
  cases op <;> first | rfl | cases h

theorem step_c05 (cx : Ctx) (w : World) (ho : Owned w) (op : Op) (hop : op.isC05 = true) :
    Owned (apply cx w op).1 ∧ OthersKept cx w (apply cx w op).1 op.written :=
  have h := (applies_apply cx w op).step ho fun h => by rw [hop] at h; cases h
  ⟨h.1, h.2.1⟩

/-- **one operation, any kind of object**, in a well-formed world: the world stays well formed, and every
    object the operation is not applied to is the same object with the same complete observation -/
theorem step_all (cx : Ctx) (w : World) (hw : WorldWF w) (op : Op) :
    WorldWF (apply cx w op).1 ∧ OthersKept cx w (apply cx w op).1 op.written :=
  have h := (applies_apply cx w op).step hw.owned fun _ => hw
  ⟨h.2.2 hw, h.2.1⟩

/-- **frame**, for any invariant `I` the operations of `ops` keep while leaving the other objects alone:
    operations applied to other objects leave an object, and its complete observation, as it was -/
theorem untouched_of {I : World → Prop} (cx : Ctx) (ops : List Op)
    (hstep : ∀ op ∈ ops, ∀ w, I w → I (apply cx w op).1 ∧ OthersKept cx w (apply cx w op).1 op.written) :
    ∀ (w : World), I w → ∀ (j : Nat) (oj : Obj), w.objs[j]? = some oj → (∀ op ∈ ops, op.written ≠ some j) →
    (runOps cx w ops).objs[j]? = some oj ∧
    viewObj cx (runOps cx w ops).cells oj = viewObj cx w.cells oj := by
  induction ops with
  | nil => intro w _ j oj hj _; exact ⟨hj, rfl⟩
  | cons op ops ih =>
    intro w hi j oj hj hnot
    obtain ⟨hi', hoth⟩ := hstep op List.mem_cons_self w hi
    obtain ⟨hj', hobs⟩ := hoth j oj (hnot op List.mem_cons_self) hj
    obtain ⟨r1, r2⟩ := ih (fun o ho => hstep o (List.mem_cons_of_mem _ ho)) (apply cx w op).1 hi' j oj hj'
      (fun o ho => hnot o (List.mem_cons_of_mem _ ho))
    exact ⟨r1, r2.trans hobs⟩

theorem untouched_all (cx : Ctx) (ops : List Op) (w : World) (hw : WorldWF w)
    (j : Nat) (oj : Obj) (hj : w.objs[j]? = some oj) (hnot : ∀ op ∈ ops, op.written ≠ some j) :
    (runOps cx w ops).objs[j]? = some oj ∧
    viewObj cx (runOps cx w ops).cells oj = viewObj cx w.cells oj :=
  untouched_of cx ops (fun op _ w hw => step_all cx w hw op) w hw j oj hj hnot

theorem untouched_c05 (cx : Ctx) (ops : List Op) (hops : ∀ op ∈ ops, op.isC05 = true) (w : World) (ho : Owned w)
    (j : Nat) (oj : Obj) (hj : w.objs[j]? = some oj) (hnot : ∀ op ∈ ops, op.written ≠ some j) :
    (runOps cx w ops).objs[j]? = some oj ∧
    viewObj cx (runOps cx w ops).cells oj = viewObj cx w.cells oj :=
  untouched_of cx ops (fun op hop w ho => step_c05 cx w ho op (hops op hop)) w ho j oj hj hnot

theorem runOps_wf (cx : Ctx) (ops : List Op) : ∀ (w : World), WorldWF w → WorldWF (runOps cx w ops) := by
  induction ops with
  | nil => intro w hw; exact hw
  | cons op ops ih => intro w hw; exact ih _ (step_all cx w hw op).1

theorem worldWF_empty (h : Cells) : WorldWF ⟨h, [], []⟩ :=
  ⟨fun i o hi => by simp at hi, fun b s hb => by simp at hb, fun i j oi oj _ hi => by simp at hi,
   fun i o b s hi => by simp at hi⟩

theorem worldWF_single (h : Cells) (o : Obj) (hwf : ObjWF h o) : WorldWF ⟨h, [o], []⟩ := by
  refine ⟨fun i oi hi => ?_, fun b s hb => by simp at hb, fun i j oi oj hij hi hj => ?_,
    fun i o b s _ hb => by simp at hb⟩
  · obtain ⟨_, rfl⟩ := LTS.getElem?_singleton_some hi
    exact hwf
  · exact (hij ((LTS.getElem?_singleton_some hi).1.trans (LTS.getElem?_singleton_some hj).1.symm)).elim

theorem transposeRows_length (rows : List (List QL)) : ∀ c ∈ transposeRows rows, c.length = rows.length := by
  intro c hc
  cases rows with
  | nil => simp [transposeRows] at hc
  | cons r0 rest =>
    simp only [transposeRows, List.mem_map] at hc
    obtain ⟨i, _, rfl⟩ := hc
    simp

/-- the alignment the harness builds from `rows`: one new slice per column -/
theorem initAln_wf (q : Bool) (strand : Int) (rows : List SeqSpec) :
    let cols := transposeRows (rows.map (·.cells))
    let res := cols.foldl (fun (acc : Cells × List Slice) c =>
      ((acc.1.ofList (c.map (Lin.stored q)) c.length zeroQL).1,
       acc.2 ++ [(acc.1.ofList (c.map (Lin.stored q)) c.length zeroQL).2])) ((Heap.empty : Cells), [])
    ObjWF res.1 (.aln { q, strand, off := 0, cols := res.2,
                        subs := if cols.isEmpty then [] else rows.map fun sp => ⟨sp.name, 0, sp.strand⟩ }) := by
  intro cols res
  have hres : res = _ :=
    foldl_thread_nil (fun (h : Cells) (c : List QL) => h.ofList (c.map (Lin.stored q)) c.length zeroQL) cols Heap.empty
  obtain ⟨hall, hpw, _⟩ := thread_ofList (fun (_ : Cells) (c : List QL) => c.map (Lin.stored q)) List.length zeroQL
    (fun _ s => s) id (fun _ _ => rfl) (fun _ _ => True) (fun _ _ _ _ _ => trivial) (fun _ _ _ _ _ => rfl) cols Heap.empty
  rw [hres]
  refine ⟨rfl, rows.length, ⟨⟨fun s hs => ?_, hpw⟩, fun s hs => ?_⟩, fun hne => ?_⟩
  · obtain ⟨_, _, hx⟩ := hall.exists_left s hs; exact hx.2.1
  · obtain ⟨c, hc, hx⟩ := hall.exists_left s hs
    have hl : s.len = (c.map (Lin.stored q)).length := (hx.2.2.2 trivial).2
    rw [hl, List.length_map]
    have := transposeRows_length _ c hc; simpa using this
  · have hcne : cols.isEmpty = false := by
      cases hc : cols with
      | nil => exact (hne (List.length_eq_zero_iff.mp (by rw [← hall.length_eq, hc]; rfl))).elim
      | cons _ _ => rfl
    show (if cols.isEmpty then [] else rows.map fun sp => (⟨sp.name, 0, sp.strand⟩ : Ann)).length = rows.length
    rw [hcne]; simp

/-- **the initial object of every history is well formed**, whatever its kind: `linear.NewSeq`,
    `NewQSeq` copy the caller's letters; the harness hands `alignment.NewSeq/NewQSeq` one new
    slice per column -/
theorem initWorld_wf (cx : Ctx) (kind : String) (strand : Int) (rows : List SeqSpec) :
    WorldWF (initWorld cx kind strand rows) := by
  unfold initWorld
  split
  · cases rows with
    | nil => exact worldWF_empty _
    | cons sp rest => exact worldWF_single _ (.lin _) (newLin_capValid cx Heap.empty _)
  · cases rows with
    | nil => exact worldWF_empty _
    | cons sp rest => exact worldWF_single _ (.lin _) (newLin_capValid cx Heap.empty _)
  · exact worldWF_single _ (.aln _) (initAln_wf ("aln" == "qaln") strand rows)
  · exact worldWF_single _ (.aln _) (initAln_wf ("qaln" == "qaln") strand rows)
  · exact worldWF_single _ (.multi _) (newLins_rowsCapWF cx Heap.empty rows)
  · exact worldWF_single _ (.set _) (newLins_rowsCapWF cx Heap.empty rows)
  · exact worldWF_empty _

/-- **every state a history reaches is well formed** -/
theorem reach_wf (cx : Ctx) (kind : String) (strand : Int) (rows : List SeqSpec) (ops : List Op) :
    WorldWF (runOps cx (initWorld cx kind strand rows) ops) :=
  runOps_wf cx ops _ (initWorld_wf cx kind strand rows)

/-- no proof uses it: it is how `C05.untouched_object_unchanged` and `C05.clone_deep`, which assume `Separated`,
    apply to the states of a history -/
theorem reach_separated (cx : Ctx) (kind : String) (strand : Int) (rows : List SeqSpec) (ops : List Op)
    (hk : ∀ (i : Nat) (o : Obj), (runOps cx (initWorld cx kind strand rows) ops).objs[i]? = some o →
      o.isRowStored = true) : Separated (runOps cx (initWorld cx kind strand rows) ops) :=
  (reach_wf cx kind strand rows ops).separated hk

/-- **right after `Clone` the copy is observed as the original** -/
theorem clone_view (cx : Ctx) (w : World) (k : Nat) (o : Obj) (hk : w.objs[k]? = some o)
    (hclonable : ∀ m, o ≠ .set m) (hval : ∀ l ∈ o.lins, l.Valid w.cells)
    (haln : ∀ a, o = .aln a → ObjWF w.cells o) :
    ∃ c, (apply cx w (.clone k)).1.objs[w.objs.length]? = some c ∧ c.isRowStored = o.isRowStored ∧
      viewObj cx (apply cx w (.clone k)).1.cells c = viewObj cx w.cells o := by
  cases o with
  | lin l =>
    have hv : l.Valid w.cells := hval l List.mem_cons_self
    obtain ⟨_, _, _, _, _, ho, hs, hn, hq, hlen⟩ := Lin.clone_fresh cx w.cells l hv
    refine ⟨.lin (l.clone cx w.cells).2, ?_, rfl, ?_⟩ <;> simp only [apply, hk]
    · exact List.getElem?_concat_length
    · simp only [viewObj, linRowV_clone cx w.cells l hv, Lin.start, Lin.«end», Lin.len, ho, hs, hq, hlen]
  | aln a =>
    obtain ⟨_, n, hc, _⟩ := haln a rfl
    obtain ⟨hall, _, _⟩ := cloneCols_spec cx a.cols w.cells
    refine ⟨.aln (a.clone cx w.cells).2, ?_, rfl, ?_⟩ <;> simp only [apply, hk]
    · exact List.getElem?_concat_length
    · rw [Aln.clone_thread]
      exact viewObj_aln_of_all2 cx a _ (hall.imp_mem fun c c' hm hcc =>
        ⟨(hcc.2.2 n (hc.toColsWF.1 c hm)).1, by rw [(hcc.2.2 n (hc.toColsWF.1 c hm)).2, hc.2 c hm]⟩)
  | multi m =>
    obtain ⟨call, _, _⟩ := cloneRows_spec cx m.rows w.cells
    refine ⟨.multi (m.clone cx w.cells).2, ?_, rfl, ?_⟩ <;> simp only [apply, hk]
    · exact List.getElem?_concat_length
    · rw [Multi.clone_thread]
      exact viewObj_multi_of_all2 cx (call.imp_mem fun r c hr hrc => hrc.2.2 (hval r hr))
  | set m => exact (hclonable m rfl).elim

/-- **`Clone` is deep**, for any invariant `I` that `Clone` and the operations of `ops` keep while leaving
    the other objects alone: the copy is observed as the original; whatever is then applied to other
    objects, the original (resp. the copy) is observed as the original was when it was cloned -/
theorem clone_deep_of {I : World → Prop} (cx : Ctx) (w : World) (hi : I w) (k : Nat) (o : Obj)
    (hk : w.objs[k]? = some o) (hclonable : ∀ m, o ≠ .set m) (hval : ∀ l ∈ o.lins, l.Valid w.cells)
    (haln : ∀ a, o = .aln a → ObjWF w.cells o) (ops : List Op)
    (hstep : ∀ op, op = .clone k ∨ op ∈ ops → ∀ w, I w →
      I (apply cx w op).1 ∧ OthersKept cx w (apply cx w op).1 op.written) :
    let w1 := (apply cx w (.clone k)).1
    ∃ c, w1.objs[w.objs.length]? = some c ∧ c.isRowStored = o.isRowStored ∧
      viewObj cx w1.cells c = viewObj cx w.cells o ∧
      ((∀ op ∈ ops, op.written ≠ some k) →
        (runOps cx w1 ops).objs[k]? = some o ∧
        viewObj cx (runOps cx w1 ops).cells o = viewObj cx w.cells o) ∧
      ((∀ op ∈ ops, op.written ≠ some w.objs.length) →
        (runOps cx w1 ops).objs[w.objs.length]? = some c ∧
        viewObj cx (runOps cx w1 ops).cells c = viewObj cx w.cells o) := by
  intro w1
  obtain ⟨c, hc, hkind, hobs⟩ := clone_view cx w k o hk hclonable hval haln
  obtain ⟨hi1, hoth1⟩ := hstep (.clone k) (.inl rfl) w hi
  obtain ⟨hk1, hko⟩ := hoth1 k o (by simp [Op.written]) hk
  have hrun := untouched_of cx ops (fun op hop => hstep op (.inr hop)) w1 hi1
  refine ⟨c, hc, hkind, hobs, fun hnot => ?_, fun hnot => ?_⟩
  · have r := hrun k o hk1 hnot
    exact ⟨r.1, r.2.trans hko⟩
  · have r := hrun w.objs.length c hc hnot
    exact ⟨r.1, r.2.trans hobs⟩

theorem WorldWF.lins_valid {w : World} (hw : WorldWF w) {k : Nat} {o : Obj} (hk : w.objs[k]? = some o) :
    ∀ l ∈ o.lins, l.Valid w.cells := fun l hl => by
  have := hw.obj k o hk
  cases o with
  | lin l' => rw [List.mem_singleton.mp hl]; exact CapValid.toValid this
  | multi m | set m => exact (this.1 l hl).toValid
  | aln a => cases hl

theorem clone_view_equal (cx : Ctx) (w : World) (hw : WorldWF w) (k : Nat) (o : Obj)
    (hk : w.objs[k]? = some o) (hclonable : ∀ m, o ≠ .set m) :
    ∃ c, (apply cx w (.clone k)).1.objs[w.objs.length]? = some c ∧
      viewObj cx (apply cx w (.clone k)).1.cells c = viewObj cx w.cells o :=
  have ⟨c, h1, _, h2⟩ := clone_view cx w k o hk hclonable (hw.lins_valid hk) fun _ _ => hw.obj k o hk
  ⟨c, h1, h2⟩

/-- **`Clone` is deep**, all container kinds, all operations, in a well-formed world -/
theorem clone_deep_view (cx : Ctx) (w : World) (hw : WorldWF w) (k : Nat) (o : Obj)
    (hk : w.objs[k]? = some o) (hclonable : ∀ m, o ≠ .set m) (ops : List Op) :
    let w1 := (apply cx w (.clone k)).1
    ∃ c, w1.objs[w.objs.length]? = some c ∧ viewObj cx w1.cells c = viewObj cx w.cells o ∧
      ((∀ op ∈ ops, op.written ≠ some k) →
        (runOps cx w1 ops).objs[k]? = some o ∧
        viewObj cx (runOps cx w1 ops).cells o = viewObj cx w.cells o) ∧
      ((∀ op ∈ ops, op.written ≠ some w.objs.length) →
        (runOps cx w1 ops).objs[w.objs.length]? = some c ∧
        viewObj cx (runOps cx w1 ops).cells c = viewObj cx w.cells o) := by
  obtain ⟨c, h1, _, h2, h3, h4⟩ := clone_deep_of cx w hw k o hk hclonable
    (hw.lins_valid hk)
    (fun _ _ => hw.obj k o hk) ops (fun op _ w hw => step_all cx w hw op)
  exact ⟨c, h1, h2, h3, h4⟩

end Biogo.Containers
