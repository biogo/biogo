/-
Structural invariants of the concurrent sorter model (`Biogo.MorassConc`): WaitGroup counter,
hand-off channel, buffer tokens.  They hold for every caller program, with or without an
injected fault, in both modes.  The branches of `wstep`, `pullF` and `cstep` are named once
(`WStep`, `PullF`, `CStep`): a branch determines what the function returns, so the case tree of the
function is walked once, to say which branch exists (`WStep.total`, `pullF_branch`,
`CStep.idle_total`); everything else is proved by cases over them.
-/
import Biogo.Model.MorassConc
import Biogo.Proofs.Morass
import Biogo.Proofs.ActorTables

namespace Biogo.MorassConc
open Biogo.Morass Biogo.Interleave

def live (w : Writer) : Bool := w.pc != .done
def atRecv (w : Writer) : Bool := w.pc == .recv
/-- the activation holds a chunk buffer that it will hand back to `pool` -/
def holding (w : Writer) : Bool :=
  w.pc == .register || w.pc == .encode || w.pc == .sync || w.pc == .ret

def b2n (b : Bool) : Nat := if b then 1 else 0

/-- number of `write()` activations with property `p`: spawned goroutines, plus the caller's
    own activation while it is inside `Finalise`'s synchronous `m.write()` -/
def cnt (p : Writer → Bool) (s : CState) : Nat :=
  s.writers.countP p + b2n (s.pc == .finWrite && p s.inl)

/-- the caller owns the buffer `m.chunk` refers to (not between `writable <- chunk` and
    `chunk = <-pool`) -/
def chunkTok (s : CState) : Nat := b2n (s.m.chunk.isSome && s.pc != .pushRecv)

/-- the structural invariant, with the number `B` of chunk buffers in circulation as a parameter:
    2 in general (`Str`: the chunk made by `New` and the one `Push` makes when it receives the
    pre-seeded `nil`), 1 in sequential mode (`pool` starts empty) -/
structure StrB (B : Nat) (s : CState) : Prop where
  wg : s.wg = cnt live s
  chan : s.writable.buf.length = cnt atRecv s
  cap : s.m.pool + cnt holding s + s.writable.buf.length + chunkTok s ≤ B
  /-- the caller at `chunk = <-pool` is not stuck: a buffer is in `pool` or on its way back (`some_actor_enabled`) -/
  recv : s.pc = .pushRecv → 1 ≤ s.m.pool + cnt holding s + s.writable.buf.length
  wcap : s.writable.cap = 1
  inlLive : s.pc = .finWrite → s.inl.pc ≠ .done

abbrev Str (s : CState) : Prop := StrB 2 s

inductive WStep (s : CState) (w : Writer) : Writer → CState → Prop where
  | recvBad (r : List Elem) (ch : Chan (List Elem)) (flt : Fault) : w.pc = .recv →
      s.writable.recv = some (r, ch) → tick s.flt .tempfile = (true, flt) →
      WStep s w { w with pc := .ret, todo := sortRun r } { s with writable := ch, flt, m := setErr s.m .ioerr }
  | recvOk (r : List Elem) (ch : Chan (List Elem)) (flt : Fault) : w.pc = .recv →
      s.writable.recv = some (r, ch) → tick s.flt .tempfile = (false, flt) →
      WStep s w { w with pc := .register, todo := sortRun r } { s with writable := ch, flt, onDisk := s.onDisk + 1 }
  | register : w.pc = .register →
      WStep s w { w with pc := if w.todo.isEmpty then .sync else .encode, file := s.m.files.length }
        { s with m := { s.m with files := s.m.files ++ [mkFile []] } }
  | encodeNil : w.pc = .encode → w.todo = [] → WStep s w { w with pc := .sync } s
  | encodeBad (e : Elem) (t : List Elem) (flt : Fault) : w.pc = .encode → w.todo = e :: t →
      tick s.flt .encode = (true, flt) →
      WStep s w { w with pc := .ret } { s with flt, m := setErr s.m .ioerr }
  | encodeOk (e : Elem) (t : List Elem) (flt : Fault) : w.pc = .encode → w.todo = e :: t →
      tick s.flt .encode = (false, flt) →
      WStep s w { w with pc := if t.isEmpty then .sync else .encode, todo := t }
        { s with flt, m := { s.m with files := appendData s.m.files w.file e } }
  | syncBad (flt : Fault) : w.pc = .sync → tick s.flt .sync = (true, flt) →
      WStep s w { w with pc := .ret } { s with flt, m := setErr s.m .ioerr }
  | syncOk (flt : Fault) : w.pc = .sync → tick s.flt .sync = (false, flt) →
      WStep s w { w with pc := .ret } { s with flt }
  | ret : w.pc = .ret → s.m.pool < 2 →
      WStep s w { w with pc := .done } { s with m := { s.m with pool := s.m.pool + 1 }, wg := s.wg - 1 }

theorem WStep.eq_wstep {s s' : CState} {w w' : Writer} (h : WStep s w w' s') : wstep s w = some (w', s') := by
  cases h with
  | recvBad r ch flt hpc hr ht => simp [wstep, hpc, hr, ht]
  | recvOk r ch flt hpc hr ht => simp [wstep, hpc, hr, ht]
  | register hpc => simp [wstep, hpc]
  | encodeNil hpc htodo => simp [wstep, hpc, htodo]
  | encodeBad e t flt hpc htodo ht => simp [wstep, hpc, htodo, ht]
  | encodeOk e t flt hpc htodo ht => simp [wstep, hpc, htodo, ht]
  | syncBad flt hpc ht => simp [wstep, hpc, ht]
  | syncOk flt hpc ht => simp [wstep, hpc, ht]
  | ret hpc hpool => simp [wstep, hpc, hpool]

theorem WStep.of_eq {s s' s'' : CState} {w w' w'' : Writer} (h : wstep s w = some (w', s')) (X : WStep s w w'' s'') :
    WStep s w w' s' := by
  cases X.eq_wstep.symm.trans h; exact X

theorem WStep.total {s : CState} {w : Writer} (hl : w.pc ≠ .done) (hbuf : w.pc = .recv → s.writable.buf ≠ [])
    (hpool : w.pc = .ret → s.m.pool < 2) : ∃ w' s', WStep s w w' s' := by
  cases hpc : w.pc
  · cases hr : s.writable.recv with
    | none =>
      have := Chan.recv_isSome s.writable
      rw [hr] at this
      exact absurd (by simpa using this.symm) (hbuf hpc)
    | some p =>
      obtain ⟨r, ch⟩ := p
      cases ht : tick s.flt .tempfile with
      | mk bad flt =>
        cases bad
        · exact ⟨_, _, .recvOk r ch flt hpc hr ht⟩
        · exact ⟨_, _, .recvBad r ch flt hpc hr ht⟩
  · exact ⟨_, _, .register hpc⟩
  · cases htodo : w.todo with
    | nil => exact ⟨_, _, .encodeNil hpc htodo⟩
    | cons e t =>
      cases ht : tick s.flt .encode with
      | mk bad flt =>
        cases bad
        · exact ⟨_, _, .encodeOk e t flt hpc htodo ht⟩
        · exact ⟨_, _, .encodeBad e t flt hpc htodo ht⟩
  · cases ht : tick s.flt .sync with
    | mk bad flt =>
      cases bad
      · exact ⟨_, _, .syncOk flt hpc ht⟩
      · exact ⟨_, _, .syncBad flt hpc ht⟩
  · exact ⟨_, _, .ret hpc (hpool hpc)⟩
  · exact absurd hpc hl

theorem wstep_cases {s s' : CState} {w w' : Writer} (h : wstep s w = some (w', s')) : WStep s w w' s' := by
  -- `wstep` returns something, so none of the three reasons for an activation to be blocked holds
  obtain ⟨w'', s'', X⟩ := WStep.total (s := s) (w := w) (fun hd => by simp [wstep, hd] at h)
    (fun hr hb => by simp [wstep, hr, Chan.recv, hb] at h)
    (fun hr => Decidable.byContradiction fun hp => by simp [wstep, hr, hp] at h)
  exact .of_eq h X

/-- a block of `write()` against `StrB`: caller's side kept, the three counts moved with `w ↦ w'`.  `Frame`: the same for
    a block of the caller.  `WFrame` (`Proofs/MorassStep.lean`): the part that holds in any state, `1 ≤ wg` or not -/
structure WEffect (s s' : CState) (w w' : Writer) : Prop where
  pc : s'.pc = s.pc
  prog : s'.prog = s.prog
  outs : s'.outs = s.outs
  inl : s'.inl = s.inl
  writers : s'.writers = s.writers
  conc : s'.conc = s.conc
  autoClean : s'.autoClean = s.autoClean
  chunk : s'.m.chunk = s.m.chunk
  pos : s'.m.pos = s.m.pos
  len : s'.m.len = s.m.len
  fast : s'.m.fast = s.m.fast
  cs : s'.m.chunkSize = s.m.chunkSize
  ac : s'.m.autoClear = s.m.autoClear
  wcap : s'.writable.cap = s.writable.cap
  liveW : live w = true
  wgEq : s'.wg + b2n (live w) = s.wg + b2n (live w')
  chanEq : s'.writable.buf.length + b2n (atRecv w) = s.writable.buf.length + b2n (atRecv w')
  tokEq : s'.m.pool + b2n (holding w') + s'.writable.buf.length
            = s.m.pool + b2n (holding w) + s.writable.buf.length

theorem WEffect.of_footprint {s : CState} {w w' : Writer} {m' : Morass.State} {wr : Chan (List Elem)}
    {g d : Nat} {fl : Fault}
    (hm : m' = { s.m with pool := m'.pool, files := m'.files, err := m'.err })
    (hcap : wr.cap = s.writable.cap) (hl : live w = true)
    (hwg : g + b2n (live w) = s.wg + b2n (live w'))
    (hch : wr.buf.length + b2n (atRecv w) = s.writable.buf.length + b2n (atRecv w'))
    (htok : m'.pool + b2n (holding w') + wr.buf.length = s.m.pool + b2n (holding w) + s.writable.buf.length) :
    WEffect s { s with m := m', writable := wr, wg := g, flt := fl, onDisk := d } w w' :=
  ⟨rfl, rfl, rfl, rfl, rfl, rfl, rfl, by rw [hm], by rw [hm], by rw [hm], by rw [hm], by rw [hm], by rw [hm],
   hcap, hl, hwg, hch, htok⟩

theorem flags_of_pc {w : Writer} {p : WPc} (h : w.pc = p) :
    live w = (p != .done) ∧ atRecv w = (p == .recv)
      ∧ holding w = (p == .register || p == .encode || p == .sync || p == .ret) := by
  subst h; exact ⟨rfl, rfl, rfl⟩

theorem wstep_effect {s s' : CState} {w w' : Writer} (h : wstep s w = some (w', s'))
    (hwg : live w = true → 1 ≤ s.wg) : WEffect s s' w w' := by
  -- in each branch the three flags of `w` are read off its program counter, those of `w'` off its shape
  cases wstep_cases h with
  | recvBad r ch flt hpc hr | recvOk r ch flt hpc hr =>
    obtain ⟨hb, hcap⟩ := Chan.recv_buf hr
    obtain ⟨l, a, ho⟩ := flags_of_pc hpc
    refine WEffect.of_footprint rfl hcap l (by rw [l]; rfl) (by rw [a, hb]; rfl) ?_
    rw [ho, hb]; show s.m.pool + 1 + _ = s.m.pool + 0 + (_ + 1); omega
  | register hpc | encodeOk _ _ _ hpc =>
    obtain ⟨l, a, ho⟩ := flags_of_pc hpc
    refine WEffect.of_footprint rfl rfl l ?_ ?_ ?_ <;> simp only [l, a, ho] <;> split <;> rfl
  | encodeNil hpc | encodeBad _ _ _ hpc | syncBad _ hpc | syncOk _ hpc =>
    obtain ⟨l, a, ho⟩ := flags_of_pc hpc
    exact WEffect.of_footprint rfl rfl l (by rw [l]; rfl) (by rw [a]; rfl) (by rw [ho]; rfl)
  | ret hpc =>
    obtain ⟨l, a, ho⟩ := flags_of_pc hpc
    have := hwg l
    refine WEffect.of_footprint rfl rfl l ?_ (by rw [a]; rfl) (by rw [ho]; rfl)
    rw [l]; show s.wg - 1 + 1 = s.wg + 0; omega

/-- a caller-side operation that leaves the concurrency state alone and does not create
    buffer tokens -/
structure Frame (s s' : CState) : Prop where
  pc : s'.pc = s.pc
  prog : s'.prog = s.prog
  outs : s'.outs = s.outs
  inl : s'.inl = s.inl
  writers : s'.writers = s.writers
  writable : s'.writable = s.writable
  wg : s'.wg = s.wg
  conc : s'.conc = s.conc
  autoClean : s'.autoClean = s.autoClean
  cs : s'.m.chunkSize = s.m.chunkSize
  ac : s'.m.autoClear = s.m.autoClear
  tok : s'.m.pool + b2n s'.m.chunk.isSome ≤ s.m.pool + b2n s.m.chunk.isSome

theorem Frame.of_m {s : CState} {m' : Morass.State} (fl : Fault) (d : Nat) (b : Bool)
    (hcs : m'.chunkSize = s.m.chunkSize) (hac : m'.autoClear = s.m.autoClear)
    (htok : m'.pool + b2n m'.chunk.isSome ≤ s.m.pool + b2n s.m.chunk.isSome) :
    Frame s { s with m := m', flt := fl, onDisk := d, dirExists := b } :=
  ⟨rfl, rfl, rfl, rfl, rfl, rfl, rfl, rfl, rfl, hcs, hac, htok⟩

theorem frame_m {s : CState} {m' : Morass.State} (hcs : m'.chunkSize = s.m.chunkSize)
    (hac : m'.autoClear = s.m.autoClear)
    (htok : m'.pool + b2n m'.chunk.isSome ≤ s.m.pool + b2n s.m.chunk.isSome) :
    Frame s { s with m := m' } :=
  Frame.of_m s.flt s.onDisk s.dirExists hcs hac htok

theorem Frame.refl (s : CState) : Frame s s := frame_m rfl rfl (Nat.le_refl _)

theorem Frame.trans {a b c : CState} (h1 : Frame a b) (h2 : Frame b c) : Frame a c :=
  ⟨h2.pc.trans h1.pc, h2.prog.trans h1.prog, h2.outs.trans h1.outs, h2.inl.trans h1.inl,
   h2.writers.trans h1.writers, h2.writable.trans h1.writable, h2.wg.trans h1.wg,
   h2.conc.trans h1.conc, h2.autoClean.trans h1.autoClean, h2.cs.trans h1.cs, h2.ac.trans h1.ac,
   Nat.le_trans h2.tok h1.tok⟩

theorem clear_tok (m : Morass.State) :
    (clear m).pool + b2n (clear m).chunk.isSome ≤ m.pool + b2n m.chunk.isSome
    ∧ (clear m).chunkSize = m.chunkSize ∧ (clear m).autoClear = m.autoClear := by
  unfold clear
  split
  · refine ⟨?_, rfl, rfl⟩
    show m.pool - 1 + 1 ≤ _
    omega
  · refine ⟨?_, rfl, rfl⟩
    cases m.chunk <;> exact Nat.le_refl _

theorem clear_len_pos (m : Morass.State) : (clear m).len = 0 ∧ (clear m).pos = 0 ∧ (clear m).err = none := by
  unfold clear; split <;> exact ⟨rfl, rfl, rfl⟩

theorem clearF_frame (s : CState) : Frame s (clearF s).1 := by
  unfold clearF
  rcases clearLoop s.flt s.onDisk s.m.files with ⟨flt, disk, _ | _⟩
  · exact Frame.of_m flt disk _ rfl rfl (Nat.le_refl _)
  · exact Frame.of_m flt disk _ (clear_tok s.m).2.1 (clear_tok s.m).2.2 (clear_tok s.m).1

theorem atEof_m (s : CState) : (atEof s).m = s.m := by
  unfold atEof; split <;> rfl

theorem atEof_frame (s : CState) : Frame s (atEof s) := by
  unfold atEof
  split
  · exact Frame.of_m s.flt 0 false rfl rfl (Nat.le_refl _)
  · exact Frame.refl s

inductive PullF (s : CState) : CState × Res × Option Elem → Prop where
  | mem (ch : List Elem) (e : Elem) : s.m.fast = true → s.m.chunk = some ch → ch[s.m.pos]? = some e →
      PullF s ({ s with m := { s.m with pos := s.m.pos + 1 } }, .ok, some e)
  | hang (ch : List Elem) : s.m.fast = true → s.m.chunk = some ch → ch[s.m.pos]? = none → 2 ≤ s.m.pool →
      PullF s (s, .hang, none)
  | memEof (ch : List Elem) : s.m.fast = true → s.m.chunk = some ch → ch[s.m.pos]? = none → ¬ 2 ≤ s.m.pool →
      PullF s (atEof (if s.m.autoClear then (clearF { s with m := eofState s.m }).1 else { s with m := eofState s.m }),
        .eof, none)
  | nilEof : s.m.fast = true → s.m.chunk = none →
      PullF s (atEof (if s.m.autoClear then (clearF s).1 else s), .eof, none)
  | noFile : s.m.fast = false → popMin s.m.files = none →
      PullF s (atEof (if s.m.autoClear then (clearF s).1 else s), .eof, none)
  | decodeErr (low : File) (others : List File) (flt : Fault) : s.m.fast = false →
      popMin s.m.files = some (low, others) → tick s.flt .pdecode = (true, flt) →
      PullF s ({ s with flt, m := { s.m with files := others, pos := s.m.pos + 1 },
                        onDisk := if s.m.autoClear then s.onDisk - 1 else s.onDisk }, .ioerr, none)
  | next (low : File) (others : List File) (flt : Fault) (n : Elem) (r : List Elem) : s.m.fast = false →
      popMin s.m.files = some (low, others) → tick s.flt .pdecode = (false, flt) → low.rest = n :: r →
      PullF s ({ s with flt,
                        m := { s.m with files := { low with head := some n, rest := r } :: others, pos := s.m.pos + 1 } },
        match low.head with | none => (.panic, none) | some e => (.ok, some e))
  | last (low : File) (others : List File) (flt : Fault) : s.m.fast = false →
      popMin s.m.files = some (low, others) → tick s.flt .pdecode = (false, flt) → low.rest = [] →
      PullF s ({ s with flt, m := { s.m with files := others, pos := s.m.pos + 1 },
                        onDisk := if s.m.autoClear then s.onDisk - 1 else s.onDisk },
        match low.head with | none => (.panic, none) | some e => (.ok, some e))

theorem PullF.eq_pullF {s : CState} {o : CState × Res × Option Elem} (h : PullF s o) : pullF s = o := by
  have slow : s.m.fast = false → ¬ s.m.fast = true := fun h => by rw [h]; exact Bool.false_ne_true
  unfold pullF
  cases h with
  | mem ch e hf hch hg => rw [if_pos hf]; simp only [hch, hg]
  | hang ch hf hch hg h2 => rw [if_pos hf]; simp only [hch, hg, h2, if_true]
  | memEof ch hf hch hg h2 => rw [if_pos hf]; simp only [hch, hg, h2, if_false]; rfl
  | nilEof hf hch => rw [if_pos hf]; simp only [hch]
  | noFile hf hpm => rw [if_neg (slow hf)]; simp only [hpm]
  | decodeErr low others flt hf hpm ht => rw [if_neg (slow hf)]; simp only [hpm, ht, if_true]
  | next low others flt n r hf hpm ht hr =>
    rw [if_neg (slow hf)]; simp only [hpm, ht, hr, Bool.false_eq_true, if_false]; cases low.head <;> rfl
  | last low others flt hf hpm ht hr =>
    rw [if_neg (slow hf)]; simp only [hpm, ht, hr, Bool.false_eq_true, if_false]; cases low.head <;> rfl

theorem PullF.self {s : CState} {o : CState × Res × Option Elem} (h : PullF s o) : PullF s (pullF s) :=
  h.eq_pullF ▸ h

theorem pullF_branch (s : CState) : PullF s (pullF s) := by
  cases hf : s.m.fast
  · cases hpm : popMin s.m.files with
    | none => exact PullF.self (.noFile hf hpm)
    | some p =>
      obtain ⟨low, others⟩ := p
      cases ht : tick s.flt .pdecode with
      | mk bad flt =>
        cases bad
        · cases hr : low.rest with
          | nil => exact PullF.self (.last low others flt hf hpm ht hr)
          | cons n r => exact PullF.self (.next low others flt n r hf hpm ht hr)
        · exact PullF.self (.decodeErr low others flt hf hpm ht)
  · cases hch : s.m.chunk with
    | none => exact PullF.self (.nilEof hf hch)
    | some ch =>
      cases hg : ch[s.m.pos]? with
      | some e => exact PullF.self (.mem ch e hf hch hg)
      | none =>
        by_cases h2 : 2 ≤ s.m.pool
        · exact PullF.self (.hang ch hf hch hg h2)
        · exact PullF.self (.memEof ch hf hch hg h2)

theorem eof_frame {s s1 : CState} (b : Bool) (h : Frame s s1) :
    Frame s (atEof (if b then (clearF s1).1 else s1)) := by
  refine (h.trans ?_).trans (atEof_frame _)
  cases b
  · exact Frame.refl s1
  · exact clearF_frame s1

theorem PullF.frame {s : CState} {o : CState × Res × Option Elem} (h : PullF s o) : Frame s o.1 := by
  cases h with
  | mem ch e _ hch => exact frame_m rfl rfl (by simp [hch])
  | hang => exact Frame.refl s
  | memEof ch _ hch => exact eof_frame _ (frame_m rfl rfl (by simp [eofState, hch, b2n]))
  | nilEof | noFile => exact eof_frame _ (Frame.refl s)
  | decodeErr _ _ flt | next _ _ flt | last _ _ flt => exact Frame.of_m flt _ _ rfl rfl (Nat.le_refl _)

theorem pullF_frame (s : CState) : Frame s (pullF s).1 := (pullF_branch s).frame

inductive CStep (s : CState) : CState → Prop where
  | pushErr (e : Elem) (rest : List Op) (r : Res) : s.pc = .idle → s.prog = Op.push e :: rest →
      s.m.err = some r → CStep s (finishOp s r none)
  | pushNil (e : Elem) (rest : List Op) : s.pc = .idle → s.prog = Op.push e :: rest →
      s.m.err = none → s.m.chunk = none → CStep s (finishOp s .finalised none)
  | pushFull (e : Elem) (rest : List Op) (ch : List Elem) : s.pc = .idle → s.prog = Op.push e :: rest →
      s.m.err = none → s.m.chunk = some ch → ch.length = s.m.chunkSize → CStep s { s with pc := .pushSend }
  | pushRoom (e : Elem) (rest : List Op) (ch : List Elem) : s.pc = .idle → s.prog = Op.push e :: rest →
      s.m.err = none → s.m.chunk = some ch → ch.length ≠ s.m.chunkSize →
      CStep s (finishOp { s with m := (push s.m e).1 } .ok none)
  | finErr (rest : List Op) (r : Res) : s.pc = .idle → s.prog = Op.finalise :: rest →
      s.m.err = some r → CStep s (finishOp s r none)
  | finNil (rest : List Op) : s.pc = .idle → s.prog = Op.finalise :: rest →
      s.m.err = none → s.m.chunk = none → CStep s (finishOp s .ok none)
  | finFast (rest : List Op) (ch : List Elem) : s.pc = .idle → s.prog = Op.finalise :: rest →
      s.m.err = none → s.m.chunk = some ch → s.m.pos < s.m.chunkSize →
      CStep s (finishOp { s with m := (finalise s.m).1 } .ok none)
  | finDisk (rest : List Op) (ch : List Elem) : s.pc = .idle → s.prog = Op.finalise :: rest →
      s.m.err = none → s.m.chunk = some ch → ¬ s.m.pos < s.m.chunkSize → 0 < ch.length →
      CStep s { s with m := { s.m with fast := false }, pc := .finSend }
  | finEmpty (rest : List Op) (ch : List Elem) (flt : Fault) (fs : List File) (ok : Bool) :
      s.pc = .idle → s.prog = Op.finalise :: rest →
      s.m.err = none → s.m.chunk = some ch → ¬ s.m.pos < s.m.chunkSize → ¬ 0 < ch.length →
      primeAll s.flt s.m.files = (flt, fs, ok) →
      CStep s (finishOp { s with flt := flt, m := { s.m with fast := false, pos := 0, files := fs } }
                (if ok then .ok else .ioerr) none)
  | pull (rest : List Op) : s.pc = .idle → s.prog = Op.pull :: rest →
      CStep s (finishOp (pullF s).1 (pullF s).2.1 (pullF s).2.2)
  | clear (rest : List Op) : s.pc = .idle → s.prog = Op.clear :: rest →
      CStep s (finishOp (clearF s).1 (clearF s).2 none)
  | reject (rest : List Op) : s.pc = .idle → s.prog = Op.reject :: rest →
      CStep s (finishOp s .rejected none)
  | send (ch : List Elem) (wr : Chan (List Elem)) : s.pc = .pushSend → s.m.chunk = some ch →
      s.writable.send ch = some wr →
      CStep s { s with writable := wr, wg := s.wg + 1, writers := s.writers ++ [{}], pc := .pushRecv }
  | recvErr (e : Elem) (rest : List Op) (r : Res) : s.pc = .pushRecv → s.m.pool ≠ 0 →
      s.prog = Op.push e :: rest → s.m.err = some r →
      CStep s (finishOp { s with m := { s.m with pool := s.m.pool - 1, chunk := some [] } } r none)
  | recvOk (e : Elem) (rest : List Op) : s.pc = .pushRecv → s.m.pool ≠ 0 →
      s.prog = Op.push e :: rest → s.m.err = none →
      CStep s (finishOp { s with m := { s.m with pool := s.m.pool - 1, chunk := some [e], pos := s.m.pos + 1, len := s.m.len + 1 } } .ok none)
  | fsend (ch : List Elem) (wr : Chan (List Elem)) : s.pc = .finSend → s.m.chunk = some ch →
      s.writable.send ch = some wr →
      CStep s { s with writable := wr, wg := s.wg + 1, m := { s.m with chunk := none }, inl := {}, pc := .finWrite }
  | fwrite (w : Writer) (s' : CState) : s.pc = .finWrite → wstep s s.inl = some (w, s') →
      CStep s { s' with inl := w, pc := if w.pc = .done then .finWait else .finWrite }
  | waitErr (r : Res) : s.pc = .finWait → s.wg = 0 → s.m.err = some r → CStep s (finishOp s r none)
  | waitOk (flt : Fault) (fs : List File) (ok : Bool) : s.pc = .finWait → s.wg = 0 → s.m.err = none →
      primeAll s.flt s.m.files = (flt, fs, ok) →
      CStep s (finishOp { s with flt := flt, m := { s.m with pos := 0, files := fs } } (if ok then .ok else .ioerr) none)

theorem cstep_of_CStep {s t : CState} (h : CStep s t) : cstep s = some t := by
  cases h with
  | pushErr e rest r hpc hprog herr => simp [cstep, hpc, hprog, herr]
  | pushNil e rest hpc hprog herr hch => simp [cstep, hpc, hprog, herr, hch]
  | pushFull e rest ch hpc hprog herr hch hfull => simp [cstep, hpc, hprog, herr, hch, hfull]
  | pushRoom e rest ch hpc hprog herr hch hfull => simp [cstep, hpc, hprog, herr, hch, hfull]
  | finErr rest r hpc hprog herr => simp [cstep, hpc, hprog, herr]
  | finNil rest hpc hprog herr hch => simp [cstep, hpc, hprog, herr, hch]
  | finFast rest ch hpc hprog herr hch hlt => simp [cstep, hpc, hprog, herr, hch, hlt]
  | finDisk rest ch hpc hprog herr hch hlt hpos => simp [cstep, hpc, hprog, herr, hch, hlt, hpos]
  | finEmpty rest ch flt fs ok hpc hprog herr hch hlt hpos hp => simp [cstep, hpc, hprog, herr, hch, hlt, hpos, hp]
  | pull rest hpc hprog => simp [cstep, hpc, hprog]
  | clear rest hpc hprog => simp [cstep, hpc, hprog]
  | reject rest hpc hprog => simp [cstep, hpc, hprog]
  | send ch wr hpc hch hsend => simp [cstep, hpc, hch, hsend]
  | recvErr e rest r hpc hpool hprog herr => simp [cstep, hpc, hpool, hprog, herr]
  | recvOk e rest hpc hpool hprog herr => simp [cstep, hpc, hpool, hprog, herr]
  | fsend ch wr hpc hch hsend => simp [cstep, hpc, hch, hsend]
  | fwrite w s' hpc hw => simp [cstep, hpc, hw]
  | waitErr r hpc hwg herr => simp [cstep, hpc, hwg, herr]
  | waitOk flt fs ok hpc hwg herr hp => simp [cstep, hpc, hwg, herr, hp]

theorem CStep.of_eq {s t t' : CState} (h : cstep s = some t) (X : CStep s t') : CStep s t :=
  Option.some.inj ((cstep_of_CStep X).symm.trans h) ▸ X

theorem CStep.idle_total {s : CState} (hpc : s.pc = .idle) (hp : s.prog ≠ []) : ∃ t, CStep s t := by
  cases hprog : s.prog with
  | nil => exact absurd hprog hp
  | cons op rest =>
    cases op with
    | push e =>
      cases herr : s.m.err with
      | some r => exact ⟨_, .pushErr e rest r hpc hprog herr⟩
      | none =>
        cases hch : s.m.chunk with
        | none => exact ⟨_, .pushNil e rest hpc hprog herr hch⟩
        | some ch =>
          by_cases hfull : ch.length = s.m.chunkSize
          · exact ⟨_, .pushFull e rest ch hpc hprog herr hch hfull⟩
          · exact ⟨_, .pushRoom e rest ch hpc hprog herr hch hfull⟩
    | finalise =>
      cases herr : s.m.err with
      | some r => exact ⟨_, .finErr rest r hpc hprog herr⟩
      | none =>
        cases hch : s.m.chunk with
        | none => exact ⟨_, .finNil rest hpc hprog herr hch⟩
        | some ch =>
          by_cases hlt : s.m.pos < s.m.chunkSize
          · exact ⟨_, .finFast rest ch hpc hprog herr hch hlt⟩
          · by_cases hpos : 0 < ch.length
            · exact ⟨_, .finDisk rest ch hpc hprog herr hch hlt hpos⟩
            · exact ⟨_, .finEmpty rest ch _ _ _ hpc hprog herr hch hlt hpos rfl⟩
    | pull => exact ⟨_, .pull rest hpc hprog⟩
    | clear => exact ⟨_, .clear rest hpc hprog⟩
    | reject => exact ⟨_, .reject rest hpc hprog⟩

theorem cstep_cases {s t : CState} (h : cstep s = some t) : CStep s t := by
  cases hpc : s.pc
  · obtain ⟨t', X⟩ := CStep.idle_total hpc (fun h0 => by simp [cstep, hpc, h0] at h)
    exact .of_eq h X
  · cases hch : s.m.chunk with
    | none => simp [cstep, hpc, hch] at h
    | some ch =>
      cases hsend : s.writable.send ch with
      | none => simp [cstep, hpc, hch, hsend] at h
      | some wr => exact .of_eq h (.send ch wr hpc hch hsend)
  · by_cases hpool : s.m.pool = 0
    · simp [cstep, hpc, hpool] at h
    · cases hprog : s.prog with
      | nil => simp [cstep, hpc, hpool, hprog] at h
      | cons op rest =>
        cases op with
        | push e =>
          cases herr : s.m.err with
          | some r => exact .of_eq h (.recvErr e rest r hpc hpool hprog herr)
          | none => exact .of_eq h (.recvOk e rest hpc hpool hprog herr)
        | _ => simp [cstep, hpc, hpool, hprog] at h
  · cases hch : s.m.chunk with
    | none => simp [cstep, hpc, hch] at h
    | some ch =>
      cases hsend : s.writable.send ch with
      | none => simp [cstep, hpc, hch, hsend] at h
      | some wr => exact .of_eq h (.fsend ch wr hpc hch hsend)
  · cases hw : wstep s s.inl with
    | none => simp [cstep, hpc, hw] at h
    | some p => exact .of_eq h (.fwrite p.1 p.2 hpc hw)
  · by_cases hwg : s.wg = 0
    · cases herr : s.m.err with
      | some r => exact .of_eq h (.waitErr r hpc hwg herr)
      | none => exact .of_eq h (.waitOk _ _ _ hpc hwg herr rfl)
    · simp [cstep, hpc, hwg] at h

/-- who made the step: the caller (actor `0`) or the `k`-th spawned `write()` activation (actor `k + 1`) -/
theorem step_blocks {s t : CState} {i : Nat} (h : step s i = some t) :
    (i = 0 ∧ CStep s t)
    ∨ ∃ k w w' s', i = k + 1 ∧ s.writers[k]? = some w ∧ wstep s w = some (w', s')
        ∧ t = { s' with writers := s'.writers.set k w' } := by
  cases i with
  | zero => exact Or.inl ⟨rfl, cstep_cases h⟩
  | succ k =>
    simp only [step] at h
    cases hk : s.writers[k]? with
    | none => simp [hk] at h
    | some w =>
      cases hw : wstep s w with
      | none => simp [hk, hw] at h
      | some p =>
        simp only [hk, hw, Option.some.injEq] at h
        exact Or.inr ⟨k, w, p.1, p.2, rfl, hk, hw, h.symm⟩

theorem step_of_wstep {s s' : CState} {k : Nat} {w w' : Writer} (hk : s.writers[k]? = some w)
    (hw : wstep s w = some (w', s')) : step s (k + 1) = some { s' with writers := s'.writers.set k w' } := by
  simp only [step, hk, hw]

theorem CStep.enabled {s t : CState} (h : CStep s t) : ∃ i, (step s i).isSome = true :=
  ⟨0, by show (cstep s).isSome = true; rw [cstep_of_CStep h]; rfl⟩

/-- the block of `Finalise` after `m.writers.Wait()` is made only when the counter is zero -/
theorem CStep.wait_wg {s t : CState} (h : CStep s t) (hpc : s.pc = .finWait) : s.wg = 0 := by
  cases h with
  | waitErr _ _ hwg | waitOk _ _ _ _ hwg => exact hwg
  -- every other block starts from another program counter
  | _ => simp_all

theorem cnt_notFW (p : Writer → Bool) {s : CState} (h : s.pc ≠ .finWrite) : cnt p s = s.writers.countP p := by
  have : (s.pc == CPc.finWrite) = false := by simpa using h
  simp [cnt, this, b2n]

theorem cnt_eq_of (p : Writer → Bool) {s t : CState} (hw : t.writers = s.writers)
    (h1 : s.pc ≠ .finWrite) (h2 : t.pc ≠ .finWrite) : cnt p t = cnt p s := by
  rw [cnt_notFW p h1, cnt_notFW p h2, hw]

theorem cnt_set (p : Writer → Bool) {s t : CState} {k : Nat} {w w' : Writer} (hk : s.writers[k]? = some w)
    (hw : t.writers = s.writers.set k w') (hpc : t.pc = s.pc) (hinl : t.inl = s.inl) :
    cnt p t + b2n (p w) = cnt p s + b2n (p w') := by
  have : _ + b2n (p w) = _ + b2n (p w') := LTS.countP_set p s.writers k w w' hk
  simp only [cnt, hw, hpc, hinl]
  omega

/-- the caller's own activation becomes `w'`; once it has returned it is no longer counted -/
theorem cnt_inl (p : Writer → Bool) {s t : CState} {w' : Writer} (hpc : s.pc = .finWrite)
    (hw : t.writers = s.writers) (hinl : t.inl = w') (hpc' : t.pc = if w'.pc = .done then .finWait else .finWrite)
    (hp : w'.pc = .done → p w' = false) : cnt p t + b2n (p s.inl) = cnt p s + b2n (p w') := by
  by_cases hd : w'.pc = .done
  · simp [cnt, hw, hinl, hpc', hd, hp hd, hpc, b2n]
  · simp [cnt, hw, hinl, hpc', hd, hpc, b2n]; omega

/-- `go m.write()`, or the start of the caller's own `m.write()`: one more activation, about to receive -/
theorem cnt_spawn (p : Writer → Bool) {s t : CState}
    (h : (s.pc = .pushSend ∧ t.writers = s.writers ++ [({} : Writer)] ∧ t.pc = .pushRecv)
      ∨ (s.pc = .finSend ∧ t.writers = s.writers ∧ t.pc = .finWrite ∧ t.inl = ({} : Writer))) :
    cnt p t = cnt p s + b2n (p {}) := by
  rcases h with ⟨h1, h2, h3⟩ | ⟨h1, h2, h3, h4⟩
  · simp [cnt, h1, h2, h3, List.countP_append, List.countP_cons, b2n]
  · simp [cnt, h1, h2, h3, h4, b2n]

theorem chunkTok_idle {s : CState} (h : s.pc ≠ .pushRecv) : chunkTok s = b2n s.m.chunk.isSome := by
  unfold chunkTok
  have : (s.pc != CPc.pushRecv) = true := by simpa using h
  simp [this]

theorem Str_caller {B : Nat} {s t : CState} (hs : StrB B s)
    (hwr : t.writers = s.writers) (hwb : t.writable = s.writable) (hwg : t.wg = s.wg)
    (hpc1 : s.pc ≠ .finWrite) (hpc2 : t.pc ≠ .finWrite) (hpc3 : t.pc ≠ .pushRecv)
    (htok : t.m.pool + chunkTok t ≤ s.m.pool + chunkTok s) : StrB B t := by
  have hc : ∀ p, cnt p t = cnt p s := fun p => cnt_eq_of p hwr hpc1 hpc2
  refine ⟨by rw [hwg, hc]; exact hs.wg, by rw [hwb, hc]; exact hs.chan, ?_, fun h => absurd h hpc3,
          by rw [hwb]; exact hs.wcap, fun h => absurd h hpc2⟩
  rw [hc, hwb]
  have := hs.cap
  omega

theorem Str_idle {B : Nat} {s t : CState} (hs : StrB B s) (hfrom : s.pc ≠ .finWrite)
    (hpc : t.pc = .idle) (hwr : t.writers = s.writers) (hwb : t.writable = s.writable)
    (hwg : t.wg = s.wg) (htok : t.m.pool + b2n t.m.chunk.isSome ≤ s.m.pool + chunkTok s) : StrB B t := by
  apply Str_caller hs hwr hwb hwg hfrom (by rw [hpc]; simp) (by rw [hpc]; simp)
  rw [chunkTok_idle (s := t) (by rw [hpc]; simp)]
  exact htok

theorem Str_finishOp {B : Nat} {s s1 : CState} (hs : StrB B s) (hidle : s.pc = .idle) (hf : Frame s s1)
    (r : Res) (v : Option Elem) : StrB B (finishOp s1 r v) := by
  refine Str_idle (t := finishOp s1 r v) hs (by rw [hidle]; simp) rfl hf.writers hf.writable hf.wg ?_
  rw [chunkTok_idle (s := s) (by rw [hidle]; simp)]
  exact hf.tok

theorem Str_move {B : Nat} {s t : CState} (hs : StrB B s) (hfrom : s.pc = .idle)
    (hpc : t.pc = .pushSend ∨ t.pc = .finSend) (hwr : t.writers = s.writers)
    (hwb : t.writable = s.writable) (hwg : t.wg = s.wg) (hpool : t.m.pool = s.m.pool)
    (hch : t.m.chunk.isSome = s.m.chunk.isSome) : StrB B t := by
  have h1 : t.pc ≠ .finWrite := by rcases hpc with h | h <;> rw [h] <;> simp
  have h2 : t.pc ≠ .pushRecv := by rcases hpc with h | h <;> rw [h] <;> simp
  apply Str_caller hs hwr hwb hwg (by rw [hfrom]; simp) h1 h2
  rw [chunkTok_idle h2, chunkTok_idle (s := s) (by rw [hfrom]; simp), hpool, hch]
  exact Nat.le_refl _

theorem p_new (p : Writer → Bool) : True := trivial

theorem live_new : live ({} : Writer) = true := rfl
theorem atRecv_new : atRecv ({} : Writer) = true := rfl
theorem holding_new : holding ({} : Writer) = false := rfl

theorem done_false {w : Writer} (h : w.pc = .done) : live w = false ∧ atRecv w = false ∧ holding w = false := by
  simp [live, atRecv, holding, h]

/-- `writable <- chunk` with the start of a `write()` activation (spawned by `Push`, or the
    caller's own in `Finalise`): the caller's buffer token moves into the channel -/
theorem Str_spawn {B : Nat} {s t : CState} {ch : List Elem} (hs : StrB B s)
    (hsend : s.writable.send ch = some t.writable) (hwg : t.wg = s.wg + 1) (hpool : t.m.pool = s.m.pool)
    (hcnt : ∀ p, cnt p t = cnt p s + b2n (p {})) (htok : chunkTok s = 1) (htok' : chunkTok t = 0)
    (hinl : t.pc = .finWrite → t.inl.pc ≠ .done) : StrB B t := by
  obtain ⟨hb, hcap, _⟩ := Chan.send_buf hsend
  have hlen : t.writable.buf.length = s.writable.buf.length + 1 := by rw [hb]; simp
  have h1 := hs.wg; have h2 := hs.chan; have h3 := hs.cap
  refine ⟨?_, ?_, ?_, fun _ => ?_, hcap.trans hs.wcap, hinl⟩
  · rw [hcnt, live_new, hwg, h1]; rfl
  · rw [hcnt, atRecv_new, hlen, h2]; rfl
  · rw [hcnt, holding_new, hlen, hpool, htok']; rw [htok] at h3; simp only [b2n, Bool.false_eq_true, if_false]; omega
  · rw [hlen]; omega

theorem Str_effect {B : Nat} {s s' t : CState} {w w' : Writer} (hs : StrB B s) (E : WEffect s s' w w')
    (hc : ∀ p, (w'.pc = .done → p w' = false) → cnt p t + b2n (p w) = cnt p s + b2n (p w'))
    (hwg : t.wg = s'.wg) (hwb : t.writable = s'.writable) (hm : t.m = s'.m) (htok : chunkTok t = chunkTok s)
    (hrecv : t.pc = .pushRecv → s.pc = .pushRecv) (hinl : t.pc = .finWrite → t.inl.pc ≠ .done) : StrB B t := by
  have e1 := hc live (fun h => (done_false h).1)
  have e2 := hc atRecv (fun h => (done_false h).2.1)
  have e3 := hc holding (fun h => (done_false h).2.2)
  have a1 := E.wgEq; have a2 := E.chanEq; have a3 := E.tokEq
  have b1 := hs.wg; have b2 := hs.chan; have b3 := hs.cap
  refine ⟨?_, ?_, ?_, fun hp => ?_, ?_, hinl⟩
  · rw [hwg]; omega
  · rw [hwb]; omega
  · rw [htok, hm, hwb]; omega
  · have b4 := hs.recv (hrecv hp)
    rw [hm, hwb]; omega
  · rw [hwb, E.wcap]; exact hs.wcap

theorem Str_init (conc : Bool) (c : Nat) (ac acl : Bool) (prog : List Op) (flt : Fault) (reuse : Bool := false) :
    Str (initState conc c ac acl prog flt reuse) := by
  refine ⟨rfl, rfl, ?_, fun h => by simp [initState] at h, rfl, fun h => by simp [initState] at h⟩
  cases conc <;> simp [initState, cnt, chunkTok, b2n]

theorem cnt_ge_of_mem (p : Writer → Bool) {s : CState} {k : Nat} {w : Writer}
    (hk : s.writers[k]? = some w) (hp : p w = true) : 1 ≤ cnt p s := by
  have hm : w ∈ s.writers := List.mem_of_getElem? hk
  have : 0 < s.writers.countP p := List.countP_pos_iff.mpr ⟨w, hm, hp⟩
  unfold cnt; omega

theorem inl_effect {B : Nat} {s s' : CState} {w : Writer} (hs : StrB B s) (hpc : s.pc = .finWrite)
    (hw : wstep s s.inl = some (w, s')) : WEffect s s' s.inl w := by
  apply wstep_effect hw
  intro hlive
  rw [hs.wg]; simp [cnt, hpc, hlive, b2n]

theorem writer_effect {B : Nat} {s s' : CState} {k : Nat} {w w' : Writer} (hs : StrB B s)
    (hk : s.writers[k]? = some w) (hw : wstep s w = some (w', s')) : WEffect s s' w w' :=
  wstep_effect hw (fun hl => by rw [hs.wg]; exact cnt_ge_of_mem live hk hl)

theorem Str_cstep {B : Nat} {s t : CState} (hs : StrB B s) (hst : CStep s t) : StrB B t := by
  cases hst with
  | pushErr _ _ _ hpc | pushNil _ _ hpc | finErr _ _ hpc | finNil _ hpc | reject _ hpc =>
    exact Str_finishOp hs hpc (Frame.refl s) _ _
  | pushFull _ _ _ hpc => exact Str_move hs hpc (Or.inl rfl) rfl rfl rfl rfl rfl
  | finDisk _ _ hpc => exact Str_move hs hpc (Or.inr rfl) rfl rfl rfl rfl rfl
  | pushRoom e _ ch hpc _ he hch hfull =>
    refine Str_finishOp hs hpc (frame_m ?_ ?_ ?_) _ _ <;> simp [push_room e he hch hfull, hch]
  | finFast _ ch hpc _ he hch hlt =>
    refine Str_finishOp hs hpc (frame_m ?_ ?_ ?_) _ _ <;> simp [finalise_mem he hch hlt, hch]
  | finEmpty _ _ flt fs ok hpc =>
    refine Str_finishOp hs hpc ?_ _ _
    exact Frame.of_m flt _ _ rfl rfl (Nat.le_refl _)
  | pull _ hpc => exact Str_finishOp hs hpc (pullF_frame s) _ _
  | clear _ hpc => exact Str_finishOp hs hpc (clearF_frame s) _ _
  | send ch wr hpc hch hsend =>
    exact Str_spawn hs hsend rfl rfl (fun p => cnt_spawn p (Or.inl ⟨hpc, rfl, rfl⟩)) (by simp [chunkTok, hch, hpc, b2n])
      (by simp [chunkTok, b2n]) (fun h => by cases h)
  | recvErr _ _ _ hpc hpool | recvOk _ _ hpc hpool =>
    refine Str_idle hs (by rw [hpc]; simp) rfl rfl rfl rfl ?_
    rw [show chunkTok s = 0 by simp [chunkTok, hpc, b2n]]; show s.m.pool - 1 + 1 ≤ s.m.pool + 0; omega
  | fsend ch wr hpc hch hsend =>
    exact Str_spawn hs hsend rfl rfl (fun p => cnt_spawn p (Or.inr ⟨hpc, rfl, rfl, rfl⟩))
      (by simp [chunkTok, hch, hpc, b2n]) (by simp [chunkTok, b2n]) (fun _ => by simp)
  | fwrite w s' hpc hw =>
    have E := inl_effect hs hpc hw
    refine Str_effect hs E (fun p hp => cnt_inl p hpc E.writers rfl rfl hp) rfl rfl rfl ?_ ?_ ?_
    · by_cases hd : w.pc = .done <;> simp [chunkTok, hd, E.chunk, hpc] <;> cases s.m.chunk.isSome <;> rfl
    · intro h; by_cases hd : w.pc = .done <;> simp [hd] at h
    · intro h (hd : w.pc = .done)
      simp [hd] at h
  | waitErr _ hpc | waitOk _ _ _ hpc =>
    refine Str_idle hs (by rw [hpc]; simp) rfl rfl rfl rfl ?_
    rw [chunkTok_idle (by rw [hpc]; simp)]; exact Nat.le_refl _

theorem Str_wactor {B : Nat} {s s' : CState} {k : Nat} {w w' : Writer} (hs : StrB B s)
    (hk : s.writers[k]? = some w) (hw : wstep s w = some (w', s')) :
    StrB B { s' with writers := s'.writers.set k w' } := by
  have E := writer_effect hs hk hw
  exact Str_effect hs E (fun p _ => cnt_set p hk (congrArg (List.set · k w') E.writers) E.pc E.inl) rfl rfl rfl
    (by simp [chunkTok, E.chunk, E.pc]) (fun h => E.pc ▸ h)
    (fun h => by rw [show s'.inl = s.inl from E.inl]; exact hs.inlLive (E.pc ▸ h))

theorem Str_step {B : Nat} {s t : CState} {i : Nat} (hs : StrB B s) (h : step s i = some t) : StrB B t := by
  rcases step_blocks h with ⟨_, hc⟩ | ⟨k, w, w', s', _, hk, hw, rfl⟩
  · exact Str_cstep hs hc
  · exact Str_wactor hs hk hw

/-- the structural invariant holds in every reachable state: every program, every schedule,
    with or without an injected fault, in both modes -/
theorem reach_Str {conc : Bool} {c : Nat} {ac acl : Bool} {prog : List Op} {flt : Fault} {reuse : Bool} {s : CState}
    (h : Reach (sys conc c ac acl prog flt reuse) s) : Str s :=
  inv_of_reach _ Str (Str_init conc c ac acl prog flt reuse) (fun _ _ _ hs hst => Str_step hs hst) s h

/-! ### control invariant: what the caller is in the middle of -/

structure Ctl (s : CState) : Prop where
  sendChunk : (s.pc = .pushSend ∨ s.pc = .finSend) → s.m.chunk.isSome = true
  pushProg : (s.pc = .pushSend ∨ s.pc = .pushRecv) → ∃ e rest, s.prog = Op.push e :: rest
  finProg : (s.pc = .finSend ∨ s.pc = .finWrite ∨ s.pc = .finWait) → ∃ rest, s.prog = Op.finalise :: rest

theorem Ctl_idle {t : CState} (h : t.pc = .idle) : Ctl t := by
  constructor <;> intro h' <;> rw [h] at h' <;> simp at h'

theorem finishOp_pc (s : CState) (r : Res) (v : Option Elem) : (finishOp s r v).pc = .idle := rfl

theorem Ctl_cstep {s t : CState} (hs : Str s) (hc : Ctl s) (hst : CStep s t) : Ctl t := by
  cases hst with
  | pushFull e rest ch _ hprog _ hch => exact ⟨fun _ => by simp [hch], fun _ => ⟨e, rest, hprog⟩, by simp⟩
  | finDisk rest ch _ hprog _ hch => exact ⟨fun _ => by simp [hch], by simp, fun _ => ⟨rest, hprog⟩⟩
  | send _ _ hpc => exact ⟨by simp, fun _ => hc.pushProg (Or.inl hpc), by simp⟩
  | fsend _ _ hpc => exact ⟨by simp, by simp, fun _ => hc.finProg (Or.inl hpc)⟩
  | fwrite w s' hpc hw =>
    have hp : s'.prog = s.prog := (inl_effect hs hpc hw).prog
    exact ⟨by split <;> simp, by split <;> simp, fun _ => hp ▸ hc.finProg (Or.inr (Or.inl hpc))⟩
  -- every other block returns from the call
  | _ => exact Ctl_idle rfl

theorem Ctl_step {s t : CState} {i : Nat} (hs : Str s) (hc : Ctl s) (h : step s i = some t) : Ctl t := by
  rcases step_blocks h with ⟨_, h'⟩ | ⟨k, w, w', s', _, hk, hw, rfl⟩
  · exact Ctl_cstep hs hc h'
  · have E := writer_effect hs hk hw
    exact ⟨fun h' => (show s'.m.chunk = s.m.chunk from E.chunk) ▸ hc.sendChunk (E.pc ▸ h'),
           fun h' => (show s'.prog = s.prog from E.prog) ▸ hc.pushProg (E.pc ▸ h'),
           fun h' => (show s'.prog = s.prog from E.prog) ▸ hc.finProg (E.pc ▸ h')⟩

theorem reach_Ctl {conc : Bool} {c : Nat} {ac acl : Bool} {prog : List Op} {flt : Fault} {reuse : Bool} {s : CState}
    (h : Reach (sys conc c ac acl prog flt reuse) s) : Ctl s :=
  inv_of_reach' _ Ctl (Ctl_idle rfl) (fun _ _ _ hr hc hst => Ctl_step (reach_Str hr) hc hst) s h

theorem tick_some_if {α} (f : Fault) (pt : Pt) (a b : α) :
    ((match tick f pt with | (bad, flt) => if bad = true then some (a, flt) else some (b, flt)) : Option (α × Fault)).isSome := by
  cases tick f pt with
  | mk bad flt => cases bad <;> rfl

theorem exists_writer_of_countP {p : Writer → Bool} {s : CState} (h : 1 ≤ s.writers.countP p) :
    ∃ (k : Nat) (w : Writer), s.writers[k]? = some w ∧ p w = true := by
  obtain ⟨w, hm, hp⟩ := List.countP_pos_iff.mp h
  obtain ⟨k, hk⟩ := List.getElem?_of_mem hm
  exact ⟨k, w, hk, hp⟩

theorem writer_enabled {s : CState} {k : Nat} {w : Writer} (hk : s.writers[k]? = some w)
    (hl : live w = true) (hbuf : w.pc = .recv → s.writable.buf ≠ []) (hpool : w.pc = .ret → s.m.pool < 2) :
    (step s (k + 1)).isSome = true := by
  obtain ⟨w', s', X⟩ := WStep.total (s := s) (by simpa [live] using hl) hbuf hpool
  rw [step_of_wstep hk X.eq_wstep]; rfl

theorem holding_pool_lt {s : CState} (hs : Str s) (h : 1 ≤ cnt holding s) : s.m.pool < 2 := by
  have := hs.cap; omega

/-- some spawned writer can move whenever one of them is live: one that waits to receive is
    matched by a run in `writable`, one that returns its buffer finds room in `pool` -/
theorem some_writer_enabled {s : CState} (hs : Str s) (h : 1 ≤ s.writers.countP live) :
    ∃ i, (step s i).isSome = true := by
  obtain ⟨k, w, hk, hl⟩ := exists_writer_of_countP h
  refine ⟨k + 1, writer_enabled hk hl ?_ ?_⟩
  · intro hr
    have : 1 ≤ cnt atRecv s := cnt_ge_of_mem atRecv hk (by simp [atRecv, hr])
    have hc := hs.chan
    intro hb; rw [hb] at hc; simp at hc; omega
  · intro hr
    exact holding_pool_lt hs (cnt_ge_of_mem holding hk (by simp [holding, hr]))

/-- a run waiting in `writable` is matched by a spawned writer waiting to receive, which can move -/
theorem recv_writer_enabled {B : Nat} {s : CState} (hs : StrB B s) (hpc : s.pc ≠ .finWrite)
    (hlen : 1 ≤ s.writable.buf.length) : ∃ i, (step s i).isSome = true := by
  have h1 : 1 ≤ s.writers.countP atRecv := by rw [← cnt_notFW atRecv hpc, ← hs.chan]; exact hlen
  obtain ⟨k, w, hk, hp⟩ := exists_writer_of_countP h1
  have hpc : w.pc = .recv := by simpa [atRecv] using hp
  refine ⟨k + 1, writer_enabled hk (by simp [live, hpc]) (fun _ hb => ?_) (fun h => ?_)⟩
  · rw [hb] at hlen; simp at hlen
  · rw [hpc] at h; cases h

/-- `writable <- chunk`: the channel has room, or the run in it is about to be received -/
theorem send_enabled {B : Nat} {s : CState} (hs : StrB B s) (hpc : s.pc = .pushSend ∨ s.pc = .finSend)
    (hch : s.m.chunk.isSome = true) : ∃ i, (step s i).isSome = true := by
  obtain ⟨ch, hch'⟩ := Option.isSome_iff_exists.mp hch
  cases hsend : s.writable.send ch with
  | some wr => exact hpc.elim (fun h => (CStep.send ch wr h hch' hsend).enabled) (fun h => (CStep.fsend ch wr h hch' hsend).enabled)
  | none =>
    have h1 := Chan.send_isSome s.writable ch
    rw [hsend] at h1
    have h2 : ¬ s.writable.buf.length < s.writable.cap := by simpa using h1.symm
    have := hs.wcap
    exact recv_writer_enabled hs (by rcases hpc with hpc | hpc <;> rw [hpc] <;> simp) (by omega)

/-- in a state that satisfies the structural and the control invariant, and in which the caller
    has not returned from its last call, some actor can move -/
theorem some_actor_enabled {s : CState} (hs : Str s) (hc : Ctl s) (hnf : finished s = false) :
    ∃ i, (step s i).isSome = true := by
  cases hpc : s.pc
  · -- between calls: the next call can start
    obtain ⟨t, X⟩ := CStep.idle_total hpc (fun hp => by simp [finished, hp, hpc] at hnf)
    exact X.enabled
  · exact send_enabled hs (Or.inl hpc) (hc.sendChunk (Or.inl hpc))
  · -- push.recv: a buffer is in the pool, or somebody holds one / a run waits for a writer
    obtain ⟨e, rest, hprog⟩ := hc.pushProg (Or.inr hpc)
    by_cases hpool : s.m.pool = 0
    · have hne : s.pc ≠ .finWrite := by rw [hpc]; simp
      have h1 := hs.recv hpc
      rw [hpool, cnt_notFW holding hne] at h1
      by_cases hh : 1 ≤ s.writers.countP holding
      · refine some_writer_enabled hs (Nat.le_trans hh (List.countP_mono_left fun w _ hw => ?_))
        cases hp : w.pc <;> simp [holding, live, hp] at hw ⊢
      · exact recv_writer_enabled hs hne (by omega)
    · cases herr : s.m.err with
      | some r => exact (CStep.recvErr e rest r hpc hpool hprog herr).enabled
      | none => exact (CStep.recvOk e rest hpc hpool hprog herr).enabled
  · exact send_enabled hs (Or.inr hpc) (hc.sendChunk (Or.inr hpc))
  · -- inside Finalise's own m.write(): the caller itself can move
    obtain ⟨w', s', X⟩ := WStep.total (s := s) (hs.inlLive hpc)
      (fun hi hb => by have h1 := hs.chan; simp [cnt, hpc, atRecv, hi, b2n, hb] at h1)
      (fun hi => holding_pool_lt hs (by simp [cnt, hpc, holding, hi, b2n]))
    exact (CStep.fwrite w' s' hpc X.eq_wstep).enabled
  · -- finalise.wait: all writers have finished and the caller passes, or a writer can move
    by_cases hwg : s.wg = 0
    · cases herr : s.m.err with
      | some r => exact (CStep.waitErr r hpc hwg herr).enabled
      | none => exact (CStep.waitOk _ _ _ hpc hwg herr rfl).enabled
    · refine some_writer_enabled hs ?_
      rw [← cnt_notFW live (by rw [hpc]; simp), ← hs.wg]; omega

end Biogo.MorassConc
