/-
One use cycle of the concurrent sorter model under every schedule and every list of faults:
phases of the caller over the data invariant of the hand-off protocol (`Proofs/MorassData.lean`),
and the link to the draining lemmas of the sequential model.  The phases are stated of a state of a
long run, in the context (`Ctx`) of what the caller did before the cycle and will do after it, so that
`Proofs/MorassHistory.lean` can let the cycles of a history follow one another.
-/
import Biogo.Model.MorassConc
import Biogo.Proofs.Morass
import Biogo.Proofs.MorassConc
import Biogo.Proofs.MorassData
import Biogo.Proofs.MorassStep

namespace Biogo.MorassConc
open Biogo.Morass Biogo.Interleave

theorem clearLoop_nil (flt : Fault) (d : Nat) : clearLoop flt d [] = (flt, d, true) := rfl

theorem clearF_spec (s : CState) :
    ((clearF s).2 = .ioerr ∧ (clearF s).1.m = s.m) ∨ ((clearF s).2 = .ok ∧ (clearF s).1.m = clear s.m) := by
  unfold clearF
  rcases clearLoop s.flt s.onDisk s.m.files with ⟨flt, d, _ | _⟩
  · exact Or.inl ⟨rfl, rfl⟩
  · exact Or.inr ⟨rfl, rfl⟩

theorem clearF_nofiles {s : CState} (h : s.m.files = []) : (clearF s).1.m = clear s.m := by
  simp [clearF, h, clearLoop_nil]

theorem eof_m (b : Bool) (s1 : CState) (h : s1.m.files = []) :
    (atEof (if b = true then (clearF s1).1 else s1)).m = (if b = true then clear s1.m else s1.m) := by
  rw [atEof_m]
  cases b
  · rfl
  · simp only [if_true]; exact clearF_nofiles h

theorem pullF_spec (s : CState) (hfast : s.m.fast = true → s.m.files = []) :
    (pullF s).2.1 = .ioerr ∨ ((pullF s).1.m = (pull s.m).1 ∧ (pullF s).2 = (pull s.m).2) := by
  have h := pullF_branch s
  generalize pullF s = o at h ⊢
  have eof : ∀ m1 : Morass.State, m1.files = [] →
      pull s.m = (if s.m.autoClear = true then clear m1 else m1, .eof, none) →
      (atEof (if s.m.autoClear = true then (clearF { s with m := m1 }).1 else { s with m := m1 })).m = (pull s.m).1
      ∧ ((.eof, none) : Res × Option Elem) = (pull s.m).2 := by
    intro m1 hfiles e
    rw [e]; exact ⟨eof_m _ { s with m := m1 } hfiles, rfl⟩
  cases h with
  | mem ch e hf hch hg => rw [pull_mem hf hch hg]; exact Or.inr ⟨rfl, rfl⟩
  | hang ch hf hch hg h2 => right; simp [pull, hf, hch, hg, h2]
  | memEof ch hf hch hg h2 => exact Or.inr (eof (eofState s.m) (hfast hf) (pull_mem_eof hf hch hg (Nat.not_le.mp h2)))
  | nilEof hf hch => exact Or.inr (eof s.m (hfast hf) (pull_returned hf hch))
  | noFile hf hpm => exact Or.inr (eof s.m (popMin_none hpm) (pull_no_files hf (popMin_none hpm)))
  | decodeErr => exact Or.inl rfl
  | next low _ _ _ _ hf hpm _ hr | last low _ _ hf hpm _ hr =>
    right; cases hh : low.head <;> simp [pull, hf, hpm, hr, hh]

theorem primeAll_ok : ∀ (flt : Fault) (fs : List File), (primeAll flt fs).2.2 = true →
    (primeAll flt fs).2.1 = fs.map primeFile := by
  intro flt fs
  induction fs generalizing flt with
  | nil => intro _; rfl
  | cons f fs ih =>
    simp only [primeAll]
    rcases tick flt .seek with ⟨_ | _, flt1⟩ <;> simp only [Bool.false_eq_true, if_false, if_true]
    · rcases tick flt1 .fdecode with ⟨_ | _, flt2⟩ <;> simp only [Bool.false_eq_true, if_false, if_true]
      · have := ih flt2
        generalize primeAll flt2 fs = p at this ⊢
        intro h
        rw [List.map_cons, ← this h]
      · nofun
    · nofun

def tailOps (cy : Cycle) : List Op :=
  List.replicate cy.pulls Op.pull ++ (if cy.clear then [Op.clear] else [])

theorem cycle_ops_eq (cy : Cycle) : cy.ops = cy.pushes.map Op.push ++ Op.finalise :: tailOps cy := rfl

def acts (s : CState) : List Writer := s.writers ++ (if s.pc = .finWrite then [s.inl] else [])

variable (c : Nat) (ac : Bool) (cy : Cycle)

theorem head_push_or_fin (todo : List Elem) (tl : List Op) :
    (∃ e rest, todo.map Op.push ++ Op.finalise :: tl = Op.push e :: rest)
      ∨ (∃ rest, todo.map Op.push ++ Op.finalise :: tl = Op.finalise :: rest) := by
  cases todo with
  | nil => exact Or.inr ⟨tl, rfl⟩
  | cons e t => exact Or.inl ⟨e, _, rfl⟩

theorem todo_of_push {todo : List Elem} {tl rest : List Op} {e : Elem}
    (h : todo.map Op.push ++ Op.finalise :: tl = Op.push e :: rest) :
    ∃ todo', todo = e :: todo' ∧ rest = todo'.map Op.push ++ Op.finalise :: tl := by
  cases todo with
  | nil => simp at h
  | cons x t =>
    simp only [List.map_cons, List.cons_append, List.cons.injEq, Op.push.injEq] at h
    exact ⟨t, by rw [h.1], h.2.symm⟩

theorem todo_of_fin {todo : List Elem} {tl rest : List Op}
    (h : todo.map Op.push ++ Op.finalise :: tl = Op.finalise :: rest) : todo = [] ∧ rest = tl := by
  cases todo with
  | nil => simp at h; exact ⟨rfl, h.symm⟩
  | cons x t => simp at h

theorem all_done_of_wg {s : CState} (hs : Str s) (hpc : s.pc ≠ .finWrite) (hwg : s.wg = 0) :
    ∀ w ∈ s.writers, w.pc = .done := by
  have hcnt : s.writers.countP live = 0 := by rw [← cnt_notFW live hpc, ← hs.wg, hwg]
  intro w hw
  simpa [live] using List.countP_eq_zero.mp hcnt w hw

theorem wb_nil_of_done {s : CState} (hs : Str s) (hpc : s.pc ≠ .finWrite)
    (hd : ∀ w ∈ s.writers, w.pc = .done) : s.writable.buf = [] := by
  have h0 : s.writers.countP atRecv = 0 := List.countP_eq_zero.mpr fun w hw => by simp [atRecv, hd w hw]
  exact List.eq_nil_of_length_eq_zero (by rw [hs.chan, cnt_notFW atRecv hpc, h0])

/-! A use cycle of a long run sits in a context: the outputs `pre` of the calls made before it, the calls
`rest` to make after it, and the `n0` activations of `write()` spawned before it, all of which have ended. -/

structure Ctx where
  pre : List Out
  rest : List Op
  n0 : Nat

/-- the activations of `write()` that belong to the cycle -/
abbrev Ctx.ws (F : Ctx) (s : CState) : List Writer := s.writers.drop F.n0

structure Old (F : Ctx) (s : CState) : Prop where
  le : F.n0 ≤ s.writers.length
  done : ∀ w ∈ s.writers.take F.n0, w.pc = .done

def RepAfter (pre : List Out) (s : CState) : Prop := ∃ X, s.outs.reverse = pre ++ X ∧ ∃ o ∈ X, o.res = .ioerr

theorem RepAfter.of_outs {pre : List Out} {s t : CState} (h : RepAfter pre s)
    (ho : t.outs = s.outs ∨ ∃ o, t.outs = o :: s.outs) : RepAfter pre t := by
  obtain ⟨X, hX, o, hoX, hr⟩ := h
  rcases ho with ho | ⟨o', ho⟩
  · exact ⟨X, by rw [ho]; exact hX, o, hoX, hr⟩
  · exact ⟨X ++ [o'], by rw [ho, List.reverse_cons, hX, List.append_assoc], o, List.mem_append_left _ hoX, hr⟩

theorem RepAfter.step {pre : List Out} {s t : CState} {i : Nat} (h : RepAfter pre s) (hst : step s i = some t) :
    RepAfter pre t := by
  rcases step_blocks hst with ⟨_, hcs⟩ | ⟨k, w, w', s', _, _, hw, rfl⟩
  · exact h.of_outs hcs.outs_grow
  · exact h.of_outs (Or.inl (wstep_frame hw).outs)

theorem RepAfter.finish {pre Y : List Out} {s1 : CState} (h : s1.outs.reverse = pre ++ Y) (v : Option Elem) :
    RepAfter pre (finishOp s1 .ioerr v) :=
  ⟨Y ++ [⟨.ioerr, v, s1.m.len, s1.m.pos⟩], by rw [finishOp_outs, h, List.append_assoc],
   ⟨.ioerr, v, s1.m.len, s1.m.pos⟩, by simp, rfl⟩

theorem RepAfter.weaken {pre Z : List Out} {s : CState} (h : RepAfter (pre ++ Z) s) : RepAfter pre s := by
  obtain ⟨X, hX, o, hoX, hr⟩ := h
  exact ⟨Z ++ X, by rw [hX, List.append_assoc], o, List.mem_append_right _ hoX, hr⟩

theorem repAfter_nil {s : CState} : RepAfter [] s ↔ Reported s :=
  ⟨fun ⟨X, hX, o, ho, hr⟩ => ⟨o, List.mem_reverse.mp (by rw [hX]; exact ho), hr⟩,
   fun ⟨o, ho, hr⟩ => ⟨s.outs.reverse, rfl, o, List.mem_reverse.mpr ho, hr⟩⟩

variable (F : Ctx)

/-- filling: `xs` pushed so far, `todo` still to push, `ch` = the slice `m.chunk` refers to,
    `cp` = the part of it the caller still owns -/
structure PhaseF (s : CState) (xs todo ch cp : List Elem) : Prop where
  split : cy.pushes = xs ++ todo
  prog : s.prog = todo.map Op.push ++ Op.finalise :: (tailOps cy ++ F.rest)
  outs : s.outs.reverse = F.pre ++ pushOuts xs.length
  pos : s.m.pos = xs.length
  len : s.m.len = xs.length
  cs : s.m.chunkSize = c
  ac : s.m.autoClear = ac
  chunk : s.m.chunk = some ch
  chLe : ch.length ≤ c
  empty : F.ws s = [] → s.m.files = [] ∧ s.writable.buf = []
  di : DI s.writable.buf (F.ws s) s.m.files cp xs
  at_ : (s.pc = .idle ∧ cp = ch ∧ xs.length = (F.ws s).length * c + ch.length ∧ (F.ws s ≠ [] → ch ≠ []))
      ∨ (s.pc = .pushSend ∧ cp = ch ∧ ch.length = c ∧ xs.length = (F.ws s).length * c + c)
      ∨ (s.pc = .pushRecv ∧ cp = [] ∧ xs.length = (F.ws s).length * c ∧ F.ws s ≠ [])

/-- inside a spilling `Finalise`; `A` = the cycle's `write()` activations, `cp` = the caller's chunk -/
structure PhaseZ (s : CState) (A : List Writer) (cp : List Elem) : Prop where
  prog : s.prog = Op.finalise :: (tailOps cy ++ F.rest)
  outs : s.outs.reverse = F.pre ++ pushOuts cy.pushes.length
  pos : s.m.pos = cy.pushes.length
  len : s.m.len = cy.pushes.length
  cs : s.m.chunkSize = c
  ac : s.m.autoClear = ac
  fast : s.m.fast = false
  di : DI s.writable.buf A s.m.files cp cy.pushes
  at_ : (s.pc = .finSend ∧ A = F.ws s ∧ s.m.chunk = some cp ∧ cp ≠ [])
      ∨ (s.pc = .finWrite ∧ A = F.ws s ++ [s.inl] ∧ s.m.chunk = none ∧ cp = [])
      ∨ (s.pc = .finWait ∧ A = F.ws s ∧ s.m.chunk = none ∧ cp = [] ∧ 1 ≤ s.m.pool)

def dProg (k : Nat) : List Op := List.replicate k Op.pull ++ ((if cy.clear then [Op.clear] else []) ++ F.rest)

/-- after `Finalise`: `ds` delivered, then `e` times io.EOF, `k` pulls still to make -/
structure PhaseD (s : CState) : Prop where
  pc : s.pc = .idle
  quiet : ∀ w ∈ s.writers, w.pc = .done
  ex : ∃ (ds : List Elem) (e k : Nat),
    s.prog = dProg cy F k ∧
    ds.length + e + k = cy.pulls ∧
    s.outs.reverse = F.pre ++ (pushOuts cy.pushes.length ++ (⟨.ok, none, cy.pushes.length, 0⟩ ::
        (dOuts cy.pushes.length 0 ds ++ List.replicate e (eofOut ac cy.pushes.length)))) ∧
    Sorted ds ∧ Delivered c ac 1 cy.pushes s.m ds e

def Final (s : CState) : Prop := ∃ ys, SortedPermOf ys cy.pushes ∧ s.outs.reverse = F.pre ++ specCycle ac ys cy

/-- the cycle is over (after its `Clear`) -/
structure PhaseEnd (s : CState) : Prop where
  pc : s.pc = .idle
  prog : s.prog = F.rest
  quiet : ∀ w ∈ s.writers, w.pc = .done
  files : s.m.files = []
  final : Final ac cy F s
  fresh : Fresh c ac 1 s.m

/-- a writer has recorded an error that the caller has not yet seen; it is still inside the filling
    part of the cycle, where every call checks the error slot before it returns -/
def Pending (s : CState) : Prop :=
  s.m.err = some .ioerr ∧ (∃ X, s.outs.reverse = F.pre ++ X)
    ∧ ∃ todo : List Elem, s.prog = todo.map Op.push ++ Op.finalise :: (tailOps cy ++ F.rest)

def CInv (s : CState) : Prop :=
  RepAfter F.pre s ∨ Pending cy F s ∨
  (s.m.err = none ∧ ((∃ xs todo ch cp, PhaseF c ac cy F s xs todo ch cp) ∨ (∃ A cp, PhaseZ c ac cy F s A cp)
      ∨ PhaseD c ac cy F s ∨ PhaseEnd c ac cy F s))

section
variable {c : Nat} {ac : Bool} {cy : Cycle} {F : Ctx} {s : CState}

theorem CInv.ofF {xs todo ch cp : List Elem} (he : s.m.err = none) (h : PhaseF c ac cy F s xs todo ch cp) :
    CInv c ac cy F s := Or.inr (Or.inr ⟨he, Or.inl ⟨xs, todo, ch, cp, h⟩⟩)

theorem CInv.ofZ {A : List Writer} {cp : List Elem} (he : s.m.err = none) (h : PhaseZ c ac cy F s A cp) :
    CInv c ac cy F s := Or.inr (Or.inr ⟨he, Or.inr (Or.inl ⟨A, cp, h⟩)⟩)

theorem CInv.ofD (he : s.m.err = none) (h : PhaseD c ac cy F s) : CInv c ac cy F s :=
  Or.inr (Or.inr ⟨he, Or.inr (Or.inr (Or.inl h))⟩)

theorem CInv.ofEnd (he : s.m.err = none) (h : PhaseEnd c ac cy F s) : CInv c ac cy F s :=
  Or.inr (Or.inr ⟨he, Or.inr (Or.inr (Or.inr h))⟩)

end

section
variable {c : Nat} {ac : Bool} {cy : Cycle} {F : Ctx} {s : CState} {A : List Writer} {cp : List Elem}

theorem PhaseZ.at_send (hZ : PhaseZ c ac cy F s A cp) (hpc : s.pc = .finSend) :
    A = F.ws s ∧ s.m.chunk = some cp ∧ cp ≠ [] := by
  rcases hZ.at_ with ⟨_, h⟩ | ⟨a, _⟩ | ⟨a, _⟩
  · exact h
  · rw [hpc] at a; cases a
  · rw [hpc] at a; cases a

theorem PhaseZ.at_write (hZ : PhaseZ c ac cy F s A cp) (hpc : s.pc = .finWrite) :
    A = F.ws s ++ [s.inl] ∧ s.m.chunk = none ∧ cp = [] := by
  rcases hZ.at_ with ⟨a, _⟩ | ⟨_, h⟩ | ⟨a, _⟩
  · rw [hpc] at a; cases a
  · exact h
  · rw [hpc] at a; cases a

theorem PhaseZ.at_wait (hZ : PhaseZ c ac cy F s A cp) (hpc : s.pc = .finWait) :
    A = F.ws s ∧ s.m.chunk = none ∧ cp = [] ∧ 1 ≤ s.m.pool := by
  rcases hZ.at_ with ⟨a, _⟩ | ⟨a, _⟩ | ⟨_, h⟩
  · rw [hpc] at a; cases a
  · rw [hpc] at a; cases a
  · exact h

theorem PhaseZ.pc (hZ : PhaseZ c ac cy F s A cp) : s.pc = .finSend ∨ s.pc = .finWrite ∨ s.pc = .finWait := by
  rcases hZ.at_ with ⟨a, _⟩ | ⟨a, _⟩ | ⟨a, _⟩
  · exact Or.inl a
  · exact Or.inr (Or.inl a)
  · exact Or.inr (Or.inr a)

/-- a block of a `write()` activation seen from inside `Finalise`: only the activations, the
    hand-over channel and the run files change -/
theorem PhaseZ.effect {s' t : CState} {w w' : Writer} {A' : List Writer}
    (hZ : PhaseZ c ac cy F s A cp) (E : WEffect s s' w w')
    (hprog : t.prog = s'.prog) (houts : t.outs = s'.outs) (hm : t.m = s'.m) (hwb : t.writable = s'.writable)
    (hdi : DI s'.writable.buf A' s'.m.files cp cy.pushes)
    (hat : (t.pc = .finSend ∧ A' = F.ws t ∧ t.m.chunk = some cp ∧ cp ≠ [])
      ∨ (t.pc = .finWrite ∧ A' = F.ws t ++ [t.inl] ∧ t.m.chunk = none ∧ cp = [])
      ∨ (t.pc = .finWait ∧ A' = F.ws t ∧ t.m.chunk = none ∧ cp = [] ∧ 1 ≤ t.m.pool)) :
    PhaseZ c ac cy F t A' cp :=
  ⟨hprog.trans (E.prog.trans hZ.prog), by rw [houts, E.outs]; exact hZ.outs, by rw [hm, E.pos]; exact hZ.pos,
   by rw [hm, E.len]; exact hZ.len, by rw [hm, E.cs]; exact hZ.cs, by rw [hm, E.ac]; exact hZ.ac,
   by rw [hm, E.fast]; exact hZ.fast, by rw [hwb, hm]; exact hdi, hat⟩

end

/-- a spawned activation that makes a block is one of the cycle's: the older ones have ended -/
theorem Old.wactor {F : Ctx} {s s' : CState} {k : Nat} {w w' : Writer} (ho : Old F s)
    (hk : s.writers[k]? = some w) (hw : wstep s w = some (w', s')) :
    (F.ws s)[k - F.n0]? = some w ∧ F.ws { s' with writers := s'.writers.set k w' } = (F.ws s).set (k - F.n0) w'
      ∧ Old F { s' with writers := s'.writers.set k w' } := by
  have hge : F.n0 ≤ k := by
    apply Nat.le_of_not_lt
    intro hlt
    have hm : w ∈ s.writers.take F.n0 :=
      List.mem_iff_getElem?.mpr ⟨k, by rw [List.getElem?_take_of_lt hlt]; exact hk⟩
    rw [wstep_done_none s (ho.done w hm)] at hw
    cases hw
  have fr := wstep_frame hw
  refine ⟨?_, ?_, ?_, ?_⟩
  · show (s.writers.drop F.n0)[k - F.n0]? = some w
    rw [List.getElem?_drop, Nat.add_sub_cancel' hge]; exact hk
  · show (s'.writers.set k w').drop F.n0 = (s.writers.drop F.n0).set (k - F.n0) w'
    rw [List.drop_set, if_neg (Nat.not_lt.mpr hge), fr.writers]
  · show F.n0 ≤ (s'.writers.set k w').length; rw [List.length_set, fr.writers]; exact ho.le
  · show ∀ w ∈ (s'.writers.set k w').take F.n0, _
    rw [List.take_set_of_le hge, fr.writers]; exact ho.done

theorem CInv_wactor {s s' : CState} {k : Nat} {w w' : Writer} (hs : Str s) (ho : Old F s) (h : CInv c ac cy F s)
    (hk : s.writers[k]? = some w) (hw : wstep s w = some (w', s')) :
    CInv c ac cy F { s' with writers := s'.writers.set k w' } := by
  have E := writer_effect hs hk hw
  obtain ⟨hk', hws, _⟩ := ho.wactor hk hw
  have hklt : k - F.n0 < (F.ws s).length := (List.getElem?_eq_some_iff.mp hk').1
  have pending : s'.m.err = some .ioerr → (∃ X, s.outs.reverse = F.pre ++ X) →
      (∃ todo : List Elem, s.prog = todo.map Op.push ++ Op.finalise :: (tailOps cy ++ F.rest)) →
      CInv c ac cy F { s' with writers := s'.writers.set k w' } :=
    fun he hx hp => Or.inr (Or.inl ⟨he, E.outs ▸ hx, E.prog ▸ hp⟩)
  rcases h with hrep | ⟨he, hx, hp⟩ | ⟨herr, hph⟩
  · exact Or.inl (hrep.of_outs (Or.inl E.outs))
  · rcases wstep_err hw with h1 | h1
    · exact pending (h1.trans he) hx hp
    · exact pending h1 hx hp
  · rcases hph with ⟨xs, todo, ch, cp, hF⟩ | ⟨A, cp, hZ⟩ | hD | hE
    · rcases wstep_err hw with he' | he'
      · rw [herr] at he'
        refine .ofF (xs := xs) (todo := todo) (ch := ch) (cp := cp) he' ?_
        have hdi := DI_wstep hF.di hk' hw he'
        have hlen : ((F.ws s).set (k - F.n0) w').length = (F.ws s).length := List.length_set ..
        have hne0 : F.ws s ≠ [] := by intro h0; rw [h0] at hklt; simp at hklt
        have hne : (F.ws s).set (k - F.n0) w' ≠ [] := by
          intro h0; rw [h0] at hlen; exact hne0 (List.eq_nil_of_length_eq_zero hlen.symm)
        refine ⟨hF.split, E.prog.trans hF.prog, (congrArg List.reverse E.outs).trans hF.outs, E.pos.trans hF.pos,
          E.len.trans hF.len, E.cs.trans hF.cs, E.ac.trans hF.ac, E.chunk.trans hF.chunk, hF.chLe,
          fun h0 => absurd (hws ▸ h0) hne, hws ▸ hdi, ?_⟩
        rw [hws, hlen]
        show (s'.pc = _ ∧ _) ∨ (s'.pc = _ ∧ _) ∨ (s'.pc = _ ∧ _)
        rw [E.pc]
        rcases hF.at_ with ⟨a, b, c', d⟩ | ⟨a, b, c', d⟩ | ⟨a, b, c', d⟩
        · exact Or.inl ⟨a, b, c', fun _ => d hne0⟩
        · exact Or.inr (Or.inl ⟨a, b, c', d⟩)
        · exact Or.inr (Or.inr ⟨a, b, c', hne⟩)
      · exact pending he' ⟨_, hF.outs⟩ ⟨todo, hF.prog⟩
    · rcases wstep_err hw with he' | he'
      · rw [herr] at he'
        have hA : A[k - F.n0]? = some w := by
          rcases hZ.at_ with ⟨_, hA, _⟩ | ⟨_, hA, _⟩ | ⟨_, hA, _⟩
          · rw [hA]; exact hk'
          · rw [hA, List.getElem?_append_left hklt]; exact hk'
          · rw [hA]; exact hk'
        refine .ofZ he' (hZ.effect E rfl rfl rfl rfl (DI_wstep hZ.di hA hw he') ?_)
        rw [hws]
        show (s'.pc = _ ∧ _ ∧ s'.m.chunk = _ ∧ _)
          ∨ (s'.pc = _ ∧ _ = _ ++ [s'.inl] ∧ s'.m.chunk = _ ∧ _)
          ∨ (s'.pc = _ ∧ _ ∧ s'.m.chunk = _ ∧ _ ∧ 1 ≤ s'.m.pool)
        rw [E.pc, E.chunk, E.inl]
        rcases hZ.at_ with ⟨a, hA', b, d⟩ | ⟨a, hA', b, d⟩ | ⟨a, hA', b, d, e⟩
        · exact Or.inl ⟨a, by rw [hA'], b, d⟩
        · refine Or.inr (Or.inl ⟨a, ?_, b, d⟩)
          rw [hA', List.set_append_left _ _ hklt]
        · exact Or.inr (Or.inr ⟨a, by rw [hA'], b, d, Nat.le_trans e (wstep_pool_ge hw)⟩)
      · exact pending he' ⟨_, hZ.outs⟩ ⟨[], hZ.prog⟩
    · have := hD.quiet w (List.mem_of_getElem? hk)
      rw [wstep_done_none s this] at hw; cases hw
    · have := hE.quiet w (List.mem_of_getElem? hk)
      rw [wstep_done_none s this] at hw; cases hw

/-- `Finalise` has returned from `s1`: nothing is delivered yet, all pulls are still to make -/
theorem PhaseD.start {c : Nat} {ac : Bool} {cy : Cycle} {F : Ctx} {s1 : CState}
    (hquiet : ∀ w ∈ s1.writers, w.pc = .done)
    (hprog : s1.prog = Op.finalise :: (tailOps cy ++ F.rest))
    (houts : s1.outs.reverse = F.pre ++ pushOuts cy.pushes.length)
    (hpos : s1.m.pos = 0) (hdr : Draining c ac 1 s1.m cy.pushes.length)
    (hperm : (remaining s1.m).Perm cy.pushes) : PhaseD c ac cy F (finishOp s1 .ok none) := by
  refine ⟨rfl, hquiet, [], 0, cy.pulls, ?_, by simp, ?_, List.Pairwise.nil, Or.inl ⟨rfl, hdr, hperm, by simp, hpos⟩⟩
  · show s1.prog.tail = _; rw [hprog]; exact List.append_assoc ..
  · rw [finishOp_outs, houts, hdr.len, hpos]; simp [dOuts]

section
variable {c : Nat} {ac : Bool} {cy : Cycle} {F : Ctx} {s : CState} {xs todo ch cp : List Elem}

theorem PhaseF.at_idle (hF : PhaseF c ac cy F s xs todo ch cp) (hpc : s.pc = .idle) :
    cp = ch ∧ xs.length = (F.ws s).length * c + ch.length ∧ (F.ws s ≠ [] → ch ≠ []) := by
  rcases hF.at_ with ⟨_, h⟩ | ⟨a, _⟩ | ⟨a, _⟩
  · exact h
  · rw [hpc] at a; cases a
  · rw [hpc] at a; cases a

theorem PhaseF.at_send (hF : PhaseF c ac cy F s xs todo ch cp) (hpc : s.pc = .pushSend) :
    cp = ch ∧ ch.length = c ∧ xs.length = (F.ws s).length * c + c := by
  rcases hF.at_ with ⟨a, _⟩ | ⟨_, h⟩ | ⟨a, _⟩
  · rw [hpc] at a; cases a
  · exact h
  · rw [hpc] at a; cases a

theorem PhaseF.at_recv (hF : PhaseF c ac cy F s xs todo ch cp) (hpc : s.pc = .pushRecv) :
    cp = [] ∧ xs.length = (F.ws s).length * c ∧ F.ws s ≠ [] := by
  rcases hF.at_ with ⟨a, _⟩ | ⟨a, _⟩ | ⟨_, h⟩
  · rw [hpc] at a; cases a
  · rw [hpc] at a; cases a
  · exact h

theorem PhaseF.pc (hF : PhaseF c ac cy F s xs todo ch cp) : s.pc = .idle ∨ s.pc = .pushSend ∨ s.pc = .pushRecv := by
  rcases hF.at_ with ⟨a, _⟩ | ⟨a, _⟩ | ⟨a, _⟩
  · exact Or.inl a
  · exact Or.inr (Or.inl a)
  · exact Or.inr (Or.inr a)

/-- the state after a successful `Push` of `e` (directly, or after the hand-over of a full chunk):
    `m'` differs from `s.m` in `pool`, the chunk, `Pos` and `Len` only -/
theorem PhaseF.pushed {e : Elem} (hF : PhaseF c ac cy F s xs (e :: todo) ch cp) {m' : Morass.State} {ch' : List Elem}
    (hm : m' = { s.m with pool := m'.pool, chunk := some ch', pos := s.m.pos + 1, len := s.m.len + 1 })
    (hle : ch'.length ≤ c) (hempty : F.ws s = [] → s.m.files = [] ∧ s.writable.buf = [])
    (hdi : DI s.writable.buf (F.ws s) s.m.files ch' (xs ++ [e]))
    (hcnt : xs.length + 1 = (F.ws s).length * c + ch'.length) (hne : ch' ≠ []) :
    PhaseF c ac cy F (finishOp { s with m := m' } .ok none) (xs ++ [e]) todo ch' ch' := by
  have hfiles : m'.files = s.m.files := by rw [hm]
  have hpos : m'.pos = s.m.pos + 1 := by rw [hm]
  have hlen : m'.len = s.m.len + 1 := by rw [hm]
  refine ⟨by rw [hF.split, List.append_assoc]; rfl, ?_, ?_, ?_, ?_, ?_, ?_, ?_, hle, ?_, ?_,
    Or.inl ⟨rfl, rfl, by rw [List.length_append]; exact hcnt, fun _ => hne⟩⟩
  · show s.prog.tail = _; rw [hF.prog]; rfl
  · rw [finishOp_outs]
    show s.outs.reverse ++ [⟨.ok, none, m'.len, m'.pos⟩] = _
    rw [hF.outs, hlen, hpos, hF.len, hF.pos, List.length_append, List.length_singleton, pushOuts_succ,
      List.append_assoc]
  · show m'.pos = _; rw [hpos, hF.pos, List.length_append]; rfl
  · show m'.len = _; rw [hlen, hF.len, List.length_append]; rfl
  · show m'.chunkSize = c; rw [hm]; exact hF.cs
  · show m'.autoClear = ac; rw [hm]; exact hF.ac
  · show m'.chunk = _; rw [hm]
  · show F.ws s = [] → m'.files = [] ∧ s.writable.buf = []; rw [hfiles]; exact hempty
  · show DI s.writable.buf (F.ws s) m'.files ch' (xs ++ [e]); rw [hfiles]; exact hdi

/-- `Finalise` when fewer values than one chunk were pushed: no writer was spawned in this cycle, and the
    chunk is sorted in memory -/
theorem PhaseF.finalise_mem (hF : PhaseF c ac cy F s xs [] ch cp) (hs : Str s) (ho : Old F s) (herr : s.m.err = none)
    (hpc : s.pc = .idle) (hlt : s.m.pos < s.m.chunkSize) :
    PhaseD c ac cy F (finishOp { s with m := (finalise s.m).1 } .ok none) := by
  have hxs : xs = cy.pushes := by rw [hF.split, List.append_nil]
  obtain ⟨rfl, hcnt, hne⟩ := hF.at_idle hpc
  have hW : F.ws s = [] := by
    cases hwr : F.ws s with
    | nil => rfl
    | cons w ws =>
      exfalso
      rw [hwr] at hcnt
      simp only [List.length_cons, Nat.add_mul, Nat.one_mul] at hcnt
      rw [hF.pos, hF.cs] at hlt; omega
  obtain ⟨hfiles, hwb⟩ := hF.empty hW
  have hperm : cp.Perm xs := by
    apply List.perm_iff_count.mpr
    intro a
    have := hF.di.perm a
    rw [hwb, hW, hfiles] at this
    simpa using this
  have hpool : s.m.pool ≤ 1 := by
    have h1 := hs.cap
    have h2 : chunkTok s = 1 := by simp [chunkTok, hF.chunk, hpc, b2n]
    omega
  -- every activation there is was spawned before the cycle
  have hquiet : ∀ w ∈ s.writers, w.pc = .done := by
    intro w hw
    rw [← List.take_append_drop F.n0 s.writers, show s.writers.drop F.n0 = [] from hW, List.append_nil] at hw
    exact ho.done w hw
  obtain ⟨hd, hr⟩ := Draining.of_mem (p0 := 1) hF.cs hF.ac herr (hF.len.trans (by rw [hxs])) hfiles hpool (hxs ▸ hperm)
  rw [Morass.finalise_mem herr hF.chunk hlt]
  exact PhaseD.start hquiet hF.prog (hxs ▸ hF.outs) rfl hd hr

end

theorem F_cstep {s t : CState} {xs todo ch cp : List Elem} (hc : 1 ≤ c) (hs : Str s) (ho : Old F s)
    (herr : s.m.err = none) (hF : PhaseF c ac cy F s xs todo ch cp) (hst : CStep s t) : CInv c ac cy F t := by
  have pcne : ∀ {p : CPc}, s.pc = p → p = .idle ∨ p = .pushSend ∨ p = .pushRecv := fun hp => hp ▸ hF.pc
  cases hst with
  | pushErr _ _ _ _ _ he | finErr _ _ _ _ he | recvErr _ _ _ _ _ _ he | waitErr _ _ _ he =>
    rw [herr] at he; cases he
  | pushNil _ _ _ _ _ hch | finNil _ _ _ _ hch => rw [hF.chunk] at hch; cases hch
  | pull _ _ hp | clear _ _ hp | reject _ _ hp =>
    rw [hF.prog] at hp
    rcases head_push_or_fin todo (tailOps cy ++ F.rest) with ⟨_, _, h⟩ | ⟨_, h⟩ <;> rw [h] at hp <;> cases hp
  | fsend _ _ hpc | fwrite _ _ hpc | waitOk _ _ _ hpc => rcases pcne hpc with h | h | h <;> cases h
  | pushFull e rest ch' hpc hprog _ hch hfull =>
    rw [hF.chunk] at hch; cases hch
    obtain ⟨hcp, hcnt, hne⟩ := hF.at_idle hpc
    exact .ofF herr { hF with at_ := Or.inr (Or.inl ⟨rfl, hcp, by rw [hfull, hF.cs], by rw [hcnt, hfull, hF.cs]⟩) }
  | pushRoom e rest ch' hpc hprog _ hch hfull =>
    rw [hF.chunk] at hch; cases hch
    rw [hF.prog] at hprog
    obtain ⟨todo', rfl, hrest⟩ := todo_of_push hprog
    obtain ⟨rfl, hcnt, hne⟩ := hF.at_idle hpc
    have hle : (cp ++ [e]).length ≤ c := by
      have := hF.chLe; have := hF.cs; simp only [List.length_append, List.length_singleton]; omega
    refine .ofF (by rw [push_room e herr hF.chunk hfull]; exact herr)
      (hF.pushed (by rw [push_room e herr hF.chunk hfull]) hle hF.empty (DI_push hF.di e) ?_ (by simp))
    rw [List.length_append, hcnt]; simp only [List.length_singleton]; omega
  | finFast rest ch' hpc hprog _ hch hlt =>
    rw [hF.prog] at hprog
    obtain ⟨rfl, _⟩ := todo_of_fin hprog
    exact .ofD (by rw [finalise_mem herr hF.chunk hlt]; exact herr)
      (hF.finalise_mem hs ho herr hpc hlt)
  | finDisk rest ch' hpc hprog _ hch hlt hpos =>
    rw [hF.chunk] at hch; cases hch
    rw [hF.prog] at hprog
    obtain ⟨rfl, hrest⟩ := todo_of_fin hprog
    have hxs : xs = cy.pushes := by rw [hF.split, List.append_nil]
    obtain ⟨rfl, hcnt, hne⟩ := hF.at_idle hpc
    have hcpne : cp ≠ [] := by intro h0; rw [h0] at hpos; simp at hpos
    exact .ofZ (A := F.ws s) (cp := cp) herr
      ⟨hF.prog, hxs ▸ hF.outs, hxs ▸ hF.pos, hxs ▸ hF.len, hF.cs, hF.ac, rfl, hxs ▸ hF.di,
       Or.inl ⟨rfl, rfl, hF.chunk, hcpne⟩⟩
  | finEmpty rest ch' flt fs ok hpc hprog _ hch hlt hpos _ =>
    -- an empty chunk at `Pos ≥ chunkSize` does not occur: `Pos` counts what the runs and the chunk hold
    exfalso
    rw [hF.chunk] at hch; cases hch
    obtain ⟨_, hcnt, hne⟩ := hF.at_idle hpc
    have hch0 : ch = [] := List.eq_nil_of_length_eq_zero (by omega)
    have hW : F.ws s = [] := Classical.byContradiction fun h => hne h hch0
    rw [hW, hch0] at hcnt
    simp only [List.length_nil, Nat.zero_mul, Nat.add_zero] at hcnt
    rw [hF.pos, hF.cs] at hlt
    omega
  | send ch' wr hpc hch hsend =>
    rw [hF.chunk] at hch; cases hch
    obtain ⟨hb, hcap, _⟩ := Chan.send_buf hsend
    obtain ⟨rfl, hfull, hcnt⟩ := hF.at_send hpc
    have hcpne : cp ≠ [] := by intro h0; rw [h0] at hfull; simp at hfull; omega
    have hws : (s.writers ++ [({} : Writer)]).drop F.n0 = F.ws s ++ [newWriter] :=
      List.drop_append_of_le_length ho.le
    have hdi : DI wr.buf (F.ws s ++ [newWriter]) s.m.files [] xs := hb ▸ DI_send hF.di hcpne
    have hlen : xs.length = (F.ws s ++ [newWriter]).length * c := by
      simp only [List.length_append, List.length_cons, List.length_nil, Nat.add_mul, Nat.one_mul]
      omega
    exact .ofF (cp := []) herr
      { hF with empty := fun h0 => by rw [show F.ws _ = _ from hws] at h0; simp at h0,
                di := by rw [show F.ws _ = _ from hws]; exact hdi,
                at_ := by rw [show F.ws _ = _ from hws]; exact Or.inr (Or.inr ⟨rfl, rfl, hlen, by simp⟩) }
  | recvOk e rest hpc hpool hprog _ =>
    rw [hF.prog] at hprog
    obtain ⟨todo', rfl, hrest⟩ := todo_of_push hprog
    obtain ⟨rfl, hcnt, hne⟩ := hF.at_recv hpc
    exact .ofF herr (hF.pushed rfl (by simpa using hc) (fun h0 => absurd h0 hne) (DI_push hF.di e) (by simp [hcnt])
      (by simp))


theorem Pending_cstep {s t : CState} (h : Pending cy F s) (hst : CStep s t) :
    RepAfter F.pre t ∨ Pending cy F t := by
  obtain ⟨herr, ⟨X, hX⟩, todo, hprog⟩ := h
  cases hst with
  | pushErr _ _ _ _ _ he | finErr _ _ _ _ he | recvErr _ _ _ _ _ _ he | waitErr _ _ _ he =>
    rw [herr] at he; cases he; exact Or.inl (RepAfter.finish hX _)
  | pushNil _ _ _ _ he | pushFull _ _ _ _ _ he | pushRoom _ _ _ _ _ he | finNil _ _ _ he | finFast _ _ _ _ he
  | finDisk _ _ _ _ he | finEmpty _ _ _ _ _ _ _ he | recvOk _ _ _ _ _ he | waitOk _ _ _ _ _ he =>
    rw [herr] at he; cases he
  | pull _ _ hp | clear _ _ hp | reject _ _ hp =>
    rw [hprog] at hp
    rcases head_push_or_fin todo (tailOps cy ++ F.rest) with ⟨_, _, h⟩ | ⟨_, h⟩ <;> rw [h] at hp <;> cases hp
  | send | fsend => exact Or.inr ⟨herr, ⟨X, hX⟩, todo, hprog⟩
  | fwrite w s' hpc hw =>
    refine Or.inr ⟨?_, ⟨X, (congrArg List.reverse (wstep_frame hw).outs).trans hX⟩, todo,
      (wstep_frame hw).prog.trans hprog⟩
    rcases wstep_err hw with h1 | h1
    · exact h1.trans herr
    · exact h1

/-- `Finalise` after `m.writers.Wait()`: every activation has returned, so the run files hold all the values,
    each of them sorted and none empty; primed, they are what `Pull` drains -/
theorem PhaseZ.primed {c : Nat} {ac : Bool} {cy : Cycle} {F : Ctx} {s : CState} {A : List Writer} {cp : List Elem}
    {flt : Fault} (hZ : PhaseZ c ac cy F s A cp) (hs : Str s) (herr : s.m.err = none) (hpc : s.pc = .finWait)
    (hwg : s.wg = 0) :
    PhaseD c ac cy F
      (finishOp { s with flt := flt, m := { s.m with pos := 0, files := s.m.files.map primeFile } } .ok none) := by
  obtain ⟨rfl, hchunk, rfl, hpool⟩ := hZ.at_wait hpc
  have hne : s.pc ≠ .finWrite := by rw [hpc]; simp
  have hdone := all_done_of_wg hs hne hwg
  have hdone' : ∀ w ∈ F.ws s, w.pc = .done := fun w hw => hdone w (List.mem_of_mem_drop hw)
  have hwb := wb_nil_of_done hs hne hdone
  have htodo : (F.ws s).flatMap (·.todo) = [] := List.flatMap_eq_nil_iff.mpr fun w hw =>
    hZ.di.todoNil w hw (by rw [hdone' w hw]; simp) (by rw [hdone' w hw]; simp)
  have hruns : ∀ f ∈ s.m.files, Sorted f.data ∧ f.data ≠ [] := by
    intro f hf
    refine ⟨hZ.di.filesOK f hf, ?_⟩
    intro h0
    obtain ⟨i, hi⟩ := List.mem_iff_getElem?.mp hf
    obtain ⟨w, hw, hp, _⟩ := hZ.di.filesNe i f hi h0
    rw [hdone' w hw] at hp; cases hp
  have hperm : (s.m.files.flatMap (·.data)).Perm cy.pushes := by
    apply List.perm_iff_count.mpr
    intro a
    have := hZ.di.perm a
    rw [hwb, htodo] at this
    simpa using this
  have hpool2 : s.m.pool ≤ 2 := by have := hs.cap; omega
  obtain ⟨hd, hr⟩ := Draining.of_disk (p0 := 1) hZ.cs hZ.ac herr hZ.len hZ.fast hchunk ⟨hpool, hpool2⟩ hruns hperm
  exact PhaseD.start hdone hZ.prog hZ.outs rfl hd hr

theorem Z_cstep {s t : CState} {A : List Writer} {cp : List Elem} (hs : Str s)
    (herr : s.m.err = none) (hZ : PhaseZ c ac cy F s A cp) (hst : CStep s t) : CInv c ac cy F t := by
  have pcne : ∀ {p : CPc}, s.pc = p → p = .finSend ∨ p = .finWrite ∨ p = .finWait := fun hp => hp ▸ hZ.pc
  cases hst with
  | pushErr _ _ _ hpc | pushNil _ _ hpc | pushFull _ _ _ hpc | pushRoom _ _ _ hpc | finErr _ _ hpc | finNil _ hpc
  | finFast _ _ hpc | finDisk _ _ hpc | finEmpty _ _ _ _ _ hpc | pull _ hpc | clear _ hpc | reject _ hpc
  | send _ _ hpc | recvErr _ _ _ hpc | recvOk _ _ hpc => rcases pcne hpc with h | h | h <;> cases h
  | waitErr _ _ _ he => rw [herr] at he; cases he
  | fsend ch wr hpc hch hsend =>
    obtain ⟨hb, hcap, _⟩ := Chan.send_buf hsend
    obtain ⟨rfl, hchunk, hne⟩ := hZ.at_send hpc
    rw [hchunk] at hch; cases hch
    have hdi : DI wr.buf (F.ws s ++ [newWriter]) s.m.files [] cy.pushes := hb ▸ DI_send hZ.di hne
    exact .ofZ (A := F.ws s ++ [newWriter]) (cp := []) herr
      { hZ with di := hdi, at_ := Or.inr (Or.inl ⟨rfl, rfl, rfl, rfl⟩) }
  | fwrite w s' hpc hw =>
    have E := inl_effect hs hpc hw
    obtain ⟨hA, hchunk, rfl⟩ := hZ.at_write hpc
    have hchunk' : s'.m.chunk = none := E.chunk.trans hchunk
    rcases wstep_err hw with he' | he'
    · rw [herr] at he'
      have hi : A[(F.ws s).length]? = some s.inl := by
        rw [hA, List.getElem?_append_right (Nat.le_refl _)]; simp
      have hdi := DI_wstep hZ.di hi hw he'
      have hset : A.set (F.ws s).length w = F.ws s' ++ [w] := by
        rw [hA, List.set_append_right _ _ (Nat.le_refl _), show F.ws s' = F.ws s by show s'.writers.drop _ = _; rw [E.writers]]
        simp
      rw [hset] at hdi
      by_cases hd : w.pc = .done
      · exact .ofZ he' (hZ.effect E rfl rfl rfl rfl (DI_dropDone hdi hd)
          (Or.inr (Or.inr ⟨by simp [hd], rfl, hchunk', rfl, (wstep_done_pool hw hd : 1 ≤ s'.m.pool)⟩)))
      · exact .ofZ he' (hZ.effect E rfl rfl rfl rfl hdi (Or.inr (Or.inl ⟨by simp [hd], rfl, hchunk', rfl⟩)))
    · exact Or.inr (Or.inl ⟨he', ⟨_, (congrArg List.reverse E.outs).trans hZ.outs⟩, [], E.prog.trans hZ.prog⟩)
  | waitOk flt fs ok hpc hwg _ hprime =>
    cases ok
    · exact Or.inl (RepAfter.finish (by exact hZ.outs) none)
    · obtain rfl : fs = s.m.files.map primeFile := by
        have := primeAll_ok s.flt s.m.files (by rw [hprime])
        rw [hprime] at this; exact this
      exact .ofD herr (hZ.primed hs herr hpc hwg)

section
variable {cy : Cycle} {F : Ctx} {k : Nat} {op : Op} {r : List Op}

theorem dProg_head (h : dProg cy F k = op :: r) (hl : k = 0 → cy.clear = false → F.rest = []) :
    (op = Op.pull ∧ ∃ k', k = k' + 1 ∧ r = dProg cy F k') ∨ (op = Op.clear ∧ k = 0 ∧ cy.clear = true ∧ r = F.rest) := by
  cases k with
  | succ k' =>
    simp only [dProg, List.replicate_succ, List.cons_append, List.cons.injEq] at h
    exact Or.inl ⟨h.1.symm, k', rfl, h.2.symm⟩
  | zero =>
    cases hb : cy.clear with
    | true =>
      simp only [dProg, hb, List.replicate_zero, List.nil_append, if_true, List.cons_append, List.cons.injEq] at h
      exact Or.inr ⟨h.1.symm, rfl, rfl, h.2.symm⟩
    | false =>
      have := hl rfl hb
      simp [dProg, hb, this] at h

theorem dProg_eq_rest (h : dProg cy F k = F.rest) : k = 0 ∧ cy.clear = false := by
  have := congrArg List.length h
  cases hb : cy.clear <;> simp [dProg, hb] at this ⊢ <;> omega

end

theorem D_cstep {s t : CState} (hD : PhaseD c ac cy F s) (hlive : s.prog = F.rest → F.rest = [])
    (hst : CStep s t) : CInv c ac cy F t := by
  obtain ⟨ds, e, k, hp, hcount, houts, hsd, hdel⟩ := hD.ex
  have pcne : ∀ {p : CPc}, s.pc = p → p = .idle := fun hp' => hp' ▸ hD.pc
  have hl : k = 0 → cy.clear = false → F.rest = [] := by
    intro hk hb; apply hlive; rw [hp, hk, dProg, hb]; rfl
  have head : ∀ {op : Op} {r : List Op}, s.prog = op :: r → _ := fun h' => dProg_head (hp ▸ h') hl
  cases hst with
  | pushErr _ _ _ _ h' | pushNil _ _ _ h' | pushFull _ _ _ _ h' | pushRoom _ _ _ _ h' | finErr _ _ _ h'
  | finNil _ _ h' | finFast _ _ _ h' | finDisk _ _ _ h' | finEmpty _ _ _ _ _ _ h' | reject _ _ h' =>
    rcases head h' with ⟨h, _⟩ | ⟨h, _⟩ <;> cases h
  | send _ _ hpc | recvErr _ _ _ hpc | recvOk _ _ hpc | fsend _ _ hpc | fwrite _ _ hpc | waitErr _ hpc
  | waitOk _ _ _ hpc => cases pcne hpc
  | pull rest hpc hprog =>
    rcases head hprog with ⟨_, k', rfl, hrest⟩ | ⟨h, _⟩
    · have hfr := pullF_frame s
      rcases pullF_spec s hdel.files with hio | ⟨hm, hres⟩
      · refine Or.inl ?_
        rw [hio]; exact RepAfter.finish ((congrArg List.reverse hfr.outs).trans houts) _
      obtain ⟨r, v, ds', e', hrv, hr, hlen, houts', hsd', hdel'⟩ := hdel.next (Nat.le_refl 1) hsd
      rw [show (pullF s).2 = (r, v) from hres.trans hrv]
      refine .ofD (hm ▸ hdel'.err)
        ⟨rfl, fun w hw => hD.quiet w (hfr.writers ▸ hw), ds', e', k', ?_, by omega, ?_, hsd', ?_⟩
      · show (if r = .panic ∨ r = .hang then [] else if r = .ioerr then _ else (pullF s).1.prog.tail) = _
        rw [hfr.prog, hprog, hrest]
        rcases hr with rfl | rfl <;> rfl
      · rw [finishOp_outs, hfr.outs, hm, houts, ← houts']; simp
      · rw [finishOp_m, hm]; exact hdel'
    · cases h
  | clear rest hpc hprog =>
    obtain ⟨h, _⟩ | ⟨_, rfl, hcl, hrest⟩ := head hprog
    · cases h
    have hfr := clearF_frame s
    rcases clearF_spec s with ⟨hio, _⟩ | ⟨hok, hm⟩
    · refine Or.inl ?_
      rw [hio]; exact RepAfter.finish ((congrArg List.reverse hfr.outs).trans houts) _
    · obtain ⟨hl0, hp0, he0⟩ := clear_len_pos s.m
      rw [hok]
      refine .ofEnd (hm ▸ he0) ⟨rfl, ?_, fun w hw => hD.quiet w (hfr.writers ▸ hw), ?_, ?_, ?_⟩
      · show (clearF s).1.prog.tail = _; rw [hfr.prog, hprog, hrest]; rfl
      · show (clearF s).1.m.files = []
        rw [hm]; exact hdel.clear.files
      · have houts' : (finishOp (clearF s).1 .ok none).outs.reverse
            = s.outs.reverse ++ [⟨.ok, none, 0, 0⟩] := by
          rw [finishOp_outs, hfr.outs, hm, hl0, hp0]
        obtain ⟨ys, hys, h⟩ := hdel.spec cy hcount hsd
        exact ⟨ys, hys, by rw [houts', houts, ← h, hcl]; simp⟩
      · show Fresh c ac 1 (clearF s).1.m
        rw [hm]; exact hdel.clear

/-- `hlive`: the cycle is not over, or nothing follows it -/
theorem CInv_step {s t : CState} {i : Nat} (hc : 1 ≤ c) (hs : Str s) (ho : Old F s) (h : CInv c ac cy F s)
    (hlive : s.pc = .idle → s.prog = F.rest → F.rest = []) (hst : step s i = some t) : CInv c ac cy F t := by
  rcases step_blocks hst with ⟨_, hcs⟩ | ⟨k, w, w', s', _, hk, hw, rfl⟩
  · rcases h with hrep | hpend | ⟨herr, hF | hZ | hD | hE⟩
    · exact Or.inl (hrep.of_outs hcs.outs_grow)
    · exact (Pending_cstep cy F hpend hcs).imp_right Or.inl
    · obtain ⟨xs, todo, ch, cp, hF⟩ := hF
      exact F_cstep c ac cy F hc hs ho herr hF hcs
    · obtain ⟨A, cp, hZ⟩ := hZ
      exact Z_cstep c ac cy F hs herr hZ hcs
    · exact D_cstep c ac cy F hD (hlive hD.pc) hcs
    · exact absurd ⟨hE.pc, hE.prog.trans (hlive hE.pc hE.prog)⟩ hcs.not_finished
  · exact CInv_wactor c ac cy F hs ho h hk hw


theorem Old.step {F : Ctx} {s t : CState} {i : Nat} (ho : Old F s) (hst : step s i = some t) : Old F t := by
  rcases step_blocks hst with ⟨_, hcs⟩ | ⟨k, w, w', s', _, hk, hw, rfl⟩
  · rcases (CStep_shape hcs).2 with ⟨_, _, hw | hw⟩ | ⟨s1, r, x, rfl, _, _, hw⟩
    · exact ⟨by rw [hw]; exact ho.le, by rw [hw]; exact ho.done⟩
    · refine ⟨?_, ?_⟩
      · rw [hw, List.length_append]; exact Nat.le_trans ho.le (Nat.le_add_right _ _)
      · rw [hw, List.take_append_of_le_length ho.le]; exact ho.done
    · exact ⟨by show F.n0 ≤ s1.writers.length; rw [hw]; exact ho.le,
        by show ∀ w ∈ s1.writers.take F.n0, _; rw [hw]; exact ho.done⟩
  · exact (ho.wactor hk hw).2.2

theorem fill_ne_rest (todo : List Elem) (tl rest : List Op) :
    todo.map Op.push ++ Op.finalise :: (tl ++ rest) ≠ rest := by
  intro h
  have := congrArg List.length h
  simp at this
  omega

section
variable {c : Nat} {ac : Bool} {cy : Cycle} {F : Ctx} {s : CState}

theorem CInv.prog_nil (h : CInv c ac cy F s) (hp : s.prog = []) : RepAfter F.pre s ∨ F.rest = [] := by
  rcases h with hrep | ⟨_, _, todo, h'⟩ | ⟨_, ⟨xs, todo, ch, cp, hF⟩ | ⟨A, cp, hZ⟩ | hD | hE⟩
  · exact Or.inl hrep
  · rw [hp] at h'; cases todo <;> simp at h'
  · have := hF.prog; rw [hp] at this; cases todo <;> simp at this
  · have := hZ.prog; rw [hp] at this; cases this
  · obtain ⟨ds, e, k, h', _⟩ := hD.ex
    rw [hp, dProg] at h'
    exact Or.inr (List.append_eq_nil_iff.mp (List.append_eq_nil_iff.mp h'.symm).2).2
  · exact Or.inr (hE.prog ▸ hp)

/-- the cycle is over: its outputs are those the property demands, every activation has ended, a closed
    cycle has left the sorter fresh, and one pulled to io.EOF has no run file left -/
theorem cycle_over (h : CInv c ac cy F s) (hnr : ¬ RepAfter F.pre s) (hprog : s.prog = F.rest) :
    Final ac cy F s ∧ (∀ w ∈ s.writers, w.pc = .done) ∧ (cy.closed ac = true → Fresh c ac 1 s.m)
      ∧ (cy.pushes.length < cy.pulls → s.m.files = []) := by
  rcases h with hrep | ⟨_, _, todo, h'⟩ | ⟨_, ⟨xs, todo, ch, cp, hF⟩ | ⟨A, cp, hZ⟩ | hD | hE⟩
  · exact absurd hrep hnr
  · exact absurd (h'.symm.trans hprog) (fill_ne_rest todo _ _)
  · exact absurd (hF.prog.symm.trans hprog) (fill_ne_rest todo _ _)
  · exact absurd (hZ.prog.symm.trans hprog) (fill_ne_rest [] _ _)
  · obtain ⟨ds, e, k, hp, hcount, houts, hsd, hdel⟩ := hD.ex
    obtain ⟨rfl, hcl⟩ := dProg_eq_rest (hp.symm.trans hprog)
    obtain ⟨ys, hys, hsp⟩ := hdel.spec cy hcount hsd
    refine ⟨⟨ys, hys, by rw [houts, ← hsp, hcl]; simp⟩, hD.quiet, ?_,
      fun hdrain => hdel.files_eof (by have := hdel.length_le; omega)⟩
    intro hclosed
    simp only [Cycle.closed, hcl, Bool.false_or, Bool.and_eq_true, decide_eq_true_eq] at hclosed
    obtain ⟨hac, hdrain⟩ := hclosed
    rcases hdel with ⟨he, _, hperm, _, _⟩ | ⟨_, _, _, hfr⟩
    · exfalso
      subst he
      have := hperm.length_eq
      simp only [List.length_append] at this
      omega
    · exact hfr hac
  · exact ⟨hE.final, hE.quiet, fun _ => hE.fresh, fun _ => hE.files⟩

theorem CInv_fresh (cy : Cycle) (F : Ctx) {u : CState} (hfr : Fresh c ac 1 u.m) (hpc : u.pc = .idle)
    (hw : F.ws u = []) (ho : u.outs.reverse = F.pre) (hp : u.prog = cy.ops ++ F.rest) (hwb : u.writable.buf = []) :
    CInv c ac cy F u := by
  refine .ofF (xs := []) (todo := cy.pushes) (ch := []) (cp := []) hfr.err ?_
  refine ⟨by simp, ?_, ?_, hfr.pos, hfr.len, hfr.cs, hfr.ac, hfr.chunk, by simp,
    fun _ => ⟨hfr.files, hwb⟩, ?_, Or.inl ⟨hpc, rfl, ?_, fun h => absurd hw h⟩⟩
  · rw [hp, cycle_ops_eq, List.append_assoc]; rfl
  · rw [ho]; simp [pushOuts]
  · rw [hw, hwb, hfr.files]; exact DI_init
  · rw [hw]; simp

end

end Biogo.MorassConc
