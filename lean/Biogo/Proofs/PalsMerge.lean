/-
C15, the merger (`Biogo.PalsMerge`).

`walk_spec` is the loop invariant of `MergeFilterHit`: on an active list that is ascending in the
diagonals with more than `diagonalPadding` between neighbours, whose trapezoids are at least
`binWidth` wide and start at or below the new hit's `From` (the sorted-input assumption), one
call keeps those three facts, only enlarges trapezoids, and leaves the new hit inside one of them.
On any input, what is in the two lists afterwards was made from what was there and the hit's own
trapezoid by `widen` and `absorb` (`walk_forall`), and the model answers as long as no right edge lies
beyond `Qlen + binWidth` (`walk_total`), which hits that are not `dropped` never cause.
-/
import Biogo.Model.PalsMerge

namespace Biogo.Proofs.PalsMerge
open Biogo.PalsMerge

/-- the middle row of a trapezoid (`clip`, and `alignRecursion` of the kernel) lies within its rows -/
theorem tdiv_mid (b t : Int) (h : b ≤ t) : b ≤ (b + t).tdiv 2 ∧ (b + t).tdiv 2 ≤ t := by
  rcases Int.le_total 0 (b + t) with hs | hs
  · rw [Int.tdiv_eq_ediv_of_nonneg hs]; omega
  · have e : (b + t).tdiv 2 = -((-(b + t)).tdiv 2) := by rw [Int.neg_tdiv, Int.neg_neg]
    rw [e, Int.tdiv_eq_ediv_of_nonneg (by omega)]
    omega

def Sub (t t' : Trap) : Prop :=
  t'.left ≤ t.left ∧ t.right ≤ t'.right ∧ t'.bottom ≤ t.bottom ∧ t.top ≤ t'.top

theorem Sub.refl (t : Trap) : Sub t t := ⟨Int.le_refl _, Int.le_refl _, Int.le_refl _, Int.le_refl _⟩

theorem Sub.trans {a b d : Trap} (h1 : Sub a b) (h2 : Sub b d) : Sub a d := by
  unfold Sub at *; omega

/-- the band `[L, L + binWidth]` and the query interval `[B, T]` of a hit lie inside `t` -/
def Holds (c : Cfg) (t : Trap) (L T B : Int) : Prop :=
  t.left ≤ L ∧ L + c.binWidth ≤ t.right ∧ t.bottom ≤ B ∧ T ≤ t.top

theorem Holds.mono {c : Cfg} {t t' : Trap} {L T B : Int} (h : Holds c t L T B) (s : Sub t t') :
    Holds c t' L T B := by
  unfold Holds Sub at *; omega

/-- neighbours are more than `diagonalPadding` apart -/
def Gap (x y : Trap) : Prop := x.right + diagonalPadding < y.left

theorem Gap.cons {c : Cfg} (hbw : 0 ≤ c.binWidth) {x t : Trap} {tt : List Trap} (h : Gap x t)
    (hw : t.left + c.binWidth ≤ t.right) (ht : ∀ b ∈ tt, Gap t b) : ∀ b ∈ t :: tt, Gap x b := by
  intro b hb
  rcases List.mem_cons.mp hb with rfl | hb
  · exact h
  · have := ht b hb
    have : (0 : Int) ≤ diagonalPadding := by decide
    unfold Gap at *
    omega

/-- the invariant of the active list while hits with `From ≥ B` are still to come -/
structure Good (c : Cfg) (B : Int) (l : List Trap) : Prop where
  chain : l.Pairwise Gap
  wide : ∀ t ∈ l, t.left + c.binWidth ≤ t.right
  low : ∀ t ∈ l, t.bottom ≤ B

theorem Good.nil (c : Cfg) (B : Int) : Good c B [] :=
  ⟨List.Pairwise.nil, by simp, by simp⟩

theorem Good.mono {c : Cfg} {B B' : Int} {l : List Trap} (h : Good c B l) (hb : B ≤ B') : Good c B' l :=
  ⟨h.chain, h.wide, fun t ht => Int.le_trans (h.low t ht) hb⟩

/-- how a call "only enlarges": every trapezoid there was, active or finished, lies inside one there is now -/
def Covers (old new : List Trap) : Prop := ∀ t ∈ old, ∃ t' ∈ new, Sub t t'

theorem Covers.refl (l : List Trap) : Covers l l := fun t ht => ⟨t, ht, Sub.refl t⟩

theorem Covers.trans {a b d : List Trap} (h1 : Covers a b) (h2 : Covers b d) : Covers a d := by
  intro t ht
  obtain ⟨t', ht', s⟩ := h1 t ht
  obtain ⟨t'', ht'', s'⟩ := h2 t' ht'
  exact ⟨t'', ht'', s.trans s'⟩

theorem Covers.of_subset {a b : List Trap} (h : ∀ t ∈ a, t ∈ b) : Covers a b :=
  fun t ht => ⟨t, h t ht, Sub.refl t⟩

theorem Covers.frame {p a a' d : List Trap} (h : Covers a a') : Covers (p ++ a ++ d) (p ++ a' ++ d) := by
  intro t ht
  rcases List.mem_append.mp ht with hpa | hd
  · rcases List.mem_append.mp hpa with hp | ha
    · exact ⟨t, List.mem_append_left _ (List.mem_append_left _ hp), Sub.refl t⟩
    · obtain ⟨t', ht', s⟩ := h t ha
      exact ⟨t', List.mem_append_left _ (List.mem_append_right _ ht'), s⟩
  · exact ⟨t, List.mem_append_right _ hd, Sub.refl t⟩

theorem Covers.cons_left {x : Trap} {a n : List Trap} (hx : ∃ t' ∈ n, Sub x t') (h : Covers a n) : Covers (x :: a) n := by
  intro t ht
  rcases List.mem_cons.mp ht with rfl | h'
  · exact hx
  · exact h t h'

section
variable (c : Cfg) (L T B : Int)

theorem widen_left (base : Trap) : (widen c L T base).left = min base.left L := by
  unfold widen; dsimp only; split <;> omega

theorem widen_right (base : Trap) : (widen c L T base).right = max base.right (L + c.binWidth) := by
  unfold widen; dsimp only; split <;> omega

theorem widen_bottom (base : Trap) : (widen c L T base).bottom = base.bottom := rfl

theorem widen_top (base : Trap) : (widen c L T base).top = max base.top T := by
  unfold widen; dsimp only; split <;> omega

theorem widen_sub (base : Trap) : Sub base (widen c L T base) := by
  unfold Sub; rw [widen_left, widen_right, widen_bottom, widen_top]; omega

theorem widen_holds (base : Trap) (hlow : base.bottom ≤ B) : Holds c (widen c L T base) L T B := by
  unfold Holds; rw [widen_left, widen_right, widen_bottom, widen_top]; omega

theorem absorb_left (x y : Trap) : (absorb x y).left = x.left := rfl
theorem absorb_right (x y : Trap) : (absorb x y).right = y.right := rfl
theorem absorb_bottom (x y : Trap) : (absorb x y).bottom = min x.bottom y.bottom := by
  unfold absorb; dsimp only; split <;> omega
theorem absorb_top (x y : Trap) : (absorb x y).top = max x.top y.top := by
  unfold absorb; dsimp only; split <;> omega

theorem absorb_sub_left (x y : Trap) (h : x.right ≤ y.right) : Sub x (absorb x y) := by
  unfold Sub; rw [absorb_left, absorb_right, absorb_bottom, absorb_top]; omega

theorem absorb_sub_right (x y : Trap) (h : x.left ≤ y.left) : Sub y (absorb x y) := by
  unfold Sub; rw [absorb_left, absorb_right, absorb_bottom, absorb_top]; omega

end

theorem Good.append_iff {c : Cfg} {B : Int} {p r : List Trap} :
    Good c B (p ++ r) ↔ Good c B p ∧ Good c B r ∧ ∀ a ∈ p, ∀ b ∈ r, Gap a b := by
  constructor
  · rintro ⟨hc, hw, hl⟩
    rw [List.pairwise_append] at hc
    rw [List.forall_mem_append] at hw hl
    exact ⟨⟨hc.1, hw.1, hl.1⟩, ⟨hc.2.1, hw.2, hl.2⟩, hc.2.2⟩
  · rintro ⟨hp, hr, hx⟩
    exact ⟨List.pairwise_append.mpr ⟨hp.chain, hr.chain, hx⟩, List.forall_mem_append.mpr ⟨hp.wide, hr.wide⟩,
      List.forall_mem_append.mpr ⟨hp.low, hr.low⟩⟩

theorem Good.cons_iff {c : Cfg} {B : Int} {x : Trap} {r : List Trap} :
    Good c B (x :: r) ↔ (x.left + c.binWidth ≤ x.right ∧ x.bottom ≤ B) ∧ Good c B r ∧ ∀ b ∈ r, Gap x b := by
  constructor
  · rintro ⟨hc, hw, hl⟩
    rw [List.pairwise_cons] at hc
    rw [List.forall_mem_cons] at hw hl
    exact ⟨⟨hw.1, hl.1⟩, ⟨hc.2, hw.2, hl.2⟩, hc.1⟩
  · rintro ⟨⟨hw, hl⟩, hr, hx⟩
    exact ⟨List.pairwise_cons.mpr ⟨hx, hr.chain⟩, List.forall_mem_cons.mpr ⟨hw, hr.wide⟩,
      List.forall_mem_cons.mpr ⟨hl, hr.low⟩⟩

theorem Good.splice {c : Cfg} {B : Int} {p r : List Trap} {x : Trap} (hp : Good c B p) (hr : Good c B r)
    (hpr : ∀ a ∈ p, ∀ b ∈ r, Gap a b) (hw : x.left + c.binWidth ≤ x.right) (hl : x.bottom ≤ B)
    (hpx : ∀ a ∈ p, Gap a x) (hxr : ∀ b ∈ r, Gap x b) : Good c B (p ++ x :: r) := by
  refine Good.append_iff.mpr ⟨hp, Good.cons_iff.mpr ⟨⟨hw, hl⟩, hr, hxr⟩, fun a ha b hb => ?_⟩
  rcases List.mem_cons.mp hb with rfl | h
  · exact hpx a ha
  · exact hpr a ha b h

theorem forall_mem_splice {P : Trap → Prop} {p r : List Trap} {x : Trap} :
    (∀ t ∈ p.reverse ++ x :: r, P t) ↔ (∀ t ∈ p, P t) ∧ P x ∧ ∀ t ∈ r, P t := by
  simp only [List.forall_mem_append, List.forall_mem_cons, List.mem_reverse]

theorem fresh_holds (c : Cfg) (L T B : Int) : Holds c (fresh c L T B) L T B := by
  unfold Holds fresh; dsimp only; omega

/-- the hit is merged into `base` and `base` is not absorbed by its left neighbour -/
theorem bridge_spec (c : Cfg) (hbw : 0 ≤ c.binWidth) (L T B : Int) (base : Trap) (pre temp done : List Trap) (s' : St)
    (hg : Good c B (pre.reverse ++ base :: temp))
    (hbL : ∀ a ∈ pre.reverse, a.right + diagonalPadding < (widen c L T base).left) (hL : ¬L - diagonalPadding > base.right)
    (hb : bridge c (widen c L T base) pre temp done = some s') :
    Good c B s'.active ∧ Covers (pre.reverse ++ base :: temp ++ done) (s'.active ++ s'.done) ∧
      ∃ t' ∈ s'.active, Holds c t' L T B := by
  obtain ⟨gp, gr, gx⟩ := Good.append_iff.mp hg
  obtain ⟨⟨bw, bl⟩, gt, gbt⟩ := Good.cons_iff.mp gr
  have hwl := widen_left c L T base
  have hwr := widen_right c L T base
  have hwb := widen_bottom c L T base
  have hh := widen_holds c L T B base bl
  unfold bridge at hb
  split at hb
  · split at hb
    · cases hb
    · cases hb
      refine ⟨?_, Covers.frame ?_, _, by simp, hh⟩
      · exact Good.splice gp (Good.nil c B) (by simp) (by omega) (by omega) hbL (by simp)
      · exact Covers.cons_left ⟨_, List.mem_cons_self, widen_sub c L T base⟩ (fun _ h => nomatch h)
  · rename_i t tt
    obtain ⟨⟨tw, tl⟩, gtt, gttt⟩ := Good.cons_iff.mp gt
    have gbt1 : base.right + diagonalPadding < t.left := gbt t List.mem_cons_self
    split at hb
    · rename_i h4
      cases hb
      have hr : (widen c L T base).right ≤ t.right := by omega
      have hl : (widen c L T base).left ≤ t.left := by omega
      refine ⟨?_, Covers.frame ?_, _, by simp,
        hh.mono (absorb_sub_left _ _ hr)⟩
      · exact Good.splice gp gtt (fun a ha b hb => gx a ha b (List.mem_cons_of_mem _ (List.mem_cons_of_mem _ hb)))
          (by rw [absorb_left, absorb_right]; omega) (by rw [absorb_bottom]; omega) hbL gttt
      · exact Covers.cons_left ⟨_, List.mem_cons_self, (widen_sub c L T base).trans (absorb_sub_left _ _ hr)⟩
          (Covers.cons_left ⟨_, List.mem_cons_self, absorb_sub_right _ _ hl⟩
            (Covers.of_subset fun x hx => List.mem_cons_of_mem _ hx))
    · rename_i h4
      cases hb
      refine ⟨?_, Covers.frame ?_, _, by simp, hh⟩
      · exact Good.splice gp gt (fun a ha b hb => gx a ha b (List.mem_cons_of_mem _ hb)) (by omega) (by omega) hbL
          (Gap.cons hbw (show _ + diagonalPadding < _ by omega) tw gttt)
      · exact Covers.cons_left ⟨_, List.mem_cons_self, widen_sub c L T base⟩
          (Covers.of_subset fun x hx => List.mem_cons_of_mem _ hx)

/-- second hypothesis: the nodes already passed (`pre`) end more than `diagonalPadding` left of the hit's band,
    which keeps the `Gap` between them and the trapezoid the hit is put into -/
theorem walk_spec (c : Cfg) (hbw : 0 ≤ c.binWidth) (L T B : Int) (pre rest done : List Trap) (s' : St) :
      Good c B (pre.reverse ++ rest) → (∀ x ∈ pre, x.right + diagonalPadding < L) →
      walk c L T B pre rest done = some s' →
      Good c B s'.active ∧ Covers (pre.reverse ++ rest ++ done) (s'.active ++ s'.done) ∧
      ∃ t' ∈ s'.active, Holds c t' L T B := by
  have hfresh : ∀ pre : List Trap, (∀ x ∈ pre, x.right + diagonalPadding < L) → ∀ a ∈ pre.reverse, Gap a (fresh c L T B) :=
    fun pre hpre a ha => hpre a (List.mem_reverse.mp ha)
  have hbL : ∀ (pre : List Trap) (base : Trap) (temp : List Trap), Good c B (pre.reverse ++ base :: temp) →
      (∀ x ∈ pre, x.right + diagonalPadding < L) → ∀ a ∈ pre.reverse, a.right + diagonalPadding < (widen c L T base).left := by
    intro pre base temp hg hpre a ha
    have q1 := hpre a (List.mem_reverse.mp ha)
    have q2 : a.right + diagonalPadding < base.left := (Good.append_iff.mp hg).2.2 a ha base List.mem_cons_self
    rw [widen_left]; omega
  fun_induction walk c L T B pre rest done with
  | case1 pre done =>
    intro hg hpre hw; cases hw
    rw [List.append_nil] at hg
    refine ⟨?_, Covers.frame (fun _ h => nomatch h),
      _, by simp, fresh_holds c L T B⟩
    exact Good.splice hg (Good.nil c B) (by simp) (Int.le_refl _) (Int.le_refl _) (hfresh pre hpre) (by simp)
  | case2 pre base temp done _ ih =>
    intro hg hpre hw
    obtain ⟨gp, gr, gx⟩ := Good.append_iff.mp hg
    have hg' : Good c B (pre.reverse ++ temp) :=
      Good.append_iff.mpr ⟨gp, (Good.cons_iff.mp gr).2.1, fun a ha b hb => gx a ha b (List.mem_cons_of_mem _ hb)⟩
    obtain ⟨g1, cv, hh⟩ := ih hg' hpre hw
    exact ⟨g1, Covers.trans (Covers.of_subset (by grind)) cv, hh⟩
  | case3 pre base temp done _ h2 ih =>
    intro hg hpre hw
    have e : (base :: pre).reverse ++ temp = pre.reverse ++ base :: temp := by simp
    rw [← e] at hg ⊢
    refine ih hg (fun x hx => ?_) hw
    rcases List.mem_cons.mp hx with rfl | h
    · omega
    · exact hpre x h
  | case4 base temp done _ h2 =>
    intro hg hpre hw
    exact bridge_spec c hbw L T B base [] temp done s' hg (hbL _ _ _ hg hpre) h2 hw
  | case5 base temp done _ _ _ free pre' hf =>
    -- the left neighbour is more than `diagonalPadding` away
    intro hg hpre _
    have := hbL _ _ _ hg hpre free (by simp)
    omega
  | case6 base temp done _ h2 _ free pre' _ =>
    intro hg hpre hw
    exact bridge_spec c hbw L T B base _ temp done s' hg (hbL _ _ _ hg hpre) h2 hw
  | case7 pre base temp done _ h2 h3 =>
    intro hg hpre hw; cases hw
    obtain ⟨gp, gr, gx⟩ := Good.append_iff.mp hg
    obtain ⟨⟨bw, _⟩, _, gbt⟩ := Good.cons_iff.mp gr
    simp only [Cfg.leftPadding] at h3
    refine ⟨?_, Covers.frame (Covers.of_subset fun x hx => List.mem_cons_of_mem _ hx), _, by simp, fresh_holds c L T B⟩
    exact Good.splice gp gr gx (Int.le_refl _) (Int.le_refl _) (hfresh pre hpre)
      (Gap.cons hbw (by simp only [Gap, fresh]; omega) bw gbt)

theorem bridge_forall (c : Cfg) (P D : Trap → Prop) (hab : ∀ x y, P x → P y → P (absorb x y)) (b : Trap)
    (pre temp done : List Trap) (s' : St) (hb : P b) (hp : ∀ t ∈ pre, P t) (ht : ∀ t ∈ temp, P t)
    (hd : ∀ t ∈ done, D t) (h : bridge c b pre temp done = some s') :
    (∀ t ∈ s'.active, P t) ∧ (∀ t ∈ s'.done, D t) := by
  unfold bridge at h
  split at h
  · split at h
    · cases h
    · cases h
      exact ⟨forall_mem_splice.mpr ⟨hp, hb, fun _ h => nomatch h⟩, hd⟩
  · rw [List.forall_mem_cons] at ht
    split at h <;> cases h
    · exact ⟨forall_mem_splice.mpr ⟨hp, hab _ _ hb ht.1, ht.2⟩, hd⟩
    · exact ⟨forall_mem_splice.mpr ⟨hp, hb, List.forall_mem_cons.mpr ht⟩, hd⟩

/-- `P` for the active list: trapezoids made from active ones and the hit's own by `widen` and `absorb`;
    `D` for the finished list, which only gains trapezoids that were active, as they were. -/
theorem walk_forall (c : Cfg) (L T B : Int) (P D : Trap → Prop) (hf : P (fresh c L T B))
    (hwid : ∀ t, P t → P (widen c L T t)) (hab : ∀ x y, P x → P y → P (absorb x y))
    (pre rest done : List Trap) (s' : St) :
    (∀ t ∈ pre, P t) → (∀ t ∈ rest, P t) → (∀ t ∈ rest, D t) → (∀ t ∈ done, D t) →
      walk c L T B pre rest done = some s' → (∀ t ∈ s'.active, P t) ∧ (∀ t ∈ s'.done, D t) := by
  fun_induction walk c L T B pre rest done with
  | case1 pre done =>
    intro hp _ _ hd hw; cases hw
    exact ⟨forall_mem_splice.mpr ⟨hp, hf, fun _ h => nomatch h⟩, hd⟩
  | case2 pre base temp done _ ih =>
    intro hp hr hrd hd hw
    rw [List.forall_mem_cons] at hr hrd
    exact ih hp hr.2 hrd.2 (List.forall_mem_cons.mpr ⟨hrd.1, hd⟩) hw
  | case3 pre base temp done _ _ ih =>
    intro hp hr hrd hd hw
    rw [List.forall_mem_cons] at hr hrd
    exact ih (List.forall_mem_cons.mpr ⟨hr.1, hp⟩) hr.2 hrd.2 hd hw
  | case4 base temp done =>
    intro hp hr _ hd hw
    rw [List.forall_mem_cons] at hr
    exact bridge_forall c P D hab _ _ _ _ s' (hwid _ hr.1) hp hr.2 hd hw
  | case5 base temp done _ _ _ free pre' _ =>
    intro hp hr _ hd hw; cases hw
    rw [List.forall_mem_cons] at hr hp
    exact ⟨forall_mem_splice.mpr ⟨hp.2, hab _ _ hp.1 (hwid _ hr.1), hr.2⟩, hd⟩
  | case6 base temp done _ _ _ free pre' _ =>
    intro hp hr _ hd hw
    rw [List.forall_mem_cons] at hr
    exact bridge_forall c P D hab _ _ _ _ s' (hwid _ hr.1) hp hr.2 hd hw
  | case7 pre base temp done =>
    intro hp hr _ hd hw; cases hw
    exact ⟨forall_mem_splice.mpr ⟨hp, hf, hr⟩, hd⟩

/-- the one `none` of the walk is `bridge` reading the sentinel as a trapezoid, at a right edge of
    `Qlen + 1 + leftPadding - diagonalPadding` -/
theorem walk_total (c : Cfg) (L T B : Int) (hL : L ≤ c.qlen) (pre rest done : List Trap) :
    (∀ t ∈ rest, t.right ≤ c.qlen + c.binWidth) → ∃ s', walk c L T B pre rest done = some s' := by
  have hb : ∀ base pre temp done, base.right ≤ c.qlen + c.binWidth →
      ∃ s', bridge c (widen c L T base) pre temp done = some s' := by
    intro base pre temp done hbase
    unfold bridge
    split
    · rw [if_neg]
      · exact ⟨_, rfl⟩
      · rw [widen_right]
        simp only [Cfg.leftPadding]
        omega
    · split <;> exact ⟨_, rfl⟩
  fun_induction walk c L T B pre rest done with
  | case1 | case5 | case7 => intro _; exact ⟨_, rfl⟩
  | case2 _ _ _ _ _ ih | case3 _ _ _ _ _ _ ih => intro hr; exact ih fun t ht => hr t (List.mem_cons_of_mem _ ht)
  | case4 | case6 => intro hr; exact hb _ _ _ _ (hr _ List.mem_cons_self)

theorem dropped_eq_false {c : Cfg} {h : FHit} :
    dropped c h = false ↔ -h.diagonal ≤ c.qlen ∧ (c.selfComparison = true → c.maxError < -h.diagonal - c.maxIGap) := by
  simp only [dropped, beyondQuery, selfCut, Bool.or_eq_false_iff, Bool.and_eq_false_iff, decide_eq_false_iff_not]
  cases c.selfComparison <;> simp <;> omega

/-- hits arrive in ascending `From` (the morass sorts them by `Hit.Less`) -/
def SortedByFrom (hits : List FHit) : Prop := hits.Pairwise (fun a b => a.from_ ≤ b.from_)

/-- `doneWide`: for `merger_output_wellformed`; `Good` no longer speaks of a trapezoid moved to the finished list -/
structure SInv (c : Cfg) (B : Int) (s : St) : Prop where
  good : Good c B s.active
  doneWide : ∀ t ∈ s.done, t.left + c.binWidth ≤ t.right

theorem mergeHit_spec (c : Cfg) (hbw : 0 ≤ c.binWidth) (s s' : St) (h : FHit)
    (inv : SInv c h.from_ s) (hm : mergeHit c s h = some s') :
    SInv c h.from_ s' ∧ Covers (s.active ++ s.done) (s'.active ++ s'.done) ∧
    (dropped c h = false → ∃ t ∈ s'.active ++ s'.done, Holds c t (-h.diagonal) h.to h.from_) := by
  unfold mergeHit at hm
  split at hm
  · rename_i hc
    cases hm
    exact ⟨inv, Covers.refl _, fun h' => by rw [hc] at h'; cases h'⟩
  · split at hm
    · cases hm
    · have hg : Good c h.from_ ([].reverse ++ s.active) := by simpa using inv.good
      obtain ⟨g, cv, t, ht, hh⟩ := walk_spec c hbw _ _ _ [] s.active s.done s' hg (by simp) hm
      refine ⟨⟨g, ?_⟩, by simpa using cv, fun _ => ⟨t, List.mem_append_left _ ht, hh⟩⟩
      -- `walk_forall` at `P := True` (nothing asked of the active list), `D :=` wide, which `Good` gives of `s.active`
      exact (walk_forall c _ _ _ (fun _ => True) _ trivial (fun _ _ => trivial) (fun _ _ _ _ => trivial) [] s.active s.done
        s' (by simp) (fun _ _ => trivial) inv.good.wide inv.doneWide hm).2

theorem mergeAll_spec (c : Cfg) (hbw : 0 ≤ c.binWidth) :
    ∀ (hits : List FHit) (s s' : St) (B : Int), SInv c B s → (∀ h ∈ hits, B ≤ h.from_) →
      SortedByFrom hits → mergeAll c s hits = some s' →
      (∃ B', SInv c B' s') ∧ Covers (s.active ++ s.done) (s'.active ++ s'.done) ∧
      ∀ h ∈ hits, dropped c h = false → ∃ t ∈ s'.active ++ s'.done, Holds c t (-h.diagonal) h.to h.from_ := by
  intro hits
  induction hits with
  | nil =>
    intro s s' B inv _ _ hm
    cases hm
    exact ⟨⟨B, inv⟩, Covers.refl _, by simp⟩
  | cons h hs ih =>
    intro s s' B inv hB hsort hm
    unfold mergeAll at hm
    split at hm
    · cases hm
    · rename_i s1 h1
      have hBh := hB h List.mem_cons_self
      have inv0 : SInv c h.from_ s := ⟨inv.good.mono hBh, inv.doneWide⟩
      obtain ⟨inv1, cv1, hold1⟩ := mergeHit_spec c hbw s s1 h inv0 h1
      have hs' := List.pairwise_cons.mp hsort
      obtain ⟨inv2, cv2, hold2⟩ := ih s1 s' h.from_ inv1 hs'.1 hs'.2 hm
      refine ⟨inv2, cv1.trans cv2, ?_⟩
      intro x hx hcut
      rcases List.mem_cons.mp hx with e | e
      · subst e
        obtain ⟨t, ht, hh⟩ := hold1 hcut
        obtain ⟨t', ht', st⟩ := cv2 t ht
        exact ⟨t', ht', hh.mono st⟩
      · exact hold2 x e hcut

theorem mergeHit_forall (c : Cfg) (P : Trap → Prop) (hab : ∀ x y, P x → P y → P (absorb x y)) (s s' : St) (h : FHit)
    (hf : dropped c h = false → P (fresh c (-h.diagonal) h.to h.from_) ∧ ∀ t, P t → P (widen c (-h.diagonal) h.to t))
    (ha : ∀ t ∈ s.active, P t) (hd : ∀ t ∈ s.done, P t) (hm : mergeHit c s h = some s') :
    (∀ t ∈ s'.active, P t) ∧ (∀ t ∈ s'.done, P t) := by
  unfold mergeHit at hm
  split at hm
  · cases hm; exact ⟨ha, hd⟩
  · rename_i hc
    split at hm
    · cases hm
    · have hfh := hf (by simpa using hc)
      exact walk_forall c _ _ _ P P hfh.1 hfh.2 hab [] s.active s.done s' (by simp) ha ha hd hm

theorem mergeAll_forall (c : Cfg) (P : Trap → Prop) (hab : ∀ x y, P x → P y → P (absorb x y)) :
    ∀ (hits : List FHit) (s s' : St),
      (∀ h ∈ hits, dropped c h = false → P (fresh c (-h.diagonal) h.to h.from_) ∧
        ∀ t, P t → P (widen c (-h.diagonal) h.to t)) →
      (∀ t ∈ s.active, P t) → (∀ t ∈ s.done, P t) → mergeAll c s hits = some s' →
      (∀ t ∈ s'.active, P t) ∧ (∀ t ∈ s'.done, P t) := by
  intro hits
  induction hits with
  | nil =>
    intro s s' _ ha hd hm
    cases hm
    exact ⟨ha, hd⟩
  | cons h hs ih =>
    intro s s' hf ha hd hm
    unfold mergeAll at hm
    split at hm
    · cases hm
    · rename_i s1 h1
      have step := mergeHit_forall c P hab s s1 h (hf h List.mem_cons_self) ha hd h1
      exact ih s1 s' (fun x hx => hf x (List.mem_cons_of_mem _ hx)) step.1 step.2 hm

/-- the bound holds because a hit that is merged has `-Diagonal ≤ Qlen` -/
theorem mergeHit_right (c : Cfg) (s s' : St) (h : FHit) (ha : ∀ t ∈ s.active, t.right ≤ c.qlen + c.binWidth)
    (hd : ∀ t ∈ s.done, t.right ≤ c.qlen + c.binWidth) (hm : mergeHit c s h = some s') :
    (∀ t ∈ s'.active, t.right ≤ c.qlen + c.binWidth) ∧ (∀ t ∈ s'.done, t.right ≤ c.qlen + c.binWidth) := by
  refine mergeHit_forall c _ (fun x y _ hy => hy) s s' h (fun hc => ?_) ha hd hm
  have hL := (dropped_eq_false.mp hc).1
  exact ⟨by simp only [fresh]; omega, fun t ht => by rw [widen_right]; omega⟩

theorem mergeAll_total (c : Cfg) :
    ∀ (hits : List FHit) (s : St), (∀ h ∈ hits, dropped c h = true ∨ inDomain c h = true) →
      (∀ t ∈ s.active, t.right ≤ c.qlen + c.binWidth) → (∀ t ∈ s.done, t.right ≤ c.qlen + c.binWidth) →
      ∃ s', mergeAll c s hits = some s' := by
  intro hits
  induction hits with
  | nil => intro s _ _ _; exact ⟨s, rfl⟩
  | cons h hs ih =>
    intro s hd ha hdn
    have h1 : ∃ s1, mergeHit c s h = some s1 := by
      unfold mergeHit
      by_cases hc : dropped c h = true
      · exact ⟨s, by rw [if_pos hc]⟩
      · have hL := (dropped_eq_false.mp (by simpa using hc)).1
        rw [if_neg hc, (hd h List.mem_cons_self).resolve_left hc]
        exact walk_total c _ h.to h.from_ hL [] s.active s.done ha
    obtain ⟨s1, h1⟩ := h1
    have := mergeHit_right c s s1 h ha hdn h1
    unfold mergeAll
    rw [h1]
    exact ih s1 (fun x hx => hd x (List.mem_cons_of_mem _ hx)) this.1 this.2

end Biogo.Proofs.PalsMerge
