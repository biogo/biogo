/-
The row view of a world: the linear sequences an object consists of (`Obj.lins`), what is observed of
them (`Obj.rowsV`, the rows of the complete observation `viewObj`), and `Separated` — the objects are
row-stored, their rows valid and in pairwise different arrays.  `Clone` and the constructors row by row:
every row they build is observed as its source and lives in a new array.  The frame theorems themselves
are in ContSep / ContSepWorld, over ownership (`Owned`), which a `Separated` world has.  Core-only.
-/
import Biogo.Model.ContWorld
import Biogo.Proofs.ContAnnHeap

namespace Biogo.Containers
open Biogo.Go

/-- the linear sequences an object consists of (column-stored alignments are handled apart) -/
def Obj.lins : Obj → List Lin
  | .lin l => [l]
  | .multi m => m.rows
  | .set m => m.rows
  | .aln _ => []

def Obj.isRowStored : Obj → Bool
  | .aln _ => false
  | _ => true

/-- what is observed of a row-stored object: per row `Start`, `End`, strand, name, kind and
    `At(i)` over `[Start,End)` -/
def Obj.rowsV (h : Cells) (o : Obj) : List RowV := o.lins.map (linRowV h)

theorem viewObj_rows (cx : Ctx) (h : Cells) (o : Obj) (hk : o.isRowStored = true) :
    (viewObj cx h o).rows = o.rowsV h := by
  cases o with
  | lin l | multi m | set m => rfl
  | aln a => simp [Obj.isRowStored] at hk

theorem Obj.rowsV_eq (cx : Ctx) (h : Cells) (o : Obj) :
    o.rowsV h = if o.isRowStored = true then (viewObj cx h o).rows else [] := by
  cases o <;> rfl

theorem rowsV_eq_of_view (cx : Ctx) {h h' : Cells} {o c : Obj} (hk : c.isRowStored = o.isRowStored)
    (e : viewObj cx h' c = viewObj cx h o) : c.rowsV h' = o.rowsV h := by
  rw [Obj.rowsV_eq cx h' c, Obj.rowsV_eq cx h o, hk, e]

theorem linRowV_congr {h h' : Cells} {l : Lin} (ha : h'.arr l.s.arr = h.arr l.s.arr) :
    linRowV h' l = linRowV h l := by
  simp only [linRowV, Lin.letters_congr ha]

/-- separation: every object is row-stored and well formed, and different objects own
    different backing arrays -/
structure Separated (w : World) : Prop where
  wf : ∀ (i : Nat) (o : Obj), w.objs[i]? = some o → o.isRowStored = true ∧ RowsWF w.cells o.lins
  disj : ∀ (i j : Nat) (oi oj : Obj), i ≠ j → w.objs[i]? = some oi → w.objs[j]? = some oj →
    ∀ a ∈ oi.lins, ∀ b ∈ oj.lins, a.s.arr ≠ b.s.arr

theorem Lin.clone_fresh (cx : Ctx) (h : Cells) (l : Lin) (hv : l.Valid h) :
    let r := l.clone cx h
    r.2.letters r.1 = l.letters h ∧ r.2.s.arr = h.arrays.length ∧ r.2.Valid r.1 ∧
    r.1.arrays.length = h.arrays.length + 1 ∧ (∀ b, b < h.arrays.length → r.1.arr b = h.arr b) ∧
    r.2.off = l.off ∧ r.2.strand = l.strand ∧ r.2.name = l.name ∧ r.2.q = l.q ∧ r.2.s.len = l.s.len := by
  obtain ⟨oarr, olen, osz, ov, oold, oread⟩ := ofList_factsG h (h.read l.s) (cx.grow 0 l.s.len) zeroQL
  exact ⟨congrArg (List.map _) oread, oarr, CapValidG.toValid (l := (l.clone cx h).2) ov, osz, oold.old, rfl, rfl, rfl, rfl,
    olen.trans (length_read_of_valid h l hv)⟩

theorem linRowV_clone (cx : Ctx) (h : Cells) (l : Lin) (hv : l.Valid h) :
    linRowV (l.clone cx h).1 (l.clone cx h).2 = linRowV h l := by
  obtain ⟨hl, _, _, _, _, ho, hs, hn, hq, hlen⟩ := Lin.clone_fresh cx h l hv
  simp only [linRowV, Lin.start, Lin.«end», hl, ho, hs, hn, hq, hlen]

theorem Multi.clone_thread (cx : Ctx) (h : Cells) (m : Multi) :
    m.clone cx h = ((thread (fun h (r : Lin) => r.clone cx h) m.rows h).1,
      { m with rows := (thread (fun h (r : Lin) => r.clone cx h) m.rows h).2 }) :=
  congrArg (fun p : Cells × List Lin => (p.1, ({ m with rows := p.2 } : Multi)))
    (foldl_thread_nil (fun h (r : Lin) => r.clone cx h) m.rows h)

theorem cloneRows_spec (cx : Ctx) (rows : List Lin) (h : Cells) :
    All2 (fun r c => CapValidG (thread (fun h (r : Lin) => r.clone cx h) rows h).1 c.s ∧ h.arrays.length ≤ c.s.arr ∧
        (r.Valid h → linRowV (thread (fun h (r : Lin) => r.clone cx h) rows h).1 c = linRowV h r))
      rows (thread (fun h (r : Lin) => r.clone cx h) rows h).2 ∧
    (thread (fun h (r : Lin) => r.clone cx h) rows h).2.Pairwise (fun a b => a.s.arr ≠ b.s.arr) ∧
    Extends h (thread (fun h (r : Lin) => r.clone cx h) rows h).1 := by
  obtain ⟨hall, hpw, hext⟩ := thread_ofList (fun (h : Cells) (r : Lin) => h.read r.s) (fun r => cx.grow 0 r.s.len) zeroQL
    (fun r s => { r with s := s }) (·.s) (fun _ _ => rfl)
    (fun h r => r.s.arr < h.arrays.length) (fun _ _ _ e hq => Nat.lt_of_lt_of_le hq e.size)
    (fun h h' r e hq => read_congr_arr _ _ _ (e.old _ hq)) rows h
  refine ⟨hall.imp fun r c ⟨e, hcv, hnew, hrd⟩ => ⟨hcv, hnew, fun hv => ?_⟩, hpw, hext⟩
  obtain ⟨hread, hlen⟩ := hrd hv.1
  have hread : (thread (fun h (r : Lin) => r.clone cx h) rows h).1.read c.s = h.read r.s := hread
  -- the copy is the row with a new slice: what is observed of it differs in the letters and the length only
  rw [e]
  simp only [linRowV, Lin.start, Lin.«end», Lin.letters, hread, hlen, length_read_of_valid h r hv]

def Op.isC05 : Op → Bool
  | .revComp _ | .reverse _ | .clone _ | .set .. | .rowRevComp .. | .rowReverse .. => true
  | _ => false

/-- `Op.written` (Proofs/ContApply.lean) cut down to the operations of C05: the object the operation
    writes through (`Clone` writes through none; the operations that resize are not C05 and have no
    target).  On a C05 operation the two agree: `Op.written_of_isC05` (Proofs/ContSepWorld.lean). -/
def Op.target : Op → Option Nat
  | .revComp k | .reverse k | .set k _ _ _ | .rowRevComp k _ | .rowReverse k _ => some k
  | _ => none

def runOps (cx : Ctx) (w : World) (ops : List Op) : World :=
  ops.foldl (fun w op => (apply cx w op).1) w

theorem newLin_fresh (cx : Ctx) (h : Cells) (sp : SeqSpec) :
    (newLin cx h sp).2.s.arr = h.arrays.length ∧ CapValidG (newLin cx h sp).1 (newLin cx h sp).2.s ∧
    (newLin cx h sp).1.arrays.length = h.arrays.length + 1 ∧
    (∀ b, b < h.arrays.length → (newLin cx h sp).1.arr b = h.arr b) := by
  obtain ⟨oarr, _, osz, ov, oold, _⟩ :=
    ofList_factsG h (sp.cells.map (Lin.stored sp.q)) (cx.grow 0 sp.cells.length) zeroQL
  exact ⟨oarr, ov, osz, oold.old⟩

theorem newLins_eq (cx : Ctx) (h : Cells) (sps : List SeqSpec) :
    newLins cx h sps = sps.foldl (fun (acc : Cells × List Lin) sp =>
      ((newLin cx acc.1 sp).1, acc.2 ++ [(newLin cx acc.1 sp).2])) (h, []) := rfl

theorem newLins_thread (cx : Ctx) (h : Cells) (sps : List SeqSpec) : newLins cx h sps = thread (newLin cx) sps h := by
  rw [newLins_eq, foldl_thread (newLin cx)]; rfl

theorem newRows_spec (cx : Ctx) (sps : List SeqSpec) (h : Cells) :
    (∀ l ∈ (thread (newLin cx) sps h).2, h.arrays.length ≤ l.s.arr ∧ CapValidG (thread (newLin cx) sps h).1 l.s) ∧
    (thread (newLin cx) sps h).2.Pairwise (fun a b => a.s.arr ≠ b.s.arr) ∧ Extends h (thread (newLin cx) sps h).1 := by
  obtain ⟨hall, hpw, hext⟩ := thread_ofList (fun (_ : Cells) (sp : SeqSpec) => sp.cells.map (Lin.stored sp.q))
    (fun sp => cx.grow 0 sp.cells.length) zeroQL
    (fun sp s => ({ q := sp.q, name := sp.name, off := sp.off, strand := sp.strand, s := s } : Lin)) (·.s) (fun _ _ => rfl)
    (fun _ _ => True) (fun _ _ _ _ _ => trivial) (fun _ _ _ _ _ => rfl) sps h
  refine ⟨fun l hl => ?_, hpw, hext⟩
  obtain ⟨_, _, hr⟩ := hall.exists_left l hl
  exact ⟨hr.2.2.1, hr.2.1⟩

theorem runHistory_fold (cx : Ctx) : ∀ (ops : List Op) (w : World) (acc : List (String × List ObjV)),
    (∃ res, acc.getLast? = some (res, w.view cx)) →
    ∃ res, (ops.foldl (fun (st : World × List (String × List ObjV)) op =>
        ((apply cx st.1 op).1, st.2 ++ [((apply cx st.1 op).2, (apply cx st.1 op).1.view cx)])) (w, acc)).2.getLast?
      = some (res, (runOps cx w ops).view cx) := by
  intro ops
  induction ops with
  | nil => intro w acc hlast; exact hlast
  | cons op ops ih =>
    intro w acc _
    simp only [List.foldl_cons]
    exact ih (apply cx w op).1 (acc ++ [((apply cx w op).2, (apply cx w op).1.view cx)]) ⟨(apply cx w op).2, by simp⟩

/-- the last observation `runHistory` (the function the driver executes) reports is the
    observation of the world `runOps` reaches -/
theorem runHistory_last (cx : Ctx) (w : World) (ops : List Op) :
    ∃ res, (runHistory cx w ops).getLast? = some (res, (runOps cx w ops).view cx) :=
  runHistory_fold cx ops w [("ok", w.view cx)] ⟨"ok", rfl⟩

end Biogo.Containers
