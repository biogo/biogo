/-
C10: words and strings — `KmerOf`, `Format`, `GCof` against digit lists.
-/
import Biogo.Proofs.Kmer

namespace Biogo.Proofs.KmerWord
open Biogo.Kmer Biogo.Spec.Kmer Biogo.Proofs.Kmer

theorem toDigits_length (k w : Nat) : (toDigits k w).length = k := by
  induction k generalizing w with
  | zero => rfl
  | succ k ih => simp [toDigits, ih]

theorem toDigits_lt (k w : Nat) : ∀ d ∈ toDigits k w, d < 4 := by
  induction k generalizing w with
  | zero => simp [toDigits]
  | succ k ih =>
    intro d hd
    simp only [toDigits, List.mem_append, List.mem_singleton] at hd
    rcases hd with hd | rfl
    · exact ih _ d hd
    · exact Nat.mod_lt _ (by decide)

theorem toDigits_succ_head (k w : Nat) : toDigits (k + 1) w = (w / 4 ^ k % 4) :: toDigits k w := by
  induction k generalizing w with
  | zero => simp [toDigits]
  | succ k ih =>
    rw [toDigits, ih, List.cons_append, Nat.div_div_eq_div_mul, Nat.pow_succ, Nat.mul_comm]; rfl

theorem encode_toDigits (k w : Nat) : encode (toDigits k w) = w % 4 ^ k := by
  induction k generalizing w with
  | zero => simp [toDigits, encode, Nat.mod_one]
  | succ k ih =>
    rw [toDigits, encode_append_singleton, ih, Nat.pow_succ, Nat.mul_comm (4 ^ k) 4, Nat.mod_mul, Nat.add_comm,
      Nat.mul_comm]

theorem toDigits_encode_aux (k : Nat) (ds : List Nat) (hl : ds.length = k) (h : ∀ d ∈ ds, d < 4) :
    toDigits k (encode ds) = ds := by
  induction k generalizing ds with
  | zero => rw [List.eq_nil_of_length_eq_zero hl]; rfl
  | succ k ih =>
    have hne : ds ≠ [] := by intro h0; rw [h0] at hl; simp at hl
    have hsplit := List.dropLast_concat_getLast hne
    have hd : ds.getLast hne < 4 := h _ (List.getLast_mem hne)
    have hlen : ds.dropLast.length = k := by rw [List.length_dropLast, hl]; rfl
    have hlt : ∀ x ∈ ds.dropLast, x < 4 := fun x hx => h x (by rw [← hsplit]; simp [hx])
    conv => lhs; rw [← hsplit]
    rw [toDigits, encode_append_singleton]
    rw [Nat.mul_add_mod_self_right, Nat.mod_eq_of_lt hd, Nat.add_comm,
      Nat.add_mul_div_right _ _ (by decide : 0 < 4), Nat.div_eq_of_lt hd, Nat.zero_add,
      ih ds.dropLast hlen hlt, hsplit]

theorem toDigits_encode (ds : List Nat) (h : ∀ d ∈ ds, d < 4) : toDigits ds.length (encode ds) = ds :=
  toDigits_encode_aux ds.length ds rfl h

/-- as long as the word has room for the text, `KmerOf` shifts its digits in -/
theorem kmerOfLoop_ok {lk : Lookup} (hlk : FourLetter lk) (text : List UInt8) (ds : List Nat)
    (hd : digits lk text = some ds) (w j : Nat) (hw : w < 4 ^ j) (hj : 2 * (j + text.length) ≤ wordBits) :
    kmerOfLoop lk text w = .ok (ds.foldl (fun w d => w * 4 + d) w) := by
  induction text generalizing ds w j with
  | nil => cases hd; rfl
  | cons v vs ih =>
    obtain ⟨d, ds', h1, h2, rfl⟩ := digits_cons_some hd
    have hw' := mul4_add_lt hw (hlk v d h1)
    have hj' : 2 * (j + 1 + vs.length) ≤ wordBits := by rw [Nat.add_right_comm]; exact hj
    have hpow := four_pow_le (j + 1) (Nat.le_trans (Nat.mul_le_mul_left 2 (Nat.le_add_right _ _)) hj')
    rw [kmerOfLoop]
    simp only [h1]
    rw [push_eq w d (hlk v d h1) (Nat.lt_of_le_of_lt (Nat.le_add_right _ d) (Nat.lt_of_lt_of_le hw' hpow))]
    exact ih ds' h2 (w * 4 + d) (j + 1) hw' hj'

theorem kmerOfLoop_bad (lk : Lookup) (text : List UInt8) (hd : digits lk text = none) (w : Nat) :
    kmerOfLoop lk text w = .error .badKmerText := by
  induction text generalizing w with
  | nil => simp [digits] at hd
  | cons v vs ih =>
    rw [kmerOfLoop]
    cases hv : lk v with
    | none => rfl
    | some x =>
      simp only []
      cases hvs : digits lk vs with
      | none => exact ih hvs _
      | some ds => simp [digits, hv, hvs] at hd

theorem formatLoop_eq (letter : Nat → UInt8) (n kmer : Nat) (acc : List UInt8) :
    formatLoop letter n kmer acc = (toDigits n kmer).map letter ++ acc := by
  induction n generalizing kmer acc with
  | zero => rfl
  | succ n ih =>
    rw [formatLoop, ih, toDigits, Nat.shiftRight_eq_div_pow]
    have : kmer &&& 3 = kmer % 4 := Nat.and_two_pow_sub_one_eq_mod kmer 2
    rw [this]
    simp

theorem format_eq (letter : Nat → UInt8) (k kmer : Nat) : format letter k kmer = (toDigits k kmer).map letter := by
  unfold format; rw [formatLoop_eq, List.append_nil]

theorem gc_bit (kmer : Nat) :
    ((kmer &&& 1) ^^^ ((kmer &&& 2) >>> 1)) = if (kmer % 4 == 1 || kmer % 4 == 2) then 1 else 0 := by
  have hmod : ∀ m, m < 4 → kmer &&& m = (kmer % 4) &&& m := by
    intro m hm
    have := @Nat.and_mod_two_pow kmer m 2
    rwa [Nat.mod_eq_of_lt (Nat.lt_of_le_of_lt Nat.and_le_right hm), Nat.mod_eq_of_lt (show m < 2 ^ 2 from hm)] at this
  -- only the lowest digit matters, and it has four values
  have key : ∀ x : Fin 4, ((x.1 &&& 1) ^^^ ((x.1 &&& 2) >>> 1)) = if (x.1 == 1 || x.1 == 2) then 1 else 0 := by
    decide
  rw [hmod 1 (by decide), hmod 2 (by decide)]
  exact key ⟨kmer % 4, Nat.mod_lt _ (by decide)⟩

theorem gcLoop_eq (n kmer gc : Nat) : gcLoop n kmer gc = gc + gcCount (toDigits n kmer) := by
  induction n generalizing kmer gc with
  | zero => simp [gcLoop, toDigits, gcCount]
  | succ n ih =>
    rw [gcLoop, ih, gc_bit, toDigits, Nat.shiftRight_eq_div_pow]
    unfold gcCount
    rw [List.countP_append, List.countP_singleton]
    have : (2 : Nat) ^ 2 = 4 := by decide
    rw [this]
    omega

end Biogo.Proofs.KmerWord
