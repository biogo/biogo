/-
Termination of the concurrent sorter model: a measure on states that every atomic block of
every actor strictly decreases — for every caller program, with or without an injected fault,
in both modes, without any invariant.

  μ = cost of the operations still to be made (10 per Push/Finalise, 1 per Pull/Clear/rejected
      Push, less what the current call has already spent)
    + blocks each `write()` activation still has to run (5 at write.recv … 0 when done, plus
      one per element still to encode)
    + elements waiting in `writable` + elements in the caller's chunk

At the start μ is the cost of the program (`mu_init`), at most ten per call (`progCost_le`).
-/
import Biogo.Model.MorassConc
import Biogo.Proofs.Morass
import Biogo.Proofs.MorassConc
import Biogo.Proofs.MorassCycle
import Biogo.Proofs.MorassStep

namespace Biogo.MorassConc
open Biogo.Morass Biogo.Interleave

def opCost : Op → Nat
  | .push _ => 10
  | .finalise => 10
  | .pull => 1
  | .clear => 1
  | .reject => 1

def progCost (p : List Op) : Nat := (p.map opCost).sum

def callerPot (pc : CPc) (prog : List Op) : Nat :=
  match pc with
  | .idle => progCost prog
  | .pushSend => progCost prog.tail + 9
  | .pushRecv => progCost prog.tail + 3
  | .finSend => progCost prog.tail + 9
  | .finWrite => progCost prog.tail + 3
  | .finWait => progCost prog.tail + 2

def wWork (w : Writer) : Nat :=
  match w.pc with
  | .recv => 5
  | .register => 4 + w.todo.length
  | .encode => 3 + w.todo.length
  | .sync => 2
  | .ret => 1
  | .done => 0

def bufElems (b : List (List Elem)) : Nat := (b.map List.length).sum

def chunkElems (s : CState) : Nat :=
  if s.pc = .pushRecv then 0 else (match s.m.chunk with | some ch => ch.length | none => 0)

def mu (s : CState) : Nat :=
  callerPot s.pc s.prog + (s.writers.map wWork).sum + (if s.pc = .finWrite then wWork s.inl else 0)
    + bufElems s.writable.buf + chunkElems s

def chunkLen (m : Morass.State) : Nat := match m.chunk with | some ch => ch.length | none => 0

theorem chunkElems_eq (s : CState) : chunkElems s = if s.pc = .pushRecv then 0 else chunkLen s.m := rfl

theorem progCost_cons (op : Op) (p : List Op) : progCost (op :: p) = opCost op + progCost p := by
  simp [progCost]

theorem opCost_pos (op : Op) : 0 < opCost op := by cases op <;> simp [opCost]

theorem progCost_tail_le (p : List Op) : progCost p.tail ≤ progCost p := by
  cases p with
  | nil => exact Nat.le_refl _
  | cons op t => rw [progCost_cons]; exact Nat.le_add_left _ _

theorem progCost_dropWhile_le (f : Op → Bool) (p : List Op) : progCost (p.dropWhile f) ≤ progCost p := by
  induction p with
  | nil => exact Nat.le_refl _
  | cons op t ih =>
    simp only [List.dropWhile_cons]
    split
    · rw [progCost_cons]; omega
    · exact Nat.le_refl _

theorem finishOp_prog_le (s : CState) (r : Res) (x : Option Elem) :
    progCost (finishOp s r x).prog ≤ progCost s.prog.tail := by
  simp only [finishOp]
  split
  · simp [progCost]
  · split
    · split
      · simp [progCost]
      · exact progCost_dropWhile_le _ _
    · exact Nat.le_refl _

theorem mu_idle {s : CState} (h : s.pc = .idle) :
    mu s = progCost s.prog + (s.writers.map wWork).sum + bufElems s.writable.buf + chunkLen s.m := by
  simp [mu, h, callerPot, chunkElems_eq]

theorem mu_send {s : CState} (h : s.pc = .pushSend ∨ s.pc = .finSend) :
    mu s = progCost s.prog.tail + 9 + (s.writers.map wWork).sum + bufElems s.writable.buf + chunkLen s.m := by
  rcases h with h | h <;> simp [mu, h, callerPot, chunkElems_eq]

theorem mu_pushRecv {s : CState} (h : s.pc = .pushRecv) :
    mu s = progCost s.prog.tail + 3 + (s.writers.map wWork).sum + bufElems s.writable.buf := by
  simp [mu, h, callerPot, chunkElems_eq]

theorem mu_finWrite {s : CState} (h : s.pc = .finWrite) :
    mu s = progCost s.prog.tail + 3 + (s.writers.map wWork).sum + wWork s.inl + bufElems s.writable.buf
      + chunkLen s.m := by
  simp [mu, h, callerPot, chunkElems_eq]

theorem mu_finWait {s : CState} (h : s.pc = .finWait) :
    mu s = progCost s.prog.tail + 2 + (s.writers.map wWork).sum + bufElems s.writable.buf + chunkLen s.m := by
  simp [mu, h, callerPot, chunkElems_eq]

theorem mu_finishOp (s : CState) (r : Res) (x : Option Elem) :
    mu (finishOp s r x) = progCost (finishOp s r x).prog + (s.writers.map wWork).sum
      + bufElems s.writable.buf + chunkLen s.m :=
  mu_idle (s := finishOp s r x) rfl

theorem bufElems_cons (r : List Elem) (b : List (List Elem)) : bufElems (r :: b) = r.length + bufElems b := by
  simp [bufElems]

theorem bufElems_append (b : List (List Elem)) (r : List Elem) : bufElems (b ++ [r]) = bufElems b + r.length := by
  simp [bufElems]

theorem wstep_mu {s s' : CState} {w w' : Writer} (h : wstep s w = some (w', s')) :
    wWork w' + bufElems s'.writable.buf < wWork w + bufElems s.writable.buf := by
  cases wstep_cases h with
  | recvBad r ch flt hpc hr | recvOk r ch flt hpc hr =>
    -- the run moves from `writable` into the activation's hands
    simp only [wWork, hpc, (Chan.recv_buf hr).1, bufElems_cons, sortRun_length]; omega
  | register hpc => cases htd : w.todo <;> simp [wWork, hpc, htd]
  | encodeNil hpc htodo => simp [wWork, hpc, htodo]
  | encodeBad e t flt hpc htodo => simp only [wWork, hpc, htodo, List.length_cons]; omega
  | encodeOk e t flt hpc htodo => cases t <;> simp [wWork, hpc, htodo]
  | syncBad _ hpc | syncOk _ hpc | ret hpc => simp [wWork, hpc]

theorem clear_chunkLen (m : Morass.State) : chunkLen (clear m) = 0 := by
  unfold clear chunkLen
  by_cases h : 0 < m.pool
  · simp [h]
  · simp only [h, if_false]
    cases m.chunk <;> rfl

theorem clearF_chunkLen (s : CState) : chunkLen (clearF s).1.m ≤ chunkLen s.m := by
  rcases clearF_spec s with ⟨_, h⟩ | ⟨_, h⟩ <;> rw [h]
  · exact Nat.le_refl _
  · rw [clear_chunkLen]; exact Nat.zero_le _

theorem pullF_chunkLen (s : CState) : chunkLen (pullF s).1.m ≤ chunkLen s.m := by
  rcases pullF_cases s with ⟨s1, hs1, e⟩ | ⟨_, h, _⟩
  · have h1 : chunkLen s1.m ≤ chunkLen s.m := by
      rcases hs1 with rfl | rfl
      · exact Nat.le_refl _
      · exact Nat.zero_le _
    rw [e, atEof_m]
    cases s.m.autoClear
    · exact h1
    · exact Nat.le_trans (clearF_chunkLen s1) h1
  · unfold chunkLen; rw [h]; exact Nat.le_refl _

theorem mu_CStep {s t : CState} (h : CStep s t) : mu t < mu s := by
  -- a call returns: what is left of the program costs no more than its tail
  have fin : ∀ (s1 : CState) (r : Res) (x : Option Elem), s1.prog = s.prog → s1.writers = s.writers →
      s1.writable = s.writable →
      progCost s.prog.tail + (s.writers.map wWork).sum + bufElems s.writable.buf + chunkLen s1.m < mu s →
      mu (finishOp s1 r x) < mu s := by
    intro s1 r x h1 h2 h3 h4
    have := finishOp_prog_le s1 r x
    rw [mu_finishOp, h2, h3]
    rw [h1] at this
    omega
  -- … from between two calls: the cost of the call pays for what it adds to the chunk
  have idle : ∀ (s1 : CState) (r : Res) (x : Option Elem) (op : Op) (rest : List Op), s.pc = .idle →
      s.prog = op :: rest → s1.prog = s.prog → s1.writers = s.writers → s1.writable = s.writable →
      chunkLen s1.m < chunkLen s.m + opCost op → mu (finishOp s1 r x) < mu s := by
    intro s1 r x op rest hpc hprog h1 h2 h3 h4
    apply fin s1 r x h1 h2 h3
    rw [mu_idle hpc, hprog, progCost_cons, List.tail_cons]
    omega
  have same : ∀ op : Op, chunkLen s.m < chunkLen s.m + opCost op :=
    fun op => Nat.lt_add_of_pos_right (opCost_pos op)
  cases h with
  | pushErr _ rest _ hpc hprog | pushNil _ rest hpc hprog | finErr rest _ hpc hprog | finNil rest hpc hprog
  | reject rest hpc hprog | finEmpty rest _ _ _ _ hpc hprog =>
    exact idle _ _ _ _ rest hpc hprog rfl rfl rfl (same _)
  | pushFull e rest ch hpc hprog herr hch hfull =>
    rw [mu_send, mu_idle hpc, hprog, progCost_cons]
    · dsimp only [List.tail_cons, opCost]
      omega
    · exact Or.inl rfl
  | pushRoom e rest ch hpc hprog herr hch hfull =>
    refine idle _ _ _ _ rest hpc hprog rfl rfl rfl ?_
    show chunkLen (push s.m e).1 < _
    rw [push_room e herr hch hfull]
    simp [chunkLen, hch, opCost]
  | finFast rest ch hpc hprog herr hch hlt =>
    refine idle _ _ _ _ rest hpc hprog rfl rfl rfl ?_
    show chunkLen (finalise s.m).1 < _
    simp [finalise, herr, hch, hlt, chunkLen, sortRun_length, opCost]
  | finDisk rest ch hpc hprog herr hch hlt hpos =>
    rw [mu_send, mu_idle hpc, hprog, progCost_cons]
    · dsimp only [List.tail_cons, opCost]
      show _ + chunkLen s.m < _
      omega
    · exact Or.inr rfl
  | pull rest hpc hprog =>
    have fr := pullF_frame s
    apply idle (pullF s).1 _ _ _ rest hpc hprog fr.prog fr.writers fr.writable
    exact Nat.lt_of_le_of_lt (pullF_chunkLen s) (same _)
  | clear rest hpc hprog =>
    have fr := clearF_frame s
    apply idle (clearF s).1 _ none _ rest hpc hprog fr.prog fr.writers fr.writable
    exact Nat.lt_of_le_of_lt (clearF_chunkLen s) (same _)
  | send ch wr hpc hch hsend =>
    -- 9 → 3 for the caller, 5 for the new activation; the chunk moves into `writable`
    obtain ⟨hb, _, _⟩ := Chan.send_buf hsend
    rw [mu_pushRecv, mu_send (Or.inl hpc)]
    · dsimp only
      rw [hb, bufElems_append, List.map_append, List.sum_append]
      simp only [chunkLen, hch, List.map_cons, List.map_nil, List.sum_cons, List.sum_nil, wWork]
      omega
    · rfl
  | recvErr e rest r hpc hpool hprog herr =>
    refine fin _ _ _ rfl rfl rfl ?_
    rw [mu_pushRecv hpc]
    show _ + 0 < _
    omega
  | recvOk e rest hpc hpool hprog herr =>
    refine fin _ _ _ rfl rfl rfl ?_
    rw [mu_pushRecv hpc]
    show _ + 1 < _
    omega
  | fsend ch wr hpc hch hsend =>
    obtain ⟨hb, _, _⟩ := Chan.send_buf hsend
    rw [mu_finWrite, mu_send (Or.inr hpc)]
    · dsimp only
      rw [hb, bufElems_append]
      simp only [chunkLen, hch, wWork]
      omega
    · rfl
  | fwrite w s' hpc hw =>
    have h1 := wstep_mu hw
    have fr := wstep_frame hw
    have hc : chunkLen s'.m = chunkLen s.m := by unfold chunkLen; rw [fr.chunk]
    by_cases hd : w.pc = .done
    · have hw0 : wWork w = 0 := by simp [wWork, hd]
      rw [mu_finWait, mu_finWrite hpc]
      · dsimp only
        rw [fr.prog, fr.writers, hc]
        omega
      · exact if_pos hd
    · rw [mu_finWrite, mu_finWrite hpc]
      · dsimp only
        rw [fr.prog, fr.writers, hc]
        omega
      · exact if_neg hd
  | waitErr _ hpc | waitOk _ _ _ hpc =>
    refine fin _ _ _ rfl rfl rfl ?_
    rw [mu_finWait hpc]
    show _ + chunkLen s.m < _
    omega

/-- **every atomic block of every actor strictly decreases the measure** -/
theorem mu_step {s t : CState} {i : Nat} (h : step s i = some t) : mu t < mu s := by
  rcases step_blocks h with ⟨_, hcs⟩ | ⟨k, w, w', s', _, hk, hw, rfl⟩
  · exact mu_CStep hcs
  · have h1 := wstep_mu hw
    have fr := wstep_frame hw
    have hsum := LTS.sum_map_set wWork s.writers k w w' hk
    simp only [mu, chunkElems, fr.chunk, fr.pc, fr.writers, fr.prog, fr.inl]
    omega

theorem mu_init (conc : Bool) (c : Nat) (ac acl : Bool) (prog : List Op) (flt : Fault) :
    mu (initState conc c ac acl prog flt) = progCost prog := by
  simp [mu, initState, callerPot, bufElems, chunkElems]

theorem progCost_le (prog : List Op) : progCost prog ≤ 10 * prog.length := by
  induction prog with
  | nil => simp [progCost]
  | cons op t ih =>
    rw [progCost_cons, List.length_cons]
    cases op <;> simp only [opCost] <;> omega

end Biogo.MorassConc
