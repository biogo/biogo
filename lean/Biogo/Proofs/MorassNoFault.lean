/-
The three invariants of the concurrent sorter model that hold of every caller program when no
fault is injected: nothing fails (`NoFault`), under AutoClean the temporary directory is gone once a
`Pull` has reported io.EOF (`EofDir`), and with AutoClear the run files in the directory are the
registered ones and those about to be registered (`DiskInv`).  Each comes with the reading the residue
theorems of C13 use (`reach_not_reported`, `EofDir.of_spec`, `DiskInv.idle_quiet`).  What `Clear`,
`Pull` and a block of `write()` do to the directory holds with faults too.
-/
import Biogo.Model.MorassConc
import Biogo.Spec.Morass
import Biogo.Proofs.Morass
import Biogo.Proofs.MorassConc
import Biogo.Proofs.MorassStep

namespace Biogo.MorassConc
open Biogo.Morass Biogo.Interleave

def NoFault (s : CState) : Prop := s.flt = [] ∧ s.m.err = none ∧ ∀ o ∈ s.outs, o.res ≠ .ioerr

theorem tick_none (pt : Pt) : tick [] pt = (false, []) := rfl

theorem clearLoop_none : ∀ (d : Nat) (fs : List File), clearLoop [] d fs = ([], d - fs.length, true) := by
  intro d fs
  induction fs generalizing d with
  | nil => rfl
  | cons f fs ih =>
    simp only [clearLoop, tick_none, Bool.false_eq_true, if_false, ih (d - 1), List.length_cons]
    congr 2; omega

theorem primeAll_none : ∀ (fs : List File), primeAll [] fs = ([], fs.map primeFile, true) := by
  intro fs
  induction fs with
  | nil => rfl
  | cons f fs ih => simp [primeAll, tick_none, ih]

theorem clearF_nofault {s : CState} (h : s.flt = []) :
    (clearF s).2 = .ok ∧ (clearF s).1.flt = [] ∧ (clearF s).1.m.err = none := by
  refine ⟨?_, ?_, ?_⟩ <;> simp [clearF, h, clearLoop_none, (clear_len_pos s.m).2.2]

theorem tick_nofault {f : Fault} (hf : f = []) {pt : Pt} {bad : Bool} {flt : Fault}
    (h : tick f pt = (bad, flt)) : bad = false ∧ flt = [] := by
  subst hf
  cases h
  exact ⟨rfl, rfl⟩

theorem wstep_nofault {s s' : CState} {w w' : Writer} (hf : s.flt = []) (h : wstep s w = some (w', s')) :
    s'.flt = [] ∧ s'.m.err = s.m.err ∧ s'.outs = s.outs := by
  cases wstep_cases h with
  | recvBad _ _ _ _ _ ht | encodeBad _ _ _ _ _ ht | syncBad _ _ ht => cases (tick_nofault hf ht).1
  | recvOk _ _ _ _ _ ht | encodeOk _ _ _ _ _ ht | syncOk _ _ ht => exact ⟨(tick_nofault hf ht).2, rfl, rfl⟩
  | _ => exact ⟨hf, rfl, rfl⟩

theorem NoFault_wstep {s s' : CState} {w w' : Writer} (h : NoFault s) (hw : wstep s w = some (w', s')) :
    NoFault s' := by
  obtain ⟨a, b, c'⟩ := wstep_nofault h.1 hw
  exact ⟨a, b.trans h.2.1, fun o ho => h.2.2 o (c' ▸ ho)⟩

theorem eof_nofault (b : Bool) {s : CState} (hf : s.flt = []) (he : s.m.err = none) :
    (atEof (if b = true then (clearF s).1 else s)).flt = [] ∧ (atEof (if b = true then (clearF s).1 else s)).m.err = none := by
  have keep : ∀ t : CState, (atEof t).flt = t.flt := fun t => by unfold atEof; split <;> rfl
  rw [keep, atEof_m]
  cases b
  · exact ⟨hf, he⟩
  · exact (clearF_nofault hf).2

theorem pullF_nofault {s : CState} (hf : s.flt = []) (he : s.m.err = none) :
    (pullF s).2.1 ≠ .ioerr ∧ (pullF s).1.flt = [] ∧ (pullF s).1.m.err = none := by
  have h := pullF_branch s
  generalize pullF s = o at h ⊢
  cases h with
  | mem | hang => exact ⟨by simp, hf, he⟩
  | memEof => exact ⟨by simp, eof_nofault _ (s := { s with m := eofState s.m }) hf he⟩
  | nilEof | noFile => exact ⟨by simp, eof_nofault _ hf he⟩
  | decodeErr _ _ _ _ _ ht => cases (tick_nofault hf ht).1
  | next low _ _ _ _ _ _ ht | last low _ _ _ _ ht =>
    exact ⟨by cases low.head <;> simp, (tick_nofault hf ht).2, he⟩

theorem NoFault_finish {s s1 : CState} {r : Res} {v : Option Elem} (h : NoFault s) (hr : r ≠ .ioerr)
    (h1 : s1.flt = [] ∧ s1.m.err = none ∧ s1.outs = s.outs) : NoFault (finishOp s1 r v) := by
  refine ⟨h1.1, h1.2.1, fun o hmem => ?_⟩
  rcases List.mem_cons.mp hmem with rfl | hmem
  · exact hr
  · exact h.2.2 o (h1.2.2 ▸ hmem)

theorem NoFault_cstep {s t : CState} (h : NoFault s) (hst : CStep s t) : NoFault t := by
  have ⟨hf, he, _⟩ := h
  cases hst with
  | pushErr _ _ _ _ _ he' | finErr _ _ _ _ he' | recvErr _ _ _ _ _ _ he' | waitErr _ _ _ he' =>
    rw [he] at he'; cases he'
  | pushFull | finDisk | send | fsend => exact h
  | pushNil | finNil | reject | recvOk => exact NoFault_finish h nofun ⟨hf, he, rfl⟩
  | pushRoom e rest ch _ _ _ hch hfull =>
    exact NoFault_finish h nofun ⟨hf, (congrArg (·.1.err) (push_room e he hch hfull)).trans he, rfl⟩
  | finFast rest ch _ _ _ hch hlt =>
    exact NoFault_finish h nofun ⟨hf, (congrArg (·.1.err) (finalise_mem he hch hlt)).trans he, rfl⟩
  | finEmpty _ _ flt fs ok _ _ _ _ _ _ hp | waitOk flt fs ok _ _ _ hp =>
    rw [hf, primeAll_none] at hp
    cases hp
    exact NoFault_finish h nofun ⟨rfl, he, rfl⟩
  | pull =>
    obtain ⟨a, b, c'⟩ := pullF_nofault hf he
    exact NoFault_finish h a ⟨b, c', (pullF_frame s).outs⟩
  | clear =>
    obtain ⟨a, b, c'⟩ := clearF_nofault hf
    exact NoFault_finish h (by rw [a]; nofun) ⟨b, c', (clearF_frame s).outs⟩
  -- `NoFault` reads `flt`, `m.err` and `outs` only: of the state with `inl`, `pc` (or, for a spawned activation,
  -- `writers`) replaced it is, after unfolding, the same proposition as of `s'`
  | fwrite w s' _ hw => exact (NoFault_wstep h hw : NoFault s')

theorem NoFault_step {s t : CState} {i : Nat} (h : NoFault s) (hst : step s i = some t) : NoFault t := by
  rcases step_blocks hst with ⟨_, hcs⟩ | ⟨k, w, w', s', _, hk, hw, rfl⟩
  · exact NoFault_cstep h hcs
  · exact (NoFault_wstep h hw : NoFault s')

theorem reach_NoFault {conc : Bool} {c : Nat} {ac acl : Bool} {prog : List Op} {reuse : Bool} {s : CState}
    (h : Reach (sys conc c ac acl prog [] reuse) s) : NoFault s :=
  inv_of_reach _ NoFault ⟨rfl, rfl, by simp [sys, initState]⟩ (fun _ _ _ hs hst => NoFault_step hs hst) s h

theorem reach_not_reported {conc : Bool} {c : Nat} {ac acl : Bool} {prog : List Op} {reuse : Bool} {s : CState}
    (h : Reach (sys conc c ac acl prog [] reuse) s) : ¬ Reported s :=
  fun ⟨o, ho, hio⟩ => (reach_NoFault h).2.2 o ho hio

theorem clearF_dir (s : CState) : (clearF s).1.dirExists = s.dirExists ∧ (clearF s).1.autoClean = s.autoClean := by
  unfold clearF
  rcases clearLoop s.flt s.onDisk s.m.files with ⟨flt, d, _ | _⟩ <;> exact ⟨rfl, rfl⟩

theorem condClear_dir (b : Bool) (s : CState) :
    (if b = true then (clearF s).1 else s).dirExists = s.dirExists
    ∧ (if b = true then (clearF s).1 else s).autoClean = s.autoClean := by
  cases b
  · exact ⟨rfl, rfl⟩
  · exact clearF_dir s

theorem atEof_dir (s : CState) : (s.autoClean = true → (atEof s).dirExists = false)
    ∧ (s.dirExists = false → (atEof s).dirExists = false) := by
  unfold atEof
  constructor
  · intro h; simp [h]
  · intro h; split
    · rfl
    · exact h

theorem pullF_dir (s : CState) :
    (s.dirExists = false → (pullF s).1.dirExists = false)
    ∧ ((pullF s).2.1 = .eof → s.autoClean = true → (pullF s).1.dirExists = false) := by
  have eof : ∀ (s1 : CState), s1.dirExists = s.dirExists → s1.autoClean = s.autoClean →
      (s.dirExists = false → (atEof (if s.m.autoClear = true then (clearF s1).1 else s1)).dirExists = false)
      ∧ ((Res.eof = .eof) → s.autoClean = true → (atEof (if s.m.autoClear = true then (clearF s1).1 else s1)).dirExists = false) := by
    intro s1 h1 h2
    obtain ⟨a, b⟩ := condClear_dir s.m.autoClear s1
    obtain ⟨c', d⟩ := atEof_dir (if s.m.autoClear = true then (clearF s1).1 else s1)
    exact ⟨fun h => d (by rw [a, h1]; exact h), fun _ h => c' (by rw [b, h2]; exact h)⟩
  have h := pullF_branch s
  generalize pullF s = o at h ⊢
  cases h with
  | memEof | nilEof | noFile => exact eof _ rfl rfl
  | mem | hang | decodeErr => exact ⟨id, fun h => by cases h⟩
  | next low | last low => exact ⟨id, fun h => by cases hh : low.head <;> rw [hh] at h <;> cases h⟩

theorem wstep_dir {s s' : CState} {w w' : Writer} (h : wstep s w = some (w', s')) :
    s'.dirExists = s.dirExists ∧ s'.autoClean = s.autoClean := by
  cases wstep_cases h <;> exact ⟨rfl, rfl⟩

/-- under AutoClean, once a `Pull` has reported io.EOF the directory is gone (no fault injected) -/
def EofDir (s : CState) : Prop :=
  NoFault s ∧ (s.autoClean = true → (∃ o ∈ s.outs, o.res = .eof) → s.dirExists = false)

theorem EofDir_finish {s s1 : CState} {r : Res} {v : Option Elem} (h : EofDir s) (hn : NoFault (finishOp s1 r v))
    (ha : s1.autoClean = s.autoClean) (ho : s1.outs = s.outs)
    (hd : s.dirExists = false → s1.dirExists = false)
    (heof : r = .eof → s.autoClean = true → s1.dirExists = false) : EofDir (finishOp s1 r v) := by
  refine ⟨hn, ?_⟩
  intro hacl ⟨o, hmem, hres⟩
  have hacl' : s.autoClean = true := by rw [← ha]; exact hacl
  simp only [finishOp, List.mem_cons] at hmem
  show s1.dirExists = false
  rcases hmem with rfl | hmem
  · exact heof hres hacl'
  · rw [ho] at hmem
    exact hd (h.2 hacl' ⟨o, hmem, hres⟩)

theorem EofDir_wstep {s s' : CState} {w w' : Writer} (h : EofDir s) (hw : wstep s w = some (w', s')) :
    EofDir s' := by
  obtain ⟨_, _, ho⟩ := wstep_nofault h.1.1 hw
  refine ⟨NoFault_wstep h.1 hw, fun hacl hex => ?_⟩
  rw [(wstep_dir hw).1]
  exact h.2 (by rw [← (wstep_dir hw).2]; exact hacl) (by rw [← ho]; exact hex)

theorem EofDir_cstep {s t : CState} (h : EofDir s) (hst : CStep s t) : EofDir t := by
  have hn : NoFault t := NoFault_cstep h.1 hst
  cases hst with
  | pushErr _ _ _ _ _ he' | finErr _ _ _ _ he' | recvErr _ _ _ _ _ _ he' | waitErr _ _ _ he' =>
    rw [h.1.2.1] at he'; cases he'
  | pushFull | finDisk | send | fsend => exact ⟨hn, h.2⟩
  | pushNil | pushRoom | finNil | finFast | reject | recvOk =>
    exact EofDir_finish h hn rfl rfl id (fun h' => by cases h')
  | finEmpty _ _ _ _ ok | waitOk _ _ ok =>
    exact EofDir_finish h hn rfl rfl id (fun h' => by cases ok <;> cases h')
  | pull =>
    obtain ⟨a, b⟩ := pullF_dir s
    exact EofDir_finish h hn (pullF_frame s).autoClean (pullF_frame s).outs a b
  | clear =>
    exact EofDir_finish h hn (clearF_dir s).2 (clearF_frame s).outs (fun h' => by rw [(clearF_dir s).1]; exact h')
      (fun h' => by rw [(clearF_nofault h.1.1).1] at h'; cases h')
  -- as for `NoFault`: `EofDir` does not read what the block replaces besides `s'`
  | fwrite w s' _ hw => exact (EofDir_wstep h hw : EofDir s')

theorem EofDir_step {s t : CState} {i : Nat} (h : EofDir s) (hst : step s i = some t) : EofDir t := by
  rcases step_blocks hst with ⟨_, hcs⟩ | ⟨k, w, w', s', _, hk, hw, rfl⟩
  · exact EofDir_cstep h hcs
  · exact (EofDir_wstep h hw : EofDir s')

theorem reach_EofDir {conc : Bool} {c : Nat} {ac acl : Bool} {prog : List Op} {reuse : Bool} {s : CState}
    (h : Reach (sys conc c ac acl prog [] reuse) s) : EofDir s :=
  inv_of_reach _ EofDir ⟨⟨rfl, rfl, by simp [sys, initState]⟩, fun _ h' => by simp [sys, initState] at h'⟩
    (fun _ _ _ hs hst => EofDir_step hs hst) s h

/-- the outputs of a history in which some cycle was pulled beyond its last value contain an io.EOF -/
theorem spec_has_eof (ac : Bool) : ∀ (h : List Cycle) (outs : List Out), HistorySpec ac h outs →
    ∀ cy ∈ h, cy.pushes.length < cy.pulls → ∃ o ∈ outs, o.res = .eof := by
  intro h
  induction h with
  | nil => intro outs _ cy hcy; simp at hcy
  | cons c0 rest ih =>
    intro outs hs cy hcy hdrain
    obtain ⟨ys, outs', hys, rfl, hrest⟩ := hs
    rcases List.mem_cons.mp hcy with rfl | hmem
    · have hlen : ys.length = cy.pushes.length := hys.1.length_eq
      refine ⟨⟨.eof, none, if ac then 0 else cy.pushes.length, if ac then 0 else cy.pushes.length⟩, ?_, rfl⟩
      apply List.mem_append_left
      unfold specCycle
      simp only [List.mem_append, List.mem_cons, List.mem_map, List.mem_range]
      right; right; left
      refine ⟨cy.pushes.length, hdrain, ?_⟩
      rw [List.getElem?_eq_none (by omega)]
    · obtain ⟨o, ho, hr⟩ := ih outs' hrest cy hmem hdrain
      exact ⟨o, List.mem_append_right _ ho, hr⟩

theorem EofDir.of_spec {ac : Bool} {h : List Cycle} {cy : Cycle} {s : CState} (he : EofDir s) (hacl : s.autoClean = true)
    (hspec : HistorySpec ac h s.outs.reverse) (hcy : cy ∈ h) (hdrain : cy.pushes.length < cy.pulls) :
    s.dirExists = false := by
  obtain ⟨o, ho, hres⟩ := spec_has_eof ac h _ hspec cy hcy hdrain
  exact he.2 hacl ⟨o, List.mem_reverse.mp ho, hres⟩

def atReg (w : Writer) : Bool := w.pc == .register

/-- run files present in the directory = registered files + files created but not yet registered
    (AutoClear set, AutoClean not set, no fault injected) -/
def DiskInv (s : CState) : Prop :=
  s.flt = [] ∧ s.m.autoClear = true ∧ s.autoClean = false ∧ s.onDisk = s.m.files.length + cnt atReg s

theorem clearF_disk {s : CState} (hf : s.flt = []) :
    (clearF s).1.flt = [] ∧ (clearF s).1.onDisk = s.onDisk - s.m.files.length ∧ (clearF s).1.m.files = []
    ∧ (clearF s).1.m.autoClear = s.m.autoClear := by
  have hfiles : (clear s.m).files = [] := by unfold clear; split <;> rfl
  refine ⟨?_, ?_, ?_, ?_⟩ <;> simp [clearF, hf, clearLoop_none, hfiles, (clear_tok s.m).2.2]

theorem popMin_length {fs : List File} {low : File} {others : List File}
    (h : popMin fs = some (low, others)) : fs.length = others.length + 1 := by
  have := (popMin_spec fs low others h).1.length_eq
  simpa using this

theorem pullF_disk {s : CState} (hf : s.flt = []) (hac : s.m.autoClear = true) (hacl : s.autoClean = false)
    (hle : s.m.files.length ≤ s.onDisk) :
    (pullF s).1.flt = [] ∧ (pullF s).1.m.autoClear = true
    ∧ (pullF s).1.onDisk + s.m.files.length = s.onDisk + (pullF s).1.m.files.length := by
  have eof : ∀ (s1 : CState), s1.flt = [] → s1.m.autoClear = true → s1.autoClean = false →
      s1.onDisk = s.onDisk → s1.m.files = s.m.files →
      (atEof (if s.m.autoClear = true then (clearF s1).1 else s1)).flt = []
      ∧ (atEof (if s.m.autoClear = true then (clearF s1).1 else s1)).m.autoClear = true
      ∧ (atEof (if s.m.autoClear = true then (clearF s1).1 else s1)).onDisk + s.m.files.length
          = s.onDisk + (atEof (if s.m.autoClear = true then (clearF s1).1 else s1)).m.files.length := by
    intro s1 h1 h2 h3 h4 h5
    obtain ⟨a, b, c', d⟩ := clearF_disk h1
    have hcl : (clearF s1).1.autoClean = false := by rw [(clearF_dir s1).2]; exact h3
    have he : atEof (clearF s1).1 = (clearF s1).1 := by simp [atEof, hcl]
    rw [hac, if_pos rfl, he, a, b, c', d, h4, h5]
    exact ⟨rfl, h2, by simp; omega⟩
  have h := pullF_branch s
  generalize pullF s = o at h ⊢
  cases h with
  | memEof | nilEof | noFile => exact eof _ hf hac hacl rfl rfl
  | mem | hang => exact ⟨hf, hac, rfl⟩
  | decodeErr _ _ _ _ _ ht => cases (tick_nofault hf ht).1
  | next low others flt n r _ hpm ht =>
    have := popMin_length hpm
    exact ⟨(tick_nofault hf ht).2, hac, by simp only [List.length_cons]; omega⟩
  | last low others flt _ hpm ht =>
    have := popMin_length hpm
    refine ⟨(tick_nofault hf ht).2, hac, ?_⟩
    simp only [hac, if_true]; omega

theorem wstep_disk {s s' : CState} {w w' : Writer} (hf : s.flt = []) (h : wstep s w = some (w', s')) :
    s'.onDisk + s.m.files.length + b2n (atReg w) = s.onDisk + s'.m.files.length + b2n (atReg w')
    ∧ s'.m.autoClear = s.m.autoClear := by
  have hne : ∀ t : List Elem, (if t = [] then WPc.sync else WPc.encode) ≠ WPc.register := fun t => by split <;> simp
  cases wstep_cases h with
  | recvBad _ _ _ _ _ ht | encodeBad _ _ _ _ _ ht | syncBad _ _ ht => cases (tick_nofault hf ht).1
  -- the temporary file is created here and registered in the next block
  | recvOk _ _ _ hpc => simp [atReg, hpc, b2n]; omega
  | register hpc => simp [atReg, hpc, b2n, hne]; omega
  | encodeNil hpc => simp [atReg, hpc, b2n]
  | encodeOk _ t _ hpc => simp [atReg, hpc, b2n, appendData, List.length_modify, hne]
  | syncOk _ hpc => simp [atReg, hpc, b2n]
  | ret hpc => simp [atReg, hpc, b2n]

theorem DiskInv_keep {s t : CState} (h : DiskInv s) (hf : t.flt = []) (hac : t.m.autoClear = true)
    (hacl : t.autoClean = false) (hd : t.onDisk = s.onDisk) (hfl : t.m.files.length = s.m.files.length)
    (hc : cnt atReg t = cnt atReg s) : DiskInv t :=
  ⟨hf, hac, hacl, by rw [hd, hfl, hc]; exact h.2.2.2⟩

/-- a block of an activation, when `n` activations are about to register their file after it -/
theorem DiskInv_wstep {s s' : CState} {w w' : Writer} {n : Nat} (h : DiskInv s) (hw : wstep s w = some (w', s'))
    (hc : n + b2n (atReg w) = cnt atReg s + b2n (atReg w')) :
    s'.flt = [] ∧ s'.m.autoClear = true ∧ s'.autoClean = false ∧ s'.onDisk = s'.m.files.length + n := by
  obtain ⟨hf, hac, hacl, hd⟩ := h
  obtain ⟨hdk, hac'⟩ := wstep_disk hf hw
  exact ⟨(wstep_nofault hf hw).1, hac'.trans hac, (wstep_dir hw).2.trans hacl, by omega⟩

theorem DiskInv_finish {s s1 : CState} {r : Res} {v : Option Elem} (h : DiskInv s) (hpc : s.pc ≠ .finWrite)
    (hw : s1.writers = s.writers) (hf : s1.flt = []) (hac : s1.m.autoClear = true) (hacl : s1.autoClean = false)
    (hd : s1.onDisk + s.m.files.length = s.onDisk + s1.m.files.length) : DiskInv (finishOp s1 r v) := by
  refine ⟨hf, hac, hacl, ?_⟩
  have hc : cnt atReg (finishOp s1 r v) = cnt atReg s := cnt_eq_of atReg hw hpc nofun
  have := h.2.2.2
  rw [hc]
  show s1.onDisk = s1.m.files.length + _
  omega

theorem DiskInv_cstep {s t : CState} (h : DiskInv s) (hst : CStep s t) : DiskInv t := by
  have ⟨hf, hac, hacl, hd⟩ := h
  cases hst with
  | pushErr _ _ _ hpc | pushNil _ _ hpc | finErr _ _ hpc | finNil _ hpc | reject _ hpc | waitErr _ hpc
  | recvErr _ _ _ hpc | recvOk _ _ hpc =>
    exact DiskInv_finish h (hpc ▸ nofun) rfl hf hac hacl rfl
  | pushFull _ _ _ hpc | finDisk _ _ hpc =>
    exact DiskInv_keep h hf hac hacl rfl rfl (cnt_eq_of atReg rfl (hpc ▸ nofun) nofun)
  | pushRoom e _ ch hpc _ he hch hfull =>
    rw [push_room e he hch hfull]
    exact DiskInv_finish h (hpc ▸ nofun) rfl hf hac hacl rfl
  | finFast _ ch hpc _ he hch hlt =>
    rw [finalise_mem he hch hlt]
    exact DiskInv_finish h (hpc ▸ nofun) rfl hf hac hacl rfl
  | finEmpty _ _ flt fs ok hpc _ _ _ _ _ hp | waitOk flt fs ok hpc _ _ hp =>
    rw [hf, primeAll_none] at hp
    cases hp
    refine DiskInv_finish h (hpc ▸ nofun) rfl rfl hac hacl ?_
    show _ + _ = _ + (List.map _ _).length
    rw [List.length_map]
  | pull _ hpc =>
    have fr := pullF_frame s
    obtain ⟨a, b, c'⟩ := pullF_disk hf hac hacl (by omega)
    exact DiskInv_finish h (hpc ▸ nofun) fr.writers a b (fr.autoClean.trans hacl) c'
  | clear _ hpc =>
    have fr := clearF_frame s
    obtain ⟨a, b, c', d⟩ := clearF_disk hf
    refine DiskInv_finish h (hpc ▸ nofun) fr.writers a (d.trans hac) (fr.autoClean.trans hacl) ?_
    rw [b, c']
    show _ = s.onDisk + 0
    omega
  | send _ wr hpc => exact DiskInv_keep h hf hac hacl rfl rfl (cnt_spawn atReg (Or.inl ⟨hpc, rfl, rfl⟩))
  | fsend _ wr hpc => exact DiskInv_keep h hf hac hacl rfl rfl (cnt_spawn atReg (Or.inr ⟨hpc, rfl, rfl, rfl⟩))
  | fwrite w s' hpc hw =>
    exact DiskInv_wstep (s' := s') h hw
      (cnt_inl atReg (w' := w) hpc (wstep_frame hw).writers rfl rfl (fun hd => by simp [atReg, hd]))

theorem DiskInv_step {s t : CState} {i : Nat} (h : DiskInv s) (hst : step s i = some t) : DiskInv t := by
  rcases step_blocks hst with ⟨_, hcs⟩ | ⟨k, w, w', s', _, hk, hw, rfl⟩
  · exact DiskInv_cstep h hcs
  · have E := wstep_frame hw
    exact DiskInv_wstep (s' := s') h hw (cnt_set atReg hk (congrArg (List.set · k w') E.writers) E.pc E.inl)

theorem reach_DiskInv {conc : Bool} {c : Nat} {prog : List Op} {reuse : Bool} {s : CState}
    (h : Reach (sys conc c true false prog [] reuse) s) : DiskInv s :=
  inv_of_reach _ DiskInv ⟨rfl, rfl, rfl, by simp [sys, initState, cnt, b2n]⟩
    (fun _ _ _ hd hst => DiskInv_step hd hst) s h

theorem DiskInv.idle_quiet {s : CState} (h : DiskInv s) (hpc : s.pc = .idle) (hfiles : s.m.files = [])
    (hq : ∀ w ∈ s.writers, w.pc = .done) : s.onDisk = 0 := by
  have := h.2.2.2
  rwa [hfiles, cnt_notFW atReg (hpc ▸ nofun), List.countP_eq_zero.mpr fun w hw => by simp [atReg, hq w hw]] at this

end Biogo.MorassConc
