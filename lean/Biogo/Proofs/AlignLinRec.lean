/-
The recurrence of the three linear-gap aligners and its optimality against `Spec.Alignment`.
`dpRec S fr fq r q` consumes both sequences from the front and is the maximum score of an
alignment of `r` (of a prefix of `r` if `fr`) with `q` (a prefix of `q` if `fq`); a sequence with
a free end must have gap scores ≤ 0.  NW is `fr = fq = false`, Fitted `fr = true`, SW both.
`cell S fr fq r q i j` is the recurrence on the reversed prefixes `r.take i`, `q.take j` — the
value the model's fills put in `table[i*c+j]` (`Proofs/AlignLinTable.lean`) — and so the maximum
over the alignments that end at `(i, j)` (`cell_opt`).
-/
import Biogo.Model.AlignLin
import Biogo.Proofs.Alignment

namespace Biogo.Proofs.AlignLin
open Biogo.Spec.Alignment Biogo.AlignLin

theorem max3_eq (a b c : Int) : max3 a b c = max (max a b) c := by
  simp only [max3]; omega

theorem le_max3_left (a b c : Int) : a ≤ max3 a b c :=
  max3_eq a b c ▸ Int.le_trans (Int.le_max_left a b) (Int.le_max_left _ c)
theorem le_max3_mid (a b c : Int) : b ≤ max3 a b c :=
  max3_eq a b c ▸ Int.le_trans (Int.le_max_right a b) (Int.le_max_left _ c)
theorem le_max3_right (a b c : Int) : c ≤ max3 a b c :=
  max3_eq a b c ▸ Int.le_max_right _ c

theorem max3_cases (a b c : Int) : max3 a b c = a ∨ max3 a b c = b ∨ max3 a b c = c := by
  rw [max3_eq]; omega

/-- What is left of a free sequence scores nothing when the other is exhausted, and with both free
    every cell is clipped at 0 (SW), the empty alignment being a candidate everywhere. -/
def dpRec (S : Matrix) (fr fq : Bool) : List Nat → List Nat → Int
  | [], [] => 0
  | [], b :: q => if fq then 0 else dpRec S fr fq [] q + S 0 b
  | a :: r, [] => if fr then 0 else dpRec S fr fq r [] + S a 0
  | a :: r, b :: q =>
    let sc := max3 (dpRec S fr fq r q + S a b) (dpRec S fr fq r (b :: q) + S a 0)
      (dpRec S fr fq (a :: r) q + S 0 b)
    if fr && fq then (if sc > 0 then sc else 0) else sc
termination_by r q => r.length + q.length
decreasing_by all_goals (simp only [List.length_cons]; omega)

/-- the hypothesis "non-positive gap scores" of C08 -/
def GapsNonPos (S : Matrix) (r q : List Nat) : Prop := (∀ x ∈ r, S x 0 ≤ 0) ∧ (∀ y ∈ q, S 0 y ≤ 0)

def startsIn (free : Bool) (x l : List Nat) : Prop := if free then x <+: l else x = l

theorem startsIn_nil {free : Bool} {l : List Nat} : startsIn free [] l ↔ (free = true ∨ l = []) := by
  cases free <;> simp [startsIn, eq_comm]

theorem startsIn_cons {free : Bool} {a : Nat} {x l : List Nat} :
    startsIn free (a :: x) l ↔ ∃ l', l = a :: l' ∧ startsIn free x l' := by
  cases free with
  | false => simp [startsIn, eq_comm]
  | true =>
    cases l with
    | nil => simp [startsIn]
    | cons b l =>
      simp only [startsIn, if_true, List.cons_prefix_cons, List.cons.injEq]
      exact ⟨fun ⟨h1, h2⟩ => ⟨l, ⟨h1.symm, rfl⟩, h2⟩, fun ⟨_, ⟨h1, h2⟩, h3⟩ => ⟨h1.symm, h2 ▸ h3⟩⟩

theorem startsIn_cons_cons {free : Bool} {a : Nat} {x l : List Nat} (h : startsIn free x l) :
    startsIn free (a :: x) (a :: l) := startsIn_cons.mpr ⟨l, rfl, h⟩

theorem dpRec_nil_right (S : Matrix) (fq : Bool) (r : List Nat) : dpRec S true fq r [] = 0 := by
  cases r <;> simp [dpRec]

theorem dpRec_nil_left (S : Matrix) (fr : Bool) (q : List Nat) : dpRec S fr true [] q = 0 := by
  cases q <;> simp [dpRec]

theorem dpRec_nonneg (S : Matrix) (r q : List Nat) : 0 ≤ dpRec S true true r q := by
  cases r <;> cases q <;> simp only [dpRec, Bool.and_self, if_true, Int.le_refl]
  split <;> omega

theorem dpRec_ge (S : Matrix) (fr fq : Bool) (a b : Nat) (r q : List Nat) :
    max3 (dpRec S fr fq r q + S a b) (dpRec S fr fq r (b :: q) + S a 0) (dpRec S fr fq (a :: r) q + S 0 b)
      ≤ dpRec S fr fq (a :: r) (b :: q) := by
  simp only [dpRec]; split
  · split <;> omega
  · exact Int.le_refl _

theorem dpRec_clip (S : Matrix) (a b : Nat) (R Q : List Nat) :
    dpRec S true true (a :: R) (b :: Q) =
      (if max3 (dpRec S true true R Q + S a b) (dpRec S true true R (b :: Q) + S a 0)
          (dpRec S true true (a :: R) Q + S 0 b) > 0
       then max3 (dpRec S true true R Q + S a b) (dpRec S true true R (b :: Q) + S a 0)
          (dpRec S true true (a :: R) Q + S 0 b) else 0) := by
  simp only [dpRec, Bool.and_self, if_true]

theorem dpRec_diag (S : Matrix) (fr fq : Bool) (a b : Nat) (r q : List Nat) :
    dpRec S fr fq r q + S a b ≤ dpRec S fr fq (a :: r) (b :: q) :=
  Int.le_trans (le_max3_left ..) (dpRec_ge S fr fq a b r q)

theorem dpRec_up (S : Matrix) (fr fq : Bool) (a : Nat) (r q : List Nat) (h : fr = true → S a 0 ≤ 0) :
    dpRec S fr fq r q + S a 0 ≤ dpRec S fr fq (a :: r) q := by
  cases q with
  | nil =>
    cases fr with
    | false => simp [dpRec]
    | true => have := h rfl; simp only [dpRec_nil_right]; omega
  | cons b q =>
    exact Int.le_trans (le_max3_mid ..) (dpRec_ge S fr fq a b r q)

theorem dpRec_left (S : Matrix) (fr fq : Bool) (b : Nat) (r q : List Nat) (h : fq = true → S 0 b ≤ 0) :
    dpRec S fr fq r q + S 0 b ≤ dpRec S fr fq r (b :: q) := by
  cases r with
  | nil =>
    cases fq with
    | false => simp [dpRec]
    | true => have := h rfl; simp only [dpRec_nil_left]; omega
  | cons a r => exact Int.le_trans (le_max3_right ..) (dpRec_ge S fr fq a b r q)

theorem dpRec_upper (S : Matrix) (fr fq : Bool) : ∀ (a : Aln) (r q : List Nat),
    (fr = true → ∀ x ∈ r, S x 0 ≤ 0) → (fq = true → ∀ y ∈ q, S 0 y ≤ 0) →
    startsIn fr (projR a) r → startsIn fq (projQ a) q → scoreLin S a ≤ dpRec S fr fq r q := by
  intro a
  induction a with
  | nil =>
    intro r q _ _ hr hq
    rcases startsIn_nil.mp hr with rfl | rfl <;> rcases startsIn_nil.mp hq with rfl | rfl
    · exact dpRec_nonneg S r q
    · exact Int.le_of_eq (dpRec_nil_right S _ r).symm
    · exact Int.le_of_eq (dpRec_nil_left S _ q).symm
    · simp [scoreLin, dpRec]
  | cons c a ih =>
    intro r q gr gq hr hq
    cases c with
    | m x y =>
      obtain ⟨r, rfl, hr'⟩ := startsIn_cons.mp hr
      obtain ⟨q, rfl, hq'⟩ := startsIn_cons.mp hq
      have := ih r q (fun h z hz => gr h z (List.mem_cons_of_mem _ hz))
        (fun h z hz => gq h z (List.mem_cons_of_mem _ hz)) hr' hq'
      have := dpRec_diag S fr fq x y r q
      simp only [scoreLin, colScore]; omega
    | u x =>
      obtain ⟨r, rfl, hr'⟩ := startsIn_cons.mp hr
      have := ih r q (fun h z hz => gr h z (List.mem_cons_of_mem _ hz)) gq hr' hq
      have := dpRec_up S fr fq x r q (fun h => gr h x List.mem_cons_self)
      simp only [scoreLin, colScore]; omega
    | l y =>
      obtain ⟨q, rfl, hq'⟩ := startsIn_cons.mp hq
      have := ih r q gr (fun h z hz => gq h z (List.mem_cons_of_mem _ hz)) hr hq'
      have := dpRec_left S fr fq y r q (fun h => gq h y List.mem_cons_self)
      simp only [scoreLin, colScore]; omega

theorem attain_max3 {S : Matrix} {fr fq : Bool} {a b : Nat} {r q : List Nat} {d u l : Int}
    (hd : ∃ al, startsIn fr (projR al) r ∧ startsIn fq (projQ al) q ∧ scoreLin S al = d)
    (hu : ∃ al, startsIn fr (projR al) r ∧ startsIn fq (projQ al) (b :: q) ∧ scoreLin S al = u)
    (hl : ∃ al, startsIn fr (projR al) (a :: r) ∧ startsIn fq (projQ al) q ∧ scoreLin S al = l) :
    ∃ al, startsIn fr (projR al) (a :: r) ∧ startsIn fq (projQ al) (b :: q) ∧
      scoreLin S al = max3 (d + S a b) (u + S a 0) (l + S 0 b) := by
  obtain ⟨a1, h11, h12, rfl⟩ := hd
  obtain ⟨a2, h21, h22, rfl⟩ := hu
  obtain ⟨a3, h31, h32, rfl⟩ := hl
  rcases max3_cases (scoreLin S a1 + S a b) (scoreLin S a2 + S a 0) (scoreLin S a3 + S 0 b) with h | h | h
  · exact ⟨.m a b :: a1, startsIn_cons_cons h11, startsIn_cons_cons h12, by rw [h, Int.add_comm]; rfl⟩
  · exact ⟨.u a :: a2, startsIn_cons_cons h21, h22, by rw [h, Int.add_comm]; rfl⟩
  · exact ⟨.l b :: a3, h31, startsIn_cons_cons h32, by rw [h, Int.add_comm]; rfl⟩

theorem dpRec_attain (S : Matrix) (fr fq : Bool) (r q : List Nat) :
    ∃ a, startsIn fr (projR a) r ∧ startsIn fq (projQ a) q ∧ scoreLin S a = dpRec S fr fq r q := by
  fun_induction dpRec S fr fq r q with
  | case1 => exact ⟨[], startsIn_nil.mpr (.inr rfl), startsIn_nil.mpr (.inr rfl), rfl⟩
  | case2 b q hfq => exact ⟨[], startsIn_nil.mpr (.inr rfl), startsIn_nil.mpr (.inl hfq), rfl⟩
  | case3 b q _ ih =>
    obtain ⟨al, h1, h2, hs⟩ := ih
    exact ⟨.l b :: al, h1, startsIn_cons_cons h2, by rw [← hs, Int.add_comm]; rfl⟩
  | case4 a r hfr => exact ⟨[], startsIn_nil.mpr (.inl hfr), startsIn_nil.mpr (.inr rfl), rfl⟩
  | case5 a r _ ih =>
    obtain ⟨al, h1, h2, hs⟩ := ih
    exact ⟨.u a :: al, startsIn_cons_cons h1, h2, by rw [← hs, Int.add_comm]; rfl⟩
  | case6 a r b q sc _ _ ih1 ih2 ih3 => exact attain_max3 ih1 ih2 ih3
  | case7 a r b q sc hf =>
    rw [Bool.and_eq_true] at hf
    exact ⟨[], startsIn_nil.mpr (.inl hf.1), startsIn_nil.mpr (.inl hf.2), rfl⟩
  | case8 a r b q sc _ ih1 ih2 ih3 => exact attain_max3 ih1 ih2 ih3

def cell (S : Matrix) (fr fq : Bool) (r q : List Nat) (i j : Nat) : Int :=
  dpRec S fr fq (r.take i).reverse (q.take j).reverse

theorem take_succ_reverse (l : List Nat) (i : Nat) (h : i < l.length) :
    (l.take (i + 1)).reverse = l.getD i 0 :: (l.take i).reverse := by
  rw [List.take_add_one, List.reverse_append]
  simp [List.getD, h]

theorem cell_zero_zero (S : Matrix) (fr fq : Bool) (r q : List Nat) : cell S fr fq r q 0 0 = 0 := by
  simp [cell, dpRec]

theorem cell_zero_succ (S : Matrix) (fr fq : Bool) (r q : List Nat) (j : Nat) (hj : j < q.length) :
    cell S fr fq r q 0 (j + 1) = if fq then 0 else cell S fr fq r q 0 j + S 0 (q.getD j 0) := by
  simp only [cell, List.take_zero, List.reverse_nil, take_succ_reverse q j hj, dpRec]

theorem cell_succ_zero (S : Matrix) (fr fq : Bool) (r q : List Nat) (i : Nat) (hi : i < r.length) :
    cell S fr fq r q (i + 1) 0 = if fr then 0 else cell S fr fq r q i 0 + S (r.getD i 0) 0 := by
  simp only [cell, List.take_zero, List.reverse_nil, take_succ_reverse r i hi, dpRec]

theorem cell_free_col (S : Matrix) (fq : Bool) (r q : List Nat) (i : Nat) : cell S true fq r q i 0 = 0 := by
  simp [cell, dpRec_nil_right]

theorem cell_free_row (S : Matrix) (fr : Bool) (r q : List Nat) (j : Nat) : cell S fr true r q 0 j = 0 := by
  simp [cell, dpRec_nil_left]

/-- where the cell is not clipped (`fr && fq` and value 0) it is the `max3` of its predecessors -/
theorem cell_succ_succ (S : Matrix) (fr fq : Bool) (r q : List Nat) (i j : Nat)
    (hi : i < r.length) (hj : j < q.length)
    (hne : (fr && fq) = true → cell S fr fq r q (i + 1) (j + 1) ≠ 0) :
    cell S fr fq r q (i + 1) (j + 1) =
      max3 (cell S fr fq r q i j + S (r.getD i 0) (q.getD j 0))
           (cell S fr fq r q i (j + 1) + S (r.getD i 0) 0)
           (cell S fr fq r q (i + 1) j + S 0 (q.getD j 0)) := by
  simp only [cell, take_succ_reverse r i hi, take_succ_reverse q j hj] at hne ⊢
  simp only [dpRec] at hne ⊢
  split
  · rename_i h
    split
    · rfl
    · rename_i h0; exact absurd (by rw [if_pos h, if_neg h0]) (hne h)
  · rfl

/-- `startsIn` read from the end -/
def endsIn (free : Bool) (x l : List Nat) : Prop := if free then x <:+ l else x = l

theorem startsIn_reverse {free : Bool} {x l : List Nat} : startsIn free x.reverse l.reverse ↔ endsIn free x l := by
  cases free <;> simp [startsIn, endsIn, List.reverse_prefix]

/-- Every table cell is the maximum score over the alignments that end there: of `r.take i`
    with `q.take j`, where a free sequence may start anywhere (and then has gap scores ≤ 0). -/
theorem cell_opt (S : Matrix) (fr fq : Bool) (r q : List Nat) (i j : Nat)
    (gr : fr = true → ∀ x ∈ r, S x 0 ≤ 0) (gq : fq = true → ∀ y ∈ q, S 0 y ≤ 0) :
    (∀ a, endsIn fr (projR a) (r.take i) → endsIn fq (projQ a) (q.take j) →
      scoreLin S a ≤ cell S fr fq r q i j) ∧
    ∃ a, endsIn fr (projR a) (r.take i) ∧ endsIn fq (projQ a) (q.take j) ∧
      scoreLin S a = cell S fr fq r q i j := by
  constructor
  · intro a hR hQ
    have := dpRec_upper S fr fq a.reverse (r.take i).reverse (q.take j).reverse
      (fun h x hx => gr h x (List.mem_of_mem_take (List.mem_reverse.mp hx)))
      (fun h y hy => gq h y (List.mem_of_mem_take (List.mem_reverse.mp hy)))
      (by rw [projR_reverse]; exact startsIn_reverse.mpr hR) (by rw [projQ_reverse]; exact startsIn_reverse.mpr hQ)
    rwa [scoreLin_reverse] at this
  · obtain ⟨a, hR, hQ, hs⟩ := dpRec_attain S fr fq (r.take i).reverse (q.take j).reverse
    refine ⟨a.reverse, ?_, ?_, by rw [scoreLin_reverse, hs]; rfl⟩
    · rw [projR_reverse]; exact startsIn_reverse.mp (by rwa [List.reverse_reverse])
    · rw [projQ_reverse]; exact startsIn_reverse.mp (by rwa [List.reverse_reverse])

theorem scoreLin_prefix (S : Matrix) (l : List Nat) (mk : Nat → Col) (f : Nat → Int) (h0 : f 0 = 0)
    (hs : ∀ k, k < l.length → f (k + 1) = f k + colScore S (mk (l.getD k 0))) :
    ∀ k, k ≤ l.length → f k = scoreLin S ((l.take k).map mk) := by
  intro k
  induction k with
  | zero => intro _; rw [h0]; rfl
  | succ k ih =>
    intro hk
    have hl : l[k]?.toList = [l.getD k 0] := by simp [List.getD, show k < l.length from hk]
    rw [hs k hk, ih (Nat.le_of_succ_le hk), List.take_add_one, hl, List.map_append, scoreLin_append]
    simp [scoreLin]

theorem cell_first_row (S : Matrix) (fr : Bool) (r q : List Nat) (j : Nat) (hj : j ≤ q.length) :
    cell S fr false r q 0 j = scoreLin S ((q.take j).map Col.l) :=
  scoreLin_prefix S q Col.l (cell S fr false r q 0) (cell_zero_zero ..)
    (fun k hk => cell_zero_succ S fr false r q k hk) j hj

theorem cell_first_col (S : Matrix) (fq : Bool) (r q : List Nat) (i : Nat) (hi : i ≤ r.length) :
    cell S false fq r q i 0 = scoreLin S ((r.take i).map Col.u) :=
  scoreLin_prefix S r Col.u (cell S false fq r q · 0) (cell_zero_zero ..)
    (fun k hk => cell_succ_zero S false fq r q k hk) i hi

end Biogo.Proofs.AlignLin
