/-
The layout relations `FastaRenders` / `FastqRenders` are closed under the explicit
transformation `toCRLF` (every LF replaced by CR LF).
-/
import Biogo.Proofs.Fastq
import Biogo.Proofs.FastaView

namespace Biogo.Spec.Seqio
open Biogo.Go.Bytes
open Biogo.Fasta (toCRLF)

/-- the lines of `bs` beside those of `toCRLF bs`: blanks appended (there a CR), which `Padded` does not see -/
inductive PadRel : List Bytes → List Bytes → Prop
  | nil : PadRel [] []
  | cons (l post : Bytes) (ls ls' : List Bytes) :
      (∀ b ∈ post, isBlank b = true) → PadRel ls ls' → PadRel (l :: ls) ((l ++ post) :: ls')

theorem padded_more {c raw post : Bytes} (h : Padded c raw) (hp : ∀ b ∈ post, isBlank b = true) :
    Padded c (raw ++ post) := by
  obtain ⟨p, rfl, hb⟩ := h
  exact ⟨p ++ post, by simp, List.forall_mem_append.mpr ⟨hb, hp⟩⟩

theorem PadRel.append_split {a b x : List Bytes} (h : PadRel (a ++ b) x) :
    ∃ a' b', x = a' ++ b' ∧ PadRel a a' ∧ PadRel b b' := by
  induction a generalizing x with
  | nil => exact ⟨[], x, rfl, .nil, h⟩
  | cons l a ih =>
    cases h with
    | cons _ post _ ls' hp ht =>
      obtain ⟨a', b', rfl, h1, h2⟩ := ih ht
      exact ⟨(l ++ post) :: a', b', rfl, .cons _ _ _ _ hp h1, h2⟩

theorem PadRel.append {a a' b b' : List Bytes} (h1 : PadRel a a') (h2 : PadRel b b') : PadRel (a ++ b) (a' ++ b') := by
  induction h1 with
  | nil => exact h2
  | cons l post ls ls' hp _ ih => exact .cons _ _ _ _ hp ih

theorem seqLines_padRel {ls : Bytes} {raws raws' : List Bytes} (h : SeqLines ls raws) (hr : PadRel raws raws') :
    SeqLines ls raws' := by
  induction h generalizing raws' with
  | nil => cases hr; exact .nil
  | cons c raw ls raws hp _ ih =>
    cases hr with
    | cons _ post _ rs' hb ht => exact .cons c _ ls rs' (padded_more hp hb) (ih ht)

theorem fastaLines_padRel {recs : List Biogo.Fasta.Rec} {lines lines' : List Bytes} (h : FastaLines recs lines)
    (hr : PadRel lines lines') : FastaLines recs lines' := by
  induction h generalizing lines' with
  | nil => cases hr; exact .nil
  | blank raw recs lines hp _ ih =>
    cases hr with
    | cons _ post _ ls' hb ht => exact .blank _ recs ls' (padded_more hp hb) (ih ht)
  | record r h body rs rest hh hs _ ih =>
    cases hr with
    | cons _ post _ ls' hb ht =>
      obtain ⟨body', rest', rfl, h1, h2⟩ := ht.append_split
      exact .record r _ body' rs rest' (padded_more hh hb) (seqLines_padRel hs h1) (ih h2)

theorem fastqLines_padRel {ql : Biogo.Fastq.QRec → Bytes} {recs : List Biogo.Fastq.QRec} {lines lines' : List Bytes}
    (h : FastqLines ql recs lines) (hr : PadRel lines lines') : FastqLines ql recs lines' := by
  induction h generalizing lines' with
  | nil => cases hr; exact .nil
  | blank raw recs lines hp _ ih =>
    cases hr with
    | cons _ post _ ls' hb ht => exact .blank _ recs ls' (padded_more hp hb) (ih ht)
  | record r h s p q rs rest hh hs hp hq _ ih =>
    cases hr with
    | cons _ post1 _ l1 hb1 ht1 =>
      cases ht1 with
      | cons _ post2 _ l2 hb2 ht2 =>
        cases ht2 with
        | cons _ post3 _ l3 hb3 ht3 =>
          cases ht3 with
          | cons _ post4 _ l4 hb4 ht4 =>
            exact .record r _ _ _ _ rs l4 (padded_more hh hb1) (padded_more hs hb2)
              (hp.imp (fun x => padded_more x hb3) (fun x => padded_more x hb3)) (padded_more hq hb4) (ih ht4)

theorem toCRLF_append (a b : Bytes) : toCRLF (a ++ b) = toCRLF a ++ toCRLF b := by
  simp [toCRLF]

theorem toCRLF_nolf {l : Bytes} (h : ∀ b ∈ l, b ≠ 10) : toCRLF l = l := by
  induction l with
  | nil => rfl
  | cons a l ih =>
    rw [Biogo.Fasta.toCRLF_cons, if_neg (by simpa using h a (by simp)), ih (fun b hb => h b (by simp [hb]))]

theorem toCRLF_lf (bs : Bytes) : toCRLF (10 :: bs) = 13 :: 10 :: toCRLF bs := Biogo.Fasta.toCRLF_cons 10 bs

/-- the CRLF form of a file: every terminated line gains a trailing CR -/
theorem terminated_toCRLF {lines : List Bytes} {bs : Bytes} (h : Terminated lines bs) :
    ∃ lines', PadRel lines lines' ∧ Terminated lines' (toCRLF bs) := by
  induction h with
  | nil => exact ⟨[], .nil, by simpa [toCRLF] using Terminated.nil⟩
  | last l hne hl =>
    refine ⟨[l ++ []], .cons l [] [] [] (by simp) .nil, ?_⟩
    rw [toCRLF_nolf hl, List.append_nil]
    exact .last l hne hl
  | lf l ls bs hl _ ih =>
    obtain ⟨ls', hr, ht⟩ := ih
    refine ⟨(l ++ [13]) :: ls', .cons l [13] ls ls' (by simp [isBlank]) hr, ?_⟩
    rw [toCRLF_append, toCRLF_nolf hl, toCRLF_lf]
    have : l ++ 13 :: 10 :: toCRLF bs = (l ++ [13]) ++ 10 :: toCRLF bs := by simp
    rw [this]
    exact .lf _ _ _ (List.forall_mem_append.mpr ⟨hl, by decide⟩) ht

/-- **`FastaRenders` is closed under `toCRLF`**: the CRLF form of a layout of `recs` is a layout
    of `recs`. -/
theorem fastaRenders_toCRLF {recs : List Biogo.Fasta.Rec} {bs : Bytes} (h : FastaRenders recs bs) :
    FastaRenders recs (toCRLF bs) := by
  obtain ⟨lines, hl, ht⟩ := h
  obtain ⟨lines', hr, ht'⟩ := terminated_toCRLF ht
  exact ⟨lines', fastaLines_padRel hl hr, ht'⟩

theorem padRel_map_cr (lines : List Bytes) : PadRel lines (lines.map (· ++ [13])) := by
  induction lines with
  | nil => exact .nil
  | cons l ls ih => exact .cons l [13] ls _ (by simp [isBlank]) ih

theorem toCRLF_joinLF {lines : List Bytes} (h : ∀ l ∈ lines, ∀ b ∈ l, b ≠ 10) :
    toCRLF (joinLF lines) = joinLF (lines.map (· ++ [13])) := by
  induction lines with
  | nil => simp [joinLF, toCRLF]
  | cons l ls ih =>
    rw [List.map_cons, Biogo.Fasta.joinLF_cons, Biogo.Fasta.joinLF_cons, toCRLF_append, toCRLF_nolf (h l (by simp)),
      toCRLF_lf, ih (fun l' hl' => h l' (by simp [hl']))]
    simp

open Biogo.Fastq in
/-- **`FastqRenders` is closed under `toCRLF`** (records whose parts contain no LF: `RecOK`). -/
theorem fastqRenders_toCRLF {ql : QRec → Bytes} {recs : List QRec} {bs : Bytes}
    (hok : ∀ r ∈ recs, RecOK ql r) (h : FastqRenders ql recs bs) : FastqRenders ql recs (toCRLF bs) := by
  rcases h with ⟨lines, hl, ht⟩ | ⟨lines, hl, rfl⟩
  · obtain ⟨lines', hr, ht'⟩ := terminated_toCRLF ht
    exact .inl ⟨lines', fastqLines_padRel hl hr, ht'⟩
  · right
    have hno := fastqLines_nolf hl hok
    refine ⟨lines.map (· ++ [13]), ?_, ?_⟩
    · exact fastqLines_padRel hl ((padRel_map_cr lines).append (.cons [] [] [] [] (by simp) .nil))
    · exact toCRLF_joinLF (fun l hl' => hno l (by simp [hl']))

end Biogo.Spec.Seqio
