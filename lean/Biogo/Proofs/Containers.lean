/-
The two-pointer loop of `RevComp`/`Reverse` and its row-stored instances.  On a list the loop equals
`reverse.map f` (`twoPtr_spec`; odd and even lengths alike); the loop on a slice of the heap refines the loop on
the list the slice reads and writes no other array (`read_hTwoPtr`, `writesOnly_hTwoPtr`); hence `RevComp` and
`Reverse` of a `linear.Seq/QSeq`, and — each row owning its array (`RowsWF`, `thread_spec`) — of every row of a
`multi.Multi`, whose rows are also mirrored about the span, which the mirroring keeps (`Multi.span_mirror`); done
twice they restore what was there.  Core-only.
-/
import Biogo.Model.Containers
import Biogo.Proofs.HeapEffects

namespace Biogo.Containers
open Biogo.Go

section twoptr
variable {α : Type}

theorem swapAt_append (f : α → α) (pre m post : List α) (x y : α) :
    swapAt f (pre ++ x :: (m ++ y :: post)) pre.length (pre.length + (m.length + 1))
      = pre ++ f y :: (m ++ f x :: post) := by
  have h1 : (pre ++ x :: (m ++ y :: post))[pre.length]? = some x := by
    rw [List.getElem?_append_right (Nat.le_refl _), Nat.sub_self]; rfl
  have h2 : (pre ++ x :: (m ++ y :: post))[pre.length + (m.length + 1)]? = some y := by
    rw [List.getElem?_append_right (Nat.le_add_right _ _), Nat.add_sub_cancel_left, List.getElem?_cons_succ,
      List.getElem?_append_right (Nat.le_refl _), Nat.sub_self]; rfl
  unfold swapAt
  rw [h1, h2]
  simp only
  rw [List.set_append_right _ _ (Nat.le_refl _), Nat.sub_self, List.set_cons_zero,
    List.set_append_right _ _ (Nat.le_add_right _ _), Nat.add_sub_cancel_left, List.set_cons_succ,
    List.set_append_right _ _ (Nat.le_refl _), Nat.sub_self, List.set_cons_zero]

theorem modAt_append (f : α → α) (pre post : List α) (x : α) :
    modAt f (pre ++ x :: post) pre.length = pre ++ f x :: post := by
  have h1 : (pre ++ x :: post)[pre.length]? = some x := by
    rw [List.getElem?_append_right (Nat.le_refl _), Nat.sub_self]; rfl
  unfold modAt
  rw [h1]
  simp only
  rw [List.set_append_right _ _ (Nat.le_refl _), Nat.sub_self, List.set_cons_zero]

theorem twoPtr_window (f : α → α) :
    ∀ (fuel : Nat) (pre mid post : List α), mid.length / 2 + 1 ≤ fuel →
      twoPtr f true fuel pre.length (pre.length + mid.length) (pre ++ mid ++ post)
        = pre ++ (mid.reverse.map f) ++ post := by
  intro fuel
  induction fuel with
  | zero => intro pre mid post h; exact absurd h (Nat.not_succ_le_zero _)
  | succ fuel ih =>
    intro pre mid post hfuel
    unfold twoPtr
    match mid, hfuel with
    | [], _ =>
      have h1 : ¬ pre.length + 1 < pre.length + ([] : List α).length := Nat.not_lt.mpr (Nat.le_succ _)
      have h2 : ¬ (true && pre.length + 1 == pre.length + ([] : List α).length) = true := by simp
      rw [if_neg h1, if_neg h2]; rfl
    | [x], _ =>
      have h1 : ¬ pre.length + 1 < pre.length + [x].length := Nat.lt_irrefl _
      have h2 : (true && pre.length + 1 == pre.length + [x].length) = true := by simp
      rw [if_neg h1, if_pos h2]
      simpa using modAt_append f pre post x
    | x :: y :: rest, hfuel =>
      obtain ⟨m, z, hm⟩ : ∃ m z, y :: rest = m ++ [z] := by
        rcases List.eq_nil_or_concat (y :: rest) with h | ⟨m, z, hm⟩
        · cases h
        · exact ⟨m, z, hm.trans (List.concat_eq_append ..)⟩
      have hl : rest.length + 1 = m.length + 1 := by simpa using congrArg List.length hm
      rw [hm]
      have hlen : (x :: (m ++ [z])).length = m.length + 1 + 1 := by simp
      rw [if_pos (by rw [hlen]; exact Nat.add_lt_add_left (Nat.lt_succ_of_le (Nat.succ_le_succ (Nat.zero_le _))) _)]
      have e1 : pre ++ x :: (m ++ [z]) ++ post = pre ++ x :: (m ++ z :: post) := by simp
      rw [e1, hlen, Nat.add_succ_sub_one, swapAt_append]
      have e3 : pre ++ f z :: (m ++ f x :: post) = (pre ++ [f z]) ++ m ++ (f x :: post) := by simp
      have e4 : pre.length + 1 = (pre ++ [f z]).length := by simp
      have e5 : pre.length + (m.length + 1) = (pre ++ [f z]).length + m.length := by
        rw [List.length_append, List.length_singleton, Nat.add_assoc, Nat.add_comm 1]
      rw [e3, e4, e5, ih (pre ++ [f z]) m (f x :: post)]
      · simp
      · simp only [List.length_cons] at hfuel
        omega

/-- **the two-pointer loop equals the list specification** (odd and even lengths alike):
    reverse, then apply `f` to every element. -/
theorem twoPtr_spec (f : α → α) (l : List α) :
    twoPtr f true (loopFuel l.length) 0 l.length l = l.reverse.map f := by
  have h := twoPtr_window f (loopFuel l.length) [] l [] (by simp [loopFuel])
  simpa using h

theorem set_getElem?_self (l : List α) (i : Nat) (x : α) (h : l[i]? = some x) : l.set i x = l := by
  obtain ⟨hi, rfl⟩ := List.getElem?_eq_some_iff.mp h
  exact List.set_getElem_self hi

theorem getElem?_set_of_lt {l : List α} {k : Nat} (hk : k < l.length) (x : α) (j : Nat) :
    (l.set k x)[j]? = if k = j then some x else l[j]? := by
  by_cases e : k = j
  · subst e; simp [hk]
  · simp [e]

theorem modAt_id (l : List α) (i : Nat) : modAt id l i = l := by
  unfold modAt
  cases h : l[i]? with
  | none => rfl
  | some x => exact set_getElem?_self l i x h

theorem twoPtr_id_mid (b : Bool) : ∀ (fuel i j1 : Nat) (l : List α),
    twoPtr id b fuel i j1 l = twoPtr id true fuel i j1 l := by
  intro fuel
  induction fuel with
  | zero => intro i j1 l; rfl
  | succ fuel ih =>
    intro i j1 l
    unfold twoPtr
    by_cases h : i + 1 < j1
    · simp only [h, if_true]; exact ih _ _ _
    · simp only [h, if_false]
      by_cases h2 : (i + 1 == j1) = true
      · cases b <;> simp [h2, modAt_id]
      · cases b <;> simp [h2]

/-- the loop of `Reverse` (no middle-element step) is list reversal -/
theorem twoPtr_reverse (l : List α) :
    twoPtr id false (loopFuel l.length) 0 l.length l = l.reverse := by
  rw [twoPtr_id_mid, twoPtr_spec]; simp

end twoptr

section heapLoop
variable {α : Type}

theorem writesOnly_hSwapAt (f : α → α) (h : Heap α) (s : Slice) (i j : Nat) :
    WritesOnly (s.arr = ·) h (hSwapAt f h s i j) := by
  unfold hSwapAt
  cases h.get? s i with
  | none => exact .refl _ _
  | some x =>
    cases h.get? s j with
    | none => exact .refl _ _
    | some y => exact (WritesOnly.set h s i (f y)).trans (WritesOnly.set _ s j (f x))

theorem writesOnly_hModAt (f : α → α) (h : Heap α) (s : Slice) (i : Nat) :
    WritesOnly (s.arr = ·) h (hModAt f h s i) := by
  unfold hModAt
  cases h.get? s i with
  | none => exact .refl _ _
  | some x => exact WritesOnly.set h s i (f x)

theorem writesOnly_hTwoPtr (f : α → α) (mid : Bool) (s : Slice) :
    ∀ (fuel i j1 : Nat) (h : Heap α), WritesOnly (s.arr = ·) h (hTwoPtr f mid s fuel i j1 h) := by
  intro fuel
  induction fuel with
  | zero => intro i j1 h; exact .refl _ _
  | succ fuel ih =>
    intro i j1 h
    unfold hTwoPtr
    by_cases h1 : i + 1 < j1
    · rw [if_pos h1]; exact (writesOnly_hSwapAt f h s i (j1 - 1)).trans (ih _ _ _)
    · rw [if_neg h1]
      by_cases h2 : (mid && i + 1 == j1) = true
      · rw [if_pos h2]; exact writesOnly_hModAt f h s i
      · rw [if_neg h2]; exact .refl _ _

theorem arr_hTwoPtr (f : α → α) (mid : Bool) (s : Slice) (b : Nat) (hne : s.arr ≠ b) (fuel i j1 : Nat) (h : Heap α) :
    (hTwoPtr f mid s fuel i j1 h).arr b = h.arr b := (writesOnly_hTwoPtr f mid s fuel i j1 h).frame b hne

theorem read_hSwapAt (f : α → α) (h : Heap α) (s : Slice) (i j : Nat) (ha : s.arr < h.arrays.length) :
    (hSwapAt f h s i j).read s = swapAt f (h.read s) i j := by
  unfold hSwapAt swapAt
  rw [Heap.get?_eq_read, Heap.get?_eq_read]
  cases (h.read s)[i]? with
  | none => rfl
  | some x =>
    cases (h.read s)[j]? with
    | none => rfl
    | some y =>
      simp only
      rw [Heap.read_set_same _ _ _ _ (by rw [Heap.length_set]; exact ha), Heap.read_set_same _ _ _ _ ha]

theorem read_hModAt (f : α → α) (h : Heap α) (s : Slice) (i : Nat) (ha : s.arr < h.arrays.length) :
    (hModAt f h s i).read s = modAt f (h.read s) i := by
  unfold hModAt modAt
  rw [Heap.get?_eq_read]
  cases (h.read s)[i]? with
  | none => rfl
  | some x => simp only; rw [Heap.read_set_same _ _ _ _ ha]

theorem read_hTwoPtr (f : α → α) (mid : Bool) (s : Slice) :
    ∀ (fuel i j1 : Nat) (h : Heap α), s.arr < h.arrays.length →
      (hTwoPtr f mid s fuel i j1 h).read s = twoPtr f mid fuel i j1 (h.read s) := by
  intro fuel
  induction fuel with
  | zero => intro i j1 h _; rfl
  | succ fuel ih =>
    intro i j1 h ha
    unfold hTwoPtr twoPtr
    by_cases h1 : i + 1 < j1
    · rw [if_pos h1, if_pos h1, ih _ _ _ (by rw [(writesOnly_hSwapAt f h s i (j1 - 1)).size]; exact ha),
        read_hSwapAt f h s _ _ ha]
    · rw [if_neg h1, if_neg h1]
      by_cases h2 : (mid && i + 1 == j1) = true
      · rw [if_pos h2, if_pos h2]; exact read_hModAt f h s i ha
      · rw [if_neg h2, if_neg h2]

end heapLoop

/-- True of every live Go slice; assumed, `Slice` being a bare header.  Ignores `cap` (cf. `CapValidG`, ContAnnHeap). -/
def Lin.Valid (h : Cells) (l : Lin) : Prop :=
  l.s.arr < h.arrays.length ∧ l.s.off + l.s.len ≤ (h.arr l.s.arr).length

theorem length_read_of_valid (h : Cells) (l : Lin) (hv : l.Valid h) : (h.read l.s).length = l.s.len :=
  length_read h l.s hv.2

theorem shown_compQL (q : Bool) (comp : UInt8 → UInt8) (c : QL) :
    Lin.shown q (compQL comp c) = compQL comp (Lin.shown q c) := by
  cases q <;> rfl

/-- **revcomp_spec (linear.Seq, linear.QSeq)**: the letters reported by `At` over
    `[Start,End)` after `RevComp` are the reverse of those before with every letter
    complemented, each quality travelling with its letter; the strand is negated, the
    coordinates are unchanged. -/
theorem Lin.revComp_spec (cx : Ctx) (h : Cells) (l : Lin) (hv : l.Valid h) :
    let r := l.revComp cx h
    r.2.letters r.1 = (l.letters h).reverse.map (compQL cx.comp)
    ∧ r.2.strand = -l.strand ∧ r.2.start = l.start ∧ r.2.«end» = l.«end» := by
  refine ⟨?_, rfl, rfl, rfl⟩
  simp only [Lin.revComp, Lin.letters]
  rw [read_hTwoPtr _ _ _ _ _ _ _ hv.1]
  have hl := length_read_of_valid h l hv
  rw [← hl, twoPtr_spec, ← List.map_reverse, List.map_map, List.map_map]
  congr 1
  funext c
  exact shown_compQL l.q cx.comp c

theorem Lin.reverse_spec (h : Cells) (l : Lin) (hv : l.Valid h) :
    let r := l.reverse h
    r.2.letters r.1 = (l.letters h).reverse ∧ r.2.start = l.start ∧ r.2.«end» = l.«end» := by
  refine ⟨?_, rfl, rfl⟩
  simp only [Lin.reverse, Lin.letters]
  rw [read_hTwoPtr _ _ _ _ _ _ _ hv.1]
  have hl := length_read_of_valid h l hv
  rw [← hl, twoPtr_reverse, List.map_reverse]

theorem Lin.valid_mono {h h' : Cells} {l : Lin} (hl : h.arrays.length ≤ h'.arrays.length)
    (ha : h'.arr l.s.arr = h.arr l.s.arr) (hv : l.Valid h) : l.Valid h' := by
  simp only [Lin.Valid, ha]; exact ⟨Nat.lt_of_lt_of_le hv.1 hl, hv.2⟩

theorem Lin.letters_congr {h h' : Cells} {l : Lin} (ha : h'.arr l.s.arr = h.arr l.s.arr) :
    l.letters h' = l.letters h := by
  simp only [Lin.letters, read_congr_arr h h' l.s ha]

/-- the rows of a multi own pairwise different backing arrays, all allocated and long enough -/
def RowsWF (h : Cells) (rows : List Lin) : Prop :=
  (∀ r ∈ rows, r.Valid h) ∧ rows.Pairwise (fun a b => a.s.arr ≠ b.s.arr)

theorem Lin.Valid.writesOnly {P : Nat → Prop} {h h' : Cells} {l l' : Lin} (hv : l.Valid h)
    (hw : WritesOnly P h h') (hs : l'.s = l.s) : l'.Valid h' := by
  simp only [Lin.Valid, hs, hw.size, hw.arrlen]; exact hv

/-- What a loop over a `Multi`'s rows asks of its body `g` to keep `RowsWF` and every other row (`inPlaceRows_spec`). -/
structure InPlace (g : Cells → Lin → Cells × Lin) : Prop where
  slice : ∀ h r, (g h r).2.s = r.s
  writes : ∀ h r, WritesOnly (r.s.arr = ·) h (g h r).1

theorem InPlace.arr {g : Cells → Lin → Cells × Lin} (hg : InPlace g) (h : Cells) (r : Lin) :
    (g h r).2.s.arr = r.s.arr := congrArg Slice.arr (hg.slice h r)

theorem InPlace.valid {g : Cells → Lin → Cells × Lin} (hg : InPlace g) {h : Cells} {r : Lin} (hv : r.Valid h) :
    (g h r).2.Valid (g h r).1 := hv.writesOnly (hg.writes h r) (hg.slice h r)

theorem inPlace_revComp (cx : Ctx) : InPlace (fun h r => r.revComp cx h) :=
  ⟨fun _ _ => rfl, fun h r => writesOnly_hTwoPtr _ _ r.s _ _ _ h⟩

theorem inPlace_reverse : InPlace (fun h r => r.reverse h) :=
  ⟨fun _ _ => rfl, fun h r => writesOnly_hTwoPtr _ _ r.s _ _ _ h⟩

theorem inPlace_set (pos : Int) (c : QL) : InPlace (fun h r => (r.set h pos c, r)) where
  slice _ _ := rfl
  writes h r := by
    simp only [Lin.set]
    split
    · exact .refl _ _
    · exact .set _ _ _ _

theorem map_comp_twice (comp : UInt8 → UInt8) (ls : List QL)
    (hinv : ∀ c ∈ ls, comp (comp c.L) = c.L) :
    ((ls.reverse.map (compQL comp)).reverse.map (compQL comp)) = ls := by
  rw [← List.map_reverse, List.reverse_reverse, List.map_map]
  conv => rhs; rw [← List.map_id ls]
  apply List.map_congr_left
  intro c hc
  simp only [Function.comp, compQL, id]
  rw [hinv c hc]

/-- **revcomp_involutive (linear)**: applying `RevComp` twice restores letters, qualities,
    strand and coordinates, for sequences made of letters on which the complement is an
    involution (all letters the alphabet pairs, see `builtin_complement_involutive`) -/
theorem Lin.revComp_twice (cx : Ctx) (h : Cells) (l : Lin) (hv : l.Valid h)
    (hinv : ∀ c ∈ l.letters h, cx.comp (cx.comp c.L) = c.L) :
    let r1 := l.revComp cx h
    let r2 := r1.2.revComp cx r1.1
    r2.2.letters r2.1 = l.letters h ∧ r2.2.strand = l.strand ∧ r2.2.start = l.start ∧ r2.2.«end» = l.«end» := by
  intro r1 r2
  have h1 := Lin.revComp_spec cx h l hv
  have hv1 := (inPlace_revComp cx).valid hv
  have h2 := Lin.revComp_spec cx r1.1 r1.2 hv1
  refine ⟨?_, ?_, ?_, ?_⟩
  · rw [h2.1, h1.1]; exact map_comp_twice cx.comp _ hinv
  · rw [h2.2.1, h1.2.1]; omega
  · rw [h2.2.2.1, h1.2.2.1]
  · rw [h2.2.2.2, h1.2.2.2]

/-- **reverse_involutive (linear)** -/
theorem Lin.reverse_twice (h : Cells) (l : Lin) (hv : l.Valid h) :
    let r1 := l.reverse h
    let r2 := r1.2.reverse r1.1
    r2.2.letters r2.1 = l.letters h ∧ r2.2.start = l.start ∧ r2.2.«end» = l.«end» := by
  intro r1 r2
  have h1 := Lin.reverse_spec h l hv
  have hv1 := inPlace_reverse.valid hv
  have h2 := Lin.reverse_spec r1.1 r1.2 hv1
  refine ⟨?_, ?_, ?_⟩
  · rw [h2.1, h1.1, List.reverse_reverse]
  · rw [h2.2.1, h1.2.1]
  · rw [h2.2.2, h1.2.2]

/-- a running best (`Start()`'s minimum, `End()`'s maximum) under a strict total order `lt`:
    nothing beats the result, and the result is the initial value or one of the keys -/
theorem foldl_best {α : Type} (lt : Int → Int → Prop) [DecidableRel lt] (f : α → Int)
    (htrans : ∀ a b c, ¬ lt b a → ¬ lt c b → ¬ lt c a) (hasym : ∀ a b, lt a b → ¬ lt b a) :
    ∀ (rows : List α) (init : Int),
      ¬ lt init (rows.foldl (fun s r => if lt (f r) s then f r else s) init) ∧
      (∀ r ∈ rows, ¬ lt (f r) (rows.foldl (fun s r => if lt (f r) s then f r else s) init)) ∧
      (rows.foldl (fun s r => if lt (f r) s then f r else s) init = init ∨
        ∃ r ∈ rows, rows.foldl (fun s r => if lt (f r) s then f r else s) init = f r) := by
  intro rows
  induction rows with
  | nil => intro init; exact ⟨fun h => hasym _ _ h h, nofun, Or.inl rfl⟩
  | cons r rs ih =>
    intro init
    simp only [List.foldl_cons]
    by_cases hc : lt (f r) init
    · rw [if_pos hc]
      obtain ⟨h1, h2, h3⟩ := ih (f r)
      refine ⟨htrans _ _ _ h1 (hasym _ _ hc), fun x hx => ?_, Or.inr ?_⟩
      · rcases List.mem_cons.mp hx with rfl | e
        · exact h1
        · exact h2 x e
      · rcases h3 with e | ⟨x, hx, e⟩
        · exact ⟨r, List.mem_cons_self, e⟩
        · exact ⟨x, List.mem_cons_of_mem _ hx, e⟩
    · rw [if_neg hc]
      obtain ⟨h1, h2, h3⟩ := ih init
      refine ⟨h1, fun x hx => ?_, h3.imp_right fun ⟨x, hx, e⟩ => ⟨x, List.mem_cons_of_mem _ hx, e⟩⟩
      rcases List.mem_cons.mp hx with rfl | e
      · exact htrans _ _ _ h1 hc
      · exact h2 x e

theorem foldl_min_spec (rows : List Lin) (init : Int) :
    let s := rows.foldl (fun s r => if r.start < s then r.start else s) init
    s ≤ init ∧ (∀ r ∈ rows, s ≤ r.start) ∧ (s = init ∨ ∃ r ∈ rows, s = r.start) := by
  obtain ⟨h1, h2, h3⟩ := foldl_best (· < ·) Lin.start (fun _ _ _ _ _ => by omega) (fun _ _ _ => by omega) rows init
  exact ⟨Int.not_lt.mp h1, fun r hr => Int.not_lt.mp (h2 r hr), h3⟩

theorem foldl_max_spec (rows : List Lin) (init : Int) :
    let e := rows.foldl (fun e r => if r.«end» > e then r.«end» else e) init
    init ≤ e ∧ (∀ r ∈ rows, r.«end» ≤ e) ∧ (e = init ∨ ∃ r ∈ rows, e = r.«end») := by
  obtain ⟨h1, h2, h3⟩ := foldl_best (· > ·) Lin.«end» (fun _ _ _ _ _ => by omega) (fun _ _ _ => by omega) rows init
  exact ⟨Int.not_lt.mp h1, fun r hr => Int.not_lt.mp (h2 r hr), h3⟩

/-- a multi with at least one row, all coordinates representable as Go `int`s -/
def Multi.InRange (m : Multi) : Prop :=
  m.rows ≠ [] ∧ ∀ r ∈ m.rows, minInt ≤ r.start ∧ r.«end» ≤ maxInt

theorem Lin.start_le_end (r : Lin) : r.start ≤ r.«end» := by
  simp only [Lin.start, Lin.«end»]; omega

theorem Multi.start_eq_of (m : Multi) (S : Int) (hS : S ≤ maxInt)
    (hle : ∀ r ∈ m.rows, S ≤ r.start) (hex : ∃ r ∈ m.rows, r.start = S) : m.start = S := by
  obtain ⟨h1, h2, h3⟩ := foldl_min_spec m.rows maxInt
  obtain ⟨r, hr, hrs⟩ := hex
  have := h2 r hr
  simp only [Multi.start]
  rcases h3 with e | ⟨x, hx, e⟩
  · omega
  · have := hle x hx; omega

theorem Multi.end_eq_of (m : Multi) (E : Int) (hE : minInt ≤ E)
    (hle : ∀ r ∈ m.rows, r.«end» ≤ E) (hex : ∃ r ∈ m.rows, r.«end» = E) : m.«end» = E := by
  obtain ⟨h1, h2, h3⟩ := foldl_max_spec m.rows minInt
  obtain ⟨r, hr, hrs⟩ := hex
  have := h2 r hr
  simp only [Multi.«end»]
  rcases h3 with e | ⟨x, hx, e⟩
  · omega
  · have := hle x hx; omega

theorem Multi.span_spec (m : Multi) (hr : m.InRange) :
    (∀ r ∈ m.rows, m.start ≤ r.start) ∧ (∃ r ∈ m.rows, r.start = m.start) ∧
    (∀ r ∈ m.rows, r.«end» ≤ m.«end») ∧ (∃ r ∈ m.rows, r.«end» = m.«end») ∧
    minInt ≤ m.start ∧ m.«end» ≤ maxInt := by
  obtain ⟨a1, a2, a3⟩ := foldl_min_spec m.rows maxInt
  obtain ⟨b1, b2, b3⟩ := foldl_max_spec m.rows minInt
  obtain ⟨r0, hr0⟩ := List.exists_mem_of_ne_nil _ hr.1
  have hr0r := hr.2 r0 hr0
  have hse := r0.start_le_end
  have ha := a2 r0 hr0
  have hb := b2 r0 hr0
  refine ⟨a2, ?_, b2, ?_, ?_, ?_⟩
  · rcases a3 with e | ⟨x, hx, e⟩
    · -- the sentinel survives only if some row starts at it
      refine ⟨r0, hr0, ?_⟩
      simp only [Multi.start]; omega
    · exact ⟨x, hx, e.symm⟩
  · rcases b3 with e | ⟨x, hx, e⟩
    · refine ⟨r0, hr0, ?_⟩
      simp only [Multi.«end»]; omega
    · exact ⟨x, hx, e.symm⟩
  · simp only [Multi.start]
    rcases a3 with e | ⟨x, hx, e⟩
    · rw [e]; decide
    · rw [e]; exact (hr.2 x hx).1
  · simp only [Multi.«end»]
    rcases b3 with e | ⟨x, hx, e⟩
    · rw [e]; decide
    · rw [e]; exact (hr.2 x hx).2

/-- mirroring every row about `[S,E)` keeps the span `[S,E)` -/
theorem Multi.span_mirror (m m' : Multi) (hr : m.InRange)
    (hall : All2 (fun r r' => r'.start = m.start + m.«end» - r.«end» ∧ r'.«end» = m.start + m.«end» - r.start)
      m.rows m'.rows) :
    m'.start = m.start ∧ m'.«end» = m.«end» ∧ m'.InRange := by
  obtain ⟨s1, s2, e1, e2, lo, hi⟩ := m.span_spec hr
  refine ⟨?_, ?_, ?_, ?_⟩
  · apply Multi.start_eq_of
    · obtain ⟨r, hr', e⟩ := s2
      have := (hr.2 r hr').2; have := r.start_le_end; omega
    · intro r' hr'
      obtain ⟨r, hrm, hrel⟩ := hall.exists_left r' hr'
      have := e1 r hrm; omega
    · obtain ⟨r, hrm, e⟩ := e2
      obtain ⟨r', hr', hrel⟩ := hall.exists_right r hrm
      exact ⟨r', hr', by omega⟩
  · apply Multi.end_eq_of
    · obtain ⟨r, hr', e⟩ := e2
      have := (hr.2 r hr').1; have := r.start_le_end; omega
    · intro r' hr'
      obtain ⟨r, hrm, hrel⟩ := hall.exists_left r' hr'
      have := s1 r hrm; omega
    · obtain ⟨r, hrm, e⟩ := s2
      obtain ⟨r', hr', hrel⟩ := hall.exists_right r hrm
      exact ⟨r', hr', by omega⟩
  · intro hnil
    have := hall.length_eq
    rw [hnil] at this
    exact hr.1 (List.length_eq_zero_iff.mp this)
  · intro r' hr'
    obtain ⟨r, hrm, hrel⟩ := hall.exists_left r' hr'
    have := e1 r hrm; have := s1 r hrm
    omega

/-- the body of the loop of `Multi.RevComp` for one row -/
def gRevComp (cx : Ctx) (st en : Int) (h : Cells) (r : Lin) : Cells × Lin :=
  ((r.revComp cx h).1, { (r.revComp cx h).2 with off := st + en - (r.revComp cx h).2.«end» })

def gReverse (st en : Int) (h : Cells) (r : Lin) : Cells × Lin :=
  ((r.reverse h).1, { (r.reverse h).2 with off := st + en - (r.reverse h).2.«end» })

theorem inPlace_gRevComp (cx : Ctx) (st en : Int) : InPlace (gRevComp cx st en) :=
  ⟨fun _ _ => rfl, (inPlace_revComp cx).writes⟩

theorem inPlace_gReverse (st en : Int) : InPlace (gReverse st en) :=
  ⟨fun _ _ => rfl, inPlace_reverse.writes⟩

/-- what `Multi.RevComp` does to one row: letters reversed and complemented (qualities
    travelling), strand negated, the row mirrored about the span `[S,E)` -/
def RevCompRel (comp : UInt8 → UInt8) (S E : Int) (bl : List QL) (r : Lin) (al : List QL) (r' : Lin) : Prop :=
  al = bl.reverse.map (compQL comp) ∧ r'.strand = -r.strand ∧
  r'.start = S + E - r.«end» ∧ r'.«end» = S + E - r.start ∧ r'.q = r.q ∧ r'.name = r.name

theorem gRevComp_rel (cx : Ctx) (S E : Int) (h : Cells) (r : Lin) (hv : r.Valid h) :
    RevCompRel cx.comp S E (r.letters h) r ((gRevComp cx S E h r).2.letters (gRevComp cx S E h r).1)
      (gRevComp cx S E h r).2 := by
  have hs := (Lin.revComp_spec cx h r hv).1
  refine ⟨hs, rfl, ?_, ?_, rfl, rfl⟩
  · simp only [gRevComp, Lin.start, Lin.«end», Lin.revComp]
  · simp only [gRevComp, Lin.start, Lin.«end», Lin.revComp]; omega

def ReverseRel (S E : Int) (bl : List QL) (r : Lin) (al : List QL) (r' : Lin) : Prop :=
  al = bl.reverse ∧ r'.start = S + E - r.«end» ∧ r'.«end» = S + E - r.start ∧ r'.q = r.q ∧ r'.name = r.name

theorem gReverse_rel (S E : Int) (h : Cells) (r : Lin) (hv : r.Valid h) :
    ReverseRel S E (r.letters h) r ((gReverse S E h r).2.letters (gReverse S E h r).1) (gReverse S E h r).2 := by
  have hs := (Lin.reverse_spec h r hv).1
  refine ⟨hs, ?_, ?_, rfl, rfl⟩
  · simp only [gReverse, Lin.start, Lin.«end», Lin.reverse]
  · simp only [gReverse, Lin.start, Lin.«end», Lin.reverse]; omega

theorem inPlaceRows_spec (g : Cells → Lin → Cells × Lin) (hg : InPlace g)
    (Rel : List QL → Lin → List QL → Lin → Prop)
    (hrel : ∀ h r, r.Valid h → Rel (r.letters h) r ((g h r).2.letters (g h r).1) (g h r).2)
    (rows : List Lin) (h : Cells) (hwf : RowsWF h rows) :
    All2 (fun r r' => Rel (r.letters h) r (r'.letters (thread g rows h).1) r') rows (thread g rows h).2
    ∧ RowsWF (thread g rows h).1 (thread g rows h).2 := by
  obtain ⟨hall, hpw, _⟩ := thread_spec g (·.s) (·.s)
    (fun h s => s.arr < h.arrays.length ∧ s.off + s.len ≤ (h.arr s.arr).length)
    (fun _ _ hv => hv.1) (fun _ _ _ hv hl ha => ⟨Nat.lt_of_lt_of_le hv.1 hl, by rw [ha]; exact hv.2⟩)
    (fun h r hv => ⟨(hg.writes h r).within, Or.inl (hg.arr h r), hg.valid hv⟩)
    (fun bl r al r' => Rel (bl.map (Lin.shown r.q)) r (al.map (Lin.shown r'.q)) r') hrel rows h hwf.1 hwf.2
  exact ⟨hall.imp fun _ _ hab => hab.1,
    fun r' hr' => by obtain ⟨_, _, hx⟩ := hall.exists_left r' hr'; exact hx.2.2, hpw⟩

theorem Multi.revComp_thread (cx : Ctx) (h : Cells) (m : Multi) :
    m.revComp cx h = ((thread (gRevComp cx m.start m.«end») m.rows h).1,
      { m with rows := (thread (gRevComp cx m.start m.«end») m.rows h).2 }) :=
  congrArg (fun p : Cells × List Lin => (p.1, ({ m with rows := p.2 } : Multi)))
    (foldl_thread_nil (gRevComp cx m.start m.«end») m.rows h)

theorem Multi.reverse_thread (h : Cells) (m : Multi) :
    m.reverse h = ((thread (gReverse m.start m.«end») m.rows h).1,
      { m with rows := (thread (gReverse m.start m.«end») m.rows h).2 }) :=
  congrArg (fun p : Cells × List Lin => (p.1, ({ m with rows := p.2 } : Multi)))
    (foldl_thread_nil (gReverse m.start m.«end») m.rows h)

/-- **revcomp_spec (multi.Multi) and multi_revcomp_mirror**: every row of the result holds the
    reverse complement of the corresponding row (qualities travelling, strand negated) and
    occupies `[S+E-end_i, S+E-start_i)` where `[S,E)` is the span of the alignment before. -/
theorem Multi.revComp_rows (cx : Ctx) (h : Cells) (m : Multi) (hwf : RowsWF h m.rows) :
    All2 (fun r r' => RevCompRel cx.comp m.start m.«end» (r.letters h) r (r'.letters (m.revComp cx h).1) r')
      m.rows (m.revComp cx h).2.rows
    ∧ RowsWF (m.revComp cx h).1 (m.revComp cx h).2.rows := by
  rw [Multi.revComp_thread]
  exact inPlaceRows_spec (gRevComp cx m.start m.«end») (inPlace_gRevComp cx _ _) (RevCompRel cx.comp m.start m.«end»)
    (fun h r hv => gRevComp_rel cx _ _ h r hv) m.rows h hwf

theorem Multi.reverse_rows (h : Cells) (m : Multi) (hwf : RowsWF h m.rows) :
    All2 (fun r r' => ReverseRel m.start m.«end» (r.letters h) r (r'.letters (m.reverse h).1) r')
      m.rows (m.reverse h).2.rows
    ∧ RowsWF (m.reverse h).1 (m.reverse h).2.rows := by
  rw [Multi.reverse_thread]
  exact inPlaceRows_spec (gReverse m.start m.«end») (inPlace_gReverse _ _) (ReverseRel m.start m.«end»)
    (fun h r hv => gReverse_rel _ _ h r hv) m.rows h hwf

/-- **revcomp_involutive (multi.Multi)**: letters, qualities, strand and the coordinates of
    every row are restored by a second `RevComp` -/
theorem Multi.revComp_twice (cx : Ctx) (h : Cells) (m : Multi) (hwf : RowsWF h m.rows) (hr : m.InRange)
    (hinv : ∀ r ∈ m.rows, ∀ c ∈ r.letters h, cx.comp (cx.comp c.L) = c.L) :
    let m1 := m.revComp cx h
    let m2 := m1.2.revComp cx m1.1
    All2 (fun r r2 => r2.letters m2.1 = r.letters h ∧ r2.strand = r.strand ∧ r2.start = r.start ∧
        r2.«end» = r.«end» ∧ r2.q = r.q ∧ r2.name = r.name) m.rows m2.2.rows
    ∧ m2.2.start = m.start ∧ m2.2.«end» = m.«end» := by
  intro m1 m2
  obtain ⟨a1, wf1⟩ := Multi.revComp_rows cx h m hwf
  obtain ⟨a2, _⟩ := Multi.revComp_rows cx m1.1 m1.2 wf1
  obtain ⟨s1, e1, r1⟩ := Multi.span_mirror m m1.2 hr (a1.imp fun a b hab => ⟨hab.2.2.1, hab.2.2.2.1⟩)
  obtain ⟨s2, e2, _⟩ := Multi.span_mirror m1.2 m2.2 r1 (a2.imp fun a b hab => ⟨hab.2.2.1, hab.2.2.2.1⟩)
  refine ⟨?_, by rw [s2, s1], by rw [e2, e1]⟩
  refine (a1.trans a2).imp_mem fun r r2 hrm ⟨r1', hab, hbc⟩ => ?_
  obtain ⟨l1, st1, b1, c1, q1, n1⟩ := hab
  obtain ⟨l2, st2, b2, c2, q2, n2⟩ := hbc
  refine ⟨?_, by omega, ?_, ?_, by rw [q2, q1], by rw [n2, n1]⟩
  · rw [l2, l1]; exact map_comp_twice cx.comp _ (hinv r hrm)
  · rw [b2, c1, s1, e1]; omega
  · rw [c2, b1, s1, e1]; omega

/-- **reverse_involutive (multi.Multi)**: letters (and the coordinates of every row) are restored -/
theorem Multi.reverse_twice (h : Cells) (m : Multi) (hwf : RowsWF h m.rows) (hr : m.InRange) :
    let m1 := m.reverse h
    let m2 := m1.2.reverse m1.1
    All2 (fun r r2 => r2.letters m2.1 = r.letters h ∧ r2.start = r.start ∧ r2.«end» = r.«end»)
      m.rows m2.2.rows := by
  intro m1 m2
  obtain ⟨a1, wf1⟩ := Multi.reverse_rows h m hwf
  obtain ⟨a2, _⟩ := Multi.reverse_rows m1.1 m1.2 wf1
  obtain ⟨s1, e1, r1⟩ := Multi.span_mirror m m1.2 hr (a1.imp fun a b hab => ⟨hab.2.1, hab.2.2.1⟩)
  refine (a1.trans a2).imp fun r r2 ⟨r1', hab, hbc⟩ => ?_
  obtain ⟨l1, b1, c1, _, _⟩ := hab
  obtain ⟨l2, b2, c2, _, _⟩ := hbc
  refine ⟨by rw [l2, l1, List.reverse_reverse], ?_, ?_⟩
  · rw [b2, c1, s1, e1]; omega
  · rw [c2, b1, s1, e1]; omega

end Biogo.Containers
