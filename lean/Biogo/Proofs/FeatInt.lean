/-
`strconv.ParseInt(strconv.FormatInt(n, 10), 0, 64) = n` and the unsigned analogue, for the
model of Biogo.Go.BytesFeat; and what a printed number is made of: digits and `-`, so it is `Plain`
and holds no comma.
-/
import Biogo.Proofs.FeatTrim

namespace Biogo.BytesFeat

theorem digitVal_digitChar : ∀ d, d < 10 → digitVal (digitChar d) = some d := by decide

theorem digitChar_ne_underscore : ∀ d, d < 10 → (digitChar d == 95) = false := by decide

theorem digitChar_range : ∀ d, d < 10 → 48 ≤ digitChar d ∧ digitChar d ≤ 57 := by decide

theorem digitChar_pos : ∀ d, d < 10 → d ≠ 0 → 49 ≤ digitChar d := by decide

theorem natDigits_lt (n : Nat) (h : n < 10) : natDigits n = [digitChar n] := by
  rw [natDigits]; simp [h]

theorem natDigits_zero : natDigits 0 = [48] := by
  rw [natDigits_lt 0 (by omega)]; rfl

theorem natDigits_ge (n : Nat) (h : ¬ n < 10) : natDigits n = natDigits (n / 10) ++ [digitChar (n % 10)] := by
  rw [natDigits]; simp [h]

theorem natDigits_ne_nil (n : Nat) : natDigits n ≠ [] := by
  by_cases h : n < 10
  · rw [natDigits_lt n h]; simp
  · rw [natDigits_ge n h]; simp

theorem natDigits_digits (n : Nat) : ∀ c ∈ natDigits n, 48 ≤ c ∧ c ≤ 57 := by
  induction n using Nat.strongRecOn with
  | _ n ih =>
    by_cases h : n < 10
    · rw [natDigits_lt n h]
      intro c hc
      simp at hc; subst hc
      exact digitChar_range n h
    · rw [natDigits_ge n h]
      intro c hc
      rcases List.mem_append.mp hc with hc | hc
      · exact ih (n / 10) (by omega) c hc
      · simp at hc; subst hc
        exact digitChar_range (n % 10) (by omega)

theorem natDigits_head (n : Nat) (hn : n ≠ 0) : ∃ c r, natDigits n = c :: r ∧ 49 ≤ c ∧ c ≤ 57 := by
  induction n using Nat.strongRecOn with
  | _ n ih =>
    by_cases h : n < 10
    · rw [natDigits_lt n h]
      exact ⟨digitChar n, [], rfl, digitChar_pos n h hn, (digitChar_range n h).2⟩
    · rw [natDigits_ge n h]
      obtain ⟨c, r, hc, hr⟩ := ih (n / 10) (by omega) (by omega)
      exact ⟨c, r ++ [digitChar (n % 10)], by rw [hc]; rfl, hr⟩

theorem uintLoop_append (base maxVal : Nat) (l1 l2 : Bytes) (n : Nat) (us : Bool) :
    uintLoop base maxVal (l1 ++ l2) n us =
      match uintLoop base maxVal l1 n us with
      | .ok (m, u) => uintLoop base maxVal l2 m u
      | .error e => .error e := by
  induction l1 generalizing n us with
  | nil => rfl
  | cons c r ih =>
    -- each test of the loop body is decided the same way on both sides (`split` is slow on this term)
    rw [List.cons_append, uintLoop, uintLoop]
    by_cases h95 : (c == 95) = true
    · rw [if_pos h95, if_pos h95]; exact ih _ _
    rw [if_neg h95, if_neg h95]
    cases digitVal c with
    | none => rfl
    | some d =>
      simp only []
      by_cases h1 : d ≥ base
      · rw [if_pos h1, if_pos h1]
      rw [if_neg h1, if_neg h1]
      by_cases h2 : n ≥ (2 ^ 64 - 1) / base + 1
      · rw [if_pos h2, if_pos h2]
      rw [if_neg h2, if_neg h2]
      by_cases h3 : n * base + d > maxVal
      · rw [if_pos h3, if_pos h3]
      rw [if_neg h3, if_neg h3]
      exact ih _ _

theorem uintLoop_digit (maxVal acc d : Nat) (us : Bool) (hd : d < 10) (hm : acc * 10 + d ≤ maxVal)
    (hmax : maxVal ≤ 2 ^ 64 - 1) :
    uintLoop 10 maxVal [digitChar d] acc us = .ok (acc * 10 + d, us) := by
  have h1 : ¬ (acc ≥ (2 ^ 64 - 1) / 10 + 1) := by omega
  have h2 : ¬ (acc * 10 + d > maxVal) := by omega
  have h3 : ¬ (d ≥ 10) := by omega
  simp only [uintLoop, digitChar_ne_underscore d hd, digitVal_digitChar d hd]
  simp [h1, h2, h3]

theorem uintLoop_natDigits (maxVal : Nat) (hmax : maxVal ≤ 2 ^ 64 - 1) (n : Nat) (hn : n ≤ maxVal) (us : Bool) :
    uintLoop 10 maxVal (natDigits n) 0 us = .ok (n, us) := by
  induction n using Nat.strongRecOn with
  | _ n ih =>
    by_cases h : n < 10
    · rw [natDigits_lt n h]
      have := uintLoop_digit maxVal 0 n us h (by omega) hmax
      simpa using this
    · rw [natDigits_ge n h, uintLoop_append, ih (n / 10) (by omega) (by omega)]
      simp only []
      have := uintLoop_digit maxVal (n / 10) (n % 10) us (by omega) (by omega) hmax
      rw [this]
      congr 2
      omega

theorem parseUint_natDigits (bits : Nat) (hb : bits ≤ 64) (n : Nat) (hn : n ≤ 2 ^ bits - 1) :
    parseUint (natDigits n) bits = .ok n := by
  have hmax : 2 ^ bits - 1 ≤ 2 ^ 64 - 1 := by
    have := Nat.pow_le_pow_right (show 0 < 2 by omega) hb
    omega
  by_cases h0 : n = 0
  · subst h0
    rw [natDigits_zero]
    simp [parseUint, basePrefix, uintLoop]
  · obtain ⟨c, r, hc, h49, h57⟩ := natDigits_head n h0
    have hne : natDigits n ≠ [] := natDigits_ne_nil n
    have hc48 : (c == 48) = false := by
      apply beq_false_of_ne
      intro e; subst e
      exact absurd h49 (by decide)
    have hbase : basePrefix (natDigits n) = (10, natDigits n) := by
      rw [hc]; simp [basePrefix, hc48]
    unfold parseUint
    have hemp : (natDigits n).isEmpty = false := List.isEmpty_eq_false_iff.mpr hne
    simp only [hemp, hbase]
    rw [uintLoop_natDigits _ hmax n hn false]
    simp

theorem formatInt_nonneg (i : Int) (h : 0 ≤ i) : formatInt i = natDigits i.natAbs := by
  unfold formatInt; simp [Int.not_lt.mpr h]

theorem formatInt_neg (i : Int) (h : i < 0) : formatInt i = 45 :: natDigits i.natAbs := by
  unfold formatInt; simp [h]

theorem inInt64_iff (i : Int) : inInt64 i = true ↔ -(2 ^ 63 : Int) ≤ i ∧ i ≤ (2 ^ 63 : Int) - 1 := by
  simp only [inInt64, minInt64, maxInt64, Bool.and_eq_true]
  constructor
  · intro h; exact ⟨of_decide_eq_true h.1, of_decide_eq_true h.2⟩
  · intro h; exact ⟨decide_eq_true h.1, decide_eq_true h.2⟩

/-- `strconv.ParseInt(strconv.FormatInt(i, 10), 0, 64) = i` for every `int64` -/
theorem parseInt_formatInt (i : Int) (h : inInt64 i = true) : parseInt (formatInt i) 64 = .ok i := by
  obtain ⟨hlo, hhi⟩ := (inInt64_iff i).mp h
  by_cases hneg : i < 0
  · rw [formatInt_neg i hneg]
    have hn : i.natAbs ≤ 2 ^ 64 - 1 := by omega
    simp only [parseInt, show ((45:UInt8) == 43) = false from rfl, show ((45:UInt8) == 45) = true from rfl,
      Bool.or_true, if_true]
    rw [parseUint_natDigits 64 (Nat.le_refl _) _ hn]
    have h1 : ¬ (i.natAbs > 2 ^ (64 - 1)) := by omega
    simp [h1]
    omega
  · have hnn : 0 ≤ i := Int.not_lt.mp hneg
    rw [formatInt_nonneg i hnn]
    obtain ⟨c, r, hc⟩ := List.exists_cons_of_ne_nil (natDigits_ne_nil i.natAbs)
    have h48 : 48 ≤ c := (natDigits_digits _ c (by rw [hc]; simp)).1
    have hsign : ∀ k : UInt8, k < 48 → (c == k) = false := fun k hk =>
      beq_false_of_ne fun e => absurd (e ▸ h48) (UInt8.not_le.mpr hk)
    have hp := parseUint_natDigits 64 (Nat.le_refl _) i.natAbs (by omega)
    rw [hc] at hp ⊢
    simp only [parseInt, hsign 43 (by decide), hsign 45 (by decide), Bool.or_self, Bool.false_eq_true, if_false, hp]
    have h1 : ¬ (i.natAbs ≥ 2 ^ (64 - 1)) := by omega
    simp [h1]
    omega

theorem formatInt_chars (i : Int) : ∀ c ∈ formatInt i, c = 45 ∨ (48 ≤ c ∧ c ≤ 57) := by
  intro c hc
  unfold formatInt at hc
  split at hc
  · rcases List.mem_cons.mp hc with h | h
    · left; exact h
    · right; exact natDigits_digits _ c h
  · right; exact natDigits_digits _ c hc

theorem plain_of_digits {s : Bytes} (h : ∀ c ∈ s, c = 45 ∨ (48 ≤ c ∧ c ≤ 57)) : Plain s ∧ (44 : UInt8) ∉ s := by
  have key : ∀ c : UInt8, c = 45 ∨ (48 ≤ c ∧ c ≤ 57) → c < 128 ∧ isAsciiSpace c = false ∧ c ≠ 44 := by
    intro c h
    rcases h with rfl | ⟨h1, h2⟩
    · decide
    · have h1' : 48 ≤ c.toNat := UInt8.le_iff_toNat_le.mp h1
      have h2' : c.toNat ≤ 57 := UInt8.le_iff_toNat_le.mp h2
      have hv : ∀ k : UInt8, k.toNat < 48 ∨ 57 < k.toNat → c ≠ k := by
        intro k hk e; subst e; omega
      refine ⟨UInt8.lt_iff_toNat_lt.mpr (by simp; omega), ?_, hv 44 (by decide)⟩
      simp only [isAsciiSpace, Bool.or_eq_false_iff, beq_eq_false_iff_ne]
      exact ⟨⟨⟨⟨⟨hv 9 (by decide), hv 10 (by decide)⟩, hv 11 (by decide)⟩, hv 12 (by decide)⟩, hv 13 (by decide)⟩, hv 32 (by decide)⟩
  exact ⟨fun c hc => ⟨(key c (h c hc)).1, (key c (h c hc)).2.1⟩, fun hc => (key 44 (h 44 hc)).2.2 rfl⟩

theorem natDigits_plain (n : Nat) : Plain (natDigits n) ∧ (44 : UInt8) ∉ natDigits n :=
  plain_of_digits fun c hc => .inr (natDigits_digits n c hc)

theorem formatInt_plain (i : Int) : Plain (formatInt i) ∧ (44 : UInt8) ∉ formatInt i :=
  plain_of_digits (formatInt_chars i)

theorem formatInt_ne_nil (i : Int) : formatInt i ≠ [] := by
  unfold formatInt
  split
  · simp
  · exact natDigits_ne_nil _

end Biogo.BytesFeat
