/-
Soundness of the executable spec checkers of `Spec/AlignPairs.lean` against `Spec/Alignment.lean`:
a well-formed pair list decodes to an alignment of the class; `pairScoresOk` makes the total the
score of that alignment; `align.Format`'s rows have equal length and reduce to the aligned
subsequences when gap letters are removed.
-/
import Biogo.Spec.AlignPairs
import Biogo.Proofs.Alignment

namespace Biogo.Proofs.AlignPairs
open Biogo.Spec.Alignment Biogo.Spec.AlignPairs

theorem proj_zip : ∀ (A B : List Nat), A.length = B.length →
    projR (List.zipWith Col.m A B) = A ∧ projQ (List.zipWith Col.m A B) = B := by
  intro A
  induction A with
  | nil => intro B h; cases B with
    | nil => exact ⟨rfl, rfl⟩
    | cons b B => simp at h
  | cons a A ih =>
    intro B h
    cases B with
    | nil => simp at h
    | cons b B =>
      obtain ⟨h1, h2⟩ := ih B (by simpa using h)
      simp [projR, projQ, h1, h2]

theorem window_append {α} (l : List α) (a b e : Nat) (hab : a ≤ b) (hbe : b ≤ e) (he : e ≤ l.length) :
    (l.take b).drop a ++ (l.take e).drop b = (l.take e).drop a := by
  have h1 : l.take b = (l.take e).take b := by rw [List.take_take]; congr 1; omega
  rw [h1]
  have hlen : a ≤ ((l.take e).take b).length := by simp; omega
  conv => rhs; rw [← List.take_append_drop b (l.take e)]
  rw [List.drop_append_of_le_length hlen]

theorem okShape_iff (p : Pair) : p.okShape = true ↔
    (p.a0 ≤ p.a1 ∧ p.b0 ≤ p.b1 ∧ (p.a1 - p.a0 = p.b1 - p.b0 ∨ p.a0 = p.a1 ∨ p.b0 = p.b1) ∧
      (p.a0 = p.a1 → p.b0 = p.b1 → p.score = 0)) := by
  simp only [Pair.okShape, Bool.and_eq_true, Bool.or_eq_true, decide_eq_true_eq, Bool.not_eq_true',
    Bool.and_eq_false_iff, decide_eq_false_iff_not, and_assoc, or_assoc]
  -- the two sides differ in the last conjunct only: `¬A ∨ ¬B ∨ C` against `A → B → C`
  refine and_congr_right fun _ => and_congr_right fun _ => and_congr_right fun _ => ?_
  by_cases ha : p.a0 = p.a1 <;> by_cases hb : p.b0 = p.b1 <;> simp [ha, hb]

theorem cols_up (r q : List Nat) (i maxI j : Nat) (sc : Int) :
    Pair.cols r q ⟨i, maxI, j, j, sc⟩ = ((r.take maxI).drop i).map Col.u := by
  simp [Pair.cols]

theorem cols_left (r q : List Nat) (i j maxJ : Nat) (sc : Int) :
    Pair.cols r q ⟨i, i, j, maxJ, sc⟩ = ((q.take maxJ).drop j).map Col.l := by
  by_cases h1 : j = maxJ
  · subst h1; simp [Pair.cols]
  · simp [Pair.cols, h1]

theorem cols_diag (r q : List Nat) (i maxI j maxJ : Nat) (sc : Int)
    (h : maxI - i = maxJ - j) (hi : i ≤ maxI) (hj : j ≤ maxJ) :
    Pair.cols r q ⟨i, maxI, j, maxJ, sc⟩ =
      List.zipWith Col.m ((r.take maxI).drop i) ((q.take maxJ).drop j) := by
  simp only [Pair.cols]
  by_cases h1 : j = maxJ
  · subst h1
    have h2 : i = maxI := Nat.le_antisymm hi (Nat.le_of_sub_eq_zero (h.trans (Nat.sub_self _)))
    subst h2; simp
  · have h2 : i ≠ maxI := fun e =>
      h1 (Nat.le_antisymm hj (Nat.le_of_sub_eq_zero (h.symm.trans (e ▸ Nat.sub_self _))))
    rw [if_neg h1, if_neg h2]

theorem cols_empty (r q : List Nat) (i j : Nat) (sc : Int) : Pair.cols r q ⟨i, i, j, j, sc⟩ = [] := by
  simp [Pair.cols]

theorem chainEnd_cons {i j : Nat} {p : Pair} {ps : List Pair} {e : Nat × Nat} :
    chainEnd i j (p :: ps) = some e ↔
      p.a0 = i ∧ p.b0 = j ∧ p.okShape = true ∧ chainEnd p.a1 p.b1 ps = some e := by
  simp only [chainEnd]
  split
  · rename_i h; exact ⟨fun h' => ⟨h.1, h.2.1, h.2.2, h'⟩, fun h' => h'.2.2.2⟩
  · rename_i h; exact ⟨fun h' => (nomatch h'), fun h' => absurd ⟨h'.1, h'.2.1, h'.2.2.1⟩ h⟩

theorem cols_proj (r q : List Nat) (p : Pair) (hs : p.okShape = true)
    (h1 : p.a1 ≤ r.length) (h2 : p.b1 ≤ q.length) :
    projR (p.cols r q) = (r.take p.a1).drop p.a0 ∧ projQ (p.cols r q) = (q.take p.b1).drop p.b0 := by
  obtain ⟨ha, hb, hk, _⟩ := (okShape_iff p).mp hs
  simp only [Pair.cols]
  by_cases hb0 : p.b0 = p.b1
  · rw [if_pos hb0, projR_map_u, projQ_map_u, hb0]
    exact ⟨rfl, (List.drop_eq_nil_of_le (List.length_take_le _ _)).symm⟩
  · rw [if_neg hb0]
    by_cases ha0 : p.a0 = p.a1
    · rw [if_pos ha0, projR_map_l, projQ_map_l, ha0]
      exact ⟨(List.drop_eq_nil_of_le (List.length_take_le _ _)).symm, rfl⟩
    · rw [if_neg ha0]
      have hlen : ((r.take p.a1).drop p.a0).length = ((q.take p.b1).drop p.b0).length := by
        rw [List.length_drop, List.length_take, List.length_drop, List.length_take, Nat.min_eq_left h1,
          Nat.min_eq_left h2]
        exact hk.elim id fun h => h.elim (absurd · ha0) (absurd · hb0)
      exact proj_zip _ _ hlen

theorem chain_decode (r q : List Nat) : ∀ (ps : List Pair) (i j e1 e2 : Nat),
    chainEnd i j ps = some (e1, e2) → e1 ≤ r.length → e2 ≤ q.length →
    i ≤ e1 ∧ j ≤ e2 ∧ projR (decode r q ps) = (r.take e1).drop i ∧
      projQ (decode r q ps) = (q.take e2).drop j := by
  intro ps
  induction ps with
  | nil =>
    intro i j e1 e2 h h1 h2
    simp only [chainEnd, Option.some.injEq, Prod.mk.injEq] at h
    obtain ⟨rfl, rfl⟩ := h
    simp [decode, projR, projQ]
  | cons p ps ih =>
    intro i j e1 e2 h h1 h2
    obtain ⟨rfl, rfl, hs, h⟩ := chainEnd_cons.mp h
    obtain ⟨ha, hb, hR, hQ⟩ := ih _ _ _ _ h h1 h2
    obtain ⟨hpa, hpb, _, _⟩ := (okShape_iff p).mp hs
    obtain ⟨c1, c2⟩ := cols_proj r q p hs (Nat.le_trans ha h1) (Nat.le_trans hb h2)
    refine ⟨Nat.le_trans hpa ha, Nat.le_trans hpb hb, ?_, ?_⟩
    · simp only [decode, projR_append, c1, hR]
      exact window_append r _ _ _ hpa ha h1
    · simp only [decode, projQ_append, c2, hQ]
      exact window_append q _ _ _ hpb hb h2

theorem span_chain {ps : List Pair} {i j e1 e2 : Nat} (h : span ps = some (i, j, e1, e2)) :
    chainEnd i j ps = some (e1, e2) := by
  cases ps with
  | nil => simp [span] at h
  | cons p ps =>
    simp only [span] at h
    split at h
    · rename_i a b hc
      simp only [Option.some.injEq, Prod.mk.injEq] at h
      obtain ⟨rfl, rfl, rfl, rfl⟩ := h
      exact hc
    · simp at h

theorem span_cons_of_chain {p : Pair} {ps : List Pair} {e1 e2 : Nat}
    (h : chainEnd p.a0 p.b0 (p :: ps) = some (e1, e2)) : span (p :: ps) = some (p.a0, p.b0, e1, e2) := by
  simp only [span, h]

theorem wellFormed_iff (k : Class) (n m : Nat) (ps : List Pair) :
    wellFormed k n m ps = true ↔
      ∃ i j e1 e2, span ps = some (i, j, e1, e2) ∧ chainEnd i j ps = some (e1, e2) ∧
        match k with
        | .global => i = 0 ∧ j = 0 ∧ e1 = n ∧ e2 = m
        | .loc => e1 ≤ n ∧ e2 ≤ m
        | .fitted => e1 ≤ n ∧ e2 ≤ m := by
  constructor
  · intro h
    simp only [wellFormed] at h
    split at h
    · simp at h
    · rename_i i j e1 e2 hs
      refine ⟨i, j, e1, e2, hs, span_chain hs, ?_⟩
      cases k <;> simp only [Bool.and_eq_true, decide_eq_true_eq] at h ⊢
      · exact ⟨h.1.1.1, h.1.1.2, h.1.2, h.2⟩
      · exact h
      · exact h
  · rintro ⟨i, j, e1, e2, hs, _, hk⟩
    simp only [wellFormed, hs]
    cases k <;> simp only [Bool.and_eq_true, decide_eq_true_eq] at hk ⊢
    · exact ⟨⟨⟨hk.1, hk.2.1⟩, hk.2.2.1⟩, hk.2.2.2⟩
    · exact hk
    · exact hk

theorem wellFormed_of_span {ps : List Pair} {i j e1 e2 : Nat} (k : Class) (n m : Nat)
    (h : span ps = some (i, j, e1, e2))
    (hk : match k with
      | .global => i = 0 ∧ j = 0 ∧ e1 = n ∧ e2 = m
      | .loc => e1 ≤ n ∧ e2 ≤ m
      | .fitted => e1 ≤ n ∧ e2 ≤ m) : wellFormed k n m ps = true :=
  (wellFormed_iff k n m ps).mpr ⟨i, j, e1, e2, h, span_chain h, hk⟩

theorem fitted_of_span {ps : List Pair} {i e n m : Nat} (h : span ps = some (i, 0, e, m)) (he : e ≤ n) :
    wellFormed .fitted n m ps = true ∧ consumesQuery m ps = true ∧ endRef ps = e :=
  ⟨wellFormed_of_span .fitted n m h ⟨he, Nat.le_refl _⟩, by simp [consumesQuery, h], by simp [endRef, h]⟩

/-- a well-formed global path describes a global alignment -/
theorem wellFormed_global_sound (r q : List Nat) (ps : List Pair)
    (h : wellFormed .global r.length q.length ps = true) : IsGlobal (decode r q ps) r q := by
  obtain ⟨i, j, e1, e2, _, hc, rfl, rfl, rfl, rfl⟩ := (wellFormed_iff ..).mp h
  obtain ⟨_, _, hR, hQ⟩ := chain_decode r q ps _ _ _ _ hc (Nat.le_refl _) (Nat.le_refl _)
  exact ⟨by simpa using hR, by simpa using hQ⟩

/-- a well-formed local path describes a local alignment -/
theorem wellFormed_local_sound (r q : List Nat) (ps : List Pair)
    (h : wellFormed .loc r.length q.length ps = true) : IsLocal (decode r q ps) r q := by
  obtain ⟨i, j, e1, e2, _, hc, h1, h2⟩ := (wellFormed_iff ..).mp h
  obtain ⟨_, _, hR, hQ⟩ := chain_decode r q ps _ _ _ _ hc h1 h2
  exact isLocal_iff.mpr ⟨e1, e2, h1, h2, hR ▸ List.drop_suffix _ _, hQ ▸ List.drop_suffix _ _⟩

/-- a well-formed fitted path that consumes the query describes an alignment of the whole query
    with a reference segment ending at `endRef` -/
theorem wellFormed_fitted_sound (r q : List Nat) (ps : List Pair)
    (h : wellFormed .fitted r.length q.length ps = true) (hc : consumesQuery q.length ps = true) :
    IsFitted (decode r q ps) r q (endRef ps) := by
  obtain ⟨i, j, e1, e2, hs, hch, h1, h2⟩ := (wellFormed_iff ..).mp h
  simp only [consumesQuery, hs, Bool.and_eq_true, decide_eq_true_eq] at hc
  obtain ⟨rfl, rfl⟩ := hc
  obtain ⟨hi, _, hR, hQ⟩ := chain_decode r q ps _ _ _ _ hch h1 (Nat.le_refl _)
  simp only [endRef, hs]
  exact ⟨i, hi, h1, hR, by simpa using hQ⟩

theorem total_cons (p : Pair) (ps : List Pair) : total (p :: ps) = p.score + total ps := by
  simp [total]

theorem pairScoresOk_cons (S : Matrix) (r q : List Nat) (p : Pair) (ps : List Pair) :
    pairScoresOk S r q (p :: ps) = (decide (p.score = scoreLin S (p.cols r q)) && pairScoresOk S r q ps) := by
  simp [pairScoresOk]

/-- faithful pair scores make the total the score of the described alignment -/
theorem pairScores_total (S : Matrix) (r q : List Nat) : ∀ (ps : List Pair),
    pairScoresOk S r q ps = true → total ps = scoreLin S (decode r q ps) := by
  intro ps
  induction ps with
  | nil => intro _; rfl
  | cons p ps ih =>
    intro h
    rw [pairScoresOk_cons, Bool.and_eq_true, decide_eq_true_eq] at h
    rw [total_cons, decode, scoreLin_append, ← ih h.2, h.1]

/-- what `Format` renders for one sequence of one pair, `[a0, a1)` of `l`, with the gap letters
    removed, is that window (`n` is the length of the pair's other side) -/
theorem piece_filter {α} [DecidableEq α] (gap : α) (l : List α) (a0 a1 n : Nat) (hg : ¬ gap ∈ l)
    (h : a0 ≤ a1) :
    (if a1 - a0 = 0 then List.replicate n gap else (l.take a1).drop a0).filter (· ≠ gap)
      = (l.take a1).drop a0 := by
  split
  · have : a0 = a1 := by omega
    subst this
    rw [List.filter_eq_nil_iff.mpr (fun x hx => by simp [(List.mem_replicate.mp hx).2])]
    simp
  · refine List.filter_eq_self.mpr fun x hx => ?_
    have hx : x ∈ l := List.mem_of_mem_take (List.mem_of_mem_drop hx)
    simpa using fun hxg => hg (by rwa [hxg] at hx)

/-- the two sides of a well-shaped pair (lengths `x`, `y`) are rendered equally long -/
theorem ite_swap {x y : Nat} (h : x = y ∨ x = 0 ∨ y = 0) :
    (if x = 0 then y else x) = if y = 0 then x else y := by
  split <;> split <;> omega

theorem piece_length {α} (gap : α) (l : List α) (a0 a1 n : Nat) (h : a1 ≤ l.length) :
    (if a1 - a0 = 0 then List.replicate n gap else (l.take a1).drop a0).length
      = if a1 - a0 = 0 then n else a1 - a0 := by
  split
  · exact List.length_replicate
  · rw [List.length_drop, List.length_take, Nat.min_eq_left h]

/-- "Format renders two equal-length rows that reduce to the aligned subsequences when gap
    letters are removed" for a chain of well-shaped pairs within the sequences -/
theorem format_chain {α} [DecidableEq α] (gap : α) (r q : List α) : ∀ (ps : List Pair) (i j e1 e2 : Nat),
    chainEnd i j ps = some (e1, e2) → e1 ≤ r.length → e2 ≤ q.length →
    (formatRows gap r q ps).1.length = (formatRows gap r q ps).2.length ∧
    (¬ gap ∈ r → (formatRows gap r q ps).1.filter (· ≠ gap) = (r.take e1).drop i) ∧
    (¬ gap ∈ q → (formatRows gap r q ps).2.filter (· ≠ gap) = (q.take e2).drop j) ∧
    i ≤ e1 ∧ j ≤ e2 := by
  intro ps
  induction ps with
  | nil =>
    intro i j e1 e2 h h1 h2
    obtain ⟨rfl, rfl⟩ : i = e1 ∧ j = e2 := by simpa [chainEnd] using h
    simp [formatRows]
  | cons p ps ih =>
    intro i j e1 e2 h h1 h2
    obtain ⟨rfl, rfl, hs, h⟩ := chainEnd_cons.mp h
    obtain ⟨hlen, hR, hQ, ha, hb⟩ := ih _ _ _ _ h h1 h2
    obtain ⟨hpa, hpb, hk, _⟩ := (okShape_iff p).mp hs
    simp only [formatRows]
    refine ⟨?_, fun hg => ?_, fun hg => ?_, Nat.le_trans hpa ha, Nat.le_trans hpb hb⟩
    · rw [List.length_append, List.length_append, hlen, piece_length gap r _ _ _ (Nat.le_trans ha h1),
        piece_length gap q _ _ _ (Nat.le_trans hb h2),
        ite_swap (hk.imp_right (Or.imp (fun h => by rw [h, Nat.sub_self]) (fun h => by rw [h, Nat.sub_self])))]
    · rw [List.filter_append, hR hg, piece_filter gap r _ _ _ hg hpa]
      exact window_append r _ _ _ hpa ha h1
    · rw [List.filter_append, hQ hg, piece_filter gap q _ _ _ hg hpb]
      exact window_append q _ _ _ hpb hb h2

end Biogo.Proofs.AlignPairs
