/-
`SWAffine` (model `Biogo.AlignAff.swAlign`): its table is the reference table of
`Spec.AffineOpt` for local alignments (with the cross transitions since the repair of K1,
`cross = true`; without them before, `cross = false`), with the two gap layers clipped at 0;
the end cell it selects holds the maximum of the match layer, which dominates the gap layers; the
traceback (`sw_run`) stops on a 0, so it reports pairs whose total is that maximum, on a well-formed
path inside the table (`swAlignT_wf`).
-/
import Biogo.Proofs.AffineOpt
import Biogo.Proofs.AlignAffTable
import Biogo.Proofs.TraceFaith

namespace Biogo.Proofs.SWAffine
open Biogo.Spec.Alignment Biogo.AlignAff Biogo.Spec.AffineOpt Biogo.Proofs.AffineAln
open Biogo.Proofs.AffineOpt Biogo.Proofs.AlignAffTable Biogo.Proofs.TraceSum
open Biogo.Spec.AffPairs (wellFormed inBounds faithful pairScore)
open Biogo.Proofs.TraceWF (loop_inv init_inv_of emit_wf)
open Biogo.Proofs.TraceFaith

theorem clip0_eq (a : V) : clip0 a = vmax (some 0) a := by
  rcases a with _ | x <;> simp [clip0, vmax]
  by_cases h : x < 0 <;> simp [h] <;> omega

theorem clip0_vmax (a b : V) : clip0 (vmax a b) = vmax (clip0 a) (clip0 b) := by
  simp only [clip0_eq]
  rcases a with _ | x <;> rcases b with _ | y <;> simp [vmax] <;> omega

theorem clip0_vadd_clip0 {g : Int} (hg : g ≤ 0) (w : V) : clip0 (vadd (clip0 w) g) = clip0 (vadd w g) := by
  simp only [clip0_eq]
  rcases w with _ | x <;> simp [vmax, vadd] <;> omega

theorem vmax_clip0 {x : Int} (hx : 0 ≤ x) (u : V) : vmax (some x) (clip0 u) = vmax (some x) u := by
  rw [clip0_eq]
  rcases u with _ | y <;> simp [vmax] <;> omega

/-- the match layer: `if score > 0 then score else 0` is the clipped score -/
theorem dclip (a : V) : (if vgt a (some 0) then a else some 0) = clip0 a := by
  rcases a with _ | x <;> simp [vgt, clip0]
  by_cases h : 0 < x <;> simp [h] <;> omega

theorem clip0_some_ne_zero {w : V} {v : Int} (h : clip0 w = some v) (hv : v ≠ 0) : w = some v := by
  rcases w with _ | x
  · exact absurd (Option.some.inj h).symm hv
  · simp only [clip0] at h
    split at h
    · exact absurd (Option.some.inj h).symm hv
    · exact h

theorem clip0_of_vle {w : V} (h : vle w (some 0)) : clip0 w = some 0 := by
  rcases w with _ | x
  · rfl
  · have : x ≤ 0 := h
    simp only [clip0]
    split
    · rfl
    · congr 1; omega

/-- the class of alignments `SWAffine` explores: local; all of them since the repair of K1
    (`cross = true`), before it those with no gap next to an opposite gap -/
def flL (cross : Bool) : Flags := ⟨cross, true, true⟩

/-- the third argument of a gap layer's maximum: the other gap layer, when it is a predecessor -/
def crossV (cross : Bool) (po : V) (x : Int) : V := if cross then vadd po x else none

theorem gapVal_flL (cross : Bool) (o g : Int) (pd ps po : V) :
    gapVal (flL cross) o g pd ps po = vmax (vmax (vadd pd (o + g)) (vadd ps g)) (crossV cross po (o + g)) :=
  max3_eq _ _ _

theorem gapLayer_flL (cross : Bool) (o g : Int) (pd ps po : V) :
    gapLayer cross o g pd ps po = vmax (vmax (vadd pd (o + g)) (vadd ps g)) (crossV cross po (o + g)) :=
  (gapLayer_eq (flL cross) o g pd ps po).trans (gapVal_flL cross o g pd ps po)

/-- a reference cell as the code stores it: gap layers clipped at 0 -/
def clipCell (c : Cell) : Cell := ⟨c.d, clip0 c.u, clip0 c.l⟩

theorem max3_clip (x : Int) (hx : 0 ≤ x) (u l : V) :
    max3 (some x) (clip0 u) (clip0 l) = max3 (some x) u l := by
  obtain ⟨z, e, hz⟩ := vmax_some x u
  rw [max3_eq, max3_eq, vmax_clip0 hx, e, vmax_clip0 (Int.le_trans hx hz)]

theorem gap_clip (cross : Bool) (A : V) (g h : Int) (hg : g ≤ 0) (hh : h ≤ 0) (us po : V) :
    clip0 (vmax (vmax A (vadd (clip0 us) g)) (crossV cross (clip0 po) h)) =
      clip0 (vmax (vmax A (vadd us g)) (crossV cross po h)) := by
  have hc : clip0 (crossV cross (clip0 po) h) = clip0 (crossV cross po h) := by
    cases cross
    · rfl
    · exact clip0_vadd_clip0 hh po
  simp only [clip0_vmax, clip0_vadd_clip0 hg, hc]

theorem swCell_clip (cross : Bool) (S : Matrix) (o : Int) (ho : o ≤ 0) (hg : ∀ x, S x 0 ≤ 0 ∧ S 0 x ≤ 0) (x y : Nat)
    (pd pu lc : Cell) (xd : Int) (hd : pd.d = some xd) (hd0 : 0 ≤ xd) :
    swCell cross S o x (clipCell pd) (clipCell pu) (clipCell lc) y =
        clipCell (optCell (flL cross) S o x pd pu lc y) ∧
      ∃ z, (optCell (flL cross) S o x pd pu lc y).d = some z ∧ 0 ≤ z := by
  have hdl : (optCell (flL cross) S o x pd pu lc y).d = clip0 (vadd (max3 pd.d pd.u pd.l) (S x y)) :=
    (max2_eq _ _).trans (clip0_eq _).symm
  constructor
  · have hx := (hg x).1
    have hy := (hg y).2
    simp only [clipCell, hdl]
    simp only [swCell, optCell, gapVal_flL, gapLayer_flL, hd, dclip, max3_clip xd hd0,
      gap_clip cross _ _ _ hx (Int.add_nonpos ho hx), gap_clip cross _ _ _ hy (Int.add_nonpos ho hy)]
  · obtain ⟨z, e, hz⟩ := vmax_some 0 (vadd (max3 pd.d pd.u pd.l) (S x y))
    exact ⟨z, by rw [hdl, clip0_eq, e], hz⟩

def swAt (cross : Bool) (S : Matrix) (o : Int) (r q : List Nat) (i j : Nat) : Cell :=
  rowAt (swRows cross S o r q) i j

theorem swAt_first (cross : Bool) (S : Matrix) (o : Int) (r q : List Nat) (i : Nat) (hi : i < r.length) :
    swAt cross S o r q (i + 1) 0 = zeroCell := by
  simp only [swAt, swRows]
  rw [rows_first _ _ q r _ i hi]; rfl

theorem swAt_inner (cross : Bool) (S : Matrix) (o : Int) (r q : List Nat) (i j : Nat) (hi : i < r.length)
    (hj : j < q.length) :
    swAt cross S o r q (i + 1) (j + 1) =
      swCell cross S o (r.getD i 0) (swAt cross S o r q i j) (swAt cross S o r q i (j + 1))
        (swAt cross S o r q (i + 1) j) (q.getD j 0) := by
  simp only [swAt, swRows]
  exact rows_inner _ _ q r _ (by simp) i j hi hj

theorem swAt_row0 (cross : Bool) (S : Matrix) (o : Int) (r q : List Nat) (j : Nat) (hj : j ≤ q.length) :
    swAt cross S o r q 0 j = zeroCell := by
  simp only [swAt, swRows, rowAt, List.getD_cons_zero]
  rw [List.getD_eq_getElem?_getD, List.getElem?_replicate, if_pos (by omega)]
  rfl

theorem swAt_border (cross : Bool) (S : Matrix) (o : Int) (r q : List Nat) (i j : Nat) (hi : i ≤ r.length)
    (hj : j ≤ q.length) (h : i = 0 ∨ j = 0) : swAt cross S o r q i j = zeroCell := by
  rcases h with rfl | rfl
  · exact swAt_row0 cross S o r q j hj
  · cases i with
    | zero => exact swAt_row0 cross S o r q 0 hj
    | succ i => exact swAt_first cross S o r q i hi

theorem zeroCell_get (k : Kind) : zeroCell.get k = some 0 := by cases k <;> rfl

def BorderOK (c : Cell) : Prop := c.d = some 0 ∧ vle c.u (some 0) ∧ vle c.l (some 0)

theorem clipCell_border {c : Cell} (h : BorderOK c) : clipCell c = zeroCell := by
  rw [clipCell, h.1, clip0_of_vle h.2.1, clip0_of_vle h.2.2]; rfl

theorem spec_row0 (cross : Bool) (S : Matrix) (o : Int) (ho : o ≤ 0) (hg : ∀ x, S x 0 ≤ 0 ∧ S 0 x ≤ 0)
    (r q : List Nat) (j : Nat) (hj : j ≤ q.length) : BorderOK (rowAt (optRows (flL cross) S o r q) 0 j) :=
  let ⟨hd, hu, hl⟩ := optRows_row0_free (flL cross) rfl S o ho (fun y => (hg y).2) r q j hj
  ⟨hd, by rw [hu]; trivial, hl⟩

theorem spec_col0 (cross : Bool) (S : Matrix) (o : Int) (ho : o ≤ 0) (hg : ∀ x, S x 0 ≤ 0 ∧ S 0 x ≤ 0)
    (r q : List Nat) (i : Nat) (hi : i ≤ r.length) : BorderOK (rowAt (optRows (flL cross) S o r q) i 0) :=
  let ⟨hd, hu, hl⟩ := optRows_col0_free (flL cross) rfl S o ho (fun x => (hg x).1) r q i hi
  ⟨hd, hu, by rw [hl]; trivial⟩

/-- the code's table is the reference table with clipped gap layers, and the match layer of
    the reference table is never negative -/
theorem sw_clip (cross : Bool) (S : Matrix) (o : Int) (ho : o ≤ 0) (hg : ∀ x, S x 0 ≤ 0 ∧ S 0 x ≤ 0)
    (r q : List Nat) :
    ∀ i, i ≤ r.length → ∀ j, j ≤ q.length →
      swAt cross S o r q i j = clipCell (rowAt (optRows (flL cross) S o r q) i j) ∧
        ∃ z, (rowAt (optRows (flL cross) S o r q) i j).d = some z ∧ 0 ≤ z := by
  have border : ∀ i j, BorderOK (rowAt (optRows (flL cross) S o r q) i j) → swAt cross S o r q i j = zeroCell →
      swAt cross S o r q i j = clipCell (rowAt (optRows (flL cross) S o r q) i j) ∧
        ∃ z, (rowAt (optRows (flL cross) S o r q) i j).d = some z ∧ 0 ≤ z :=
    fun i j hb hz => ⟨by rw [hz, clipCell_border hb], 0, hb.1, Int.le_refl _⟩
  refine table_induction r.length q.length ?_ ?_ ?_ ?_
  · exact border 0 0 (spec_row0 cross S o ho hg r q 0 (Nat.zero_le _)) (swAt_row0 cross S o r q 0 (Nat.zero_le _))
  · intro j hj _
    exact border 0 (j + 1) (spec_row0 cross S o ho hg r q (j + 1) hj) (swAt_row0 cross S o r q (j + 1) hj)
  · intro i hi _
    exact border (i + 1) 0 (spec_col0 cross S o ho hg r q (i + 1) hi) (swAt_first cross S o r q i hi)
  · rintro i j hi hj ⟨e1, xd, hd, hd0⟩ ⟨e2, _⟩ ⟨e3, _⟩
    rw [swAt_inner cross S o r q i j hi hj, optRows_cell (flL cross) S o r q i j hi hj, e1, e2, e3]
    exact swCell_clip cross S o ho hg _ _ _ _ _ xd hd hd0

theorem spec_gap_le (cross : Bool) (S : Matrix) (o : Int) (ho : o ≤ 0) (hg : ∀ x, S x 0 ≤ 0 ∧ S 0 x ≤ 0)
    (r q : List Nat) (s : Int)
    (hd : ∀ i j, i ≤ r.length → j ≤ q.length → vle (rowAt (optRows (flL cross) S o r q) i j).d (some s)) :
    ∀ i, i ≤ r.length → ∀ j, j ≤ q.length →
      vle (rowAt (optRows (flL cross) S o r q) i j).u (some s) ∧
        vle (rowAt (optRows (flL cross) S o r q) i j).l (some s) := by
  refine table_induction r.length q.length ?_ ?_ ?_ ?_
  · rw [optRows_origin]; exact ⟨trivial, trivial⟩
  · intro j hj h
    rw [optRows_row0 (flL cross) S o r q j hj]
    exact ⟨trivial, gapVal_le _ o _ ho (hg _).2 s _ _ _ (hd 0 j (Nat.zero_le _) (by omega)) h.2 h.1⟩
  · intro i hi h
    rw [optRows_col0 (flL cross) S o r q i hi]
    exact ⟨gapVal_le _ o _ ho (hg _).1 s _ _ _ (hd i 0 (by omega) (Nat.zero_le _)) h.1 h.2, trivial⟩
  · intro i j hi hj _ hu hl
    rw [optRows_cell (flL cross) S o r q i j hi hj]
    exact ⟨gapVal_le _ o _ ho (hg _).1 s _ _ _ (hd i (j + 1) (by omega) hj) hu.1 hu.2,
      gapVal_le _ o _ ho (hg _).2 s _ _ _ (hd (i + 1) j hi (by omega)) hl.2 hl.1⟩

/-- the invariant of the scan for `maxS, maxI, maxJ`: `best` is a cell of the table with a non-negative
    match-layer value that no cell `seen` so far exceeds.  The scan's position counters are the number
    of rows / cells dropped, so the cells seen are described in table coordinates. -/
def BestOK (rows : List (List Cell)) (seen : Nat → Nat → Prop) (best : Int × Nat × Nat) : Prop :=
  0 ≤ best.1 ∧ (rowAt rows best.2.1 best.2.2).d = some best.1 ∧
    ∀ i j, seen i j → ∀ x, (rowAt rows i j).d = some x → x ≤ best.1

theorem BestOK.mono {rows : List (List Cell)} {seen seen' : Nat → Nat → Prop} {best : Int × Nat × Nat}
    (h : BestOK rows seen best) (hs : ∀ i j, seen' i j → seen i j) : BestOK rows seen' best :=
  ⟨h.1, h.2.1, fun i j hij => h.2.2 i j (hs i j hij)⟩

theorem BestOK.step {rows : List (List Cell)} {seen : Nat → Nat → Prop} {best : Int × Nat × Nat}
    (h : BestOK rows seen best) (i j : Nat) :
    BestOK rows (fun a k => seen a k ∨ (a = i ∧ k = j)) (swBestStep i j (rowAt rows i j) best) := by
  obtain ⟨h0, hat, hmax⟩ := h
  unfold swBestStep
  rcases hd : (rowAt rows i j).d with _ | s
  · refine ⟨h0, hat, ?_⟩
    rintro a k (hs | ⟨rfl, rfl⟩) x hx
    · exact hmax a k hs x hx
    · rw [hd] at hx; cases hx
  · by_cases hc : s > 0 ∧ s ≥ best.1
    · simp only [if_pos hc]
      refine ⟨by omega, hd, ?_⟩
      rintro a k (hs | ⟨rfl, rfl⟩) x hx
      · exact Int.le_trans (hmax a k hs x hx) hc.2
      · rw [hd] at hx; cases hx; exact Int.le_refl _
    · simp only [if_neg hc]
      refine ⟨h0, hat, ?_⟩
      rintro a k (hs | ⟨rfl, rfl⟩) x hx
      · exact hmax a k hs x hx
      · rw [hd] at hx; cases hx; omega

theorem BestOK.bestRow {rows : List (List Cell)} {seen : Nat → Nat → Prop} {best : Int × Nat × Nat}
    (h : BestOK rows seen best) (i j : Nat) :
    BestOK rows (fun a k => seen a k ∨ (a = i ∧ j ≤ k ∧ k < (rows.getD i []).length))
      (swBestRow i ((rows.getD i []).drop j) j best) := by
  generalize hn : (rows.getD i []).length - j = n
  induction n generalizing j seen best with
  | zero =>
    rw [List.drop_eq_nil_of_le (Nat.le_of_sub_eq_zero hn)]
    exact h.mono fun a k hs => hs.resolve_right fun hk => by omega
  | succ n ih =>
    have hj : j < (rows.getD i []).length := by omega
    rw [List.drop_eq_getElem_cons hj, ← getD_of_lt _ noCell j hj]
    refine (ih (h.step i j) (j + 1) (by omega)).mono ?_
    rintro a k (hs | ⟨rfl, hk⟩)
    · exact Or.inl (Or.inl hs)
    · by_cases hkj : k = j
      · exact Or.inl (Or.inr ⟨rfl, hkj⟩)
      · exact Or.inr ⟨rfl, by omega, hk.2⟩

theorem BestOK.bestRows {rows : List (List Cell)} {seen : Nat → Nat → Prop} {best : Int × Nat × Nat}
    (h : BestOK rows seen best) (i : Nat) :
    BestOK rows (fun a k => seen a k ∨ (i ≤ a ∧ 1 ≤ k ∧ k < (rows.getD a []).length))
      (swBestRows (rows.drop i) i best) := by
  generalize hn : rows.length - i = n
  induction n generalizing i seen best with
  | zero =>
    have hi : rows.length ≤ i := Nat.le_of_sub_eq_zero hn
    rw [List.drop_eq_nil_of_le hi]
    refine h.mono fun a k hs => hs.resolve_right fun ha => ?_
    rw [List.getD_eq_getElem?_getD, List.getElem?_eq_none (Nat.le_trans hi ha.1)] at ha
    exact Nat.not_lt_zero _ ha.2.2
  | succ n ih =>
    have hi : i < rows.length := by omega
    rw [List.drop_eq_getElem_cons hi, ← getD_of_lt _ [] i hi]
    refine (ih (h.bestRow i 1) (i + 1) (by omega)).mono ?_
    rintro a k (hs | ⟨ha, hk⟩)
    · exact Or.inl (Or.inl hs)
    · by_cases hai : a = i
      · exact Or.inl (Or.inr ⟨hai, hai ▸ hk⟩)
      · exact Or.inr ⟨by omega, hk⟩

/-- `maxS, maxI, maxJ`: a cell of the table holding the largest match-layer value -/
theorem swBest_spec (cross : Bool) (S : Matrix) (o : Int) (r q : List Nat) :
    0 ≤ (swBest (swRows cross S o r q)).1 ∧
    (swAt cross S o r q (swBest (swRows cross S o r q)).2.1 (swBest (swRows cross S o r q)).2.2).d
      = some (swBest (swRows cross S o r q)).1 ∧
    ∀ i j, i < r.length → j < q.length → ∀ x, (swAt cross S o r q (i + 1) (j + 1)).d = some x →
      x ≤ (swBest (swRows cross S o r q)).1 := by
  have h0 : BestOK (swRows cross S o r q) (fun _ _ => False) (0, 0, 0) :=
    ⟨Int.le_refl _, by rw [← swAt, swAt_row0 cross S o r q 0 (Nat.zero_le _)]; rfl, fun _ _ h => h.elim⟩
  obtain ⟨hs0, hat, hmax⟩ := h0.bestRows 1
  refine ⟨hs0, hat, fun i j hi hj => hmax (i + 1) (j + 1) (Or.inr ⟨by omega, by omega, ?_⟩)⟩
  rw [swRows, rows_getD_len swFirst (swCell cross S o) q r _ (by simp) (i + 1) hi]
  omega

theorem swBest_bound (cross : Bool) (S : Matrix) (o : Int) (r q : List Nat) :
    (swBest (swRows cross S o r q)).2.1 ≤ r.length ∧ (swBest (swRows cross S o r q)).2.2 ≤ q.length := by
  obtain ⟨hi, hj⟩ := rowAt_some_lt (k := .m) (swBest_spec cross S o r q).2.1
  generalize swBest (swRows cross S o r q) = best at hi hj ⊢
  have hi' : best.2.1 ≤ r.length := by simpa [swRows, fillRows_length, Nat.lt_succ_iff] using hi
  rw [swRows, rows_getD_len swFirst (swCell cross S o) q r _ (by simp) _ hi'] at hj
  exact ⟨hi', Nat.le_of_lt_succ hj⟩

/-- `SWAffine` (either switch, either fill): one well-formed path inside the table -/
theorem swAlignT_wf (aware cross : Bool) (S : Matrix) (o : Int) (r q : List Nat) (ps : List Pair) (t : Bool)
    (h : swAlignT aware cross S o r q = .ok (ps, t)) :
    wellFormed ps = true ∧ inBounds ps r.length q.length = true := by
  obtain ⟨hI, hJ⟩ := swBest_bound cross S o r q
  obtain ⟨st, hl, _, rfl⟩ := (swAlignT_ok rfl).1 h
  have hinv := loop_inv aware cross true _ S o r q r.length q.length _ _ _ _ st
    (init_inv_of r.length q.length _ _ _ .m (Or.inl rfl) hI hJ) hl
  obtain ⟨hwf, hend, _⟩ := emit_wf hinv
  refine ⟨hwf, ?_⟩
  rw [inBounds, hend]; simp; exact ⟨hI, hJ⟩

theorem swTable_at (cross : Bool) (S : Matrix) (o : Int) (r q : List Nat) (i j : Nat) (hj : j ≤ q.length) :
    (swTable cross S o r q).at i j = swAt cross S o r q i j := by
  simp only [swTable, swAt, swRows]
  exact mkTable_at _ _ i j (rows_all_len swFirst (swCell cross S o) q r _ (by simp)) (by omega)

theorem swCell_get_of_ne_zero {cross : Bool} {S : Matrix} {o : Int} {x y : Nat} {pd pu lc : Cell} {k : Kind}
    {v : Int} (h : (swCell cross S o x pd pu lc y).get k = some v) (hv : v ≠ 0) :
    (nwCell cross S o x pd pu lc y).get k = some v := by
  cases k with
  | m =>
    have e : (swCell cross S o x pd pu lc y).get .m = clip0 (vadd (max3 pd.d pd.u pd.l) (S x y)) := dclip _
    exact clip0_some_ne_zero (e ▸ h) hv
  | u => exact clip0_some_ne_zero h hv
  | l => exact clip0_some_ne_zero h hv

theorem sw_covered (cross : Bool) (S : Matrix) (o : Int) (r q : List Nat) :
    Covered cross true (swTable cross S o r q) S o r q r.length q.length := by
  intro i j hi hj k v h hv
  rw [swTable_at cross S o r q (i + 1) (j + 1) (by omega), swAt_inner cross S o r q i j hi hj,
    ← swTable_at cross S o r q i j (by omega), ← swTable_at cross S o r q i (j + 1) (by omega),
    ← swTable_at cross S o r q (i + 1) j (by omega)] at h
  exact exists_cand_of_inner cross true _ S o _ _ i j k v (swCell_get_of_ne_zero h fun e => hv ⟨rfl, e⟩)

/-- the value of the end cell bounds every layer of every cell of the reference table: the match
    layers because the code's table has the same, the gap layers because they only lose on the way -/
theorem spec_le_best (cross : Bool) (S : Matrix) (o : Int) (ho : o ≤ 0) (hg : ∀ x, S x 0 ≤ 0 ∧ S 0 x ≤ 0)
    (r q : List Nat) (i j : Nat) (hi : i ≤ r.length) (hj : j ≤ q.length) (k : Kind) :
    vle ((rowAt (optRows (flL cross) S o r q) i j).get k) (some (swBest (swRows cross S o r q)).1) := by
  obtain ⟨hs0, _, hmax⟩ := swBest_spec cross S o r q
  have hd : ∀ i j, i ≤ r.length → j ≤ q.length →
      vle (rowAt (optRows (flL cross) S o r q) i j).d (some (swBest (swRows cross S o r q)).1) := by
    intro i j hi hj
    cases i with
    | zero => rw [(spec_row0 cross S o ho hg r q j hj).1]; exact hs0
    | succ i =>
      cases j with
      | zero => rw [(spec_col0 cross S o ho hg r q (i + 1) hi).1]; exact hs0
      | succ j =>
        obtain ⟨e, z, hz, _⟩ := sw_clip cross S o ho hg r q (i + 1) hi (j + 1) hj
        rw [hz]
        exact hmax i j hi hj z (by rw [e]; exact hz)
  have hgap := spec_gap_le cross S o ho hg r q _ hd i hi j hj
  cases k with
  | m => exact hd i j hi hj
  | u => exact hgap.1
  | l => exact hgap.2

theorem swBest_isOpt (cross : Bool) (S : Matrix) (o : Int) (ho : o ≤ 0) (hg : ∀ x, S x 0 ≤ 0 ∧ S 0 x ≤ 0)
    (r q : List Nat) :
    IsOpt (fun a => IsLocal a r q ∧ (cross = true ∨ NoAdj a)) (scoreAff S o)
      (some (swBest (swRows cross S o r q)).1) := by
  obtain ⟨_, hbest, _⟩ := swBest_spec cross S o r q
  obtain ⟨hI, hJ⟩ := swBest_bound cross S o r q
  refine isOpt_some.mpr ⟨?_, ?_⟩
  · rintro a ⟨hloc, hna⟩
    obtain ⟨i, j, hi, hj, hr, hq⟩ := isLocal_iff.mp hloc
    obtain ⟨x, hx, hax⟩ := (optRows_ok (flL cross) S o r q i j hi hj (endK a)).1 a ⟨⟨hr, hq, hna⟩, rfl⟩
    have hxs := spec_le_best cross S o ho hg r q i j hi hj (endK a)
    rw [show (rowAt (optRows (flL cross) S o r q) i j).get (endK a) = some x from hx] at hxs
    exact Int.le_trans hax hxs
  · rw [(sw_clip cross S o ho hg r q _ hI _ hJ).1] at hbest
    obtain ⟨a, ⟨⟨hr, hq, hn⟩, _⟩, e⟩ := (optRows_ok (flL cross) S o r q _ _ hI hJ .m).2 _ hbest
    exact ⟨a, ⟨isLocal_iff.mpr ⟨_, _, hI, hJ, hr, hq⟩, hn⟩, e⟩

/-! The traceback stops on a value 0 (`case table[p][layer] == 0`, or the zero border), so the reported scores add up to the
value of the end cell.  For faithful pair scores what matters is that a gap run whose opening step has not been
taken yet cannot stand on a 0 — an extension step goes from a positive gap-layer value to one that is at least
as large, because gap scores are ≤ 0 and every entry of the table is ≥ 0.  So when the loop stops the pending
segment is a block or a gap run that has been charged its `gapOpen`. -/

theorem clip0_nonneg {w : V} {v : Int} (h : clip0 w = some v) : 0 ≤ v := by
  obtain ⟨z, hz, hle⟩ := vmax_some 0 w
  rw [clip0_eq, hz] at h
  cases h
  exact hle

/-- every entry written by the inner loop of `SWAffine` is clipped at 0 -/
theorem swCell_nonneg (cross : Bool) (S : Matrix) (o : Int) (x y : Nat) (pd pu lc : Cell) (k : Kind) (v : Int)
    (h : (swCell cross S o x pd pu lc y).get k = some v) : 0 ≤ v := by
  cases k <;> simp only [Cell.get, swCell, dclip] at h <;> exact clip0_nonneg h

theorem swTable_nonneg (cross : Bool) (S : Matrix) (o : Int) (r q : List Nat) (i j : Nat) (hi : i ≤ r.length)
    (hj : j ≤ q.length) (k : Kind) (v : Int) (h : ((swTable cross S o r q).at i j).get k = some v) : 0 ≤ v := by
  rw [swTable_at cross S o r q i j hj] at h
  by_cases hb : i = 0 ∨ j = 0
  · rw [swAt_border cross S o r q i j hi hj hb, zeroCell_get] at h
    cases h
    exact Int.le_refl _
  · obtain ⟨i', rfl⟩ := Nat.exists_eq_add_one_of_ne_zero fun e => hb (Or.inl e)
    obtain ⟨j', rfl⟩ := Nat.exists_eq_add_one_of_ne_zero fun e => hb (Or.inr e)
    rw [swAt_inner cross S o r q i' j' hi hj] at h
    exact swCell_nonneg cross S o _ _ _ _ _ k v h

/-- a gap run whose opening step is still to come stands on a positive value -/
def Pos (T : Table) (st : TB) : Prop :=
  st.last ≠ .m → st.layer = st.last → ∃ w, (T.at st.i st.j).get st.layer = some w ∧ 0 < w

/-- `Pos` holds along the local traceback when gap scores are ≤ 0 and the entries of the table
    are ≥ 0: an extension step comes from a positive value and adds a gap score -/
theorem loop_pos (aware cross : Bool) (T : Table) (S : Matrix) (o : Int) (r q : List Nat) (R C : Nat)
    (hg : ∀ x, S x 0 ≤ 0 ∧ S 0 x ≤ 0)
    (hnn : ∀ i j, i ≤ R → j ≤ C → ∀ k v, (T.at i j).get k = some v → 0 ≤ v) :
    ∀ (fuel : Nat) (st st' : TB), st.i ≤ R ∧ st.j ≤ C ∧ Pos T st →
      tbLoop aware cross true T S o r q R C fuel st = .ok st' → st'.i ≤ R ∧ st'.j ≤ C ∧ Pos T st' := by
  refine tbLoop_ind ?_
  intro st v mv pl add ⟨hi, hj, _⟩ hfire
  refine ⟨by rw [move_i]; split <;> omega, by rw [move_j]; split <;> omega, ?_⟩
  have hv0 : 0 < v := by
    have := hnn st.i st.j hi hj st.layer v hfire.val
    have : v ≠ 0 := fun e => hfire.go ⟨rfl, e⟩
    omega
  obtain ⟨w, hw, hadd⟩ := hfire.pred
  intro hlast hlay
  rw [move_last] at hlast
  rw [move_layer, move_last] at hlay
  refine ⟨w, by rw [move_i, move_j, move_layer, ← predOf_eq]; exact hw, ?_⟩
  subst hlay
  -- a step that stays in its gap layer adds the gap score of one letter, which is ≤ 0
  have hadd' := cands_add hfire.mem
  rw [charge_of (Or.inr rfl)] at hadd'
  cases pl with
  | m => exact absurd rfl hlast
  | u => have := (hg (r.getD (st.i - 1) 0)).1; simp only [letterScore] at hadd'; omega
  | l => have := (hg (q.getD (st.j - 1) 0)).2; simp only [letterScore] at hadd'; omega

theorem sw_run (aware cross : Bool) (S : Matrix) (o : Int) (r q : List Nat) {s : Int} {mi mj : Nat}
    (hb : swBest (swRows cross S o r q) = (s, mi, mj)) :
    ∃ st, tbLoop aware cross true (swTable cross S o r q) S o r q r.length q.length (mi + mj)
        { i := mi, j := mj, layer := .m, last := .m, score := 0, maxI := mi, maxJ := mj, aln := [] } = .ok st ∧
      total st.emit.aln = s ∧
      ((∀ x, S x 0 ≤ 0 ∧ S 0 x ≤ 0) → st.tie = false → faithful S o r q st.emit.aln = true) := by
  obtain ⟨hI, hJ⟩ := swBest_bound cross S o r q
  obtain ⟨_, hbest, _⟩ := swBest_spec cross S o r q
  rw [hb] at hI hJ hbest
  simp only [] at hI hJ hbest
  by_cases hz : mi = 0 ∨ mj = 0
  · -- no positive cell: the empty alignment
    refine ⟨_, tbLoop_of_stopped (hz.elim Or.inl fun e => Or.inr (Or.inl e)) _, ?_, fun _ _ => ?_⟩
    · rw [swAt_border cross S o r q _ _ hI hJ hz] at hbest
      simpa [total, TB.emit] using (Option.some.inj hbest)
    · simp [faithful, TB.emit, pairScore]
  obtain ⟨st, hloop, hinv, hfaith, ⟨hi', hj', v, hv, hsum⟩, hend⟩ :=
    loop_run aware cross true r.length q.length (sw_covered cross S o r q) .m .m (Or.inl rfl)
      (show 0 < mi by omega) (show 0 < mj by omega) hI hJ
      (show ((swTable cross S o r q).at mi mj).get .m = some s by
        rw [swTable_at cross S o r q mi mj hJ]; exact hbest)
  -- the loop stops on a value 0: on the zero border, or by `case table[p][layer] == 0`
  have hv0 : v = 0 := by
    by_cases h0 : st.i = 0 ∨ st.j = 0
    · rw [swTable_at cross S o r q _ _ hj', swAt_border cross S o r q _ _ hi' hj' h0, zeroCell_get] at hv
      exact (Option.some.inj hv).symm
    · have := ((hend.resolve_left fun e => h0 (Or.inl e)).resolve_left fun e => h0 (Or.inr e)).2
      rw [hv] at this; exact Option.some.inj this
  refine ⟨st, hloop, by simp only [TB.emit, total_cons]; omega, fun hg htie => ?_⟩
  have hpos := (loop_pos aware cross _ S o r q r.length q.length hg
    (fun i j hi hj k v hh => swTable_nonneg cross S o r q i j hi hj k v hh) _ _ st
    ⟨hI, hJ, fun hh => absurd rfl hh⟩ hloop).2.2
  -- a gap run still in its own layer stands on a positive value: the loop did not stop there
  refine (hfaith htie).emit hinv fun hm hl => ?_
  obtain ⟨w, hw, hw0⟩ := hpos hm hl
  rw [hv, hv0] at hw; cases hw; omega

/-- The pairs reported by the model of `SWAffine` add up to the largest match-layer value of
    the table, which is the optimum over the local alignments (the empty alignment scoring 0) —
    all of them for the fill of the code (`cross = true`), those without adjacent opposite gaps
    for the fill before the repair of K1. -/
theorem swAlignT_total (cross : Bool) (S : Matrix) (o : Int) (ho : o ≤ 0) (hg : ∀ x, S x 0 ≤ 0 ∧ S 0 x ≤ 0)
    (r q : List Nat) :
    ∃ ps, (swAlignT true cross S o r q).map (·.1) = .ok ps ∧
      IsOpt (fun a => IsLocal a r q ∧ (cross = true ∨ NoAdj a)) (scoreAff S o) (some (total ps)) := by
  have hopt := swBest_isOpt cross S o ho hg r q
  rcases hb : swBest (swRows cross S o r q) with ⟨s, mi, mj⟩
  obtain ⟨st, hloop, htot, _⟩ := sw_run true cross S o r q hb
  rw [hb] at hopt
  exact ⟨_, by rw [(swAlignT_ok hb).2 ⟨st, hloop, rfl, rfl⟩]; rfl, htot ▸ hopt⟩

end Biogo.Proofs.SWAffine
