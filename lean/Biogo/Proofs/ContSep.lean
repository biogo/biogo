/-
Ownership and well-formedness of worlds of *all* container kinds (linear.Seq/QSeq, multi.Multi,
multi.Set and the column-stored alignment.Seq/QSeq) with caller-owned buffers; both are kept, and every
other object is observed as before, when one object is replaced or one is added (`Owned.setObj`,
`Owned.addObj`, `WorldWF.setObj`, `WorldWF.addObj`, …).  The step and run theorems are in ContSepWorld.

  `Obj.arrs`    the backing arrays an object owns (a column-stored alignment owns one per column); the
                observation of an object is a function of them (`viewObj_congr`), which is what the frame rests on
  `Owned`       every array an object names is allocated, different objects name different arrays: all the
                frame needs (`Owned.setObj`, `Owned.addObj`); a `Separated` and a `WorldWF` world have it
  `ObjWF`       every slice of the object lies, with its capacity, inside an allocated array; the
                slices of one object are in pairwise different arrays; the columns of an
                alignment all have the same number of rows, and there is one row annotation per row
  `WorldWF`     every object is well formed, different objects own different arrays, no
                caller buffer shares an array with an object
  `Eff`         the effect of an operation on the object it is applied to: it writes only that
                object's arrays or arrays it allocates, the result's arrays are among these, and a
                well-formed object stays well formed
-/
import Biogo.Model.ContWorld
import Biogo.Proofs.Containers
import Biogo.Proofs.ContFrame
import Biogo.Proofs.ContAln
import Biogo.Proofs.ContGrid
import Biogo.Proofs.ContAppend

namespace Biogo.Containers
open Biogo.Go

def Obj.arrs : Obj → List Nat
  | .lin l => [l.s.arr]
  | .aln a => a.cols.map (·.arr)
  | .multi m => m.rows.map (·.s.arr)
  | .set m => m.rows.map (·.s.arr)

def SlicesCapWF (h : Cells) (ss : List Slice) : Prop :=
  (∀ s ∈ ss, CapValid h s) ∧ ss.Pairwise (fun x y => x.arr ≠ y.arr)

def ColsCapWF (h : Cells) (n : Nat) (cols : List Slice) : Prop :=
  SlicesCapWF h cols ∧ ∀ c ∈ cols, c.len = n

theorem rowsCapWF_iff (h : Cells) (rows : List Lin) :
    RowsCapWF h rows ↔ SlicesCapWF h (rows.map (·.s)) := by
  simp only [RowsCapWF, SlicesCapWF, List.mem_map, List.pairwise_map]
  constructor
  · rintro ⟨h1, h2⟩
    exact ⟨fun s ⟨r, hr, e⟩ => e ▸ h1 r hr, h2⟩
  · rintro ⟨h1, h2⟩
    exact ⟨fun r hr => h1 r.s ⟨r, hr, rfl⟩, h2⟩

def ObjWF (h : Cells) : Obj → Prop
  | .lin l => CapValid h l.s
  | .aln a => a.off = 0 ∧ ∃ n, ColsCapWF h n a.cols ∧ (a.cols ≠ [] → a.subs.length = n)
  | .multi m => RowsCapWF h m.rows
  | .set m => RowsCapWF h m.rows

theorem ColsCapWF.toColsWF {h : Cells} {n : Nat} {cols : List Slice} (hw : ColsCapWF h n cols) :
    ColsWF h n cols :=
  ⟨fun c hc => ⟨(hw.1.1 c hc).1, by have := (hw.1.1 c hc).2.1; have := (hw.1.1 c hc).2.2; omega, hw.2 c hc⟩,
   hw.1.2⟩

theorem ColsCapWF.cap {h : Cells} {n : Nat} {cols : List Slice} (hw : ColsCapWF h n cols) :
    ∀ c ∈ cols, c.len ≤ c.cap := fun c hc => (hw.1.1 c hc).2.1

theorem RowsCapWF.toRowsWF {h : Cells} {rows : List Lin} (hw : RowsCapWF h rows) : RowsWF h rows :=
  ⟨fun r hr => (hw.1 r hr).toValid, hw.2⟩

/-! `Rows()` is the length of the first column: in a well-formed alignment with a column it is the
common number `n` of rows -/

theorem Aln.ne_nil_of_lt_rows {a : Aln} {i : Nat} (hi : i < a.rows) : a.cols ≠ [] := by
  intro e
  simp [Aln.rows, Aln.rows?, e] at hi

theorem Aln.cols_ne_nil {a : Aln} {rows : Nat} (hr : a.rows? = some rows) : a.cols ≠ [] := by
  intro e
  simp [Aln.rows?, e] at hr

theorem Aln.rows?_eq {h : Cells} {n : Nat} {a : Aln} (hw : ColsCapWF h n a.cols) {rows : Nat}
    (hr : a.rows? = some rows) : rows = n := by
  cases hc : a.cols with
  | nil => exact (Aln.cols_ne_nil hr hc).elim
  | cons c cs =>
    simp only [Aln.rows?, hc, List.head?_cons, Option.map_some, Option.some.injEq] at hr
    rw [← hr]
    exact hw.2 c (by rw [hc]; exact List.mem_cons_self)

theorem Aln.rows_eq {h : Cells} {n : Nat} {a : Aln} (hw : ColsCapWF h n a.cols) (hne : a.cols ≠ []) :
    a.rows = n := by
  cases hr : a.rows? with
  | none => simp only [Aln.rows?, Option.map_eq_none_iff, List.head?_eq_none_iff] at hr; exact (hne hr).elim
  | some rows => simp only [Aln.rows, hr, Option.getD_some]; exact Aln.rows?_eq hw hr

theorem Aln.lt_of_lt_rows {h : Cells} {n : Nat} {a : Aln} (hw : ColsCapWF h n a.cols) {i : Nat}
    (hi : i < a.rows) : i < n :=
  Aln.rows_eq hw (Aln.ne_nil_of_lt_rows hi) ▸ hi

theorem ObjWF.arrs_lt {h : Cells} {o : Obj} (hw : ObjWF h o) : ∀ a ∈ o.arrs, a < h.arrays.length := by
  intro a ha
  cases o with
  | lin l => simp only [Obj.arrs, List.mem_singleton] at ha; subst ha; exact hw.1
  | aln al =>
    obtain ⟨_, n, hc, _⟩ := hw
    simp only [Obj.arrs, List.mem_map] at ha
    obtain ⟨c, hc', rfl⟩ := ha
    exact (hc.1.1 c hc').1
  | multi m | set m =>
    simp only [Obj.arrs, List.mem_map] at ha
    obtain ⟨r, hr, rfl⟩ := ha
    exact (hw.1 r hr).1

theorem CapValid.length_read {h : Cells} {s : Slice} (hv : CapValid h s) : (h.read s).length = s.len :=
  CapValidG.length_read hv

theorem CapValid.extends {h h' : Cells} {s : Slice} (hv : CapValid h s) (e : Extends h h') : CapValid h' s :=
  CapValidG.extends hv e

theorem SlicesCapWF.mono {h h' : Cells} {ss : List Slice} (hw : SlicesCapWF h ss)
    (hl : h.arrays.length ≤ h'.arrays.length) (ha : ∀ s ∈ ss, h'.arr s.arr = h.arr s.arr) :
    SlicesCapWF h' ss :=
  ⟨fun s hs => (hw.1 s hs).mono hl (ha s hs), hw.2⟩

theorem SlicesCapWF.set {h h' : Cells} {ss : List Slice} (hw : SlicesCapWF h ss) {i : Nat} {s s' : Slice}
    (hi : ss[i]? = some s) (hwin : Within (s.arr = ·) h h') (hvalid : CapValid h' s') (hfoot : s'.arr = s.arr ∨ h.arrays.length ≤ s'.arr) :
    SlicesCapWF h' (ss.set i s') := by
  obtain ⟨hil, rfl⟩ := List.getElem?_eq_some_iff.mp hi
  have hpw := List.pairwise_iff_getElem.mp hw.2
  -- every other slice lies in another array than `ss[i]`, hence than `s'`, and stays valid
  have hoth : ∀ j (hj : j < ss.length), j ≠ i →
      ss[j].arr ≠ s'.arr ∧ CapValid h' ss[j] := by
    intro j hj hji
    have hv := hw.1 _ (List.getElem_mem hj)
    have hne : ss[j].arr ≠ ss[i].arr :=
      pairwise_ne_getElem? hw.2 hji (List.getElem?_eq_getElem hj) (List.getElem?_eq_getElem hil)
    refine ⟨?_, hv.mono hwin.size (hwin.frame _ (fun e => hne e.symm) hv.1)⟩
    rcases hfoot with e | e
    · rw [e]; exact hne
    · have := hv.1; omega
  constructor
  · intro x hx
    obtain ⟨j, hj, rfl⟩ := List.getElem_of_mem hx
    rw [List.length_set] at hj
    rw [List.getElem_set]
    split
    · exact hvalid
    · rename_i e; exact (hoth j hj (Ne.symm e)).2
  · rw [List.pairwise_iff_getElem]
    intro a b ha hb hab
    simp only [List.length_set] at ha hb
    simp only [List.getElem_set]
    by_cases ea : i = a
    · rw [if_pos ea, if_neg (by omega)]; exact (hoth b hb (by omega)).1.symm
    · rw [if_neg ea]
      by_cases eb : i = b
      · rw [if_pos eb]; exact (hoth a ha (Ne.symm ea)).1
      · rw [if_neg eb]; exact hpw a b ha hb hab

theorem SlicesCapWF.append {h h' : Cells} {ss ts : List Slice} (hw : SlicesCapWF h ss) (e : Extends h h')
    (ht : SlicesCapWF h' ts) (hnew : ∀ t ∈ ts, h.arrays.length ≤ t.arr) : SlicesCapWF h' (ss ++ ts) := by
  refine ⟨fun c hm => ?_, ?_⟩
  · rcases List.mem_append.mp hm with hm | hm
    · exact (hw.1 c hm).extends e
    · exact ht.1 c hm
  · rw [List.pairwise_append]
    refine ⟨hw.2, ht.2, fun x hx y hy => ?_⟩
    have := (hw.1 x hx).1
    have := hnew y hy
    omega

theorem SlicesCapWF.concat {h h' : Cells} {ss : List Slice} {s : Slice} (hw : SlicesCapWF h ss) (e : Extends h h')
    (hv : CapValid h' s) (hnew : h.arrays.length ≤ s.arr) : SlicesCapWF h' (ss ++ [s]) :=
  hw.append e ⟨fun c hc => by rw [List.mem_singleton.mp hc]; exact hv, List.pairwise_singleton _ _⟩
    fun t ht => by rw [List.mem_singleton.mp ht]; exact hnew

theorem RowsCapWF.append {h h' : Cells} {rows ts : List Lin} (hw : RowsCapWF h rows) (e : Extends h h')
    (ht : RowsCapWF h' ts) (hnew : ∀ t ∈ ts, h.arrays.length ≤ t.s.arr) : RowsCapWF h' (rows ++ ts) := by
  rw [rowsCapWF_iff, List.map_append]
  exact ((rowsCapWF_iff _ _).mp hw).append e ((rowsCapWF_iff _ _).mp ht) fun t ht => by
    obtain ⟨r, hr, rfl⟩ := List.mem_map.mp ht; exact hnew r hr

theorem RowsCapWF.concat {h h' : Cells} {rows : List Lin} {r : Lin} (hw : RowsCapWF h rows) (e : Extends h h')
    (hv : CapValid h' r.s) (hnew : h.arrays.length ≤ r.s.arr) : RowsCapWF h' (rows ++ [r]) := by
  rw [rowsCapWF_iff, List.map_append]
  exact ((rowsCapWF_iff _ _).mp hw).concat e hv hnew

theorem RowsCapWF.extends {h h' : Cells} {rows : List Lin} (hw : RowsCapWF h rows) (e : Extends h h') :
    RowsCapWF h' rows := ⟨fun r hr => (hw.1 r hr).extends e, hw.2⟩

theorem ObjWF.mono {h h' : Cells} {o : Obj} (hw : ObjWF h o) (hl : h.arrays.length ≤ h'.arrays.length)
    (ha : ∀ a ∈ o.arrs, h'.arr a = h.arr a) : ObjWF h' o := by
  cases o with
  | lin l => exact CapValid.mono hw hl (ha _ (by simp [Obj.arrs]))
  | aln al =>
    obtain ⟨h0, n, hc, hsub⟩ := hw
    exact ⟨h0, n, ⟨hc.1.mono hl fun s hs => ha _ (List.mem_map.mpr ⟨s, hs, rfl⟩), hc.2⟩, hsub⟩
  | multi m | set m => exact ⟨fun r hr => (hw.1 r hr).mono hl (ha _ (List.mem_map.mpr ⟨r, hr, rfl⟩)), hw.2⟩

/-! The observation of a multi is a function of the observations of its rows, that of a column-stored
alignment a function of what its columns read; so both depend only on the arrays the object owns. -/

theorem Lin.at?_eq_letters (h : Cells) (l : Lin) (pos : Int) :
    l.at? h pos = if pos < l.off then none else (l.letters h)[(pos - l.off).toNat]? := by
  simp only [Lin.at?, Lin.letters, List.getElem?_map, Heap.get?_eq_read]

theorem linRowV_fields {h h' : Cells} {r c : Lin} (e : linRowV h' c = linRowV h r) :
    c.off = r.off ∧ c.«end» = r.«end» ∧ c.letters h' = r.letters h := by
  simp only [linRowV, RowV.mk.injEq] at e
  exact ⟨e.1, e.2.1, e.2.2.2.2.2⟩

theorem linRowV_at? {h h' : Cells} {r c : Lin} (e : linRowV h' c = linRowV h r) (pos : Int) :
    c.at? h' pos = r.at? h pos := by
  obtain ⟨e1, _, e3⟩ := linRowV_fields e
  rw [Lin.at?_eq_letters, Lin.at?_eq_letters, e1, e3]

theorem linRowV_covers {h h' : Cells} {r c : Lin} (e : linRowV h' c = linRowV h r) (pos : Int) :
    Multi.covers c pos = Multi.covers r pos := by
  obtain ⟨e1, e2, _⟩ := linRowV_fields e
  unfold Multi.covers Lin.start
  rw [e1, e2]

theorem foldl_all2 {α β γ : Type} {R : α → β → Prop} (f : γ → α → γ) (g : γ → β → γ) {as : List α} {bs : List β}
    (hall : All2 R as bs) (hfg : ∀ acc a b, R a b → f acc a = g acc b) (init : γ) :
    as.foldl f init = bs.foldl g init := by
  induction hall generalizing init with
  | nil => rfl
  | cons hab _ ih => simp only [List.foldl_cons, hfg _ _ _ hab]; exact ih _

theorem viewObj_multi_of_all2 (cx : Ctx) {h h' : Cells} {rows rows' : List Lin}
    (hall : All2 (fun r c => linRowV h' c = linRowV h r) rows rows') :
    viewObj cx h' (.multi ⟨rows'⟩) = viewObj cx h (.multi ⟨rows⟩) := by
  have hstart : (⟨rows'⟩ : Multi).start = (⟨rows⟩ : Multi).start := by
    simp only [Multi.start]
    exact (foldl_all2 _ _ hall (fun acc r c e => by
      have := (linRowV_fields e).1; unfold Lin.start; rw [this]) _).symm
  have hend : (⟨rows'⟩ : Multi).«end» = (⟨rows⟩ : Multi).«end» := by
    simp only [Multi.«end»]
    exact (foldl_all2 _ _ hall (fun acc r c e => by
      have := (linRowV_fields e).2.1; rw [this]) _).symm
  have hcol : ∀ p fill, (⟨rows'⟩ : Multi).column cx h' p fill = (⟨rows⟩ : Multi).column cx h p fill := by
    intro p fill
    simp only [Multi.column]
    exact (foldl_all2 _ _ hall (fun acc r c e => by
      simp only [linRowV_covers e, linRowV_at? e]) _).symm
  have hcolQ : ∀ p fill, (⟨rows'⟩ : Multi).columnQL cx h' p fill = (⟨rows⟩ : Multi).columnQL cx h p fill := by
    intro p fill
    simp only [Multi.columnQL]
    exact (foldl_all2 _ _ hall (fun acc r c e => by
      simp only [linRowV_covers e, linRowV_at? e]) _).symm
  have hrows : rows'.map (linRowV h') = rows.map (linRowV h) :=
    (hall.map_eq (linRowV h) (linRowV h') fun a b hab => hab.symm).symm
  have hn : rows'.length = rows.length := hall.length_eq.symm
  simp only [viewObj, hstart, hend, hcol, hcolQ, hrows, Multi.nrows, Multi.len, hn]

theorem viewObj_aln_of_all2 (cx : Ctx) {h h' : Cells} (a : Aln) (cols' : List Slice)
    (hall : All2 (fun c c' => h'.read c' = h.read c ∧ c'.len = c.len) a.cols cols') :
    viewObj cx h' (.aln { a with cols := cols' }) = viewObj cx h (.aln a) := by
  have hlen : cols'.length = a.cols.length := hall.length_eq.symm
  -- a column index finds nothing in both lists, or two columns that read the same
  have hget : ∀ i : Nat, (cols'[i]? = none ∧ a.cols[i]? = none) ∨
      ∃ c c', a.cols[i]? = some c ∧ cols'[i]? = some c' ∧ h'.read c' = h.read c := by
    intro i
    by_cases hi : i < a.cols.length
    · have hi' : i < cols'.length := hlen ▸ hi
      exact Or.inr ⟨_, _, List.getElem?_eq_getElem hi, List.getElem?_eq_getElem hi',
        (hall.get i _ _ (List.getElem?_eq_getElem hi) (List.getElem?_eq_getElem hi')).1⟩
    · exact Or.inl ⟨List.getElem?_eq_none_iff.mpr (by omega), List.getElem?_eq_none_iff.mpr (by omega)⟩
  have hrows : ({ a with cols := cols' } : Aln).rows = a.rows := by
    simp only [Aln.rows, Aln.rows?]
    generalize a.cols = cols0 at hall
    cases hall with
    | nil => rfl
    | cons hab _ => simp only [List.head?_cons, Option.map_some, Option.getD_some]; exact hab.2
  have hcol : ({ a with cols := cols' } : Aln).column cx h' = a.column cx h := by
    funext i
    simp only [Aln.column]
    rcases hget i with ⟨e', e⟩ | ⟨c, c', e, e', hr⟩
    · rw [e', e]
    · simp only [e', e, hr]
  have hcolQ : ({ a with cols := cols' } : Aln).columnQL h' = a.columnQL h := by
    funext i
    simp only [Aln.columnQL]
    rcases hget i with ⟨e', e⟩ | ⟨c, c', e, e', hr⟩
    · rw [e', e]
    · simp only [e', e, hr]
  have hrow : ∀ r, ({ a with cols := cols' } : Aln).rowLetters h' r = a.rowLetters h r := by
    intro r
    simp only [Aln.rowLetters]
    refine (hall.map_eq _ _ fun c c' hcc => ?_).symm
    simp only [Heap.get, Heap.get?_eq_read, hcc.1]
  simp only [viewObj, hrows, hcol, hcolQ, hrow, hlen, Aln.len, Aln.start, Aln.«end»]

/-- **the observation of an object is a function of the arrays it owns** (every field of the
    observation: rows with `At` over their span, coordinates, strands, `Column`, `ColumnQL`,
    `Column(.., false)`, consensus) -/
theorem viewObj_congr (cx : Ctx) {h h' : Cells} (o : Obj) (e : ∀ a ∈ o.arrs, h'.arr a = h.arr a) :
    viewObj cx h' o = viewObj cx h o := by
  cases o with
  | lin l =>
    have e1 : h'.arr l.s.arr = h.arr l.s.arr := e _ (by simp [Obj.arrs])
    simp only [viewObj, linRowV_congr e1]
  | aln a =>
    exact viewObj_aln_of_all2 cx a a.cols (All2.refl_of _ fun c hc =>
      ⟨read_congr_arr h h' c (e _ (List.mem_map.mpr ⟨c, hc, rfl⟩)), rfl⟩)
  | multi m =>
    exact viewObj_multi_of_all2 cx (All2.refl_of _ fun r hr => linRowV_congr (e _ (List.mem_map.mpr ⟨r, hr, rfl⟩)))
  | set m =>
    have hrows : m.rows.map (linRowV h') = m.rows.map (linRowV h) :=
      List.map_congr_left fun r hr => linRowV_congr (e _ (List.mem_map.mpr ⟨r, hr, rfl⟩))
    simp only [viewObj, hrows]

structure WorldWF (w : World) : Prop where
  obj : ∀ (i : Nat) (o : Obj), w.objs[i]? = some o → ObjWF w.cells o
  buf : ∀ (b : Nat) (s : Slice), w.bufs[b]? = some s → s.arr < w.cells.arrays.length
  objDisj : ∀ (i j : Nat) (oi oj : Obj), i ≠ j → w.objs[i]? = some oi → w.objs[j]? = some oj →
    ∀ a ∈ oi.arrs, a ∉ oj.arrs
  bufDisj : ∀ (i : Nat) (o : Obj) (b : Nat) (s : Slice), w.objs[i]? = some o → w.bufs[b]? = some s →
    s.arr ∉ o.arrs

structure Owned (w : World) : Prop where
  lt : ∀ (i : Nat) (o : Obj), w.objs[i]? = some o → ∀ a ∈ o.arrs, a < w.cells.arrays.length
  disj : ∀ (i j : Nat) (oi oj : Obj), i ≠ j → w.objs[i]? = some oi → w.objs[j]? = some oj →
    ∀ a ∈ oi.arrs, a ∉ oj.arrs

theorem WorldWF.owned {w : World} (hw : WorldWF w) : Owned w :=
  ⟨fun i o hi => (hw.obj i o hi).arrs_lt, hw.objDisj⟩

theorem Obj.arrs_eq_lins (o : Obj) (hk : o.isRowStored = true) : o.arrs = o.lins.map (·.s.arr) := by
  cases o with
  | lin l | multi m | set m => rfl
  | aln a => simp [Obj.isRowStored] at hk

theorem Separated.owned {w : World} (hs : Separated w) : Owned w := by
  refine ⟨fun i o hi a ha => ?_, fun i j oi oj hij hi hj a ha hb => ?_⟩
  · obtain ⟨hk, hwf⟩ := hs.wf i o hi
    rw [Obj.arrs_eq_lins o hk] at ha
    obtain ⟨l, hl, rfl⟩ := List.mem_map.mp ha
    exact (hwf.1 l hl).1
  · rw [Obj.arrs_eq_lins oi (hs.wf i oi hi).1] at ha
    rw [Obj.arrs_eq_lins oj (hs.wf j oj hj).1] at hb
    obtain ⟨x, hx, rfl⟩ := List.mem_map.mp ha
    obtain ⟨y, hy, e⟩ := List.mem_map.mp hb
    exact hs.disj i j oi oj hij hi hj x hx y hy e.symm

structure Eff (h : Cells) (o : Obj) (h' : Cells) (o' : Obj) : Prop where
  within : Within (· ∈ o.arrs) h h'
  foot : ∀ a' ∈ o'.arrs, a' ∈ o.arrs ∨ (h.arrays.length ≤ a' ∧ a' < h'.arrays.length)
  wf : ObjWF h o → ObjWF h' o'

theorem Eff.of_wf {h h' : Cells} {o o' : Obj} (within : Within (· ∈ o.arrs) h h')
    (foot : ∀ a' ∈ o'.arrs, a' ∈ o.arrs ∨ h.arrays.length ≤ a') (wf : ObjWF h' o') : Eff h o h' o' :=
  ⟨within, fun a' ha' => (foot a' ha').imp id fun hge => ⟨hge, wf.arrs_lt a' ha'⟩, fun _ => wf⟩

/-- from `w` to `w'` every object but the one written through (`k`, an `Op.written`: `none` when the step
    writes through no object) is the same object at the same index, with the same complete observation -/
def OthersKept (cx : Ctx) (w w' : World) (k : Option Nat) : Prop :=
  ∀ (j : Nat) (oj : Obj), k ≠ some j → w.objs[j]? = some oj →
    w'.objs[j]? = some oj ∧ viewObj cx w'.cells oj = viewObj cx w.cells oj

/-- an operation with a local effect on object `k` keeps the world owned and every other object (and
    its observation) as it was -/
theorem Owned.setObj (cx : Ctx) {w : World} (hw : Owned w) (k : Nat) (o : Obj) (hk : w.objs[k]? = some o)
    (h' : Cells) (o' : Obj) (he : Eff w.cells o h' o') :
    Owned (w.setObj k h' o') ∧ OthersKept cx w (w.setObj k h' o') (some k) := by
  -- an object other than `k`: its arrays are untouched, and none of them is an array of `o'`
  have hoth : ∀ (j : Nat) (oj : Obj), j ≠ k → w.objs[j]? = some oj →
      (∀ a ∈ oj.arrs, h'.arr a = w.cells.arr a) ∧ (∀ a' ∈ o'.arrs, a' ∉ oj.arrs) := by
    intro j oj hjk hj
    have hlt := hw.lt j oj hj
    refine ⟨fun a ha => he.within.frame a (hw.disj j k oj o hjk hj hk a ha) (hlt a ha), ?_⟩
    intro a' ha' hmem
    rcases he.foot a' ha' with hin | hfresh
    · exact hw.disj k j o oj (Ne.symm hjk) hk hj a' hin hmem
    · have := hlt a' hmem; omega
  refine ⟨⟨?_, ?_⟩, ?_⟩
  · intro i oi hi a ha
    rcases LTS.getElem?_set_cases hi with ⟨_, rfl⟩ | ⟨_, hi'⟩
    · rcases he.foot a ha with hin | hfresh
      · exact Nat.lt_of_lt_of_le (hw.lt k o hk a hin) he.within.size
      · exact hfresh.2
    · exact Nat.lt_of_lt_of_le (hw.lt i oi hi' a ha) he.within.size
  · intro i j oi oj hij hi hj
    rcases LTS.getElem?_set_cases hi with ⟨ei, rfl⟩ | ⟨ei, hi'⟩
    · rcases LTS.getElem?_set_cases hj with ⟨ej, _⟩ | ⟨ej, hj'⟩
      · exact (hij (ei.trans ej.symm)).elim
      · exact (hoth j oj ej hj').2
    · rcases LTS.getElem?_set_cases hj with ⟨_, rfl⟩ | ⟨_, hj'⟩
      · intro a ha hmem
        exact (hoth i oi ei hi').2 a hmem ha
      · exact hw.disj i j oi oj hij hi' hj'
  · intro j oj hjk hj
    have hjk' : j ≠ k := fun e => hjk (by rw [e])
    exact ⟨(List.getElem?_set_ne (Ne.symm hjk')).trans hj, viewObj_congr cx oj (hoth j oj hjk' hj).1⟩

theorem getElem?_concat_some {α : Type} {l : List α} {c x : α} {j : Nat} (h : (l ++ [c])[j]? = some x) :
    l[j]? = some x ∨ (j = l.length ∧ x = c) := by
  rcases Nat.lt_trichotomy j l.length with hj | rfl | hj
  · rw [List.getElem?_append_left hj] at h; exact .inl h
  · rw [List.getElem?_concat_length] at h; exact .inr ⟨rfl, (Option.some.inj h).symm⟩
  · rw [List.getElem?_eq_none_iff.mpr (by rw [List.length_append, List.length_singleton]; omega)] at h; cases h

theorem Owned.addObj (cx : Ctx) {w : World} (hw : Owned w) (h' : Cells) (c : Obj) (hg : Extends w.cells h')
    (hfresh : ∀ a ∈ c.arrs, w.cells.arrays.length ≤ a ∧ a < h'.arrays.length) :
    Owned { w with cells := h', objs := w.objs ++ [c] } ∧
    OthersKept cx w { w with cells := h', objs := w.objs ++ [c] } none := by
  have hold : ∀ (j : Nat) (oj : Obj), w.objs[j]? = some oj → ∀ a ∈ c.arrs, a ∉ oj.arrs := by
    intro j oj hj a ha hmem
    have := hw.lt j oj hj a hmem
    have := (hfresh a ha).1
    omega
  refine ⟨⟨?_, ?_⟩, ?_⟩
  · intro i oi hi a ha
    rcases getElem?_concat_some hi with h1 | ⟨_, rfl⟩
    · exact Nat.lt_of_lt_of_le (hw.lt i oi h1 a ha) hg.size
    · exact (hfresh a ha).2
  · intro i j oi oj hij hi hj
    rcases getElem?_concat_some hi with h1 | ⟨e1, rfl⟩
    · rcases getElem?_concat_some hj with h2 | ⟨e2, rfl⟩
      · exact hw.disj i j oi oj hij h1 h2
      · intro a ha hmem; exact hold i oi h1 a hmem ha
    · rcases getElem?_concat_some hj with h2 | ⟨e2, rfl⟩
      · exact hold j oj h2
      · omega
  · intro j oj _ hj
    have hlt : j < w.objs.length := (List.getElem?_eq_some_iff.mp hj).1
    refine ⟨?_, viewObj_congr cx oj fun a ha => hg.old a (hw.lt j oj hj a ha)⟩
    show (w.objs ++ [c])[j]? = some oj
    rw [List.getElem?_append_left hlt]; exact hj

theorem WorldWF.setObj (cx : Ctx) {w : World} (hw : WorldWF w) (k : Nat) (o : Obj) (hk : w.objs[k]? = some o)
    (h' : Cells) (o' : Obj) (he : Eff w.cells o h' o') :
    WorldWF (w.setObj k h' o') ∧ OthersKept cx w (w.setObj k h' o') (some k) := by
  obtain ⟨ho, hkept⟩ := hw.owned.setObj cx k o hk h' o' he
  refine ⟨⟨?_, ?_, ho.disj, ?_⟩, hkept⟩
  · intro i oi hi
    rcases LTS.getElem?_set_cases hi with ⟨_, rfl⟩ | ⟨e, hi'⟩
    · exact he.wf (hw.obj k o hk)
    · exact (hw.obj i oi hi').mono he.within.size fun a ha =>
        he.within.frame a (hw.objDisj i k oi o e hi' hk a ha) ((hw.obj i oi hi').arrs_lt a ha)
  · intro b s hb
    exact Nat.lt_of_lt_of_le (hw.buf b s hb) he.within.size
  · intro i oi b s hi hb
    rcases LTS.getElem?_set_cases hi with ⟨_, rfl⟩ | ⟨_, hi'⟩
    · intro hmem
      rcases he.foot _ hmem with hin | hfresh
      · exact hw.bufDisj k o b s hk hb hin
      · have := hw.buf b s hb; omega
    · exact hw.bufDisj i oi b s hi' hb

theorem WorldWF.setCells (cx : Ctx) {w : World} (hw : WorldWF w) (h' : Cells)
    (hsize : w.cells.arrays.length ≤ h'.arrays.length)
    (hsame : ∀ (j : Nat) (oj : Obj), w.objs[j]? = some oj → ∀ a ∈ oj.arrs, h'.arr a = w.cells.arr a) :
    WorldWF { w with cells := h' } ∧ OthersKept cx w { w with cells := h' } none := by
  refine ⟨⟨?_, ?_, hw.objDisj, hw.bufDisj⟩, ?_⟩
  · intro i oi hi
    exact (hw.obj i oi hi).mono hsize (hsame i oi hi)
  · intro b s hb
    exact Nat.lt_of_lt_of_le (hw.buf b s hb) hsize
  · intro j oj _ hj
    exact ⟨hj, viewObj_congr cx oj (hsame j oj hj)⟩

theorem WorldWF.grow (cx : Ctx) {w : World} (hw : WorldWF w) (h' : Cells) (hg : Extends w.cells h') :
    WorldWF { w with cells := h' } ∧ OthersKept cx w { w with cells := h' } none :=
  hw.setCells cx h' hg.size fun j oj hj a ha => hg.old a ((hw.obj j oj hj).arrs_lt a ha)

theorem WorldWF.addObj (cx : Ctx) {w : World} (hw : WorldWF w) (h' : Cells) (c : Obj) (hg : Extends w.cells h')
    (hwf : ObjWF h' c) (hfresh : ∀ a ∈ c.arrs, w.cells.arrays.length ≤ a) :
    WorldWF { w with cells := h', objs := w.objs ++ [c] } ∧
    OthersKept cx w { w with cells := h', objs := w.objs ++ [c] } none := by
  obtain ⟨ho, hkept⟩ := hw.owned.addObj cx h' c hg fun a ha => ⟨hfresh a ha, hwf.arrs_lt a ha⟩
  obtain ⟨hw1, _⟩ := hw.grow cx h' hg
  refine ⟨⟨?_, hw1.buf, ho.disj, ?_⟩, hkept⟩
  · intro i oi hi
    rcases getElem?_concat_some hi with h1 | ⟨_, rfl⟩
    · exact hw1.obj i oi h1
    · exact hwf
  · intro i oi b s hi hb
    rcases getElem?_concat_some hi with h1 | ⟨_, rfl⟩
    · exact hw.bufDisj i oi b s h1 hb
    · intro hmem
      have := hw.buf b s hb
      have := hfresh _ hmem
      omega

theorem WorldWF.addBuf (cx : Ctx) {w : World} (hw : WorldWF w) (h' : Cells) (s : Slice) (hg : Extends w.cells h')
    (hlo : w.cells.arrays.length ≤ s.arr) (hhi : s.arr < h'.arrays.length) :
    WorldWF { w with cells := h', bufs := w.bufs ++ [s] } ∧
    OthersKept cx w { w with cells := h', bufs := w.bufs ++ [s] } none := by
  obtain ⟨hw1, hk1⟩ := hw.grow cx h' hg
  have hcases : ∀ (b : Nat) (t : Slice), (w.bufs ++ [s])[b]? = some t → w.bufs[b]? = some t ∨ t = s :=
    fun _ _ hb => (getElem?_concat_some hb).imp id (·.2)
  refine ⟨⟨hw1.obj, ?_, hw.objDisj, ?_⟩, hk1⟩
  · intro b t hb
    rcases hcases b t hb with h1 | rfl
    · exact hw1.buf b t h1
    · exact hhi
  · intro i oi b t hi hb
    rcases hcases b t hb with h1 | rfl
    · exact hw.bufDisj i oi b t hi h1
    · intro hmem
      have := (hw.obj i oi hi).arrs_lt _ hmem
      omega

theorem WorldWF.mutBuf (cx : Ctx) {w : World} (hw : WorldWF w) (b : Nat) (s : Slice) (hb : w.bufs[b]? = some s)
    (i : Nat) (c : QL) :
    WorldWF { w with cells := w.cells.set s i c } ∧
    OthersKept cx w { w with cells := w.cells.set s i c } none :=
  hw.setCells cx _ (Nat.le_of_eq (Heap.length_set _ _ _ _).symm) fun j oj hj _ ha =>
    Heap.arr_set_other _ _ _ _ _ fun e => hw.bufDisj j oj b s hj hb (e ▸ ha)

theorem WorldWF.separated {w : World} (hw : WorldWF w)
    (hk : ∀ (i : Nat) (o : Obj), w.objs[i]? = some o → o.isRowStored = true) : Separated w := by
  have hwf : ∀ (i : Nat) (o : Obj), w.objs[i]? = some o → RowsWF w.cells o.lins := by
    intro i o hi
    have := hw.obj i o hi
    cases o with
    | lin l => exact ⟨fun r hr => by rw [List.mem_singleton.mp hr]; exact CapValid.toValid this, List.pairwise_singleton _ _⟩
    | multi m | set m => exact RowsCapWF.toRowsWF this
    | aln a => exact ⟨fun _ hr => (nomatch hr), List.Pairwise.nil⟩
  refine ⟨fun i o hi => ⟨hk i o hi, hwf i o hi⟩, fun i j oi oj hij hi hj a ha b hb e => ?_⟩
  refine hw.objDisj i j oi oj hij hi hj a.s.arr ?_ ?_
  · rw [Obj.arrs_eq_lins oi (hk i oi hi)]; exact List.mem_map_of_mem ha
  · rw [Obj.arrs_eq_lins oj (hk j oj hj), e]; exact List.mem_map_of_mem hb

end Biogo.Containers
