/-
Truncate and Join of the heap model: what the result shows, that nothing old is written,
that the guards exclude every panic.  First, what all operations use to pass from
storage to positions: a slice of the source shows the letters at an interval of positions
(`read_slice_range`).
-/
import Biogo.Proofs.SequtilsHeap
import Biogo.Proofs.SequtilsPos

namespace Biogo.Sequtils

variable {α : Type} [Inhabited α]

theorem stop_eq (h : Heap α) (src : Seq) (wf : WF h src.sl) :
    src.offset + ((read h src.sl).length : Int) = src.stop := by
  rw [read_length h src.sl wf]
  rfl

theorem read_slice_range {h0 h : Heap α} {src : Seq} {x : Sl} {p q a b : Int} (wf : WF h0 src.sl)
    (k : Keeps h0 h) (hx : slice src.sl a b = .ok x) (ha : a = p - src.offset) (hb : b = q - src.offset)
    (hq : q ≤ src.stop) : read h x = lettersAt (read h0 src.sl) src.offset (intRange p q) := by
  obtain ⟨h1, h2, _, _⟩ := slice_ok src.sl a b x hx
  have hq' : q ≤ src.offset + src.sl.len := hq
  rw [k.read (by rw [slice_arr _ _ _ _ hx]; exact wf.1), read_slice h0 src.sl a b x hx (by omega),
    lettersAt_intRange _ _ _ _ (by omega)]
  subst ha hb
  congr 1
  omega

/-- every conformation other than linear wraps -/
theorem truncate_correct (h : Heap α) (src : Seq) (same : Bool) (start stop : Int) (wf : WF h src.sl) :
    (truncateInside src.offset src.stop (decide (src.conf ≠ confLinear)) start stop = true ∧
      ∃ h' r, truncate h src same start stop = .ok (h', r) ∧
        read h' r.sl = truncateSpec (read h src.sl) src.offset start stop ∧
        r.offset = start ∧ r.conf = confLinear ∧ Keeps h h' ∧
        (same = false ∨ stop < start → h.length ≤ r.sl.arr)) ∨
    (truncateInside src.offset src.stop (decide (src.conf ≠ confLinear)) start stop = false ∧
      ∃ c, truncate h src same start stop = .error (.error c)) := by
  have hstop : src.stop = src.offset + src.sl.len := rfl
  have hcap := wf.2.2
  unfold truncate truncateInside
  dsimp only
  by_cases hrange : start < src.offset ∨ stop > src.stop
  · right
    rw [if_pos hrange]
    refine ⟨?_, _, rfl⟩
    split
    · simp; omega
    · simp; omega
  rw [if_neg hrange]
  by_cases hle : start ≤ stop
  · left
    rw [if_pos hle, if_pos hle]
    refine ⟨by simp; omega, ?_⟩
    obtain ⟨s, hs⟩ := slice_ne_panic src.sl (start - src.offset) (stop - src.offset)
      (by omega) (by omega) (by omega)
    cases same
    · obtain ⟨h1, t, hmk⟩ := mk_ne_panic h 0 (stop - start) (Int.le_refl 0) (by omega)
      obtain ⟨-, -, b1, e1⟩ := mk_spec h _ _ h1 t hmk
      obtain ⟨b2, e2⟩ := b1.append s
      rw [if_neg Bool.false_ne_true]
      simp only [bind, Except.bind, pure, Except.pure, hmk, hs]
      refine ⟨_, _, rfl, ?_, rfl, rfl, b2.keeps, fun _ => b2.fresh⟩
      rw [truncateSpec, stop_eq h src wf, truncatePositions, if_pos hle]
      exact (e2.trans (by rw [e1]; rfl)).trans (read_slice_range wf b1.keeps hs rfl rfl (by omega))
    · -- dst == src: a re-slice
      rw [if_pos rfl]
      simp only [bind, Except.bind, pure, Except.pure, hs]
      refine ⟨_, _, rfl, ?_, rfl, rfl, Keeps.refl h, ?_⟩
      · rw [truncateSpec, stop_eq h src wf, truncatePositions, if_pos hle]
        exact read_slice_range wf (Keeps.refl h) hs rfl rfl (by omega)
      · rintro (hc | hc)
        · cases hc
        · omega
  rw [if_neg hle, if_neg hle]
  by_cases hconf : src.conf = confLinear
  · right
    rw [if_pos hconf]
    exact ⟨by simp [hconf], _, rfl⟩
  rw [if_neg hconf]
  by_cases hrange2 : stop < src.offset ∨ start > src.stop
  · right
    rw [if_pos hrange2]
    refine ⟨?_, _, rfl⟩
    simp [hconf]; omega
  left
  rw [if_neg hrange2]
  refine ⟨by simp [hconf]; omega, ?_⟩
  -- through the origin: `start … End-1` copied, `Start … stop-1` appended
  obtain ⟨h1, t, hmk⟩ := mk_ne_panic h (↑src.sl.len - start + src.offset) (↑src.sl.len + stop - start)
    (by omega) (by omega)
  obtain ⟨s1, hs1⟩ := slice_ne_panic src.sl (start - src.offset) src.sl.len (by omega) (by omega) (by omega)
  obtain ⟨s2, hs2⟩ := slice_ne_panic src.sl 0 (stop - src.offset) (Int.le_refl 0) (by omega) (by omega)
  obtain ⟨b3, e3⟩ := mk_copy_append hmk (slice_wf h _ _ _ _ wf hs1) (slice_wf h _ _ _ _ wf hs2)
    (by rw [slice_len _ _ _ _ hs1]; omega)
  simp only [bind, Except.bind, pure, Except.pure, hmk, hs1, hs2]
  refine ⟨_, _, rfl, ?_, rfl, rfl, b3.keeps, fun _ => b3.fresh⟩
  rw [truncateSpec, stop_eq h src wf, truncatePositions, if_neg hle, lettersAt_append, e3,
    read_slice_range wf (Keeps.refl h) hs1 rfl (q := src.stop) (by omega) (Int.le_refl _),
    read_slice_range wf (Keeps.refl h) hs2 (p := src.offset) (by omega) rfl (by omega)]

theorem truncate_cases (h : Heap α) (src : Seq) (same : Bool) (start stop : Int) (h' : Heap α) (r : Seq)
    (wf : WF h src.sl) (hr : truncate h src same start stop = .ok (h', r)) :
    truncateInside src.offset src.stop (decide (src.conf ≠ confLinear)) start stop = true ∧
    read h' r.sl = truncateSpec (read h src.sl) src.offset start stop ∧
    r.offset = start ∧ r.conf = confLinear ∧ Keeps h h' ∧
    (same = false ∨ stop < start → h.length ≤ r.sl.arr) := by
  rcases truncate_correct h src same start stop wf with ⟨hin, h'', r'', e, p⟩ | ⟨-, c, e⟩
  · rw [e] at hr
    cases hr
    exact ⟨hin, p⟩
  · rw [e] at hr
    cases hr

theorem join_cases (h : Heap α) (dst src : Seq) (wh : Int) (h' : Heap α) (r : Seq)
    (wd : WF h dst.sl) (ws : WF h src.sl) (hr : join h dst src wh = .ok (h', r)) :
    read h' r.sl = joinSpec (read h dst.sl) (read h src.sl) wh ∧
    Keeps h h' ∧ h.length ≤ r.sl.arr ∧ r.conf = dst.conf ∧
    r.offset = (if wh = whereStart then -(src.sl.len : Int) else dst.offset) := by
  unfold join at hr
  dsimp only at hr
  split at hr
  · cases hr
  obtain ⟨⟨h1, t⟩, hmk, hr⟩ := bind_eq_ok hr
  simp only [pure, Except.pure, Except.ok.injEq, Prod.mk.injEq] at hr
  obtain ⟨rfl, rfl⟩ := hr
  by_cases hw : wh = whereEnd
  · have hne : ¬ wh = whereStart := by rw [hw]; decide
    simp only [if_pos hw, if_neg hne, joinSpec, and_true] at hmk ⊢
    obtain ⟨b3, e3⟩ := mk_copy_append hmk wd ws rfl
    exact ⟨e3, b3.keeps, b3.fresh⟩
  · simp only [if_neg hw, joinSpec, and_true] at hmk ⊢
    obtain ⟨b3, e3⟩ := mk_copy_append hmk ws wd rfl
    exact ⟨e3, b3.keeps, b3.fresh⟩

theorem join_outcome (h : Heap α) (dst src : Seq) (wh : Int) :
    (dst.conf ≤ confLinear ∧ src.conf ≤ confLinear ∧ ∃ x, join h dst src wh = .ok x) ∨
    ((dst.conf > confLinear ∨ src.conf > confLinear) ∧ ∃ c, join h dst src wh = .error (.error c)) := by
  unfold join
  dsimp only
  by_cases hc : dst.conf > confLinear ∨ src.conf > confLinear
  · right; rw [if_pos hc]; exact ⟨hc, _, rfl⟩
  · left
    rw [if_neg hc]
    refine ⟨by omega, by omega, ?_⟩
    simp only [bind, Except.bind, pure, Except.pure]
    rw [mk_eq h _ _ (by omega) (by omega)]
    exact ⟨_, rfl⟩

end Biogo.Sequtils
