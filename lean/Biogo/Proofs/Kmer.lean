/-
C10: the bit operations of the model as arithmetic, base-4 numerals, the plain scan
position by position (`wordsFrom_eq`), and the rolling word of `ForEachKmerOf` against it.

The loops of `ForEachKmerOf` are followed through a summary of the letters consumed so far
(`sumVW`): the length of the current run of valid letters and its numeral.  `Tracks` ties the
loop state to the summary, `wordOf_eq` reads the word of a window off the summary.
-/
import Biogo.Model.Kmer
import Biogo.Spec.Kmer

namespace Biogo.Proofs.Kmer
open Biogo.Kmer Biogo.Spec.Kmer

theorem pow4_eq (n : Nat) : pow4 n = 4 ^ n := by
  unfold pow4
  rw [Nat.one_shiftLeft, Nat.pow_mul]

theorem four_pow_eq (n : Nat) : (4 : Nat) ^ n = 2 ^ (2 * n) := by
  rw [Nat.pow_mul]

theorem four_pow_pos (n : Nat) : 0 < (4 : Nat) ^ n := Nat.pow_pos (by decide)

theorem four_pow_dvd (k : Nat) (hk : 2 * k ≤ wordBits) : (4 : Nat) ^ k ∣ 2 ^ wordBits := by
  rw [four_pow_eq]; exact Nat.pow_dvd_pow 2 hk

theorem four_pow_le (k : Nat) (hk : 2 * k ≤ wordBits) : (4 : Nat) ^ k ≤ 2 ^ wordBits :=
  Nat.le_of_dvd (Nat.pow_pos (by decide)) (four_pow_dvd k hk)

theorem kMask_eq (k : Nat) (hk : 2 * k ≤ wordBits) : kMask k = 4 ^ k - 1 := by
  unfold kMask trunc
  rw [pow4_eq]
  apply Nat.mod_eq_of_lt
  have := four_pow_le k hk
  have := four_pow_pos k
  omega

/-- `(kmer << 2) | c` on `uint32` -/
theorem push_eq_mod (kmer c : Nat) (hc : c < 4) : push kmer c = kmer * 4 % 2 ^ wordBits + c := by
  -- truncating after the shift keeps the low 30 bits before it, so the two low bits are free for `c`
  have e : 2 ^ wordBits = 2 ^ 30 * 2 ^ 2 := by decide
  unfold push trunc
  rw [e, Nat.shiftLeft_eq, Nat.mul_mod_mul_right, ← Nat.shiftLeft_eq, ← Nat.shiftLeft_add_eq_or_of_lt hc]

theorem push_eq (kmer c : Nat) (hc : c < 4) (h : kmer * 4 < 2 ^ wordBits) : push kmer c = kmer * 4 + c := by
  rw [push_eq_mod kmer c hc, Nat.mod_eq_of_lt h]

/-- `((kmer << 2) | c) & kMask` -/
theorem push_mask_eq (kmer c k : Nat) (hc : c < 4) (hk : 2 * k ≤ wordBits) :
    push kmer c &&& kMask k = (kmer * 4 + c) % 4 ^ k := by
  rw [push_eq_mod kmer c hc, kMask_eq k hk, four_pow_eq, Nat.and_two_pow_sub_one_eq_mod, ← four_pow_eq,
    Nat.add_mod, Nat.mod_mod_of_dvd _ (four_pow_dvd k hk), ← Nat.add_mod]

theorem foldl_encode (w : Nat) (ds : List Nat) :
    ds.foldl (fun w d => w * 4 + d) w = w * 4 ^ ds.length + encode ds := by
  induction ds generalizing w with
  | nil => simp [encode]
  | cons d ds ih =>
    simp only [List.foldl_cons, List.length_cons, encode]
    rw [ih, ih (0 * 4 + d), Nat.pow_succ]
    simp only [Nat.zero_mul, Nat.zero_add, Nat.add_mul]
    rw [Nat.mul_assoc, Nat.mul_comm 4, Nat.add_assoc]

theorem encode_nil : encode [] = 0 := rfl

theorem encode_cons (d : Nat) (ds : List Nat) : encode (d :: ds) = d * 4 ^ ds.length + encode ds := by
  have := foldl_encode (0 * 4 + d) ds
  simpa [encode] using this

theorem encode_append_singleton (ds : List Nat) (d : Nat) : encode (ds ++ [d]) = encode ds * 4 + d := by
  simp [encode, List.foldl_append]

theorem mul4_add_lt {w d j : Nat} (hw : w < 4 ^ j) (hd : d < 4) : w * 4 + d < 4 ^ (j + 1) := by
  rw [Nat.pow_succ]; omega

theorem foldl_digits_lt (ds : List Nat) (h : ∀ d ∈ ds, d < 4) (w j : Nat) (hw : w < 4 ^ j) :
    ds.foldl (fun w d => w * 4 + d) w < 4 ^ (j + ds.length) := by
  induction ds generalizing w j with
  | nil => exact hw
  | cons d ds ih =>
    rw [List.foldl_cons, List.length_cons, ← Nat.add_assoc, Nat.add_right_comm]
    exact ih (fun x hx => h x (List.mem_cons_of_mem _ hx)) _ _ (mul4_add_lt hw (h d List.mem_cons_self))

theorem encode_lt (ds : List Nat) (h : ∀ d ∈ ds, d < 4) : encode ds < 4 ^ ds.length :=
  Nat.zero_add ds.length ▸ foldl_digits_lt ds h 0 0 Nat.one_pos

def FourLetter (lk : Lookup) : Prop := ∀ b d, lk b = some d → d < 4

theorem digits_cons_some {lk : Lookup} {b : UInt8} {bs : List UInt8} {ds : List Nat}
    (h : digits lk (b :: bs) = some ds) :
    ∃ d ds', lk b = some d ∧ digits lk bs = some ds' ∧ ds = d :: ds' := by
  unfold digits at h
  split at h
  · rename_i d ds' h1 h2
    exact ⟨d, ds', h1, h2, by simpa using h.symm⟩
  · simp at h

theorem digits_length {lk : Lookup} {l : List UInt8} {ds : List Nat} (h : digits lk l = some ds) :
    ds.length = l.length := by
  induction l generalizing ds with
  | nil => simp [digits] at h; simp [h]
  | cons b bs ih =>
    obtain ⟨d, ds', _, h2, rfl⟩ := digits_cons_some h
    simp [ih h2]

theorem digits_lt {lk : Lookup} (hlk : FourLetter lk) {l : List UInt8} {ds : List Nat}
    (h : digits lk l = some ds) : ∀ d ∈ ds, d < 4 := by
  induction l generalizing ds with
  | nil => simp [digits] at h; simp [h]
  | cons b bs ih =>
    obtain ⟨d, ds', h1, h2, rfl⟩ := digits_cons_some h
    intro x hx
    rcases List.mem_cons.mp hx with rfl | hx
    · exact hlk b _ h1
    · exact ih h2 x hx

theorem wordOf_short (lk : Lookup) (k : Nat) (l : List UInt8) (hl : l.length < k) : wordOf lk k l = none := by
  have : (l.take k).length ≠ k := by simp [List.length_take]; omega
  show (if (l.take k).length = k then _ else none) = none
  rw [if_neg this]

theorem wordOf_some_le (lk : Lookup) (k : Nat) (l : List UInt8) (w : Nat) (h : wordOf lk k l = some w) :
    k ≤ l.length :=
  Nat.le_of_not_lt fun hl => by rw [wordOf_short lk k l hl] at h; cases h

theorem wordOf_some_lt {lk : Lookup} (hlk : FourLetter lk) (k : Nat) (l : List UInt8) (w : Nat)
    (h : wordOf lk k l = some w) : w < 4 ^ k := by
  have htake : (l.take k).length = k := by
    rw [List.length_take]; exact Nat.min_eq_left (wordOf_some_le lk k l w h)
  unfold wordOf at h
  rw [if_pos htake] at h
  obtain ⟨ds, hd, rfl⟩ := Option.map_eq_some_iff.mp h
  have h2 := encode_lt ds (digits_lt hlk hd)
  rw [digits_length hd, htake] at h2
  exact h2

theorem wordOf_cons (lk : Lookup) (k : Nat) (x : UInt8) (l : List UInt8) :
    wordOf lk (k + 1) (x :: l) =
      match lk x, wordOf lk k l with
      | some d, some w => some (d * 4 ^ k + w)
      | _, _ => none := by
  unfold wordOf
  simp only [List.take_succ_cons, List.length_cons, Nat.add_right_cancel_iff]
  by_cases hlen : (l.take k).length = k
  · rw [if_pos hlen, if_pos hlen]
    cases hx : lk x with
    | none => simp [digits, hx]
    | some d =>
      cases hd : digits lk (l.take k) with
      | none => simp [digits, hx, hd]
      | some ds =>
        simp only [digits, hx, hd, Option.map_some]
        rw [encode_cons, digits_length hd, hlen]
  · rw [if_neg hlen, if_neg hlen]
    cases lk x <;> rfl

theorem wordOf_take (lk : Lookup) (k m : Nat) (l : List UInt8) :
    wordOf lk k (l.take m) = if k ≤ m then wordOf lk k l else none := by
  by_cases h : k ≤ m
  · rw [if_pos h]; unfold wordOf; rw [List.take_take, Nat.min_eq_left h]
  · rw [if_neg h]; apply wordOf_short; simp [List.length_take]; omega

theorem wordsFrom_short (lk : Lookup) (k : Nat) (l : List UInt8) (p : Nat) (hl : l.length < k) :
    wordsFrom lk k l p = [] := by
  induction l generalizing p with
  | nil => rfl
  | cons b bs ih =>
    unfold wordsFrom
    rw [wordOf_short lk k (b :: bs) hl]
    exact ih (p + 1) (by simp at hl; omega)

theorem filterMap_congr {α β} (f g : α → Option β) (l : List α) (h : ∀ x ∈ l, f x = g x) :
    l.filterMap f = l.filterMap g := by
  induction l with
  | nil => rfl
  | cons a l ih =>
    rw [List.filterMap_cons, List.filterMap_cons, h a (by simp), ih (fun x hx => h x (by simp [hx]))]

theorem wordsFrom_eq (lk : Lookup) (k : Nat) (l : List UInt8) (p : Nat) :
    wordsFrom lk k l p = (List.range l.length).filterMap fun j => (wordOf lk k (l.drop j)).map fun w => (p + j, w) := by
  induction l generalizing p with
  | nil => rfl
  | cons b bs ih =>
    rw [wordsFrom, ih (p + 1), List.length_cons, List.range_succ_eq_map, List.filterMap_cons, List.filterMap_map]
    have : ((fun j => (wordOf lk k ((b :: bs).drop j)).map fun w => (p + j, w)) ∘ Nat.succ) =
        fun j => (wordOf lk k (bs.drop j)).map fun w => (p + 1 + j, w) := by
      funext j; simp only [Function.comp, List.drop_succ_cons, Nat.succ_eq_add_one, Nat.add_assoc, Nat.add_comm 1 j]
    rw [this, List.drop_zero, Nat.add_zero]
    cases wordOf lk k (b :: bs) <;> rfl

theorem wordsFrom_eq_range (lk : Lookup) (k : Nat) (hk : 1 ≤ k) (l : List UInt8) (p : Nat) :
    wordsFrom lk k l p =
      (List.range (l.length + 1 - k)).filterMap fun j => (wordOf lk k (l.drop j)).map fun w => (p + j, w) := by
  have hsplit : List.range l.length = List.range (l.length + 1 - k) ++
      (List.range (l.length - (l.length + 1 - k))).map (l.length + 1 - k + ·) := by
    rw [← List.range_add]; congr 1; omega
  rw [wordsFrom_eq, hsplit, List.filterMap_append, List.append_right_eq_self, List.filterMap_eq_nil_iff]
  intro j hj
  obtain ⟨i, _, rfl⟩ := List.mem_map.mp hj
  rw [wordOf_short lk k _ (by rw [List.length_drop]; omega)]
  rfl

theorem mem_wordsFrom_iff (lk : Lookup) (k : Nat) (l : List UInt8) (p : Nat) (c : Nat × Nat) :
    c ∈ wordsFrom lk k l p ↔ p ≤ c.1 ∧ c.1 - p < l.length ∧ wordOf lk k (l.drop (c.1 - p)) = some c.2 := by
  rw [wordsFrom_eq, List.mem_filterMap]
  constructor
  · rintro ⟨j, hj, h⟩
    obtain ⟨w, hw, rfl⟩ := Option.map_eq_some_iff.mp h
    simp only [Nat.add_sub_cancel_left]
    exact ⟨Nat.le_add_right _ _, List.mem_range.mp hj, hw⟩
  · rintro ⟨h1, h2, h3⟩
    exact ⟨c.1 - p, List.mem_range.mpr h2, by rw [h3, Option.map_some, Nat.add_sub_cancel' h1]⟩

theorem mem_wordsFrom_ge (lk : Lookup) (k : Nat) (l : List UInt8) (p : Nat) (c : Nat × Nat)
    (h : c ∈ wordsFrom lk k l p) : p ≤ c.1 :=
  ((mem_wordsFrom_iff lk k l p c).mp h).1

theorem mem_wordsFrom_bounds {lk : Lookup} (hlk : FourLetter lk) (k : Nat) (l : List UInt8) (p : Nat)
    (c : Nat × Nat) (h : c ∈ wordsFrom lk k l p) : c.2 < 4 ^ k ∧ c.1 + k ≤ p + l.length := by
  obtain ⟨h1, h2, h3⟩ := (mem_wordsFrom_iff lk k l p c).mp h
  have := wordOf_some_le lk k _ _ h3
  rw [List.length_drop] at this
  exact ⟨wordOf_some_lt hlk k _ _ h3, by omega⟩

theorem wordsFrom_length_le (lk : Lookup) (k : Nat) (l : List UInt8) (p : Nat) :
    (wordsFrom lk k l p).length ≤ l.length + 1 - k := by
  cases k with
  | zero =>
    rw [wordsFrom_eq]
    exact Nat.le_trans (List.length_filterMap_le _ _) (List.length_range ▸ Nat.le_succ _)
  | succ k =>
    rw [wordsFrom_eq_range lk _ (Nat.succ_pos k)]
    exact Nat.le_trans (List.length_filterMap_le _ _) (Nat.le_of_eq List.length_range)

theorem wordsFrom_pairwise (lk : Lookup) (k : Nat) (l : List UInt8) (p : Nat) :
    (wordsFrom lk k l p).Pairwise (fun a b => a.1 < b.1) := by
  rw [wordsFrom_eq]
  refine List.Pairwise.filterMap _ (fun j j' hjj' a ha a' ha' => ?_) List.pairwise_lt_range
  obtain ⟨w, _, rfl⟩ := Option.map_eq_some_iff.mp ha
  obtain ⟨w', _, rfl⟩ := Option.map_eq_some_iff.mp ha'
  exact Nat.add_lt_add_left hjj' p

theorem wordsFrom_take (lk : Lookup) (k : Nat) (hk : 1 ≤ k) (l : List UInt8) (m p : Nat) :
    wordsFrom lk k (l.take m) p = (wordsFrom lk k l p).filter (fun c => c.1 + k ≤ p + m) := by
  induction l generalizing m p with
  | nil => simp [wordsFrom]
  | cons b bs ih =>
    cases m with
    | zero =>
      rw [List.take_zero, wordsFrom]
      symm
      rw [List.filter_eq_nil_iff]
      intro c hc
      have := mem_wordsFrom_ge lk k _ p c hc
      simp; omega
    | succ m =>
      have hw := wordOf_take lk k (m + 1) (b :: bs)
      rw [List.take_succ_cons] at hw ⊢
      rw [wordsFrom, wordsFrom, hw, ih m (p + 1), Nat.add_assoc p 1 m, Nat.add_comm 1 m]
      by_cases hkm : k ≤ m + 1
      · rw [if_pos hkm]
        cases wordOf lk k (b :: bs) with
        | none => rfl
        | some w => rw [List.filter_cons, if_pos (decide_eq_true (Nat.add_le_add_left hkm p))]
      · rw [if_neg hkm]
        cases wordOf lk k (b :: bs) with
        | none => rfl
        | some w =>
          rw [List.filter_cons, if_neg fun h => hkm (Nat.le_of_add_le_add_left (of_decide_eq_true h))]

theorem validWindows_full (lk : Lookup) (k : Nat) (s : List UInt8) :
    validWindows lk k s 0 s.length = allWindows lk k s := by
  unfold validWindows allWindows
  rw [List.drop_zero, List.filter_eq_self]
  intro c hc
  obtain ⟨_, _, h3⟩ := (mem_wordsFrom_iff lk k s 0 c).mp hc
  have := wordOf_some_le lk k _ _ h3
  rw [List.length_drop] at this
  simp; omega

/-- one letter more: `(length, numeral)` of the current run of valid letters -/
def stepVW (lk : Lookup) (vw : Nat × Nat) (b : UInt8) : Nat × Nat :=
  match lk b with
  | some c => (vw.1 + 1, vw.2 * 4 + c)
  | none => (0, 0)

def sumVW (lk : Lookup) (l : List UInt8) (vw : Nat × Nat) : Nat × Nat := l.foldl (stepVW lk) vw

theorem stepVW_some {lk : Lookup} {b : UInt8} {c : Nat} (h : lk b = some c) (vw : Nat × Nat) :
    stepVW lk vw b = (vw.1 + 1, vw.2 * 4 + c) := by
  simp only [stepVW, h]

theorem stepVW_none {lk : Lookup} {b : UInt8} (h : lk b = none) (vw : Nat × Nat) : stepVW lk vw b = (0, 0) := by
  simp only [stepVW, h]

theorem stepVW_fst_le (lk : Lookup) (vw : Nat × Nat) (b : UInt8) : (stepVW lk vw b).1 ≤ vw.1 + 1 := by
  cases hb : lk b with
  | none => rw [stepVW_none hb]; exact Nat.zero_le _
  | some c => rw [stepVW_some hb]; exact Nat.le_refl _

/-- the numeral of the run has as many digits as the run has letters -/
theorem stepVW_lt {lk : Lookup} (hlk : FourLetter lk) (vw : Nat × Nat) (b : UInt8) (h : vw.2 < 4 ^ vw.1) :
    (stepVW lk vw b).2 < 4 ^ (stepVW lk vw b).1 := by
  cases hb : lk b with
  | none => rw [stepVW_none hb]; exact Nat.one_pos
  | some c =>
    rw [stepVW_some hb]
    exact mul4_add_lt h (hlk b c hb)

theorem sumVW_nil (lk : Lookup) (vw : Nat × Nat) : sumVW lk [] vw = vw := rfl
theorem sumVW_cons (lk : Lookup) (b : UInt8) (l : List UInt8) (vw : Nat × Nat) :
    sumVW lk (b :: l) vw = sumVW lk l (stepVW lk vw b) := rfl
theorem sumVW_append (lk : Lookup) (l₁ l₂ : List UInt8) (vw : Nat × Nat) :
    sumVW lk (l₁ ++ l₂) vw = sumVW lk l₂ (sumVW lk l₁ vw) := by
  simp [sumVW, List.foldl_append]

theorem sumVW_fst_le (lk : Lookup) (l : List UInt8) (vw : Nat × Nat) :
    (sumVW lk l vw).1 ≤ vw.1 + l.length := by
  induction l generalizing vw with
  | nil => exact Nat.le_refl _
  | cons b bs ih =>
    have := ih (stepVW lk vw b)
    have := stepVW_fst_le lk vw b
    rw [sumVW_cons, List.length_cons]; omega

theorem sumVW_window_some {lk : Lookup} {w : List UInt8} {ds : List Nat} (h : digits lk w = some ds)
    (v0 W0 : Nat) : sumVW lk w (v0, W0) = (v0 + w.length, ds.foldl (fun w d => w * 4 + d) W0) := by
  induction w generalizing ds v0 W0 with
  | nil => cases h; rfl
  | cons b bs ih =>
    obtain ⟨d, ds', h1, h2, rfl⟩ := digits_cons_some h
    rw [sumVW_cons, stepVW_some h1, ih h2, List.length_cons, Nat.add_assoc, Nat.add_comm 1]; rfl

theorem sumVW_window_none {lk : Lookup} {w : List UInt8} (h : digits lk w = none) (vw : Nat × Nat) :
    (sumVW lk w vw).1 < w.length := by
  induction w generalizing vw with
  | nil => simp [digits] at h
  | cons b bs ih =>
    rw [sumVW_cons, List.length_cons]
    cases hb : lk b with
    | none =>
      have := sumVW_fst_le lk bs (stepVW lk vw b)
      rw [stepVW_none hb] at this ⊢
      omega
    | some d =>
      cases hbs : digits lk bs with
      | none => exact Nat.lt_succ_of_lt (ih hbs _)
      | some ds => simp [digits, hb, hbs] at h

/-- the word of a window, read off the summary of the window and whatever precedes it -/
theorem wordOf_eq {lk : Lookup} (hlk : FourLetter lk) {k : Nat} (l : List UInt8) (hl : l.length = k)
    (pre rest : List UInt8) :
    wordOf lk k (l ++ rest) =
      if (sumVW lk (pre ++ l) (0, 0)).1 ≥ k then some ((sumVW lk (pre ++ l) (0, 0)).2 % 4 ^ k) else none := by
  unfold wordOf
  rw [List.take_left' hl, if_pos hl, sumVW_append]
  cases hd : digits lk l with
  | none => rw [if_neg (by have := sumVW_window_none hd (sumVW lk pre (0, 0)); omega)]; rfl
  | some ds =>
    have h2 := encode_lt ds (digits_lt hlk hd)
    rw [digits_length hd, hl] at h2
    rw [sumVW_window_some hd (sumVW lk pre (0, 0)).1 (sumVW lk pre (0, 0)).2, foldl_encode, digits_length hd, hl,
      if_pos (Nat.le_add_left _ _), Nat.mul_add_mod_self_right, Nat.mod_eq_of_lt h2]
    rfl

theorem mod_mul4_add (a c m : Nat) : ((a % m) * 4 + c) % m = (a * 4 + c) % m := by
  rw [Nat.add_mod, Nat.mul_mod, Nat.mod_mod, ← Nat.mul_mod, ← Nat.add_mod]

/-- the loop state `r` at `basePosition = bp` tracks the summary `vw` of the letters consumed since
    `start`: the word is the numeral of the run cut to `k` digits, and `high` is where the run
    began, or still `0` when no invalid letter has been met -/
structure Tracks (k start : Nat) (r : Roll) (vw : Nat × Nat) (bp : Nat) : Prop where
  kmer : r.kmer = vw.2 % 4 ^ k
  high : r.high + vw.1 = bp ∨ (r.high = 0 ∧ start + vw.1 = bp)

theorem Tracks.mainStep {lk : Lookup} (hlk : FourLetter lk) {k start bp : Nat} (hk2 : 2 * k ≤ wordBits)
    {r : Roll} {vw : Nat × Nat} (ht : Tracks k start r vw bp) (b : UInt8) :
    Tracks k start (mainStep lk k r bp b) (stepVW lk vw b) (bp + 1) := by
  cases hb : lk b with
  | none =>
    simp only [Biogo.Kmer.mainStep, hb, stepVW_none hb]
    exact ⟨(Nat.zero_mod _).symm, Or.inl rfl⟩
  | some c =>
    simp only [Biogo.Kmer.mainStep, hb, stepVW_some hb]
    refine ⟨?_, ?_⟩
    · show push r.kmer c &&& kMask k = _
      rw [push_mask_eq _ _ _ (hlk b c hb) hk2, ht.kmer, mod_mul4_add]
    · exact ht.high.imp (congrArg Nat.succ) (And.imp_right (congrArg Nat.succ))

/-- the test `position >= high` of the main loop asks whether the run fills the window -/
theorem Tracks.emit {k start bp position : Nat} {r : Roll} {vw : Nat × Nat} (ht : Tracks k start r vw bp)
    (hpos : bp = position + k) (hstart : start ≤ position) : position ≥ r.high ↔ vw.1 ≥ k := by
  rcases ht.high with h | h <;> omega

/-- while the word has fewer than `k` digits the mask of the main loop changes nothing -/
theorem preStep_eq_mainStep {lk : Lookup} (hlk : FourLetter lk) {k : Nat} (hk2 : 2 * k ≤ wordBits)
    (r : Roll) (bp : Nat) (b : UInt8) (h : r.kmer * 4 + 4 ≤ 4 ^ k) :
    preStep lk r bp b = mainStep lk k r bp b := by
  unfold preStep Biogo.Kmer.mainStep
  cases hb : lk b with
  | none => rfl
  | some c =>
    have hc := hlk b c hb
    have := four_pow_le k hk2
    show ({ r with kmer := push r.kmer c } : Roll) = { r with kmer := push r.kmer c &&& kMask k }
    rw [push_mask_eq _ _ _ hc hk2, Nat.mod_eq_of_lt (by omega), push_eq _ _ hc (by omega)]

theorem Tracks.preload {lk : Lookup} (hlk : FourLetter lk) {k start : Nat} (hk2 : 2 * k ≤ wordBits)
    (pre : List UInt8) {bp : Nat} {r : Roll} {vw : Nat × Nat} (ht : Tracks k start r vw bp)
    (hv : vw.1 + pre.length < k) (hW : vw.2 < 4 ^ vw.1) :
    Tracks k start (preload lk pre bp r) (sumVW lk pre vw) (bp + pre.length) := by
  induction pre generalizing bp r vw with
  | nil => exact ht
  | cons b pre ih =>
    rw [List.length_cons] at hv
    have hsmall : r.kmer * 4 + 4 ≤ 4 ^ k :=
      Nat.le_trans (mul4_add_lt (Nat.lt_of_le_of_lt (ht.kmer ▸ Nat.mod_le _ _) hW) (by decide : 3 < 4))
        (Nat.pow_le_pow_right (by decide) (by omega))
    have := stepVW_fst_le lk vw b
    rw [Biogo.Kmer.preload, sumVW_cons, preStep_eq_mainStep hlk hk2 r bp b hsmall, List.length_cons,
      ← Nat.add_assoc, Nat.add_right_comm]
    exact ih (ht.mainStep hlk hk2 b) (by omega) (stepVW_lt hlk vw b hW)

/-- the main loop, started `k - 1` letters (`ctx`) into the scan, emits the words of the scan; `pre`: the letters
    already out of the window — the summary that `Tracks` relates `r` to runs over them too; a step moves one over -/
theorem mainLoop_eq_wordsFrom {lk : Lookup} (hlk : FourLetter lk) (k start : Nat) (hk2 : 2 * k ≤ wordBits)
    (bs ctx pre : List UInt8) (bp position : Nat) (r : Roll)
    (hpos : bp + 1 = position + k) (hstart : start ≤ position) (hctx : ctx.length + 1 = k)
    (ht : Tracks k start r (sumVW lk (pre ++ ctx) (0, 0)) bp) :
    mainLoop lk k bs bp position r = wordsFrom lk k (ctx ++ bs) position := by
  induction bs generalizing ctx pre bp position r with
  | nil => rw [mainLoop, List.append_nil, wordsFrom_short lk k ctx position (hctx ▸ Nat.lt_succ_self _)]
  | cons b bs ih =>
    -- the window that ends with `b` is `a :: t`; the next one starts with `t`
    obtain ⟨a, t, hat⟩ : ∃ a t, ctx ++ [b] = a :: t := by cases ctx <;> exact ⟨_, _, rfl⟩
    have hlen : (a :: t).length = k := by rw [← hat, List.length_append]; exact hctx
    have hs : stepVW lk (sumVW lk (pre ++ ctx) (0, 0)) b = sumVW lk (pre ++ a :: t) (0, 0) := by
      rw [← hat, ← List.append_assoc, sumVW_append lk (pre ++ ctx)]; rfl
    have ht' := ht.mainStep hlk hk2 b
    rw [hs] at ht'
    have hemit := ht'.emit hpos hstart
    have hw : wordOf lk k (a :: (t ++ bs)) = _ := wordOf_eq hlk (a :: t) hlen pre bs
    rw [List.append_cons pre] at ht'
    rw [mainLoop, List.append_cons, hat, List.cons_append, wordsFrom, hw,
      ih t (pre ++ [a]) (bp + 1) (position + 1) _ (by rw [hpos, Nat.add_right_comm]) (Nat.le_succ_of_le hstart)
        hlen ht']
    by_cases hv : (sumVW lk (pre ++ a :: t) (0, 0)).1 ≥ k
    · rw [if_pos hv]; simp only []
      rw [if_pos (hemit.mpr hv), ht'.kmer, ← List.append_cons pre]
    · rw [if_neg hv]; simp only []
      rw [if_neg (fun h => hv (hemit.mp h))]

/-- the two loops of `ForEachKmerOf` on the letters they read: `pre` (`k - 1 = n` of them), then `body` -/
theorem loops_eq_wordsFrom {lk : Lookup} (hlk : FourLetter lk) (n : Nat) (hk2 : 2 * (n + 1) ≤ wordBits)
    (pre body : List UInt8) (start : Nat) (hpre : pre.length = n) :
    mainLoop lk (n + 1) body (start + n) start (preload lk pre start { kmer := 0, high := 0 })
      = wordsFrom lk (n + 1) (pre ++ body) start := by
  subst hpre
  have ht : Tracks (pre.length + 1) start { kmer := 0, high := 0 } (0, 0) start :=
    ⟨(Nat.zero_mod _).symm, Or.inr ⟨rfl, rfl⟩⟩
  exact mainLoop_eq_wordsFrom hlk _ start hk2 body pre [] _ _ _ rfl (Nat.le_refl _) rfl
    (ht.preload hlk hk2 pre (Nat.lt_succ_of_le (Nat.le_of_eq (Nat.zero_add _))) Nat.one_pos)

/-- the callbacks of `ForEachKmerOf(s, start, end)` are exactly the valid windows of the range -/
theorem forEachKmer_calls {lk : Lookup} (hlk : FourLetter lk) (k : Nat) (hk : 1 ≤ k)
    (hk2 : 2 * k ≤ wordBits) (s : List UInt8) (start end_ : Nat) :
    (forEachKmer lk k s start end_).calls = validWindows lk k s start end_ := by
  obtain ⟨n, rfl⟩ : ∃ n, k = n + 1 := ⟨k - 1, (Nat.sub_add_cancel hk).symm⟩
  unfold forEachKmer validWindows
  rw [Nat.add_sub_cancel]
  by_cases hpre : ((s.drop start).take n).length < n
  · rw [if_pos hpre, wordsFrom_short lk (n + 1) (s.drop start) start (by rw [List.length_take] at hpre; omega)]
    rfl
  · rw [if_neg hpre]
    show mainLoop lk (n + 1) _ _ (start + n + 1 - (n + 1)) _ = _
    rw [Nat.add_assoc start n 1, Nat.add_sub_cancel, loops_eq_wordsFrom hlk n hk2 _ _ start (Nat.le_antisymm (List.length_take_le _ _) (Nat.le_of_not_lt hpre)),
      ← List.drop_drop, ← List.take_add, wordsFrom_take lk (n + 1) (Nat.succ_pos n)]
    apply List.filter_congr
    intro c hc
    have := mem_wordsFrom_ge lk (n + 1) _ start c hc
    exact decide_eq_decide.mpr (by omega)

theorem forEachKmer_whole {lk : Lookup} (hlk : FourLetter lk) (k : Nat) (hk1 : 1 ≤ k) (hk2 : 2 * k ≤ wordBits)
    (s : List UInt8) : (forEachKmer lk k s 0 s.length).calls = allWindows lk k s := by
  rw [forEachKmer_calls hlk k hk1 hk2, validWindows_full]

theorem forEachKmer_err (lk : Lookup) (k : Nat) (s : List UInt8) (start end_ : Nat)
    (h1 : start + (k - 1) ≤ s.length) (h2 : end_ ≤ s.length) :
    (forEachKmer lk k s start end_).err = false := by
  unfold forEachKmer
  simp only [List.length_take, List.length_drop]
  rw [if_neg (by omega)]
  simp only [decide_eq_false_iff_not]
  omega

end Biogo.Proofs.Kmer
