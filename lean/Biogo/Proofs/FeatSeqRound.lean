/-
GFF inline sequences (`##DNA id … ##end-DNA`): what the reader makes of the writer's text (C02).
The writer's letter loop cuts the letters into the lines `chunks width letters` (`seqBody_chunks`), so the text is a
header line, one `##` line per chunk and the end marker (`writeSeq_lines`); the reader's loop `metaSeq` appends the
chunks again until it meets the marker (`metaSeq_chunks`), and `chunks_flatten` gives back the letters.
-/
import Biogo.Proofs.FeatGffRound

namespace Biogo.Gff
open Biogo.BytesFeat Biogo.FeatIO

/-- what the writer's letter loop emits for one chunk `c`: the terminator `\n` of the line before, then `##` and the letters -/
def pre (c : Bytes) : Bytes := 10 :: 35 :: 35 :: c

theorem seqBody_chunksAux (w : Nat) (letters : Bytes) (i : Nat) (cur : Bytes) (hcur : cur ≠ []) :
    pre cur ++ seqBody w letters i = ((chunksAux w letters i cur).map pre).flatten := by
  induction letters generalizing i cur with
  | nil =>
    have : cur.isEmpty = false := List.isEmpty_eq_false_iff.mpr hcur
    simp [seqBody, chunksAux, this]
  | cons c r ih =>
    have hce : cur.isEmpty = false := List.isEmpty_eq_false_iff.mpr hcur
    rw [seqBody, chunksAux]
    by_cases hm : i % w = 0
    · simp only [hm, beq_self_eq_true, if_true, hce, Bool.not_false, Bool.and_self, List.map_cons, List.flatten_cons]
      rw [← ih (i + 1) [c] (by simp)]
      simp [pre]
    · have : (i % w == 0) = false := beq_false_of_ne hm
      simp only [this, Bool.false_eq_true, if_false, Bool.false_and, List.nil_append]
      rw [← ih (i + 1) (cur ++ [c]) (by simp)]
      simp [pre]

theorem seqBody_chunks (w : Nat) (letters : Bytes) :
    seqBody w letters 0 = ((chunks w letters).map pre).flatten := by
  cases letters with
  | nil => simp [seqBody, chunks, chunksAux]
  | cons c r =>
    rw [seqBody, chunks, chunksAux]
    simp only [Nat.zero_mod, beq_self_eq_true, if_true, List.isEmpty_nil, Bool.not_true, Bool.and_false,
      Bool.false_eq_true, if_false, List.nil_append, Nat.zero_add]
    rw [← seqBody_chunksAux w r 1 [c] (by simp)]
    simp [pre]

theorem chunksAux_flatten (w : Nat) (letters : Bytes) (i : Nat) (cur : Bytes) :
    (chunksAux w letters i cur).flatten = cur ++ letters := by
  induction letters generalizing i cur with
  | nil => simp only [chunksAux]; split <;> simp_all
  | cons c r ih =>
    rw [chunksAux]
    split
    · simp [ih]
    · simp [ih]

theorem chunks_flatten (w : Nat) (letters : Bytes) : (chunks w letters).flatten = letters := by
  simp [chunks, chunksAux_flatten]

theorem chunks_mem (w : Nat) (letters : Bytes) : ∀ c ∈ chunks w letters, ∀ b ∈ c, b ∈ letters := by
  intro c hc b hb
  rw [← chunks_flatten w letters]
  exact List.mem_flatten.mpr ⟨c, hc, hb⟩

theorem parseMoltype_molName (m : Nat) (hm : m ≤ 2) : parseMoltype (molName m) = (m : Int) := by
  have : m = 0 ∨ m = 1 ∨ m = 2 := by omega
  rcases this with rfl | rfl | rfl <;> decide +kernel

theorem molName_plain (m : Nat) (hm : m ≤ 2) : Plain (molName m) := by
  have : m = 0 ∨ m = 1 ∨ m = 2 := by omega
  rcases this with rfl | rfl | rfl <;> decide +kernel

/-- `molName m` is a sequence keyword and none of the keywords `commentMetaline` tests before those -/
theorem molName_keyword (m : Nat) (hm : m ≤ 2) :
    isSeqKeyword (molName m) = true ∧
    (molName m == ofString "gff-version") = false ∧ (molName m == ofString "source-version") = false ∧
    (molName m == ofString "date") = false ∧ (molName m == ofString "Type") = false ∧
    (molName m == ofString "type") = false ∧ (molName m == ofString "sequence-region") = false := by
  have : m = 0 ∨ m = 1 ∨ m = 2 := by omega
  rcases this with rfl | rfl | rfl <;> decide +kernel

def endMarker (m : Nat) : Bytes := ofString "end-" ++ molName m

theorem endMarker_ascii (m : Nat) (hm : m ≤ 2) : Plain (endMarker m) := by
  have : m = 0 ∨ m = 1 ∨ m = 2 := by omega
  rcases this with rfl | rfl | rfl <;> decide +kernel

theorem metaSeq_line (mt id c : Bytes) (ls : List Bytes) (st : St) (body : Bytes) (hc : Plain c) :
    metaSeq mt id ((35 :: 35 :: c) :: ls) st body =
      if c == ofString "end-" ++ mt then
        if parseMoltype mt == -1 then (.err .badMoltype 0, ls, { st with line := st.line + 1 })
        else (.item (.sequence id (parseMoltype mt) body), ls, { st with line := st.line + 1 })
      else metaSeq mt id ls { st with line := st.line + 1 } (body ++ c) := by
  have h1 : (35 :: 35 :: c).isEmpty = false := rfl
  have h2 : ¬ ((35 :: 35 :: c).length < 2) := by simp
  have h3 : hasPrefix [35, 35] (35 :: 35 :: c) = true := by simp [hasPrefix]
  have h4 : trimSpace ((35 :: 35 :: c).drop 2) = c := trimSpace_ascii _ hc
  rw [metaSeq]
  simp only [h1, Bool.false_eq_true, if_false, h3, Bool.not_true, Bool.or_false, decide_eq_true_eq, h2, h4,
    removeSpaces_ascii c hc]

theorem metaSeq_chunks (m : Nat) (hm : m ≤ 2) (id : Bytes) (cs : List Bytes) (rest : List Bytes) (st : St) (body : Bytes)
    (hcs : ∀ c ∈ cs, Plain c ∧ c ≠ endMarker m) :
    metaSeq (molName m) id (cs.map (fun c => 35 :: 35 :: c) ++ (35 :: 35 :: endMarker m) :: rest) st body =
      (.item (.sequence id m (body ++ cs.flatten)), rest, { st with line := st.line + cs.length + 1 }) := by
  induction cs generalizing st body with
  | nil =>
    have h7 : ((m : Int) == -1) = false := beq_false_of_ne (by omega)
    rw [List.map_nil, List.nil_append, metaSeq_line _ _ _ _ _ _ (endMarker_ascii m hm),
      if_pos (by simp [endMarker]), parseMoltype_molName m hm, h7]
    simp
  | cons c r ih =>
    obtain ⟨hc, hne⟩ := hcs c (by simp)
    rw [List.map_cons, List.cons_append, metaSeq_line _ _ _ _ _ _ hc, if_neg (by simpa [endMarker] using hne),
      ih _ _ (fun x hx => hcs x (List.mem_cons_of_mem _ hx))]
    simp only [List.flatten_cons, List.append_assoc, List.length_cons]
    congr 2
    simp only [St.mk.injEq, and_true]
    omega

/-- the header line of an inline sequence, without terminator -/
def seqHeader (m : Nat) (id desc : Bytes) : Bytes :=
  35 :: 35 :: (molName m ++ 32 :: id ++ (if desc.isEmpty then [] else 32 :: desc))

/-- the lines of an inline sequence after its header line, as the reader sees them -/
def seqLines (width m : Nat) (letters : Bytes) : List Bytes :=
  (chunks width letters).map (fun c => 35 :: 35 :: c) ++ [35 :: 35 :: endMarker m]

theorem text_as_lines (X : Bytes) (cs : List Bytes) :
    X ++ (cs.map pre).flatten ++ [10] = ((X :: cs.map (fun c => 35 :: 35 :: c)).map (· ++ [10])).flatten := by
  induction cs generalizing X with
  | nil => simp
  | cons c r ih =>
    have := ih (35 :: 35 :: c)
    simp only [List.map_cons, List.flatten_cons, List.append_assoc] at this ⊢
    rw [← this]
    simp [pre]

theorem writeSeq_lines (width m : Nat) (hm : m ≤ 2) (id desc letters : Bytes) (hl : letters ≠ []) :
    ∃ t, writeSeq width m id desc letters = .ok (t, t.length) ∧
      t = ((seqHeader m id desc :: seqLines width m letters).map (· ++ [10])).flatten := by
  have hle : letters.isEmpty = false := List.isEmpty_eq_false_iff.mpr hl
  have hm' : ¬ (m > 2) := by omega
  refine ⟨_, by simp only [writeSeq, hle, Bool.false_eq_true, if_false, hm']; rfl, ?_⟩
  rw [seqBody_chunks, seqLines, ← List.cons_append]
  have h := text_as_lines (seqHeader m id desc) (chunks width letters)
  simp only [List.map_append, List.flatten_append, List.map_cons, List.map_nil, List.flatten_cons, List.flatten_nil,
    List.append_nil]
  simp only [List.map_cons, List.flatten_cons] at h
  rw [← h]
  simp [seqHeader, endMarker, ofString, List.append_assoc]

theorem descOK_unpack {d : Bytes} (h : descOK d = true) : (10 : UInt8) ∉ d ∧ trimmed d = true := by
  simp only [descOK, Bool.and_eq_true, Bool.not_eq_true'] at h
  exact ⟨not_mem_of_contains h.1, h.2⟩

theorem lettersOK_unpack {s : Bytes} (h : lettersOK s = true) : s ≠ [] ∧ Plain s := by
  simp only [lettersOK, Bool.and_eq_true, Bool.not_eq_true', List.isEmpty_eq_false_iff, List.all_eq_true,
    decide_eq_true_eq] at h
  exact ⟨h.1, fun c hc => by simpa using h.2 c hc⟩

theorem seqHeader_facts (m : Nat) (hm : m ≤ 2) (id desc : Bytes) (hid : nameOK id = true) (hd : descOK desc = true) :
    (10 : UInt8) ∉ seqHeader m id desc ∧ trimSpace (seqHeader m id desc) = seqHeader m id desc := by
  obtain ⟨hidne, _, hidt⟩ := nameOK_unpack hid
  obtain ⟨hd10, hdt⟩ := descOK_unpack hd
  have hmol := molName_plain m hm
  constructor
  · unfold seqHeader
    simp only [List.mem_cons, List.mem_append, not_or]
    refine ⟨by decide, by decide, ⟨hmol.not_mem (by decide), by decide, name_not_mem hid 10 (by decide)⟩, ?_⟩
    split
    · simp
    · simp only [List.mem_cons, not_or]; exact ⟨by decide, hd10⟩
  · apply trimSpace_of_trimmed
    have : seqHeader m id desc = (35 :: 35 :: molName m) ++ 32 :: (id ++ (if desc.isEmpty then [] else 32 :: desc)) := by
      simp [seqHeader]
    rw [this]
    apply trimmed_append _ _ 32 (by simp) (by simp [hidne]) _ _ (by decide)
    · simp only [startsWithSpace, bne_eq_false_iff_eq]
      exact spaceLen_ascii_head 35 _ (by decide) (by decide)
    · split
      · simpa using (trimmed_iff.mp hidt).2
      · rename_i hde
        have hdne : desc ≠ [] := by intro e; rw [e] at hde; simp at hde
        exact endsWithSpace_append id 32 desc hdne (trimmed_iff.mp hdt).2 (by decide)

theorem seqHeader_step (o : Oracles) (md : Meta) (m : Nat) (hm : m ≤ 2) (id desc : Bytes) (hid : nameOK id = true) :
    commentMetaline o md (molName m ++ 32 :: id ++ (if desc.isEmpty then [] else 32 :: desc)) = .metaSeq (molName m) id := by
  have h32 : (32 : UInt8) ∉ molName m := (molName_plain m hm).not_mem (by decide)
  have hsplit : ∃ more, splitOn 32 (molName m ++ 32 :: id ++ (if desc.isEmpty then [] else 32 :: desc)) =
      molName m :: id :: more := by
    rw [List.append_assoc, List.cons_append, splitOn_field 32 _ _ h32]
    split
    · exact ⟨[], by rw [List.append_nil, splitOn_nosep 32 id (name_not_mem hid 32 (by decide))]⟩
    · exact ⟨_, by rw [splitOn_field 32 id _ (name_not_mem hid 32 (by decide))]⟩
  obtain ⟨more, hs⟩ := hsplit
  unfold commentMetaline
  simp only [hs, molName_keyword m hm, Bool.false_eq_true, if_false, Bool.or_self, if_true]

theorem seqLines_plain (width m : Nat) (hm : m ≤ 2) (letters : Bytes) (hl : lettersOK letters = true) :
    ∀ b ∈ seqLines width m letters, Plain b := by
  have hash : ∀ {c : Bytes}, Plain c → Plain (35 :: 35 :: c) := fun h =>
    .cons (by decide) (by decide) (.cons (by decide) (by decide) h)
  intro b hb
  rcases List.mem_append.mp hb with hb | hb
  · obtain ⟨c, hc, rfl⟩ := List.mem_map.mp hb
    exact hash fun b hb => (lettersOK_unpack hl).2 b (chunks_mem width letters c hc b hb)
  · rw [List.mem_singleton.mp hb]
    exact hash (endMarker_ascii m hm)

theorem reads_seq (o : Oracles) (width m : Nat) (hm : m ≤ 2) (id desc letters : Bytes)
    (hid : nameOK id = true) (hd : descOK desc = true) (hl : lettersOK letters = true)
    (hend : noEndMarker width m letters = true) (st : St) :
    Reads o (seqHeader m id desc :: seqLines width m letters) st
      (.sequence id m letters) { st with line := st.line + 1 + (chunks width letters).length + 1 } := by
  obtain ⟨hH10, hHtrim⟩ := seqHeader_facts m hm id desc hid hd
  have hrest := seqLines_plain width m hm letters hl
  refine ⟨fun b hb => ?_, fun rest => ?_⟩
  · rcases List.mem_cons.mp hb with rfl | hb
    · exact hH10
    · exact (hrest b hb).not_mem (by decide)
  have hchunk : ∀ c ∈ chunks width letters, Plain c ∧ c ≠ endMarker m := by
    intro c hc
    refine ⟨fun b hb => (lettersOK_unpack hl).2 b (chunks_mem width letters c hc b hb), ?_⟩
    intro e
    simp only [noEndMarker, Bool.not_eq_true', endMarker] at hend e
    rw [e] at hc
    have := List.contains_iff_mem.mpr hc
    rw [hend] at this; cases this
  have := metaSeq_chunks m hm id (chunks width letters) rest { st with line := st.line + 1 } [] hchunk
  simp only [List.nil_append, chunks_flatten] at this
  rw [List.map_cons, hHtrim, List.map_congr_left fun b hb => trimSpace_ascii b (hrest b hb), List.map_id',
    List.cons_append, seqHeader, read_meta, seqHeader_step o _ m hm id desc hid, seqLines, List.append_assoc,
    List.singleton_append]
  exact this

/-- reading `[##gff-version 2\n] ##Mol id [desc]\n ##letters…\n … ##end-Mol\n` -/
theorem readAll_seq (o : Oracles) (width m : Nat) (hm : m ≤ 2) (id desc letters : Bytes) (hdr : Bool)
    (hid : nameOK id = true) (hd : descOK desc = true) (hl : lettersOK letters = true)
    (hend : noEndMarker width m letters = true) :
    ∃ t, writeSeq width m id desc letters = .ok (t, t.length) ∧
      (readAll o ((if hdr then headerText else []) ++ t)).1 = [.item (.sequence id m letters), .eof] := by
  obtain ⟨t, hw, ht⟩ := writeSeq_lines width m hm id desc letters (lettersOK_unpack hl).1
  have h := readAll_chain o hdr [(seqHeader m id desc :: seqLines width m letters, .sequence id m letters)] _
    (.cons (reads_seq o width m hm id desc letters hid hd hl hend _) (.nil _))
  exact ⟨t, hw, by rw [ht]; simpa [text] using congrArg Prod.fst h⟩

end Biogo.Gff
