/-
The tube state machine (first part), and its run against one ε-match (second part; C14).

The machine has one operation on its state (`put`: close the run of a slot under a tube index, leave a
tube there); `hitTube`, `retire` and `tubeFlush` are instances.  Under the repaired rule the tube indices
in use at a query position lie in a window of `cap` indices that starts at the first tube no tick has
retired (`InWin`), so a slot determines its tube; and the ticker is a function of the position
(`scanN_ticker`).

A monitor invariant (`MInv`) follows the slot of the match's tube through the scan and
the final flush: before the first shared k-mer nothing is required; from then on either a covering hit has
been pushed (`Done`) or the slot's current run contains every shared k-mer seen so far.
-/
import Biogo.Model.Filter

namespace Biogo.Proofs.FilterRun
open Biogo.Filter

/-- a covering hit for the match with tube `i`, first shared k-mer at `lo`, last at `hi` -/
def Done (c : Cfg) (i lo hi : Nat) (st : St) : Prop :=
  ∃ h ∈ st.hits, h.diagonal = (c.tlen : Int) - (i : Int) * c.off ∧ h.from_ ≤ (lo : Int) ∧ (hi : Int) + c.k ≤ h.to

theorem Done_mono (c : Cfg) (i lo hi : Nat) (st st' : St) (h : ∀ x ∈ st.hits, x ∈ st'.hits) :
    Done c i lo hi st → Done c i lo hi st' := by
  rintro ⟨x, hx, hd⟩; exact ⟨x, h x hx, hd⟩

theorem addHit_hits (c : Cfg) (s : St) (ti : Int) (a b : Nat) : ∀ x ∈ s.hits, x ∈ (addHit c s ti a b).hits := by
  intro x hx; simp [addHit, hx]

theorem addHit_panic (c : Cfg) (s : St) (ti : Int) (a b : Nat) : (addHit c s ti a b).panic = s.panic := rfl

theorem addHit_done (c : Cfg) (i lo hi : Nat) (s : St) (a b : Nat) (ha : a ≤ lo) (hb : hi ≤ b) :
    Done c i lo hi (addHit c s (i : Int) a b) := by
  refine ⟨_, List.mem_cons_self, rfl, ?_, ?_⟩ <;> simp <;> omega

def tb (c : Cfg) (i : Nat) (st : St) : Tube := getTube st (i % c.cap)

/-- the run in `slot` is closed — pushed as a hit under the tube index `label` if `emit` — and `v` is left there -/
def put (c : Cfg) (s : St) (slot : Nat) (label : Int) (emit : Bool) (v : Tube) : St :=
  { (if emit then addHit c s label (getTube s slot).qLo (getTube s slot).qHi else s) with
    tubes := s.tubes.setIfInBounds slot v }

theorem put_panic (c : Cfg) (s : St) (slot : Nat) (label : Int) (emit : Bool) (v : Tube) :
    (put c s slot label emit v).panic = s.panic := by cases emit <;> rfl

theorem put_size (c : Cfg) (s : St) (slot : Nat) (label : Int) (emit : Bool) (v : Tube) :
    (put c s slot label emit v).tubes.size = s.tubes.size := Array.size_setIfInBounds ..

theorem put_hits (c : Cfg) (s : St) (slot : Nat) (label : Int) (emit : Bool) (v : Tube) :
    (put c s slot label emit v).hits =
      if emit then (addHit c s label (getTube s slot).qLo (getTube s slot).qHi).hits else s.hits := by
  cases emit <;> rfl

theorem getTube_put (c : Cfg) (s : St) (slot : Nat) (label : Int) (emit : Bool) (v : Tube) (slot' : Nat) :
    getTube (put c s slot label emit v) slot' = if slot = slot' ∧ slot < s.tubes.size then v else getTube s slot' := by
  show ((s.tubes.setIfInBounds slot v)[slot']?).getD default = _
  unfold getTube
  simp only [Array.getElem?_setIfInBounds]
  by_cases h : slot = slot'
  · subst h
    by_cases hlt : slot < s.tubes.size
    · simp [hlt]
    · simp [hlt]
  · simp [h]

theorem getTube_put_self (c : Cfg) (s : St) {slot : Nat} (label : Int) (emit : Bool) (v : Tube) (h : slot < s.tubes.size) :
    getTube (put c s slot label emit v) slot = v := by
  rw [getTube_put, if_pos ⟨rfl, h⟩]

theorem put_done (c : Cfg) (s : St) (slot : Nat) (label : Int) (emit : Bool) (v : Tube) {i lo hi : Nat}
    (h : Done c i lo hi s) : Done c i lo hi (put c s slot label emit v) :=
  Done_mono c i lo hi _ _ (fun x hx => by rw [put_hits]; split; exact addHit_hits _ _ _ _ _ x hx; exact hx) h

theorem hitTube_put (c : Cfg) (s : St) (ti q : Nat) :
    hitTube c s ti q =
      put c s (ti % c.cap) ti
        (decide ((getTube s (ti % c.cap)).count ≠ 0 ∧ (q : Int) - (getTube s (ti % c.cap)).qHi > c.maxKmerDist ∧
          ((getTube s (ti % c.cap)).count : Int) ≥ c.minKmers))
        (if (getTube s (ti % c.cap)).count = 0 ∨ (q : Int) - (getTube s (ti % c.cap)).qHi > c.maxKmerDist
          then ⟨q, q, 1⟩
          else { getTube s (ti % c.cap) with count := (getTube s (ti % c.cap)).count + 1, qHi := q }) := by
  unfold hitTube
  simp only []
  split
  · rename_i h; rw [if_pos (Or.inl h), decide_eq_false (by simp [h])]; rfl
  · rename_i h
    split
    · rename_i hg
      rw [if_pos (Or.inr hg)]
      split
      · rename_i ht; rw [decide_eq_true ⟨h, hg, ht⟩]; rfl
      · rename_i ht; rw [decide_eq_false (by simp [ht])]; rfl
    · rename_i hg; rw [if_neg (by simp [h, hg]), decide_eq_false (by simp [hg])]; rfl

theorem retire_eq (c : Cfg) (s : St) (ti : Int) :
    retire c s ti =
      if ti.tmod c.cap < 0 then { s with panic := true }
      else put c s (ti.tmod c.cap).toNat ti (decide (((getTube s (ti.tmod c.cap).toNat).count : Int) ≥ c.minKmers))
        { getTube s (ti.tmod c.cap).toNat with count := 0 } := by
  unfold retire
  simp only []
  split
  · rfl
  · by_cases h : ((getTube s (ti.tmod c.cap).toNat).count : Int) ≥ c.minKmers
    · rw [if_pos h, decide_eq_true h]; rfl
    · rw [if_neg h, decide_eq_false h]; rfl

theorem retire_nat (c : Cfg) (s : St) (j : Nat) :
    retire c s (j : Int) =
      put c s (j % c.cap) j (decide (((getTube s (j % c.cap)).count : Int) ≥ c.minKmers))
        { getTube s (j % c.cap) with count := 0 } := by
  have hmod : (j : Int).tmod (c.cap : Int) = ((j % c.cap : Nat) : Int) := rfl
  rw [retire_eq, hmod, if_neg (by omega), Int.toNat_natCast]

theorem tubeFlush_eq (c : Cfg) (s : St) (x : Nat) :
    tubeFlush c s x = if ((getTube s (x % c.cap)).count : Int) < c.minKmers then s else retire c s (x : Int) := by
  rw [retire_nat]
  unfold tubeFlush
  simp only []
  split
  · rfl
  · rename_i h
    rw [decide_eq_true (by omega)]; rfl

theorem retire_done (c : Cfg) (st : St) (j : Nat) {i lo hi : Nat} (h : Done c i lo hi st) :
    Done c i lo hi (retire c st (j : Int)) := by
  rw [retire_nat]; exact put_done c st _ _ _ _ h

theorem lt_succ_div_mul (a b : Nat) (h : 0 < b) : a < (a / b + 1) * b :=
  Nat.lt_mul_of_div_lt (Nat.lt_succ_self _) h

/-- the filter parameters of the property, for the repaired retirement rule -/
structure WF (c : Cfg) : Prop where
  off_pos : 1 ≤ c.off
  err_le : c.maxError ≤ c.off
  cap_eq : c.cap = (c.tlen + (c.off + c.maxError) - 1) / c.off + 1
  rule : c.rule = { retireSubMaxError := true, flushFromLastTick := true, tickByPosition := true }

theorem WF.cap_pos {c : Cfg} (w : WF c) : 0 < c.cap := by rw [w.cap_eq]; exact Nat.succ_pos _

theorem WF.cap_mul {c : Cfg} (w : WF c) :
    c.tlen + c.maxError ≤ (c.cap - 1) * c.off ∧ c.tlen + c.off + c.maxError ≤ c.cap * c.off := by
  have h := lt_succ_div_mul (c.tlen + (c.off + c.maxError) - 1) c.off w.off_pos
  rw [← w.cap_eq] at h
  have h1 : (c.cap - 1) * c.off + c.off = c.cap * c.off := by
    rw [← Nat.succ_mul]; congr 1; have := w.cap_pos; omega
  have := w.off_pos
  omega

/-- query position of the `j`-th tick (`j = 0, 1, …`) -/
def tickPos (c : Cfg) (j : Nat) : Nat := (j + 1) * c.off + c.maxError - 1

theorem tickPos_succ {c : Cfg} (w : WF c) (j : Nat) : tickPos c (j + 1) = tickPos c j + c.off := by
  unfold tickPos
  have := w.off_pos
  have h : 1 ≤ (j + 1) * c.off := Nat.mul_pos (by omega) this
  rw [Nat.add_mul (j + 1) 1, Nat.one_mul]; omega

theorem tickPos_lt {c : Cfg} (w : WF c) {j j' : Nat} (h : j < j') : tickPos c j < tickPos c j' := by
  induction h with
  | refl => rw [tickPos_succ w]; have := w.off_pos; omega
  | step _ ih => rw [tickPos_succ w]; omega

theorem tickPos_inj {c : Cfg} (w : WF c) {j j' : Nat} (h : tickPos c j = tickPos c j') : j = j' := by
  rcases Nat.lt_trichotomy j j' with h1 | h1 | h1
  · have := tickPos_lt w h1; omega
  · exact h1
  · have := tickPos_lt w h1; omega

theorem tubeEndIndex_eq {c : Cfg} (w : WF c) {q : Nat} (h : c.maxError ≤ q) :
    tubeEndIndex c q = (((q - c.maxError) / c.off : Nat) : Int) := by
  unfold tubeEndIndex
  simp only [w.rule, if_true]
  rw [show (c.tlen : Int) - ((c.tlen : Int) - 1) + ((q : Int) - 1) - (c.maxError : Int) = ((q - c.maxError : Nat) : Int) by
    omega]
  rfl

/-- the number of ticks before query position `p`: tubes below it are retired, it is the next -/
def ticked (c : Cfg) (p : Nat) : Nat := (p - c.maxError) / c.off

theorem tickPos_lt_iff {c : Cfg} (w : WF c) (j p : Nat) : tickPos c j < p ↔ j < ticked c p := by
  have h : 0 < (j + 1) * c.off := Nat.mul_pos (Nat.succ_pos j) w.off_pos
  unfold tickPos ticked
  rw [Nat.lt_iff_add_one_le (m := j), Nat.le_div_iff_mul_le w.off_pos]
  omega

theorem ticked_tickPos {c : Cfg} (w : WF c) (j : Nat) : ticked c (tickPos c j) = j := by
  apply Nat.le_antisymm
  · exact Nat.le_of_not_lt fun h => Nat.lt_irrefl _ ((tickPos_lt_iff w _ _).mpr h)
  · exact Nat.le_of_not_lt fun h => Nat.lt_irrefl _ ((tickPos_lt_iff w _ _).mp (tickPos_lt w h))

theorem ticked_mono (c : Cfg) {p q : Nat} (h : p ≤ q) : ticked c p ≤ ticked c q :=
  Nat.div_le_div_right (Nat.sub_le_sub_right h _)

theorem ticked_mul_le (c : Cfg) (p : Nat) : ticked c p * c.off ≤ p :=
  Nat.le_trans (Nat.div_mul_le_self _ _) (Nat.sub_le _ _)

/-- with the repaired rule the tick at `tickPos j` retires tube `j` -/
theorem tubeEndIndex_tick {c : Cfg} (w : WF c) (j : Nat) : tubeEndIndex c (tickPos c j) = (j : Int) := by
  have h : 0 < (j + 1) * c.off := Nat.mul_pos (Nat.succ_pos j) w.off_pos
  rw [tubeEndIndex_eq w (by unfold tickPos; omega)]
  exact congrArg _ (ticked_tickPos w j)

theorem near_eq {x i n : Nat} (hmod : x % n = i % n) (h1 : x < i + n) (h2 : i < x + n) : x = i := by
  have key : ∀ {a b : Nat}, a % n = b % n → a < b → a + n ≤ b := by
    intro a b h hlt
    have hd : n ∣ b - a := Nat.dvd_of_mod_eq_zero (Nat.sub_mod_eq_zero_of_mod_eq h.symm)
    have := Nat.le_of_dvd (by omega) hd
    omega
  rcases Nat.lt_trichotomy x i with h | h | h
  · have := key hmod h; omega
  · exact h
  · have := key hmod.symm h; omega

/-- the tube indices that can be in use at query position `p`: `cap` of them, none retired -/
def InWin (c : Cfg) (p x : Nat) : Prop := ticked c p ≤ x ∧ x < ticked c p + c.cap

theorem InWin.inj {c : Cfg} {p x y : Nat} (hx : InWin c p x) (hy : InWin c p y) (h : x % c.cap = y % c.cap) :
    x = y :=
  near_eq h (Nat.lt_of_lt_of_le hx.2 (Nat.add_le_add_right hy.1 _)) (Nat.lt_of_lt_of_le hy.2 (Nat.add_le_add_right hx.1 _))

theorem lt_ticked_add_cap {c : Cfg} (w : WF c) {p x : Nat} (h : x * c.off ≤ c.tlen + p) : x < ticked c p + c.cap := by
  have h3 := lt_succ_div_mul (p - c.maxError) c.off w.off_pos
  obtain ⟨_, h4⟩ := w.cap_mul
  apply Nat.lt_of_mul_lt_mul_right (a := c.off)
  unfold ticked
  rw [Nat.add_mul] at h3 ⊢
  omega

/-- a tube whose tick has not passed and whose band has begun is in the window -/
theorem inWin_of_live {c : Cfg} (w : WF c) {p x : Nat} (h1 : p ≤ tickPos c x) (h2 : x * c.off ≤ c.tlen + p) :
    InWin c p x :=
  ⟨Nat.le_of_not_lt fun h => Nat.not_le_of_lt ((tickPos_lt_iff w x p).mpr h) h1, lt_ticked_add_cap w h2⟩

theorem inWin_ticked {c : Cfg} (w : WF c) (p : Nat) : InWin c p (ticked c p) :=
  ⟨Nat.le_refl _, Nat.lt_add_of_pos_right w.cap_pos⟩

/-- a diagonal index `d` lies in the band `[x·off, (x+1)·off + e)` of tube `x = d / off`, and also in the band of the
    tube below exactly when `d % off < e` -/
theorem band_geometry (off e d : Nat) (hoff : 0 < off) :
    (d / off * off ≤ d ∧ d < d / off * off + off + e) ∧
    (d / off ≠ 0 → (d / off - 1) * off ≤ d ∧ (d < (d / off - 1) * off + off + e ↔ d % off < e)) := by
  have h2 := Nat.div_add_mod d off
  have h3 : d % off < off := Nat.mod_lt d hoff
  rw [Nat.mul_comm] at h2
  refine ⟨⟨by omega, by omega⟩, fun h0 => ?_⟩
  have h4 : (d / off - 1) * off + off = d / off * off := by
    rw [← Nat.succ_mul, Nat.succ_eq_add_one, Nat.sub_one_add_one h0]
  constructor <;> omega

theorem band_live {c : Cfg} (w : WF c) {p d x : Nat} (hd1 : p + 1 ≤ d) (hd2 : d ≤ c.tlen + p)
    (hx1 : x * c.off ≤ d) (hx2 : d < x * c.off + c.off + c.maxError) : InWin c p x ∧ x * c.off ≤ c.tlen + p :=
  ⟨inWin_of_live w (by unfold tickPos; rw [Nat.add_mul]; omega) (Nat.le_trans hx1 hd2), Nat.le_trans hx1 hd2⟩

/-- the tube indices `commonKmer(t, p)` credits the k-mer to -/
def addressed (c : Cfg) (t p : Nat) : List Nat :=
  if selfCut c t p then []
  else if diagIndex c t p % c.off < c.maxError then
    [tubeIndex c (diagIndex c t p), if tubeIndex c (diagIndex c t p) = 0 then c.cap - 1 else tubeIndex c (diagIndex c t p) - 1]
  else [tubeIndex c (diagIndex c t p)]

theorem commonKmer_eq (c : Cfg) (s : St) (t p : Nat) :
    commonKmer c s t p = (addressed c t p).foldl (fun s x => hitTube c s x p) s := by
  unfold commonKmer addressed
  by_cases hcut : selfCut c t p = true
  · rw [if_pos hcut, if_pos hcut, List.foldl_nil]
  · rw [if_neg hcut, if_neg hcut]
    simp only []
    by_cases hprev : diagIndex c t p % c.off < c.maxError
    · rw [if_pos hprev, if_pos hprev, List.foldl_cons, List.foldl_cons, List.foldl_nil]
    · rw [if_neg hprev, if_neg hprev, List.foldl_cons, List.foldl_nil]

/-- every tube a k-mer at `p` is credited to is live, and lies on a diagonal of the comparison once the query is
    a tube wide -/
theorem addressed_live {c : Cfg} (w : WF c) {t p : Nat} (ht : t < c.tlen) :
    ∀ x ∈ addressed c t p, InWin c p x ∧
      ∀ q, p ≤ q → c.off + c.maxError ≤ q + 1 → x * c.off ≤ c.tlen + q := by
  have hd1 : p + 1 ≤ diagIndex c t p := by unfold diagIndex; omega
  have hd2 : diagIndex c t p ≤ c.tlen + p := by unfold diagIndex; omega
  obtain ⟨⟨ho1, ho2⟩, hprev⟩ := band_geometry c.off c.maxError (diagIndex c t p) w.off_pos
  have band : ∀ x, x * c.off ≤ diagIndex c t p → diagIndex c t p < x * c.off + c.off + c.maxError →
      InWin c p x ∧ ∀ q, p ≤ q → c.off + c.maxError ≤ q + 1 → x * c.off ≤ c.tlen + q := fun x h1 h2 =>
    ⟨(band_live w hd1 hd2 h1 h2).1, fun q hq _ => Nat.le_trans (band_live w hd1 hd2 h1 h2).2 (Nat.add_le_add_left hq _)⟩
  intro x hx
  unfold addressed tubeIndex at hx
  by_cases hcut : selfCut c t p = true
  · rw [if_pos hcut] at hx; cases hx
  · rw [if_neg hcut] at hx
    by_cases hp : diagIndex c t p % c.off < c.maxError
    · rw [if_pos hp] at hx
      rcases List.mem_cons.mp hx with rfl | hx
      · exact band _ ho1 ho2
      · rw [List.mem_singleton] at hx
        subst hx
        by_cases h0 : diagIndex c t p / c.off = 0
        · -- the wrap-around happens only before the first tick, where the window is `[0, cap)`
          rw [if_pos h0]
          have hd : diagIndex c t p < c.maxError := by
            rw [← Nat.mod_eq_of_lt ((Nat.div_eq_zero_iff_lt w.off_pos).mp h0)]; exact hp
          have hoff := w.off_pos
          have hT : ticked c p = 0 := Nat.div_eq_of_lt (by omega)
          have hcap := w.cap_pos
          have hc : (c.cap - 1) * c.off ≤ c.tlen + (c.off + c.maxError) - 1 := by
            rw [show c.cap - 1 = (c.tlen + (c.off + c.maxError) - 1) / c.off by have := w.cap_eq; omega]
            exact Nat.div_mul_le_self _ _
          exact ⟨⟨by omega, by omega⟩, fun q _ _ => by omega⟩
        · rw [if_neg h0]
          exact band _ (hprev h0).1 ((hprev h0).2.mpr hp)
    · rw [if_neg hp, List.mem_singleton] at hx
      subst hx
      exact band _ ho1 ho2

theorem kmers_eq (c : Cfg) (ts : List Nat) (p : Nat) (st : St) :
    ts.foldl (fun s t => commonKmer c s t p) st =
      (ts.flatMap fun t => addressed c t p).foldl (fun s x => hitTube c s x p) st := by
  rw [List.foldl_flatMap]
  exact congrArg (fun f => ts.foldl f st) (funext fun s => funext fun t => commonKmer_eq c s t p)

theorem kmers_live {c : Cfg} (w : WF c) {ts : List Nat} {p : Nat} (hts : ∀ t ∈ ts, t < c.tlen) :
    ∀ x ∈ ts.flatMap fun t => addressed c t p, InWin c p x ∧
      ∀ q, p ≤ q → c.off + c.maxError ≤ q + 1 → x * c.off ≤ c.tlen + q := fun x hx =>
  have ⟨t, ht, hxt⟩ := List.mem_flatMap.mp hx
  addressed_live w (hts t ht) x hxt

theorem tickLoop_done (c : Cfg) (passed fuel : Nat) (st : St) (ticker : Nat) (h : passed < ticker) :
    tickLoop c passed fuel st ticker = { st := st, ticker := ticker } := by
  cases fuel with
  | zero => rfl
  | succ n => rw [tickLoop, if_neg (by omega)]

/-- fuel beyond `passed + 1 - ticker` is never used (`tubeOffset ≥ 1`) -/
theorem tickLoop_more (c : Cfg) (hoff : 1 ≤ c.off) (passed : Nat) : ∀ (fuel : Nat) (st : St) (ticker d : Nat),
    passed + 1 - ticker ≤ fuel → tickLoop c passed (fuel + d) st ticker = tickLoop c passed fuel st ticker := by
  intro fuel
  induction fuel with
  | zero =>
    intro st ticker d h
    rw [tickLoop_done c passed _ st ticker (by omega), tickLoop_done c passed _ st ticker (by omega)]
  | succ n ih =>
    intro st ticker d h
    by_cases hle : ticker ≤ passed
    · rw [show n + 1 + d = (n + d) + 1 by omega, tickLoop, tickLoop, if_pos hle, if_pos hle]
      exact ih _ _ d (by omega)
    · rw [tickLoop_done c passed _ st ticker (by omega), tickLoop_done c passed _ st ticker (by omega)]

theorem tick_done (c : Cfg) (l : Loop) (passed : Nat) (h : passed < l.ticker) : tick c l passed = l := by
  unfold tick; rw [tickLoop_done c passed _ l.st l.ticker h]

theorem tick_unfold (c : Cfg) (hoff : 1 ≤ c.off) (l : Loop) (passed : Nat) (h : l.ticker ≤ passed) :
    tick c l passed = tick c { st := tubeEnd c l.st (l.ticker - 1), ticker := l.ticker + c.off } passed := by
  unfold tick
  simp only []
  rw [show passed + 1 - l.ticker = (passed - l.ticker) + 1 by omega, tickLoop, if_pos h]
  have hd : passed - l.ticker = (passed + 1 - (l.ticker + c.off)) + (passed - l.ticker - (passed + 1 - (l.ticker + c.off))) := by
    omega
  rw [hd, tickLoop_more c hoff passed _ _ _ _ (Nat.le_refl _)]

theorem tick_one (c : Cfg) (hoff : 1 ≤ c.off) (l : Loop) (passed : Nat) (h : l.ticker = passed) :
    tick c l passed = { st := tubeEnd c l.st (passed - 1), ticker := passed + c.off } := by
  rw [tick_unfold c hoff l passed (by omega), tick_done _ _ _ (by show passed < l.ticker + c.off; omega), h]

theorem le_tickPos_ticked {c : Cfg} (w : WF c) (p : Nat) : p ≤ tickPos c (ticked c p) :=
  Nat.le_of_not_lt fun h => Nat.lt_irrefl _ ((tickPos_lt_iff w _ _).mp h)

theorem ticked_succ {c : Cfg} (w : WF c) (p : Nat) :
    ticked c (p + 1) = if p = tickPos c (ticked c p) then ticked c p + 1 else ticked c p := by
  have hle := le_tickPos_ticked w p
  split
  · rename_i h
    refine Nat.le_antisymm (Nat.le_of_not_lt fun hlt => ?_) ((tickPos_lt_iff w _ _).mp (by omega))
    have := (tickPos_lt_iff w _ _).mpr hlt
    have := tickPos_lt w (Nat.lt_add_one (ticked c p))
    omega
  · rename_i h
    refine Nat.le_antisymm (Nat.le_of_not_lt fun hlt => h ?_) (ticked_mono c (Nat.le_succ p))
    have := (tickPos_lt_iff w _ _).mpr hlt
    omega

theorem tick_succ {c : Cfg} (w : WF c) (st : St) (p : Nat) :
    tick c { st := st, ticker := tickPos c (ticked c p) + 1 } (p + 1) =
      { st := if p = tickPos c (ticked c p) then retire c st (ticked c p) else st,
        ticker := tickPos c (ticked c (p + 1)) + 1 } := by
  have hle := le_tickPos_ticked w p
  rw [ticked_succ w]
  split
  · rename_i h
    rw [tick_one c w.off_pos _ (p + 1) (by show tickPos c (ticked c p) + 1 = p + 1; omega), Nat.add_sub_cancel,
      tickPos_succ w]
    unfold tubeEnd
    rw [h, tubeEndIndex_tick w, ← h]
    congr 1; omega
  · rw [tick_done _ _ _ (by show p + 1 < tickPos c (ticked c p) + 1; omega)]

/-- one query position of the scan: its common k-mers (none if the position has no callback), then
    the tubes that end with it -/
def stepPos (c : Cfg) (l : Loop) (p : Nat) (ts : List Nat) : Loop := tick c (kmers c l p ts) (p + 1)

/-- the scan of `Filter` position by position, for query positions `0 … N-1`; `ts p` are the target
    positions of the k-mer at query position `p` (`[]` where the callback is skipped).  This is the
    loop over the callbacks followed by the `tick` that catches up (`scan_calls` in
    `Proofs/FilterComplete.lean`). -/
def scanN (c : Cfg) (ts : Nat → List Nat) (l0 : Loop) (N : Nat) : Loop :=
  ((List.range N).map fun p => (p, ts p)).foldl (fun l call => stepPos c l call.1 call.2) l0

theorem scanN_succ (c : Cfg) (ts : Nat → List Nat) (l0 : Loop) (N : Nat) :
    scanN c ts l0 (N + 1) = stepPos c (scanN c ts l0 N) N (ts N) := by
  unfold scanN; rw [List.range_succ, List.map_append, List.foldl_append]; rfl

theorem scanN_ticker {c : Cfg} (w : WF c) (ts : Nat → List Nat) (l0 : Loop) (h0 : l0.ticker = c.off + c.maxError) (N : Nat) :
    (scanN c ts l0 N).ticker = tickPos c (ticked c N) + 1 := by
  induction N with
  | zero =>
    have := w.off_pos
    show l0.ticker = _
    rw [h0]; unfold tickPos ticked; rw [Nat.zero_sub, Nat.zero_div]; omega
  | succ N ih => rw [scanN_succ]; unfold stepPos kmers; rw [ih, tick_succ w]

theorem scanN_st_succ {c : Cfg} (w : WF c) (ts : Nat → List Nat) (l0 : Loop) (h0 : l0.ticker = c.off + c.maxError) (N : Nat) :
    (scanN c ts l0 (N + 1)).st =
      if N = tickPos c (ticked c N) then
        retire c ((ts N).foldl (fun s t => commonKmer c s t N) (scanN c ts l0 N).st) (ticked c N)
      else (ts N).foldl (fun s t => commonKmer c s t N) (scanN c ts l0 N).st := by
  rw [scanN_succ]; unfold stepPos kmers; rw [scanN_ticker w ts l0 h0 N, tick_succ w]

theorem tdiv_nonpos {x y : Int} (hx : x < 0) (hy : 0 < y) : x.tdiv y ≤ 0 := by
  have h1 : x = -(-x) := by omega
  rw [h1, Int.neg_tdiv]
  have := Int.tdiv_nonneg (show 0 ≤ -x by omega) (show 0 ≤ y by omega)
  omega

def flushTo (c : Cfg) (qlen : Nat) : Nat := (c.tlen + (qlen - 1) + (c.off + c.maxError)) / c.off

/-- the final flush (repaired rule) starts at the first tube no tick has retired -/
theorem flushRange_eq {c : Cfg} (w : WF c) (qlen : Nat) (hq : c.k ≤ qlen) (hq1 : 1 ≤ qlen) :
    flushRange c qlen = (ticked c (qlen - c.k + 1), (flushTo c qlen : Int)) := by
  unfold flushRange ticked flushTo
  simp only [w.rule, if_true]
  have hoff := w.off_pos
  congr 1
  · by_cases hneg : ((qlen : Int) - c.k + 1) - c.maxError < 0
    · have h1 := tdiv_nonpos hneg (show (0 : Int) < c.off by omega)
      have h2 : qlen - c.k + 1 - c.maxError = 0 := by omega
      rw [h2, Nat.zero_div]
      generalize (((qlen : Int) - c.k + 1) - c.maxError).tdiv (c.off : Int) = z at h1 ⊢
      split <;> omega
    · have hcast : ((qlen : Int) - c.k + 1) - c.maxError = ((qlen - c.k + 1 - c.maxError : Nat) : Int) := by omega
      rw [hcast]
      have hd : ((qlen - c.k + 1 - c.maxError : Nat) : Int).tdiv (c.off : Int)
          = (((qlen - c.k + 1 - c.maxError) / c.off : Nat) : Int) := rfl
      rw [hd, if_neg (Int.not_lt.mpr (Int.natCast_nonneg _)), Int.toNat_natCast]
  · have hcast : (c.tlen : Int) + ((qlen : Int) - 1) + ((c.off : Int) + c.maxError)
        = ((c.tlen + (qlen - 1) + (c.off + c.maxError) : Nat) : Int) := by omega
    rw [hcast]; rfl

theorem getTube_init (cap : Nat) (slot : Nat) :
    getTube { tubes := Array.replicate cap default, hits := [] } slot = default := by
  unfold getTube
  rw [Array.getElem?_replicate]
  split <;> rfl

/-- the state of `Filter` after the scan of `N` positions, the final `tubeEnd` and the flush -/
def runFilter (c : Cfg) (ts : Nat → List Nat) (N qlen : Nat) : St :=
  let l0 : Loop := { st := { tubes := Array.replicate c.cap default, hits := [] }, ticker := c.off + c.maxError }
  let l := scanN c ts l0 N
  let st := tubeEnd c l.st (qlen - 1)
  let r := flushRange c qlen
  flushLoop c ((r.2 + 1 - r.1).toNat) r.1 st

theorem le_flushTo {c : Cfg} (w : WF c) {qlen x : Nat} (h : x * c.off ≤ c.tlen + (qlen - c.k)) : x ≤ flushTo c qlen := by
  have hoff := w.off_pos
  unfold flushTo
  rw [Nat.le_div_iff_mul_le hoff]
  omega

/-- the scan with the callback-counting ticker (the code before fix `0c69d0c`), on a query in which
    every position `0 … N-1` has a callback -/
def scanCount (c : Cfg) (ts : Nat → List Nat) (l0 : Loop) (N : Nat) : Loop :=
  ((List.range N).map fun p => (p, ts p)).foldl (fun l call => onKmerCount c l call.1 call.2) l0

theorem scanCount_succ (c : Cfg) (ts : Nat → List Nat) (l0 : Loop) (N : Nat) :
    scanCount c ts l0 (N + 1) = onKmerCount c (scanCount c ts l0 N) N (ts N) := by
  unfold scanCount; rw [List.range_succ, List.map_append, List.foldl_append]; rfl

/-- where every position has a callback the countdown of callbacks and the ticker that follows the
    query position drive the tubes through the same states: the countdown is `ticker - position` -/
theorem scanCount_eq (c : Cfg) (hoff : 1 ≤ c.off) (ts : Nat → List Nat) (l0 : Loop) (h0 : 1 ≤ l0.ticker) (N : Nat) :
    (scanCount c ts l0 N).st = (scanN c ts l0 N).st ∧
    (scanCount c ts l0 N).ticker + N = (scanN c ts l0 N).ticker ∧ N < (scanN c ts l0 N).ticker := by
  induction N with
  | zero => exact ⟨rfl, rfl, h0⟩
  | succ N ih =>
    obtain ⟨h1, h2, h3⟩ := ih
    rw [scanCount_succ, scanN_succ]
    unfold onKmerCount stepPos kmers
    simp only []
    rw [h1]
    by_cases hfire : (scanCount c ts l0 N).ticker - 1 = 0
    · rw [if_pos hfire, tick_one c hoff _ (N + 1) (by show (scanN c ts l0 N).ticker = N + 1; omega)]
      refine ⟨?_, ?_, ?_⟩
      · show tubeEnd c _ N = tubeEnd c _ (N + 1 - 1)
        rw [Nat.add_sub_cancel]
      · show c.off + (N + 1) = N + 1 + c.off
        omega
      · show N + 1 < N + 1 + c.off
        omega
    · rw [if_neg hfire, tick_done c _ (N + 1) (by show N + 1 < (scanN c ts l0 N).ticker; omega)]
      refine ⟨rfl, ?_, ?_⟩
      · show (scanCount c ts l0 N).ticker - 1 + (N + 1) = (scanN c ts l0 N).ticker
        omega
      · show N + 1 < (scanN c ts l0 N).ticker
        omega

/-- one match as the run sees it: `m ≥ threshold` shared k-mers at query positions within `[lo, hi]`,
    `hi - lo ≤ maxKmerDist`, on tube `i`, complete before the tick that retires it -/
structure Match (c : Cfg) (i lo hi m : Nat) : Prop where
  thr : (m : Int) ≥ c.minKmers
  pos : 1 ≤ m
  dist : (hi : Int) - lo ≤ c.maxKmerDist
  band : i * c.off ≤ c.tlen + lo
  lohi : lo ≤ hi
  hiq : hi ≤ tickPos c i

theorem Match.inWin {c : Cfg} (w : WF c) {i lo hi m : Nat} (M : Match c i lo hi m) {p : Nat}
    (hlo : lo ≤ p) (hq : p ≤ tickPos c i) : InWin c p i :=
  inWin_of_live w hq (Nat.le_trans M.band (Nat.add_le_add_left hlo _))

/-- State of the scan relative to one match, while events at query position `p` are processed and
    `r` of the `m` shared k-mers of the match have been processed (`pos`: those at positions below
    `p`, and the one at `p` once it is processed).  `run`: once a shared k-mer is processed the match is covered,
    or the run in its slot holds all that are processed.  `late`: the match is covered before the scan passes the
    tick that retires tube `i`. -/
structure MInv (c : Cfg) (i lo hi m : Nat) (st : St) (p r : Nat) : Prop where
  nopanic : st.panic = false
  size : st.tubes.size = c.cap
  pos : r ≤ m ∧ (1 ≤ r → lo ≤ p) ∧ (r < m → p ≤ hi) ∧ (r = m → hi ≤ p)
  wf : (getTube st (i % c.cap)).count > 0 →
    (getTube st (i % c.cap)).qLo ≤ (getTube st (i % c.cap)).qHi ∧ (getTube st (i % c.cap)).qHi ≤ p
  run : 1 ≤ r → Done c i lo hi st ∨
    (r ≤ (getTube st (i % c.cap)).count ∧ (getTube st (i % c.cap)).qLo ≤ lo ∧
      lo ≤ (getTube st (i % c.cap)).qHi ∧ (r = m → hi ≤ (getTube st (i % c.cap)).qHi))
  late : Done c i lo hi st ∨ p ≤ tickPos c i

theorem MInv.put_self {c : Cfg} {i lo hi m p r r' : Nat} {st : St} (inv : MInv c i lo hi m st p r)
    (label : Int) (emit : Bool) (v : Tube) (hcap : 0 < c.cap)
    (pos : r' ≤ m ∧ (1 ≤ r' → lo ≤ p) ∧ (r' < m → p ≤ hi) ∧ (r' = m → hi ≤ p))
    (wf : v.count > 0 → v.qLo ≤ v.qHi ∧ v.qHi ≤ p)
    (run : 1 ≤ r' → Done c i lo hi (put c st (i % c.cap) label emit v) ∨
      (r' ≤ v.count ∧ v.qLo ≤ lo ∧ lo ≤ v.qHi ∧ (r' = m → hi ≤ v.qHi))) :
    MInv c i lo hi m (put c st (i % c.cap) label emit v) p r' := by
  have hs := getTube_put_self c st label emit v (show i % c.cap < st.tubes.size by rw [inv.size]; exact Nat.mod_lt _ hcap)
  exact ⟨(put_panic ..).trans inv.nopanic, (put_size ..).trans inv.size, pos, by rw [hs]; exact wf, by rw [hs]; exact run,
    inv.late.imp (put_done _ _ _ _ _ _) id⟩

theorem MInv.put_other {c : Cfg} {i lo hi m p r slot : Nat} {st : St} (inv : MInv c i lo hi m st p r)
    (label : Int) (emit : Bool) (v : Tube) (h : slot ≠ i % c.cap) : MInv c i lo hi m (put c st slot label emit v) p r := by
  have hs : getTube (put c st slot label emit v) (i % c.cap) = getTube st (i % c.cap) := by
    rw [getTube_put, if_neg fun hh => h hh.1]
  exact ⟨(put_panic ..).trans inv.nopanic, (put_size ..).trans inv.size, inv.pos, by rw [hs]; exact inv.wf,
    fun hr => by rw [hs]; exact (inv.run hr).imp (put_done _ _ _ _ _ _) id, inv.late.imp (put_done _ _ _ _ _ _) id⟩

/-- a hit on a tube of the window that is not (counted as) a shared k-mer of the match keeps the invariant: in the
    window a slot determines its tube -/
theorem hitTube_pres {c : Cfg} (w : WF c) {i lo hi m : Nat} (M : Match c i lo hi m) {st : St} {p r ti : Nat}
    (inv : MInv c i lo hi m st p r) (hx : InWin c p ti) : MInv c i lo hi m (hitTube c st ti p) p r := by
  have hcap := w.cap_pos
  have hthr := M.thr
  have hD := M.dist
  rw [hitTube_put]
  by_cases hslot : ti % c.cap = i % c.cap
  · rw [hslot]
    by_cases hnew : (getTube st (i % c.cap)).count = 0 ∨ (p : Int) - (getTube st (i % c.cap)).qHi > c.maxKmerDist
    · -- a run that starts with this k-mer: the match is covered already, or its complete run is emitted here
      rw [if_pos hnew]
      refine inv.put_self _ _ _ hcap inv.pos (fun _ => ⟨Nat.le_refl _, Nat.le_refl _⟩) fun hr => Or.inl ?_
      by_cases hd : Done c i lo hi st
      · exact put_done _ _ _ _ _ _ hd
      · obtain ⟨hc, hqlo, hqhi, hlast⟩ := (inv.run hr).resolve_left hd
        have hgap := hnew.resolve_left (by omega)
        -- the gap exceeds `hi - lo`: the run held all shared k-mers, and is emitted under the match's own index
        have hrm : r = m := by
          apply Classical.byContradiction; intro hrm
          have := inv.pos.1
          have := inv.pos.2.2.1 (by omega)
          omega
        have hti := hx.inj (M.inWin w (Nat.le_trans M.lohi (inv.pos.2.2.2 hrm)) (inv.late.resolve_left hd)) hslot
        subst hti
        obtain ⟨x, hx, hxd⟩ := addHit_done c ti lo hi st _ _ hqlo (hlast hrm)
        exact ⟨x, by rw [put_hits, if_pos (decide_eq_true ⟨by omega, hgap, by omega⟩)]; exact hx, hxd⟩
    · rw [if_neg hnew]
      have hw := inv.wf (Nat.pos_of_ne_zero fun h => hnew (Or.inl h))
      refine inv.put_self _ _ _ hcap inv.pos (fun _ => ⟨by simp only []; omega, Nat.le_refl _⟩) fun hr => ?_
      exact (inv.run hr).imp (put_done _ _ _ _ _ _) fun ⟨hc, hqlo, hqhi, hlast⟩ =>
        ⟨by simp only []; omega, hqlo, inv.pos.2.1 hr, inv.pos.2.2.2⟩
  · exact inv.put_other _ _ _ hslot

/-- the hit that is the next shared k-mer of the match, on its own tube `i`: `r` advances.  `h0`, `hlast`: the
    first of them is the one at `lo`, the last the one at `hi` -/
theorem hitTube_shared {c : Cfg} (w : WF c) {i lo hi m : Nat} (M : Match c i lo hi m) {st : St} {p r : Nat}
    (inv : MInv c i lo hi m st p r) (hr : r < m) (h0 : r = 0 → p = lo) (hlast : r + 1 = m → p = hi) :
    MInv c i lo hi m (hitTube c st i p) p (r + 1) := by
  have hcap := w.cap_pos
  have hD := M.dist
  have hhi : p ≤ hi := inv.pos.2.2.1 hr
  have hlo : lo ≤ p := (Nat.eq_zero_or_pos r).elim (fun h => Nat.le_of_eq (h0 h).symm) inv.pos.2.1
  have hpos : r + 1 ≤ m ∧ (1 ≤ r + 1 → lo ≤ p) ∧ (r + 1 < m → p ≤ hi) ∧ (r + 1 = m → hi ≤ p) :=
    ⟨hr, fun _ => hlo, fun _ => hhi, fun h => Nat.le_of_eq (hlast h).symm⟩
  rw [hitTube_put]
  by_cases hnew : (getTube st (i % c.cap)).count = 0 ∨ (p : Int) - (getTube st (i % c.cap)).qHi > c.maxKmerDist
  · -- a run that starts with this k-mer: it is the first of the match, or the match is covered already
    rw [if_pos hnew]
    refine inv.put_self _ _ _ hcap hpos (fun _ => ⟨Nat.le_refl _, Nat.le_refl _⟩) fun _ => ?_
    by_cases hr0 : r = 0
    · exact Or.inr ⟨Nat.le_of_eq (by rw [hr0]), Nat.le_of_eq (h0 hr0), hlo, fun h => Nat.le_of_eq (hlast h).symm⟩
    · rcases inv.run (Nat.pos_of_ne_zero hr0) with hd | ⟨hc, hqlo, hqhi, _⟩
      · exact Or.inl (put_done _ _ _ _ _ _ hd)
      · have := hnew.resolve_left (by omega)
        omega
  · rw [if_neg hnew]
    have hw := inv.wf (Nat.pos_of_ne_zero fun h => hnew (Or.inl h))
    refine inv.put_self _ _ _ hcap hpos (fun _ => ⟨by simp only []; omega, Nat.le_refl _⟩) fun _ => ?_
    by_cases hr0 : r = 0
    · have := h0 hr0
      exact Or.inr ⟨by simp only []; omega, by simp only []; omega, hlo, fun h => Nat.le_of_eq (hlast h).symm⟩
    · exact (inv.run (Nat.pos_of_ne_zero hr0)).imp (put_done _ _ _ _ _ _) fun ⟨hc, hqlo, hqhi, _⟩ =>
        ⟨by simp only []; omega, hqlo, hlo, fun h => Nat.le_of_eq (hlast h).symm⟩

theorem hits_pres {c : Cfg} (w : WF c) {i lo hi m : Nat} (M : Match c i lo hi m) {p r : Nat} (xs : List Nat)
    (hxs : ∀ x ∈ xs, InWin c p x) {st : St} (inv : MInv c i lo hi m st p r) :
    MInv c i lo hi m (xs.foldl (fun s x => hitTube c s x p) st) p r :=
  List.foldlRecOn (motive := fun s => MInv c i lo hi m s p r) _ _ inv fun _ hs x hx => hitTube_pres w M hs (hxs x hx)

theorem fold_pres {c : Cfg} (w : WF c) {i lo hi m : Nat} (p r : Nat) (ts : List Nat) (st : St)
    (hts : ∀ t ∈ ts, t < c.tlen)
    (M : Match c i lo hi m) (inv : MInv c i lo hi m st p r) :
    MInv c i lo hi m (ts.foldl (fun s t => commonKmer c s t p) st) p r := by
  rw [kmers_eq]
  exact hits_pres w M _ (fun x hx => (kmers_live w hts x hx).1) inv

theorem fold_shared {c : Cfg} (w : WF c) {i lo hi m : Nat} (p r : Nat) (ts : List Nat) (st : St) (t : Nat)
    (hts : ∀ t ∈ ts, t < c.tlen) (hmem : t ∈ ts)
    (M : Match c i lo hi m) (inv : MInv c i lo hi m st p r)
    (hcut : selfCut c t p = false) (hti : tubeIndex c (diagIndex c t p) = i)
    (hr : r < m) (h0 : r = 0 → p = lo) (hlast : r + 1 = m → p = hi) :
    MInv c i lo hi m (ts.foldl (fun s t => commonKmer c s t p) st) p (r + 1) := by
  have hlive := fun x hx => (kmers_live w (p := p) hts x hx).1
  obtain ⟨ts₁, ts₂, rfl⟩ := List.append_of_mem hmem
  -- the hit on the match's own tube is the first of the hits of `t`
  obtain ⟨rest, hrest⟩ : ∃ rest, addressed c t p = i :: rest := by
    unfold addressed; rw [hcut, hti]; simp only [Bool.false_eq_true, if_false]; split <;> exact ⟨_, rfl⟩
  rw [kmers_eq]
  rw [List.flatMap_append, List.flatMap_cons, hrest, List.cons_append] at hlive ⊢
  rw [List.foldl_append, List.foldl_cons]
  exact hits_pres w M _ (fun x hx => hlive x (List.mem_append_right _ (List.mem_cons_of_mem _ hx)))
    (hitTube_shared w M (hits_pres w M _ (fun x hx => hlive x (List.mem_append_left _ hx)) inv) hr h0 hlast)

/-- the scan moves on to position `p + 1`: the one place where `pos` is re-established.  `hall`: every shared
    k-mer up to `p` is processed -/
theorem pos_step {c : Cfg} {i lo hi m p r : Nat} {st : St} (inv : MInv c i lo hi m st p r)
    (h : Done c i lo hi st ∨ p ≠ tickPos c i) (hall : hi ≤ p → r = m) : MInv c i lo hi m st (p + 1) r :=
  ⟨inv.nopanic, inv.size,
    ⟨inv.pos.1, fun h => Nat.le_succ_of_le (inv.pos.2.1 h),
      fun h => Nat.lt_of_not_le fun hle => Nat.ne_of_lt h (hall hle),
      fun h => Nat.le_succ_of_le (inv.pos.2.2.2 h)⟩,
    fun h => by have := inv.wf h; omega, inv.run, h.elim Or.inl fun hne => inv.late.imp id (by omega)⟩

/-- retiring tube `j`, at a tick or at the end of the query.  `halias`: while the match is open a tube in its slot is
    its own tube, and is retired only when the run is complete — so the run is emitted under the match's index -/
theorem retire_pres {c : Cfg} (w : WF c) {i lo hi m : Nat} (M : Match c i lo hi m) {st : St} {p r : Nat} (j : Nat)
    (inv : MInv c i lo hi m st p r)
    (halias : 1 ≤ r → ¬ Done c i lo hi st → j % c.cap = i % c.cap → j = i ∧ r = m) :
    MInv c i lo hi m (retire c st (j : Int)) p r ∧
      (1 ≤ r → j % c.cap = i % c.cap → Done c i lo hi (retire c st (j : Int))) := by
  have hcap := w.cap_pos
  have hthr := M.thr
  rw [retire_nat]
  by_cases hslot : j % c.cap = i % c.cap
  · have hd : 1 ≤ r → Done c i lo hi (put c st (j % c.cap) j (decide (((getTube st (j % c.cap)).count : Int) ≥ c.minKmers))
        { getTube st (j % c.cap) with count := 0 }) := fun hr => by
      by_cases hd : Done c i lo hi st
      · exact put_done _ _ _ _ _ _ hd
      · obtain ⟨hji, hrm⟩ := halias hr hd hslot
        obtain ⟨hc, hqlo, _, hlast⟩ := (inv.run hr).resolve_left hd
        subst hji
        obtain ⟨x, hx, hxd⟩ := addHit_done c j lo hi st _ _ hqlo (hlast hrm)
        exact ⟨x, by rw [put_hits, decide_eq_true (by omega), if_pos rfl]; exact hx, hxd⟩
    refine ⟨?_, fun hr _ => hd hr⟩
    rw [hslot] at hd ⊢
    exact inv.put_self _ _ _ hcap inv.pos (fun h => absurd h (Nat.lt_irrefl 0)) fun hr => Or.inl (hd hr)
  · exact ⟨inv.put_other _ _ _ hslot, fun _ h => absurd h hslot⟩

theorem retire_step {c : Cfg} (w : WF c) {i lo hi m : Nat} (st : St) (p r : Nat)
    (M : Match c i lo hi m) (inv : MInv c i lo hi m st p r) (hp : p = tickPos c (ticked c p))
    (hall : hi ≤ p → r = m) :
    MInv c i lo hi m (retire c st (ticked c p : Nat)) (p + 1) r := by
  -- the tick retires the first tube of the window; while the match is open its tube is in the window
  obtain ⟨inv', hd⟩ := retire_pres w M (ticked c p) inv fun hr hnd hslot => by
    have hji := (inWin_ticked w p).inj (M.inWin w (inv.pos.2.1 hr) (inv.late.resolve_left hnd)) hslot
    exact ⟨hji, hall (by rw [hp, hji]; exact M.hiq)⟩
  refine pos_step inv' (Classical.or_iff_not_imp_right.mpr fun hpq => ?_) hall
  have hpq := Classical.not_not.mp hpq
  have hji : ticked c p = i := by rw [hpq, ticked_tickPos w]
  exact hd (by have := hall (hpq ▸ M.hiq); have := M.pos; omega) (by rw [hji])

/-- the `r` of `MInv` when the scan reaches position `N`; `sh p`: a shared k-mer of the match is at `p` -/
def R (sh : Nat → Bool) (N : Nat) : Nat := (List.range N).countP sh

theorem R_succ (sh : Nat → Bool) (N : Nat) : R sh (N + 1) = R sh N + (if sh N then 1 else 0) := by
  unfold R; rw [List.range_succ, List.countP_append, List.countP_singleton]

theorem R_mono (sh : Nat → Bool) {N N' : Nat} (h : N ≤ N') : R sh N ≤ R sh N' := by
  induction h with
  | refl => exact Nat.le_refl _
  | step _ ih => rw [R_succ]; omega

/-- ties `lo`, `hi`, `m` of `Match` to the marking `sh`; with `Events`, what `run_complete` asks of the query -/
structure Shared (sh : Nat → Bool) (lo hi m : Nat) : Prop where
  range : ∀ p, sh p = true → lo ≤ p ∧ p ≤ hi
  first : sh lo = true
  last : sh hi = true
  total : m = R sh (hi + 1)

theorem R_const (sh : Nat → Bool) {N N' : Nat} (h : N ≤ N') (hno : ∀ p, N ≤ p → p < N' → sh p = false) :
    R sh N' = R sh N := by
  induction h with
  | refl => rfl
  | @step M hM ih =>
    rw [R_succ, hno M hM (Nat.lt_succ_self M), ih fun p h1 h2 => hno p h1 (Nat.lt_succ_of_lt h2)]
    rfl

theorem Shared.R_after {sh : Nat → Bool} {lo hi m : Nat} (s : Shared sh lo hi m) (N : Nat) (h : hi < N) : R sh N = m :=
  (R_const sh h fun p h1 _ => Bool.eq_false_iff.mpr fun hs => by have := (s.range p hs).2; omega).trans s.total.symm

theorem Shared.R_before {sh : Nat → Bool} {lo hi m : Nat} (s : Shared sh lo hi m) (N : Nat) (h : N ≤ hi) : R sh N < m := by
  have h1 := R_mono sh h
  have h2 := R_succ sh hi
  rw [s.last] at h2
  rw [s.total]; simp at h2; omega

theorem Shared.R_zero {sh : Nat → Bool} {lo hi m : Nat} (s : Shared sh lo hi m) (N : Nat) (h0 : R sh N = 0)
    (hs : sh N = true) : N = lo := by
  have hlo := (s.range N hs).1
  apply Classical.byContradiction; intro hne
  have h1 := R_mono sh (show lo + 1 ≤ N by omega)
  rw [R_succ, s.first] at h1
  simp at h1; omega

theorem Shared.R_last {sh : Nat → Bool} {lo hi m : Nat} (s : Shared sh lo hi m) (N : Nat) (h1 : R sh N + 1 = m)
    (hs : sh N = true) : N = hi := by
  have hhi := (s.range N hs).2
  apply Classical.byContradiction; intro hne
  have h2 := R_mono sh (show N + 1 ≤ hi by omega)
  have h3 := R_succ sh hi
  have h4 := R_succ sh N
  rw [s.last] at h3; rw [hs] at h4
  rw [s.total] at h1; simp at h3 h4; omega

/-- what the match needs from the scan: every shared position `p` has its target position
    `tstar p` among the target positions of the k-mer at `p`, on the match's tube, not cut -/
structure Events (c : Cfg) (i : Nat) (sh : Nat → Bool) (tstar : Nat → Nat) (ts : Nat → List Nat) : Prop where
  bound : ∀ p t, t ∈ ts p → t < c.tlen
  mem : ∀ p, sh p = true → tstar p ∈ ts p
  cut : ∀ p, sh p = true → selfCut c (tstar p) p = false
  tube : ∀ p, sh p = true → tubeIndex c (diagIndex c (tstar p) p) = i

theorem scan_inv {c : Cfg} (w : WF c) (i lo hi m : Nat) (sh : Nat → Bool) (tstar : Nat → Nat)
    (ts : Nat → List Nat) (l0 : Loop) (h0 : l0.ticker = c.off + c.maxError)
    (hs : Shared sh lo hi m) (he : Events c i sh tstar ts)
    (M : Match c i lo hi m)
    (hi0 : MInv c i lo hi m l0.st 0 0) (N : Nat) :
    MInv c i lo hi m (scanN c ts l0 N).st N (R sh N) := by
  induction N with
  | zero => exact hi0
  | succ N ih =>
    rw [scanN_st_succ w ts l0 h0 N]
    have hall : hi ≤ N → R sh (N + 1) = m := fun h => hs.R_after (N + 1) (Nat.lt_succ_of_le h)
    have inv1 : MInv c i lo hi m ((ts N).foldl (fun s t => commonKmer c s t N) (scanN c ts l0 N).st) N
        (R sh (N + 1)) := by
      rw [R_succ]
      by_cases hsh : sh N = true
      · rw [if_pos hsh]
        exact fold_shared w N (R sh N) (ts N) (scanN c ts l0 N).st (tstar N) (he.bound N) (he.mem N hsh) M ih
          (he.cut N hsh) (he.tube N hsh) (hs.R_before N (hs.range N hsh).2)
          (fun h => hs.R_zero N h hsh) (fun h => hs.R_last N h hsh)
      · rw [if_neg hsh]
        exact fold_pres w N (R sh N) (ts N) (scanN c ts l0 N).st (he.bound N) M ih
    split
    · rename_i hfire
      exact retire_step w _ N _ M inv1 hfire hall
    · rename_i hfire
      exact pos_step inv1 (Or.inr fun hpq => hfire (by rw [hpq, ticked_tickPos w])) hall

theorem flushLoop_done {c : Cfg} (w : WF c) {i lo hi m p : Nat} (M : Match c i lo hi m) (n x : Nat) (st : St)
    (inv : MInv c i lo hi m st p m)
    (hx : Done c i lo hi st ∨ x ≤ i) (hin : i < x + n) (hnear : i < x + c.cap) :
    MInv c i lo hi m (flushLoop c n x st) p m ∧ Done c i lo hi (flushLoop c n x st) := by
  induction n generalizing x st with
  | zero => exact ⟨inv, hx.resolve_right (by omega)⟩
  | succ n ih =>
    rw [flushLoop, tubeFlush_eq]
    split
    · -- nothing to emit in this slot: it is not the complete run of the match
      rename_i hlow
      by_cases hd : Done c i lo hi st
      · exact ih (x + 1) st inv (Or.inl hd) (by omega) (by omega)
      · refine ih (x + 1) st inv (Or.inr (Nat.lt_of_le_of_ne (hx.resolve_left hd) fun e => ?_)) (by omega) (by omega)
        have := ((inv.run M.pos).resolve_left hd).1
        have := M.thr
        rw [e] at hlow; omega
    · obtain ⟨inv', hd⟩ := retire_pres w M x inv fun _ hnd hslot =>
        ⟨near_eq hslot (by have := hx.resolve_left hnd; omega) hnear, rfl⟩
      refine ih (x + 1) _ inv' ?_ (by omega) (by omega)
      by_cases hslot : x % c.cap = i % c.cap
      · exact Or.inl (hd M.pos hslot)
      · exact hx.imp (retire_done c st x) fun hle => Nat.lt_of_le_of_ne hle fun e => hslot (by rw [e])

theorem flush_complete {c : Cfg} (w : WF c) {i lo hi m : Nat} (M : Match c i lo hi m) (st : St) (qlen : Nat)
    (hk2 : 2 ≤ c.k) (hkt : c.k ≤ c.tlen) (hq : c.k ≤ qlen) (hqe : c.maxError + 1 ≤ qlen) (hhi : hi + c.k ≤ qlen)
    (inv : MInv c i lo hi m st (qlen - c.k + 1) m) :
    (flushLoop c (((flushRange c qlen).2 + 1 - (flushRange c qlen).1).toNat) (flushRange c qlen).1
        (tubeEnd c st (qlen - 1))).panic = false ∧
      Done c i lo hi (flushLoop c (((flushRange c qlen).2 + 1 - (flushRange c qlen).1).toNat) (flushRange c qlen).1
        (tubeEnd c st (qlen - 1))) := by
  have hi' : i * c.off ≤ c.tlen + (qlen - c.k) := by have := M.band; have := M.lohi; omega
  -- while no hit is pushed the match's tube is in the window of the last position
  have hwin : ¬ Done c i lo hi st → InWin c (qlen - c.k + 1) i := fun hnd =>
    M.inWin w (by have := M.lohi; omega) (inv.late.resolve_left hnd)
  -- so is the tube the final `tubeEnd` retires
  have hj0 : InWin c (qlen - c.k + 1) (ticked c (qlen - 1)) :=
    ⟨ticked_mono c (by omega), lt_ticked_add_cap w (by have := ticked_mul_le c (qlen - 1); omega)⟩
  unfold tubeEnd
  rw [tubeEndIndex_eq w (by omega)]
  obtain ⟨inv2, _⟩ := retire_pres w M (ticked c (qlen - 1)) inv fun _ hnd hmod =>
    ⟨hj0.inj (hwin hnd) hmod, rfl⟩
  have hx := (Classical.em (Done c i lo hi st)).imp (retire_done c st (ticked c (qlen - 1))) fun hnd => (hwin hnd).1
  have hiT := le_flushTo w hi'
  rw [flushRange_eq w qlen hq (by omega)]
  simp only []
  rw [show ((flushTo c qlen : Int) + 1 - (ticked c (qlen - c.k + 1) : Int)).toNat = flushTo c qlen + 1 - ticked c (qlen - c.k + 1) by omega]
  obtain ⟨h1, h2⟩ := flushLoop_done w M (flushTo c qlen + 1 - ticked c (qlen - c.k + 1)) (ticked c (qlen - c.k + 1)) _ inv2 hx
    (by omega) (lt_ticked_add_cap w (by omega))
  exact ⟨h1.nopanic, h2⟩

/-- Completeness of the repaired tube state machine for one match: if the shared k-mers of the
    match (`m ≥ threshold` of them, at query positions within `[lo, hi]`, `hi - lo ≤ maxKmerDist`,
    all on tube `i`) are among the common k-mers the scan processes, a hit on the diagonal of tube
    `i` whose query interval contains `[lo, hi + k)` is pushed. -/
theorem run_complete {c : Cfg} (w : WF c) (i lo hi m : Nat) (sh : Nat → Bool) (tstar : Nat → Nat)
    (ts : Nat → List Nat) (qlen : Nat)
    (hk2 : 2 ≤ c.k) (hkt : c.k ≤ c.tlen) (hq : c.k ≤ qlen) (hqe : c.maxError + 1 ≤ qlen)
    (hs : Shared sh lo hi m) (he : Events c i sh tstar ts) (M : Match c i lo hi m)
    (hhi : hi + c.k ≤ qlen) :
    (runFilter c ts (qlen - c.k + 1) qlen).panic = false ∧
    Done c i lo hi (runFilter c ts (qlen - c.k + 1) qlen) := by
  have hm := M.pos
  have h0 : MInv c i lo hi m { tubes := Array.replicate c.cap default, hits := [] } 0 0 :=
    ⟨rfl, Array.size_replicate, ⟨Nat.zero_le _, fun h => by omega, fun _ => Nat.zero_le _, fun h => by omega⟩,
      fun h => by rw [getTube_init] at h; exact absurd h (Nat.lt_irrefl 0), fun h => by omega, Or.inr (Nat.zero_le _)⟩
  have hscan := scan_inv w i lo hi m sh tstar ts
    { st := { tubes := Array.replicate c.cap default, hits := [] }, ticker := c.off + c.maxError } rfl hs he M h0
    (qlen - c.k + 1)
  rw [hs.R_after _ (by omega)] at hscan
  exact flush_complete w M _ qlen hk2 hkt hq hqe hhi hscan

end Biogo.Proofs.FilterRun
