/-
Proofs about the FASTQ model.  The loop of `Read` is taken as an iterated step on trimmed
lines; totality is proved of that step.  `fastqLines_calls` reads the lines of a laid-out file
(`FastqLines`), the last of which may be what is pending at `io.EOF`; `Write` emits such a layout.
-/
import Biogo.Proofs.Fasta
import Biogo.Proofs.LineInput
import Biogo.Model.Fastq

namespace Biogo.Fastq
open Biogo.Go.Bytes Biogo.Spec.Seqio
open Biogo.Fasta (LinesRel padded_trim endsVisible_nil endsVisible_of_all nameOK_iff headerLine_endsVisible
  headerLine_nolf bytes_write joinLF_append terminated_joinLF)

/-- visible ASCII below DEL, so that neither the reader's trimming nor the clamp of the `%q`
    verb touches the byte -/
abbrev Printable (tabs : QTables) (e : Encoding) (q : UInt8) : Prop :=
  decode tabs e (encode tabs e q) = q ∧ visible (encode tabs e q) = true ∧ encode tabs e q < 127

theorem offset_printable {q off : UInt8} (ho : 33 ≤ off.toNat) (h : q.toNat + off.toNat < 127) :
    q + off - off = q ∧ visible (q + off) = true ∧ q + off < 127 := by
  have hn : (q + off).toNat = q.toNat + off.toNat := by rw [UInt8.toNat_add]; omega
  have hlt : q + off < 127 := UInt8.lt_iff_toNat_lt.mpr (hn ▸ h)
  exact ⟨UInt8.add_sub_cancel q off, visible_of_range (UInt8.le_iff_toNat_le.mpr (hn ▸ Nat.le_trans ho (Nat.le_add_left _ _))) hlt,
    hlt⟩

theorem encode_printable (tabs : QTables) (e : Encoding) (lo hi off : UInt8)
    (hr : phredRange e = some (lo, hi, off)) (q : UInt8) (h1 : lo ≤ q) (h2 : q ≤ hi) : Printable tabs e q := by
  -- in its range a score is encoded by adding the offset: it is neither of the two special scores
  -- 254 and 255, and the clamp of Illumina 1.5 at `B` does nothing from score 2 on
  suffices h : encode tabs e q = q + off ∧ (∀ b, decode tabs e b = b - off) ∧ 33 ≤ off.toNat ∧
      q.toNat + off.toNat < 127 by
    obtain ⟨he, hd, ho, hs⟩ := h
    rw [Printable, he, hd]
    exact offset_printable ho hs
  have l1 : lo.toNat ≤ q.toNat := UInt8.le_iff_toNat_le.mp h1
  have l2 : q.toNat ≤ hi.toNat := UInt8.le_iff_toNat_le.mp h2
  have hne : ∀ k : UInt8, hi < k → (q == k) = false := fun k hk =>
    beq_eq_false_iff_ne.mpr (fun e => UInt8.not_lt.mpr h2 (e ▸ hk))
  cases e <;> cases hr <;>
    refine ⟨?_, fun b => rfl, by decide, Nat.lt_of_le_of_lt (Nat.add_le_add_right l2 _) (by decide)⟩
  · simp [encode, hne, h2]
  · simp [encode, hne, h2]
  · have hB : ¬ q + 64 < 66 := fun h => by
      have h := UInt8.lt_iff_toNat_lt.mp h
      rw [UInt8.toNat_add] at h
      have : 2 ≤ q.toNat := l1
      have : q.toNat ≤ 62 := l2
      have : (64 : UInt8).toNat = 64 := rfl
      have : (66 : UInt8).toNat = 66 := rfl
      omega
    simp [encode, hne, h2, hB]
  · simp [encode, hne, h2]
  · simp [encode, hne, h2]

theorem decode_encode (tabs : QTables) (e : Encoding) (lo hi off : UInt8)
    (hr : phredRange e = some (lo, hi, off)) (q : UInt8) (h1 : lo ≤ q) (h2 : q ≤ hi) :
    decode tabs e (encode tabs e q) = q :=
  (encode_printable tabs e lo hi off hr q h1 h2).1

def hdrRec (n d : Bytes) : QRec := { name := n, desc := d, letters := [], quals := [] }

theorem readHeader_headerLine (pfx : UInt8) (hp : visible pfx = true) {n d : Bytes}
    (hn : nameOK n = true) :
    readHeader (headerLine pfx n d) = .ok (hdrRec n d, none) := by
  rw [nameOK_iff] at hn
  have hvis : ∀ b ∈ pfx :: n, visible b = true := List.forall_mem_cons.mpr ⟨hp, hn⟩
  unfold readHeader headerLine
  cases d with
  | nil =>
    simp only [List.isEmpty_nil, if_true, List.append_nil]
    rw [indexAnySpTab_visible_nil _ hvis]
    simp [sliceFrom, hdrRec, bind, Except.bind, pure, Except.pure]
  | cons x xs =>
    simp only [List.isEmpty_cons, Bool.false_eq_true, if_false, indexAnySpTab_visible_space _ hvis]
    simp [slice, sliceFrom, hdrRec]
    rfl

theorem maybeID1_iff {l : Bytes} : maybeID1 l = true ↔ l.head? = some 64 := by
  unfold maybeID1; split <;> simp_all [List.head?_eq_some_iff]

theorem maybeID2_iff {l : Bytes} : maybeID2 l = true ↔ l.head? = some 43 := by
  unfold maybeID2; split <;> simp_all [List.head?_eq_some_iff]

theorem readHeader_total (line : Bytes) (h : maybeID1 line = true) : ∃ t, readHeader line = .ok (t, none) := by
  cases line with
  | nil => simp [maybeID1] at h
  | cons a t =>
    obtain rfl : a = 64 := Option.some.inj (maybeID1_iff.mp h)
    unfold readHeader
    have e : indexAnySpTab (64 :: t) = (indexAnySpTab t).map (· + 1) := by
      simp [indexAnySpTab, List.findIdx?_cons]
    rw [e]
    cases hk : indexAnySpTab t with
    | none => exact ⟨_, rfl⟩
    | some k =>
      have hlt := indexAnySpTab_lt hk
      have h1 : 1 ≤ k + 1 ∧ k + 1 ≤ (64 :: t).length := ⟨Nat.le_add_left 1 k, Nat.succ_le_succ (Nat.le_of_lt hlt)⟩
      have h2 : k + 1 + 1 ≤ (64 :: t).length := Nat.succ_le_succ hlt
      simp only [Option.map_some, slice, sliceFrom, h1, h2, and_self, if_true]
      exact ⟨_, rfl⟩

theorem maybeID_ne_nil {line : Bytes} (h : maybeID1 line = true ∨ maybeID2 line = true) : line ≠ [] := by
  intro e; subst e; simp [maybeID1, maybeID2] at h

theorem sameLabel_eq {label line : Bytes} (h1 : label ≠ []) (h2 : line ≠ []) :
    sameLabel label line = .ok (label.drop 1 == line.drop 1) := by
  cases label with
  | nil => exact absurd rfl h1
  | cons a t =>
    cases line with
    | nil => exact absurd rfl h2
    | cons c u => rfl

/-- the two forms in which the reader tests a `+` line against the header line `label` -/
theorem plusTest_eq {label line : Bytes} (h1 : label ≠ []) (h2 : line ≠ []) :
    (if line.length != 1 then sameLabel label line else pure true)
      = .ok (line.length == 1 || label.drop 1 == line.drop 1) ∧
    (if line.length == 1 then pure true else sameLabel label line)
      = .ok (line.length == 1 || label.drop 1 == line.drop 1) := by
  rw [sameLabel_eq h1 h2]
  by_cases h : line.length = 1 <;> simp [h, pure, Except.pure]

/-- one iteration of the loop of `Read` on a trimmed line -/
def step (cfg : Cfg) (st : LoopSt) (line : Bytes) : Except Panic (LoopSt ⊕ Ret) :=
  let st := { st with err := none }
  if st.state == .id1 && maybeID1 line then do
    let (t, _err) ← readHeader line
    pure (.inl { st with state := .letters, t := some t, err := _err, label := line })
  else if st.state == .id2 && maybeID2 line then do
    if st.label.length == 0 then pure (.inr ⟨none, some .noHeader⟩)
    else
      let same ← (if line.length != 1 then sameLabel st.label line else pure true)
      if !same then pure (.inr ⟨none, some .qualHeader⟩)
      else pure (.inl { st with state := .quality })
  else if st.state == .letters && line.length > 0 then do
    let plus ← (if maybeID2 line then
                  (if line.length == 1 then pure true else sameLabel st.label line)
                else pure false)
    if plus then pure (.inl { st with state := .quality })
    else pure (.inl { st with state := .id2, seqBuff := line.filter (fun b => !isSpace b) })
  else if st.state == .quality then
    if line.length == 0 && st.seqBuff.length != 0 then pure (.inl st)
    else do
      let (ret, _) ← finish cfg st line ([], [])
      pure (.inr ret)
  else pure (.inl st)

theorem finish_rest (cfg : Cfg) (st : LoopSt) (line : Bytes) (rest : List Bytes × Bytes) :
    finish cfg st line rest = (finish cfg st line ([], [])).map (fun p => (p.1, rest)) := by
  unfold finish
  simp only []
  split
  · rfl
  · cases st.t <;> rfl

theorem loop_step (cfg : Cfg) (pend : Bytes) (st : LoopSt) (raw : Bytes) (rest : List Bytes) :
    loop cfg pend st (raw :: rest) =
      (match step cfg st (trimSpace raw) with
       | .error p => .error p
       | .ok (.inl st') => loop cfg pend st' rest
       | .ok (.inr ret) => .ok (ret, rest, pend)) := by
  rw [loop]
  unfold step
  simp only []
  rw [finish_rest cfg _ _ (rest, pend)]
  -- both sides branch on the same tests and run the same fallible steps
  generalize (st.state == State.id1 && maybeID1 (trimSpace raw)) = c1
  generalize (st.state == State.id2 && maybeID2 (trimSpace raw)) = c2
  generalize (st.label.length == 0) = c2a
  generalize (st.state == State.letters && decide ((trimSpace raw).length > 0)) = c3
  generalize (st.state == State.quality) = c4
  generalize ((trimSpace raw).length == 0 && st.seqBuff.length != 0) = c5
  generalize readHeader (trimSpace raw) = rh
  generalize (if (trimSpace raw).length != 1 then sameLabel st.label (trimSpace raw) else pure true) = same
  generalize (if maybeID2 (trimSpace raw) = true then
      if ((trimSpace raw).length == 1) = true then pure true else sameLabel st.label (trimSpace raw)
      else (pure false : Except Panic Bool)) = plus
  generalize finish cfg { st with err := none } (trimSpace raw) ([], []) = fin
  cases c1
  · cases c2
    · cases c3
      · cases c4
        · rfl
        · cases c5
          · rcases fin with e | ⟨r, x⟩ <;> rfl
          · rfl
      · rcases plus with e | (_ | _) <;> rfl
    · cases c2a
      · rcases same with e | (_ | _) <;> rfl
      · rfl
  · rcases rh with e | ⟨t, e⟩ <;> rfl

theorem loop_nil (cfg : Cfg) (pend : Bytes) (st : LoopSt) :
    loop cfg pend st [] = if st.t.isSome && st.state == .quality then finish cfg { st with err := none } pend ([], [])
      else .ok (⟨none, some .eof⟩, [], []) := by
  rw [loop]; rfl

theorem loop_cont {cfg : Cfg} {st st' : LoopSt} {raw : Bytes} (h : step cfg st (trimSpace raw) = .ok (.inl st'))
    (pend : Bytes) (rest : List Bytes) : loop cfg pend st (raw :: rest) = loop cfg pend st' rest := by
  rw [loop_step, h]

theorem loop_ret {cfg : Cfg} {st : LoopSt} {raw : Bytes} {ret : Ret} (h : step cfg st (trimSpace raw) = .ok (.inr ret))
    (pend : Bytes) (rest : List Bytes) : loop cfg pend st (raw :: rest) = .ok (ret, rest, pend) := by
  rw [loop_step, h]

/-- loop states after a header line with trimmed content `hl` that parsed to `t`: before the
    letters line, before the `+` line, before the quality line -/
def sL (t : QRec) (hl : Bytes) : LoopSt := { state := .letters, t := some t, label := hl, seqBuff := [], err := none }
def sI (t : QRec) (hl ls : Bytes) : LoopSt := { sL t hl with state := .id2, seqBuff := ls }
def sQ (t : QRec) (hl ls : Bytes) : LoopSt := { sL t hl with state := .quality, seqBuff := ls }

/-- a blank line is skipped in every state, except that in state `quality` it is the quality
    line of a record without letters -/
theorem step_blank (cfg : Cfg) (st : LoopSt) (he : st.err = none) (hq : st.state = .quality → st.seqBuff ≠ []) :
    step cfg st [] = .ok (.inl st) := by
  have hst : ({ st with err := none } : LoopSt) = st := by cases st; cases he; rfl
  simp only [step, hst]
  cases hs : st.state with
  | id1 => rfl
  | letters => rfl
  | id2 => rfl
  | quality => simp [maybeID1, maybeID2, hq hs]; rfl

theorem loop_skip_blanks (cfg : Cfg) (pend : Bytes) (blanks rest : List Bytes) (st : LoopSt)
    (he : st.err = none) (hq : st.state = .quality → st.seqBuff ≠ []) (hb : ∀ l ∈ blanks, trimSpace l = []) :
    loop cfg pend st (blanks ++ rest) = loop cfg pend st rest := by
  induction blanks with
  | nil => rfl
  | cons b bs ih =>
    rw [List.cons_append, loop_cont (by rw [hb b (by simp)]; exact step_blank cfg st he hq)]
    exact ih (fun l hl => hb l (by simp [hl]))

theorem step_header {line : Bytes} {t : QRec} (cfg : Cfg) (hm : maybeID1 line = true) (ht : readHeader line = .ok (t, none)) :
    step cfg {} line = .ok (.inl (sL t line)) := by
  simp only [step, hm, ht]; rfl

theorem step_letters (cfg : Cfg) (t : QRec) (hl : Bytes) {line : Bytes} (hne : line ≠ []) (hm : maybeID2 line = false) :
    step cfg (sL t hl) line = .ok (.inl (sI t hl (line.filter (fun b => !isSpace b)))) := by
  have hlen : decide (line.length > 0) = true := decide_eq_true (List.length_pos_iff.mpr hne)
  simp only [step, sL, hm, hlen]; rfl

theorem loop_to_id2 (cfg : Cfg) (pend : Bytes) (b0 b1 : List Bytes) (h s : Bytes) (rest : List Bytes)
    (hb0 : ∀ l ∈ b0, trimSpace l = []) (hb1 : ∀ l ∈ b1, trimSpace l = [])
    (hh : maybeID1 (trimSpace h) = true) (hs : trimSpace s ≠ []) (hs2 : maybeID2 (trimSpace s) = false) :
    ∃ t, loop cfg pend {} (b0 ++ h :: (b1 ++ s :: rest))
      = loop cfg pend (sI t (trimSpace h) ((trimSpace s).filter (fun b => !isSpace b))) rest := by
  obtain ⟨t, ht⟩ := readHeader_total _ hh
  refine ⟨t, ?_⟩
  rw [loop_skip_blanks cfg pend b0 _ {} rfl (by intro h; cases h) hb0, loop_cont (step_header cfg hh ht),
    loop_skip_blanks cfg pend b1 _ (sL t _) rfl (by intro h; cases h) hb1, loop_cont (step_letters cfg t _ hs hs2)]

/-- what the reader demands of a `+` line after the header line `hl` -/
def PlusMatches (hl line : Bytes) : Prop := maybeID2 line = true ∧ (line.length = 1 ∨ hl.drop 1 = line.drop 1)

theorem plus_check {hl line : Bytes} (hne : hl ≠ []) (h : PlusMatches hl line) :
    (if line.length != 1 then sameLabel hl line else pure true) = .ok true ∧
    (if line.length == 1 then pure true else sameLabel hl line) = .ok true := by
  have hv : (line.length == 1 || hl.drop 1 == line.drop 1) = true := by
    rcases h.2 with e | e <;> simp [e]
  exact hv ▸ plusTest_eq hne (maybeID_ne_nil (.inr h.1))

/-- what a layout offers as the `+` line of a record: `+` alone, or `+` with the header repeated -/
def PlusOK (n d line : Bytes) : Prop := line = [43] ∨ line = headerLine 43 n d

theorem plusOK_matches {n d line : Bytes} (h : PlusOK n d line) : PlusMatches (headerLine 64 n d) line := by
  rcases h with rfl | rfl
  · exact ⟨rfl, .inl rfl⟩
  · exact ⟨by simp [maybeID2, headerLine], .inr rfl⟩

/-- the `+` line directly after the header: a record without letters -/
theorem step_plus_letters (cfg : Cfg) (t : QRec) {hl line : Bytes} (hne : hl ≠ []) (h : PlusMatches hl line) :
    step cfg (sL t hl) line = .ok (.inl (sQ t hl [])) := by
  have hlen : decide (line.length > 0) = true :=
    decide_eq_true (List.length_pos_iff.mpr (maybeID_ne_nil (.inr h.1)))
  simp only [step, sL, h.1, hlen, (plus_check hne h).2]; rfl

theorem step_plus (cfg : Cfg) (t : QRec) {hl line : Bytes} (ls : Bytes) (hne : hl ≠ []) (h : PlusMatches hl line) :
    step cfg (sI t hl ls) line = .ok (.inl (sQ t hl ls)) := by
  have hll : (hl.length == 0) = false := beq_eq_false_iff_ne.mpr (mt List.eq_nil_of_length_eq_zero hne)
  simp only [step, sI, sL, h.1, hll, (plus_check hne h).1]; rfl

/-- **rejects a different header on the `+` line** -/
theorem step_plus_mismatch (cfg : Cfg) (t : QRec) {hl line : Bytes} (ls : Bytes) (hne : hl ≠ [])
    (hm : maybeID2 line = true) (hlen : line.length ≠ 1) (hdiff : hl.drop 1 ≠ line.drop 1) :
    step cfg (sI t hl ls) line = .ok (.inr ⟨none, some .qualHeader⟩) := by
  have hll : (hl.length == 0) = false := beq_eq_false_iff_ne.mpr (mt List.eq_nil_of_length_eq_zero hne)
  have hv : (line.length == 1 || hl.drop 1 == line.drop 1) = false := by simpa [hlen] using hdiff
  simp only [step, sI, sL, hm, hll, (plusTest_eq hne (maybeID_ne_nil (.inr hm))).1, hv]; rfl

/-- in state `quality` any line other than a blank one after letters is the quality line -/
theorem step_quality (cfg : Cfg) (t : QRec) (hl ls : Bytes) {line : Bytes} (h : line = [] → ls = []) :
    step cfg (sQ t hl ls) line =
      (if (removeSpaces line).length != ls.length then .ok (.inr ⟨none, some .lengthMismatch⟩)
       else .ok (.inr ⟨some (appendQLetters cfg.tmpl t ls ((removeSpaces line).map (decode cfg.tabs cfg.tmpl.enc))), none⟩)) := by
  have hc : (line.length == 0 && ls.length != 0) = false := by
    cases line with
    | nil => simp [h rfl]
    | cons a u => rfl
  simp only [step, sQ, sL, hc, finish]
  by_cases hlen : ((removeSpaces line).length != ls.length) = true
  · simp only [hlen, if_true]; rfl
  · simp only [hlen]; rfl

/-- the loop invariant: outside state `id1` a header has been parsed -/
def Inv (st : LoopSt) : Prop := st.state = .id1 ∨ (st.t.isSome = true ∧ st.label ≠ [])

theorem finish_total (cfg : Cfg) (st : LoopSt) (line : Bytes) (rest : List Bytes × Bytes)
    (ht : st.t.isSome = true) :
    ∃ ret, finish cfg st line rest = .ok (ret, rest) ∧ (ret.s.isSome ∨ ret.e.isSome) := by
  unfold finish
  simp only []
  split
  · exact ⟨_, rfl, .inr rfl⟩
  · cases ht' : st.t with
    | none => simp [ht'] at ht
    | some t => exact ⟨_, rfl, .inl rfl⟩

/-- A line never makes the loop panic: it goes on in a state where the invariant holds, or
    returns a sequence or an error. -/
theorem step_total (cfg : Cfg) (st : LoopSt) (line : Bytes) (hinv : Inv st) :
    ∃ r, step cfg st line = .ok r ∧
      (match r with | .inl st' => Inv st' | .inr ret => ret.s.isSome ∨ ret.e.isSome) := by
  have hlab : ∀ s, st.state = s → s ≠ .id1 → st.t.isSome = true ∧ st.label ≠ [] :=
    fun s hs h => hinv.resolve_left (hs ▸ h)
  unfold step
  simp only []
  by_cases c1 : (st.state == .id1 && maybeID1 line) = true
  · rw [if_pos c1]
    simp only [Bool.and_eq_true] at c1
    obtain ⟨t, hv⟩ := readHeader_total line c1.2
    rw [hv]
    exact ⟨_, rfl, .inr ⟨rfl, maybeID_ne_nil (.inl c1.2)⟩⟩
  rw [if_neg c1]
  by_cases c2 : (st.state == .id2 && maybeID2 line) = true
  · rw [if_pos c2]
    simp only [Bool.and_eq_true, beq_iff_eq] at c2
    obtain ⟨ht, hl⟩ := hlab _ c2.1 (by decide)
    have hll : (st.label.length == 0) = false := beq_eq_false_iff_ne.mpr (mt List.eq_nil_of_length_eq_zero hl)
    rw [hll, (plusTest_eq hl (maybeID_ne_nil (.inr c2.2))).1]
    cases (line.length == 1 || st.label.drop 1 == line.drop 1)
    · exact ⟨_, rfl, .inr rfl⟩
    · exact ⟨_, rfl, .inr ⟨ht, hl⟩⟩
  rw [if_neg c2]
  by_cases c3 : (st.state == .letters && decide (line.length > 0)) = true
  · rw [if_pos c3]
    simp only [Bool.and_eq_true, beq_iff_eq, decide_eq_true_eq] at c3
    obtain ⟨ht, hl⟩ := hlab _ c3.1 (by decide)
    have hne : line ≠ [] := List.length_pos_iff.mp c3.2
    rw [(plusTest_eq hl hne).2]
    -- whatever the two tests say, the loop goes on and keeps the header
    cases maybeID2 line <;> cases (line.length == 1 || st.label.drop 1 == line.drop 1) <;>
      exact ⟨_, rfl, .inr ⟨ht, hl⟩⟩
  rw [if_neg c3]
  by_cases c4 : (st.state == .quality) = true
  · rw [if_pos c4]
    obtain ⟨ht, hl⟩ := hlab _ (by simpa using c4) (by decide)
    by_cases c5 : (line.length == 0 && st.seqBuff.length != 0) = true
    · rw [if_pos c5]; exact ⟨_, rfl, .inr ⟨ht, hl⟩⟩
    · obtain ⟨ret, h1, h2⟩ := finish_total cfg { st with err := none } line ([], []) ht
      rw [if_neg c5, h1]; exact ⟨_, rfl, h2⟩
  · rw [if_neg c4]; exact ⟨_, rfl, hinv⟩

/-- The loop never panics; it returns a sequence or an error; it never gives lines back; and
    unless it was already in state `quality`, a call that does not return `io.EOF` has
    consumed at least one line. -/
theorem loop_total (cfg : Cfg) (pend : Bytes) (lines : List Bytes) : ∀ st : LoopSt, Inv st →
    ∃ ret rest p', loop cfg pend st lines = .ok (ret, rest, p') ∧ (ret.s.isSome ∨ ret.e.isSome) ∧
      rest.length ≤ lines.length ∧
      (ret.e ≠ some .eof → st.state ≠ .quality → rest.length < lines.length) := by
  induction lines with
  | nil =>
    intro st _
    rw [loop_nil]
    split
    · rename_i hc
      simp only [Bool.and_eq_true, beq_iff_eq] at hc
      obtain ⟨ret, h1, h2⟩ := finish_total cfg { st with err := none } pend ([], []) hc.1
      exact ⟨ret, [], [], h1, h2, Nat.le_refl _, fun _ hq => absurd hc.2 hq⟩
    · exact ⟨_, [], [], rfl, .inr rfl, Nat.le_refl _, fun h => absurd rfl h⟩
  | cons raw rest0 ih =>
    intro st hinv
    obtain ⟨r, hs, hr⟩ := step_total cfg st (trimSpace raw) hinv
    rcases r with st' | ret
    · obtain ⟨ret, rest, p', h1, h2, h3, _⟩ := ih st' hr
      exact ⟨ret, rest, p', by rw [loop_cont hs, h1], h2, Nat.le_succ_of_le h3, fun _ _ => Nat.lt_succ_of_le h3⟩
    · exact ⟨ret, rest0, pend, loop_ret hs pend rest0, hr, Nat.le_succ _, fun _ _ => Nat.lt_succ_self _⟩

theorem read_total (cfg : Cfg) (lines : List Bytes) (pend : Bytes) :
    ∃ ret rest p', read cfg lines pend = .ok (ret, rest, p') ∧ (ret.s.isSome ∨ ret.e.isSome) ∧
      (ret.e ≠ some .eof → rest.length < lines.length) := by
  obtain ⟨ret, rest, p', h1, h2, _, h4⟩ := loop_total cfg pend lines {} (.inl rfl)
  exact ⟨ret, rest, p', h1, h2, fun he => h4 he (by decide)⟩

/-- one call of `Read`, on the lines not yet read and the fragments pending at `io.EOF` -/
abbrev call (cfg : Cfg) (a : List Bytes × Bytes) : Except Panic (Ret × List Bytes × Bytes) := read cfg a.1 a.2

abbrev IsEOF (r : Ret) : Prop := r.e = some .eof

theorem call_progress (cfg : Cfg) (a : List Bytes × Bytes) :
    ∃ r a', call cfg a = .ok (r, a') ∧ (r.s.isSome ∨ r.e.isSome) ∧ (¬ IsEOF r → a'.1.length < a.1.length) :=
  let ⟨ret, rest, p', h1, h2, h3⟩ := read_total cfg a.1 a.2
  ⟨ret, (rest, p'), h1, h2, h3⟩

/-- as `Fasta.readAllAux_calls`: the two `readAllAux` are separate definitions over separate `Call` types -/
theorem readAllAux_calls (cfg : Cfg) {a : List Bytes × Bytes} {rs : List Ret} (h : Calls (call cfg) IsEOF a rs) :
    ∀ fuel, rs.length ≤ fuel → readAllAux cfg fuel a.1 a.2 = rs.map Call.ret := by
  induction h with
  | last hc he =>
    intro fuel hf
    obtain ⟨f, rfl⟩ : ∃ f, fuel = f + 1 := ⟨fuel - 1, by simp at hf; omega⟩
    simp only [readAllAux, show read cfg _ _ = _ from hc, if_pos he]; rfl
  | more hc he _ ih =>
    intro fuel hf
    obtain ⟨f, rfl⟩ : ∃ f, fuel = f + 1 := ⟨fuel - 1, by simp at hf; omega⟩
    simp only [readAllAux, show read cfg _ _ = _ from hc, if_neg he, ih f (by simpa using hf)]; rfl

/-- the call history: no panic, never out of budget, at most one call per line plus one,
    ends with `io.EOF`, every call returns a sequence or an error -/
theorem readAllAux_total (cfg : Cfg) (fuel : Nat) (lines : List Bytes) (pend : Bytes) (hm : lines.length < fuel) :
    (∀ p, Call.panic p ∉ readAllAux cfg fuel lines pend) ∧
    Call.unfinished ∉ readAllAux cfg fuel lines pend ∧
    (readAllAux cfg fuel lines pend).length ≤ lines.length + 1 ∧
    (∃ r, (readAllAux cfg fuel lines pend).getLast? = some (Call.ret r) ∧ r.e = some .eof) ∧
    (∀ r, Call.ret r ∈ readAllAux cfg fuel lines pend → r.s.isSome ∨ r.e.isSome) := by
  obtain ⟨rs, hc⟩ := Calls.exists_of_progress _ _ (call_progress cfg) (lines, pend)
  obtain ⟨hl, hq⟩ := hc.bound _ _ (call_progress cfg)
  obtain ⟨r, hr, he⟩ := hc.getLast
  rw [readAllAux_calls cfg hc fuel (by simp only at hl; omega)]
  exact ⟨by simp, by simp, by simpa using hl, ⟨r, by simp [List.getLast?_map, hr], he⟩, by simpa using hq⟩

def QLettersOK (l : Bytes) : Prop := (∀ b ∈ l, visible b = true) ∧ l.head? ≠ some 43

theorem fastqLettersOK_iff {l : Bytes} : fastqLettersOK l = true ↔ QLettersOK l := by
  simp [fastqLettersOK, QLettersOK]

theorem filter_isSpace_visible (l : Bytes) (h : ∀ b ∈ l, visible b = true) :
    l.filter (fun b => !isSpace b) = l := by
  apply List.filter_eq_self.mpr
  intro b hb
  have hsp : isSpace b = (isAsciiSpace b || b == 0x85 || b == 0xA0) := rfl
  simp [hsp, visible_not_space (h b hb), ascii_bne (visible_lt (h b hb))]

def built (cfg : Cfg) (n d ls ql : Bytes) : QRec :=
  appendQLetters cfg.tmpl (hdrRec n d) ls (ql.map (decode cfg.tabs cfg.tmpl.enc))

/-- the facts about one record and its quality line that the reader relies on -/
structure RecOK (ql : QRec → Bytes) (r : QRec) : Prop where
  name : nameOK r.name = true
  desc : descOK r.desc = true
  letters : QLettersOK r.letters
  qvis : ∀ b ∈ ql r, visible b = true
  qlen : (ql r).length = r.letters.length

def retOK (r : QRec) : Call := .ret ⟨some r, none⟩
def retEOF : Call := .ret ⟨none, some .eof⟩

theorem loop_three (cfg : Cfg) (pend : Bytes) (r : QRec) (h s p : Bytes) (rest : List Bytes) (ql : QRec → Bytes)
    (ok : RecOK ql r) (th : trimSpace h = headerLine 64 r.name r.desc) (ts : trimSpace s = r.letters)
    (tp : PlusOK r.name r.desc (trimSpace p)) :
    loop cfg pend {} (h :: s :: p :: rest)
      = loop cfg pend (sQ (hdrRec r.name r.desc) (headerLine 64 r.name r.desc) r.letters) rest := by
  have hne : headerLine 64 r.name r.desc ≠ [] := by simp [headerLine]
  have hh := step_header cfg (by simp [maybeID1, headerLine]) (readHeader_headerLine 64 (by decide) (d := r.desc) ok.name)
  rw [loop_cont (by rw [th]; exact hh)]
  by_cases hl : r.letters = []
  · rw [loop_cont (by rw [ts, hl]; exact step_blank cfg _ rfl (by intro h; cases h)),
      loop_cont (step_plus_letters cfg _ hne (plusOK_matches tp)), hl]
  · have hm : maybeID2 r.letters = false := Bool.eq_false_iff.mpr (fun h => ok.letters.2 (maybeID2_iff.mp h))
    rw [loop_cont (by rw [ts]; exact step_letters cfg _ _ hl hm), filter_isSpace_visible _ ok.letters.1,
      loop_cont (step_plus cfg _ _ hne (plusOK_matches tp))]

theorem step_quality_ok (cfg : Cfg) {ql : QRec → Bytes} {r : QRec} (ok : RecOK ql r) {line : Bytes}
    (hq : removeSpaces line = ql r) (h : line = [] → r.letters = []) :
    step cfg (sQ (hdrRec r.name r.desc) (headerLine 64 r.name r.desc) r.letters) line
      = .ok (.inr ⟨some (built cfg r.name r.desc r.letters (ql r)), none⟩) := by
  rw [step_quality cfg _ _ _ h, hq, ok.qlen]
  simp [built]

theorem read_record (cfg : Cfg) (pend : Bytes) (r : QRec) (h s p q : Bytes) (rest : List Bytes) (ql : QRec → Bytes)
    (ok : RecOK ql r) (th : trimSpace h = headerLine 64 r.name r.desc) (ts : trimSpace s = r.letters)
    (tp : PlusOK r.name r.desc (trimSpace p)) (tq : trimSpace q = ql r) :
    read cfg (h :: s :: p :: q :: rest) pend
      = .ok (⟨some (built cfg r.name r.desc r.letters (ql r)), none⟩, rest, pend) := by
  unfold read
  rw [loop_three cfg pend r h s p _ ql ok th ts tp]
  refine loop_ret (step_quality_ok cfg ok (by rw [tq]; exact removeSpaces_visible _ ok.qvis) ?_) pend rest
  intro h0
  have := ok.qlen
  rw [← tq, h0] at this
  exact List.eq_nil_of_length_eq_zero this.symm

theorem read_lastPending (cfg : Cfg) (pend : Bytes) (r : QRec) (h s p : Bytes) (ql : QRec → Bytes)
    (ok : RecOK ql r) (th : trimSpace h = headerLine 64 r.name r.desc) (ts : trimSpace s = r.letters)
    (tp : PlusOK r.name r.desc (trimSpace p)) (tq : removeSpaces pend = ql r) :
    read cfg [h, s, p] pend = .ok (⟨some (built cfg r.name r.desc r.letters (ql r)), none⟩, [], []) := by
  unfold read
  rw [loop_three cfg pend r h s p _ ql ok th ts tp, loop_nil]
  simp [sQ, sL, finish, tq, ok.qlen, built, pure, Except.pure]

theorem fastqLines_nil {ql : QRec → Bytes} {recs : List QRec} (h : FastqLines ql recs []) : recs = [] := by
  cases h; rfl

theorem plus_trim {n d p : Bytes} (hn : nameOK n = true) (hd : descOK d = true)
    (hp : Padded [43] p ∨ Padded (headerLine 43 n d) p) : PlusOK n d (trimSpace p) :=
  hp.imp (padded_trim (endsVisible_of_all (by decide))) (padded_trim (headerLine_endsVisible 43 (by decide) hn hd))

/-- The calls of a reader in front of the lines of a layout: all of them as complete lines, or
    with the last one set apart — it is what is pending at `io.EOF`, or the empty line after a
    final LF.  Each record is returned as built from its header, letters and quality line, then
    `io.EOF`. -/
theorem fastqLines_calls (cfg : Cfg) {ql : QRec → Bytes} {recs : List QRec} {lines : List Bytes}
    (h : FastqLines ql recs lines) (hok : ∀ r ∈ recs, RecOK ql r) :
    (∀ pend, Calls (call cfg) IsEOF (lines, pend)
      (recs.map (fun r => ⟨some (built cfg r.name r.desc r.letters (ql r)), none⟩) ++ [⟨none, some .eof⟩])) ∧
    (∀ init l, lines = init ++ [l] → Calls (call cfg) IsEOF (init, l)
      (recs.map (fun r => ⟨some (built cfg r.name r.desc r.letters (ql r)), none⟩) ++ [⟨none, some .eof⟩])) := by
  have heof : ∀ pend, Calls (call cfg) IsEOF ([], pend) [⟨none, some .eof⟩] := fun pend =>
    .last (show call cfg _ = .ok (_, [], []) by rw [call, read, loop_nil]; rfl) rfl
  induction h with
  | nil => exact ⟨heof, fun init l e => by simp at e⟩
  | blank raw recs lines hp hrest ih =>
    have skip : ∀ ls pend, call cfg (raw :: ls, pend) = call cfg (ls, pend) := fun ls pend =>
      loop_cont (st := {}) (st' := {})
        (by rw [padded_trim endsVisible_nil hp]; exact step_blank cfg _ rfl (by intro h; cases h)) pend ls
    refine ⟨fun pend => ((ih hok).1 pend).congr (skip _ _), fun init l e => ?_⟩
    cases init with
    | nil =>
      obtain ⟨rfl, rfl⟩ := List.cons.inj e
      cases fastqLines_nil hrest
      exact heof _
    | cons a init0 =>
      obtain ⟨rfl, rfl⟩ := List.cons.inj e
      exact ((ih hok).2 init0 l rfl).congr (skip _ _)
  | record r h s p q rs rest hh hs hp hq hrest ih =>
    have ok := hok r (by simp)
    have th := padded_trim (headerLine_endsVisible 64 (by decide) ok.name ok.desc) hh
    have ts := padded_trim (endsVisible_of_all ok.letters.1) hs
    have tp := plus_trim ok.name ok.desc hp
    have tq := padded_trim (endsVisible_of_all ok.qvis) hq
    have ih' := ih (fun r' hr' => hok r' (by simp [hr']))
    refine ⟨fun pend => .more (read_record cfg pend r h s p q rest ql ok th ts tp tq) nofun (ih'.1 pend),
      fun init l e => ?_⟩
    rcases List.eq_nil_or_concat rest with rfl | ⟨L, b, rfl⟩
    · -- the quality line of the last record is what is pending
      cases fastqLines_nil hrest
      obtain ⟨rfl, e2⟩ := List.append_inj' (show init ++ [l] = [h, s, p] ++ [q] from e.symm) rfl
      obtain rfl : l = q := by simpa using e2
      obtain ⟨post, rfl, hpost⟩ := hq
      exact .more (read_lastPending cfg _ r h s p ql ok th ts tp
        (removeSpaces_padded _ post ok.qvis (fun b hb => isBlank_space (hpost b hb)))) nofun (heof [])
    · rw [List.concat_eq_append] at e ih'
      obtain ⟨rfl, e2⟩ := List.append_inj' (show init ++ [l] = (h :: s :: p :: q :: L) ++ [b] from e.symm) rfl
      obtain rfl : l = b := by simpa using e2
      exact .more (read_record cfg l r h s p q L ql ok th ts tp tq) nofun (ih'.2 L l rfl)

theorem padded_nolf {c raw : Bytes} (hc : ∀ b ∈ c, b ≠ 10) (h : Padded c raw) : ∀ b ∈ raw, b ≠ 10 := by
  obtain ⟨post, rfl, hp⟩ := h
  exact List.forall_mem_append.mpr ⟨hc, fun b hb => isBlank_ne_lf (hp b hb)⟩

theorem fastqLines_nolf {ql : QRec → Bytes} {recs : List QRec} {lines : List Bytes}
    (h : FastqLines ql recs lines) (hok : ∀ r ∈ recs, RecOK ql r) : ∀ l ∈ lines, ∀ b ∈ l, b ≠ 10 := by
  induction h with
  | nil => simp
  | blank raw recs lines hp _ ih =>
    intro l hl
    rcases List.mem_cons.mp hl with rfl | hl
    · exact padded_nolf (by simp) hp
    · exact ih hok l hl
  | record r h s p q rs rest hh hs hp hq _ ih =>
    have ok := hok r (by simp)
    intro l hl
    simp only [List.mem_cons] at hl
    rcases hl with rfl | rfl | rfl | rfl | hl
    · exact padded_nolf (headerLine_nolf 64 (by decide) ok.name ok.desc) hh
    · exact padded_nolf (fun b hb => visible_ne_lf (ok.letters.1 b hb)) hs
    · rcases hp with hp | hp
      · exact padded_nolf (by decide) hp
      · exact padded_nolf (headerLine_nolf 43 (by decide) ok.name ok.desc) hp
    · exact padded_nolf (fun b hb => visible_ne_lf (ok.qvis b hb)) hq
    · exact ih (fun r' hr' => hok r' (by simp [hr'])) l hl

theorem readAll_calls (cfg : Cfg) (e : Bool) {bs : Bytes} {rs : List Ret}
    (h : Calls (call cfg) IsEOF (readLineInput e bs) rs) : readAll cfg e bs = rs.map Call.ret := by
  have hb := (h.bound _ _ (call_progress cfg)).1
  have := readLineInput_length e bs
  exact readAllAux_calls cfg h (lineCount bs + 1) (by omega)

theorem joinLF_final (lines : List Bytes) : joinLF lines = [] ∨ (joinLF lines).getLast? = some 10 := by
  rcases List.eq_nil_or_concat lines with rfl | ⟨L, b, rfl⟩
  · left; simp [joinLF]
  · right
    rw [List.concat_eq_append, joinLF_append]
    simp [joinLF, List.getLast?_append]

attribute [local simp] bytes_write
@[simp] theorem write_snd (s : Sink) (p : Bytes) : (s.write p).2 = p.length := rfl

theorem writeHeader_spec (sink : Sink) (pfx : UInt8) (r : QRec) :
    (writeHeader sink pfx r).1.bytes = sink.bytes ++ (headerLine pfx r.name r.desc ++ [10]) ∧
    (writeHeader sink pfx r).2 = (headerLine pfx r.name r.desc ++ [10]).length := by
  unfold writeHeader headerLine
  cases hd : r.desc with
  | nil => simp [Sink.write, Sink.bytes]; omega
  | cons a t => simp [Sink.write, Sink.bytes]; omega

theorem writeEach_spec (f : UInt8 → UInt8) (xs : Bytes) (sink : Sink) (n : Nat) :
    (writeEach f xs sink n).1.bytes = sink.bytes ++ xs.map f ∧ (writeEach f xs sink n).2 = n + xs.length := by
  induction xs generalizing sink n with
  | nil => simp [writeEach]
  | cons x xs ih =>
    obtain ⟨h1, h2⟩ := ih (sink.write [f x]).1 (n + (sink.write [f x]).2)
    simp only [writeEach]
    constructor
    · rw [h1]; simp
    · rw [h2]; simp; omega

/-- the four lines `Write` emits for one record -/
def renderQ (tabs : QTables) (qid : Bool) (enc : Encoding) (r : QRec) : Bytes :=
  joinLF [headerLine 64 r.name r.desc, r.letters,
          if qid then headerLine 43 r.name r.desc else [43], r.quals.map (encode tabs enc)]

theorem write_spec (tabs : QTables) (qid : Bool) (enc : Encoding) (sink : Sink) (r : QRec) :
    (write tabs qid enc sink r).1.bytes = sink.bytes ++ renderQ tabs qid enc r ∧
    (write tabs qid enc sink r).2 = (renderQ tabs qid enc r).length := by
  cases qid
  all_goals
    simp only [write, Bool.false_eq_true, if_false, if_true, bytes_write, write_snd,
      (writeEach_spec _ _ _ _).1, (writeEach_spec _ _ _ _).2, (writeHeader_spec _ _ _).1, (writeHeader_spec _ _ _).2]
    simp [renderQ, joinLF]
    omega

theorem writeAll_spec (tabs : QTables) (qid : Bool) (enc : Encoding) (sink : Sink) (recs : List QRec) :
    (writeAll tabs qid enc sink recs).1.bytes = sink.bytes ++ recs.flatMap (renderQ tabs qid enc) ∧
    (writeAll tabs qid enc sink recs).2 = recs.map (fun r => (renderQ tabs qid enc r).length) := by
  induction recs generalizing sink with
  | nil => simp [writeAll]
  | cons r rs ih =>
    have e : writeAll tabs qid enc sink (r :: rs) =
        ((writeAll tabs qid enc (write tabs qid enc sink r).1 rs).1,
         (write tabs qid enc sink r).2 :: (writeAll tabs qid enc (write tabs qid enc sink r).1 rs).2) := rfl
    rw [e]
    obtain ⟨h1, h2⟩ := ih (write tabs qid enc sink r).1
    obtain ⟨w1, w2⟩ := write_spec tabs qid enc sink r
    simp only [h1, h2, w1, w2]
    simp

/-- The count returned by `Write` is the number of bytes it put on the writer. -/
theorem write_count (tabs : QTables) (qid : Bool) (enc : Encoding) (sink : Sink) (r : QRec) :
    (write tabs qid enc sink r).1.out.size = sink.out.size + (write tabs qid enc sink r).2 := by
  obtain ⟨w1, w2⟩ := write_spec tabs qid enc sink r
  have : (write tabs qid enc sink r).1.bytes.length = (sink.bytes ++ renderQ tabs qid enc r).length := by rw [w1]
  simp only [Sink.bytes, Array.length_toList, List.length_append] at this
  omega

def qlineOf (tabs : QTables) (enc : Encoding) (r : QRec) : Bytes := r.quals.map (encode tabs enc)

theorem fastqLines_written (tabs : QTables) (qid : Bool) (enc : Encoding) (r : QRec) {rs : List QRec}
    {lines : List Bytes} (h : FastqLines (qlineOf tabs enc) rs lines) :
    FastqLines (qlineOf tabs enc) (r :: rs) (headerLine 64 r.name r.desc :: r.letters ::
      (if qid then headerLine 43 r.name r.desc else [43]) :: qlineOf tabs enc r :: lines) := by
  refine .record r _ _ _ _ rs lines ⟨[], by simp, by simp⟩ ⟨[], by simp, by simp⟩ ?_ ⟨[], by simp, by simp⟩ h
  cases qid
  · exact .inl ⟨[], by simp, by simp⟩
  · exact .inr ⟨[], by simp, by simp⟩

/-- what `Write` emits is a layout of the records (four lines each, LF terminated) -/
theorem renders_writer (tabs : QTables) (qid : Bool) (enc : Encoding) (recs : List QRec)
    (hok : ∀ r ∈ recs, RecOK (qlineOf tabs enc) r) :
    FastqRenders (qlineOf tabs enc) recs (recs.flatMap (renderQ tabs qid enc)) := by
  suffices h : ∃ lines, FastqLines (qlineOf tabs enc) recs lines ∧
      recs.flatMap (renderQ tabs qid enc) = joinLF lines by
    obtain ⟨lines, h1, h2⟩ := h
    exact .inl ⟨lines, h1, h2 ▸ terminated_joinLF lines (fastqLines_nolf h1 hok)⟩
  clear hok
  induction recs with
  | nil => exact ⟨[], .nil, by simp [joinLF]⟩
  | cons r rs ih =>
    obtain ⟨lines, h1, h2⟩ := ih
    refine ⟨_, fastqLines_written tabs qid enc r h1, ?_⟩
    rw [List.flatMap_cons, h2]
    simp [renderQ, joinLF, qlineOf]

theorem quals_printable (tabs : QTables) {enc : Encoding} {r : QRec} (h : wfFastq enc r = true) :
    ∀ q ∈ r.quals, Printable tabs enc q := by
  simp only [wfFastq, Bool.and_eq_true] at h
  have hq := h.1.2
  unfold qualsOK at hq
  cases hr : phredRange enc with
  | none => simp [hr] at hq
  | some v =>
    obtain ⟨lo, hi, off⟩ := v
    simp only [hr, List.all_eq_true, Bool.and_eq_true, decide_eq_true_eq] at hq
    exact fun q hqm => encode_printable tabs enc lo hi off hr q (hq q hqm).1 (hq q hqm).2

theorem recOK_of_wf (tabs : QTables) (enc : Encoding) (r : QRec) (h : wfFastq enc r = true) :
    RecOK (qlineOf tabs enc) r ∧ (qlineOf tabs enc r).map (decode tabs enc) = r.quals := by
  have hq' := quals_printable tabs h
  simp only [wfFastq, Bool.and_eq_true, beq_iff_eq] at h
  obtain ⟨⟨⟨⟨hn, hd⟩, hl⟩, _⟩, hlen⟩ := h
  refine ⟨⟨hn, hd, fastqLettersOK_iff.mp hl, ?_, by simp [qlineOf, hlen]⟩, ?_⟩
  · intro b hb
    simp only [qlineOf, List.mem_map] at hb
    obtain ⟨q, hqm, rfl⟩ := hb
    exact (hq' q hqm).2.1
  · simp only [qlineOf, List.map_map]
    conv => rhs; rw [← List.map_id r.quals]
    exact List.map_congr_left (fun q hqm => (hq' q hqm).1)

theorem built_qseq (tabs : QTables) (enc : Encoding) (r : QRec)
    (h : (qlineOf tabs enc r).map (decode tabs enc) = r.quals) :
    built ⟨.qseq enc, tabs⟩ r.name r.desc r.letters (qlineOf tabs enc r) = r := by
  cases r
  simp_all [built, appendQLetters, hdrRec, Template.enc]

/-- a plain `linear.Seq` written as FASTQ: every score is 40, written `I` -/
theorem recOK_of_wfPlain (tabs : QTables) (r : QRec) (h : wfFastqPlain r = true) :
    RecOK (qlineOf tabs .sanger) (ofPlain r) := by
  simp only [wfFastqPlain, Bool.and_eq_true] at h
  obtain ⟨⟨⟨hn, hd⟩, hl⟩, _⟩ := h
  refine ⟨hn, hd, fastqLettersOK_iff.mp hl, ?_, by simp [qlineOf, ofPlain]⟩
  intro b hb
  simp only [qlineOf, ofPlain, List.map_replicate, List.mem_replicate] at hb
  rw [hb.2]; simp [encode]; decide

theorem built_seq (tabs : QTables) (r : QRec) (h : wfFastqPlain r = true) (ql : Bytes) :
    built ⟨.seq, tabs⟩ (ofPlain r).name (ofPlain r).desc (ofPlain r).letters ql = r := by
  simp only [wfFastqPlain, Bool.and_eq_true, List.isEmpty_iff] at h
  cases r
  simp_all [built, appendQLetters, hdrRec, ofPlain]

/-- stands alone: the layouts are read through the view, not through `LinesRel` -/
theorem linesRel_nil_left {ls' : List Bytes} (h : LinesRel [] ls') : ls' = [] := by cases h; rfl

end Biogo.Fastq
