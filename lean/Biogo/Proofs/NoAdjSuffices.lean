/-
Alignment surgery: when a letter pair never scores less than the two letters against gaps
(`S x 0 + S 0 y ≤ S x y`) and opening a gap costs (`gapOpen ≤ 0`), every alignment can be
turned into one with the same projections, no gap directly next to a gap in the other
sequence, and at least the same affine score: a `u x` next to an `l y` is replaced by `m x y`,
from the right, so that a merged column meets an alignment that is already repaired.
-/
import Biogo.Proofs.AffineAln

namespace Biogo.Proofs.NoAdjSuffices
open Biogo.Spec.Alignment Biogo.Proofs.AffineAln

/-- the column two adjacent opposite gap columns are merged into -/
def merge : Col → Col → Col
  | .u x, .l y => .m x y
  | .l y, .u x => .m x y
  | c, _ => c

def push (c : Col) : Aln → Aln
  | [] => [c]
  | d :: rest => if compat c.kind d.kind then c :: d :: rest else merge c d :: rest

def fixAdj : Aln → Aln
  | [] => []
  | c :: a => push c (fixAdj a)

theorem incompat_cases {c d : Col} (h : compat c.kind d.kind = false) :
    (∃ x y, c = .u x ∧ d = .l y) ∨ (∃ x y, c = .l y ∧ d = .u x) := by
  cases c <;> cases d <;> simp [compat, Col.kind] at h
  · exact Or.inl ⟨_, _, rfl, rfl⟩
  · exact Or.inr ⟨_, _, rfl, rfl⟩

theorem push_cases (c : Col) (a : Aln) :
    push c a = c :: a ∨
      ∃ x y rest, push c a = .m x y :: rest ∧ ((c = .u x ∧ a = .l y :: rest) ∨ (c = .l y ∧ a = .u x :: rest)) := by
  cases a with
  | nil => exact Or.inl rfl
  | cons d rest =>
    cases h : compat c.kind d.kind
    · right
      rcases incompat_cases h with ⟨x, y, rfl, rfl⟩ | ⟨x, y, rfl, rfl⟩
      · exact ⟨x, y, rest, by simp [push, compat, Col.kind, merge], Or.inl ⟨rfl, rfl⟩⟩
      · exact ⟨x, y, rest, by simp [push, compat, Col.kind, merge], Or.inr ⟨rfl, rfl⟩⟩
    · exact Or.inl (by simp [push, h])

theorem projR_push (c : Col) (a : Aln) : projR (push c a) = projR (c :: a) := by
  rcases push_cases c a with e | ⟨x, y, rest, e, ⟨rfl, rfl⟩ | ⟨rfl, rfl⟩⟩ <;> rw [e] <;> rfl

theorem projQ_push (c : Col) (a : Aln) : projQ (push c a) = projQ (c :: a) := by
  rcases push_cases c a with e | ⟨x, y, rest, e, ⟨rfl, rfl⟩ | ⟨rfl, rfl⟩⟩ <;> rw [e] <;> rfl

theorem noAdj_m_cons (x y : Nat) (a : Aln) : noAdj (.m x y :: a) = noAdj a := by
  cases a with
  | nil => rfl
  | cons d t => rw [noAdj_cons_cons]; cases d <;> rfl

theorem noAdj_of_cons (d : Col) (a : Aln) (h : noAdj (d :: a) = true) : noAdj a = true := by
  cases a with
  | nil => rfl
  | cons e t => rw [noAdj_cons_cons, Bool.and_eq_true] at h; exact h.2

theorem noAdj_push (c : Col) (a : Aln) (h : noAdj a = true) : noAdj (push c a) = true := by
  cases a with
  | nil => cases c <;> rfl
  | cons d rest =>
    cases hc : compat c.kind d.kind
    · have e : push c (d :: rest) = merge c d :: rest := by simp [push, hc]
      rw [e]
      rcases incompat_cases hc with ⟨x, y, rfl, rfl⟩ | ⟨x, y, rfl, rfl⟩ <;>
        exact (noAdj_m_cons x y rest).trans (noAdj_of_cons _ rest h)
    · have e : push c (d :: rest) = c :: d :: rest := by simp [push, hc]
      rw [e, noAdj_cons_cons, hc, h]; rfl

/-- changing the kind of the preceding column to "match" costs at most one gap opening -/
theorem scoreAffFrom_m_ge (S : Matrix) (o : Int) (ho : o ≤ 0) (k : Kind) (a : Aln) :
    scoreAffFrom S o k a + o ≤ scoreAffFrom S o .m a := by
  cases a with
  | nil => simp [scoreAffFrom]; exact ho
  | cons c rest =>
    simp only [scoreAffFrom]
    have h1 : (if c.kind ≠ Kind.m ∧ c.kind ≠ k then o else 0) ≤ 0 := by split <;> omega
    have h2 : o ≤ (if c.kind ≠ Kind.m ∧ c.kind ≠ Kind.m then o else 0) := by split <;> omega
    omega

theorem scoreAffFrom_push (S : Matrix) (o : Int) (ho : o ≤ 0) (H : ∀ x y, S x 0 + S 0 y ≤ S x y)
    (c : Col) (a : Aln) (p : Kind) : scoreAffFrom S o p (c :: a) ≤ scoreAffFrom S o p (push c a) := by
  rcases push_cases c a with e | ⟨x, y, rest, e, ⟨rfl, rfl⟩ | ⟨rfl, rfl⟩⟩ <;> rw [e]
  · exact Int.le_refl _
  · have hm := scoreAffFrom_m_ge S o ho .l rest
    have hH := H x y
    have h1 : (if Kind.u ≠ Kind.m ∧ Kind.u ≠ p then o else 0) ≤ 0 := by split <;> omega
    simp only [scoreAffFrom, Col.kind, colScore]
    simp at h1 ⊢
    omega
  · have hm := scoreAffFrom_m_ge S o ho .u rest
    have hH := H x y
    have h1 : (if Kind.l ≠ Kind.m ∧ Kind.l ≠ p then o else 0) ≤ 0 := by split <;> omega
    simp only [scoreAffFrom, Col.kind, colScore]
    simp at h1 ⊢
    omega

theorem projR_fixAdj (a : Aln) : projR (fixAdj a) = projR a := by
  induction a with
  | nil => rfl
  | cons c a ih => rw [fixAdj, projR_push]; cases c <;> simp only [projR, ih]

theorem projQ_fixAdj (a : Aln) : projQ (fixAdj a) = projQ a := by
  induction a with
  | nil => rfl
  | cons c a ih => rw [fixAdj, projQ_push]; cases c <;> simp only [projQ, ih]

theorem noAdj_fixAdj (a : Aln) : noAdj (fixAdj a) = true := by
  induction a with
  | nil => rfl
  | cons c a ih => exact noAdj_push c _ ih

theorem scoreAffFrom_fixAdj (S : Matrix) (o : Int) (ho : o ≤ 0) (H : ∀ x y, S x 0 + S 0 y ≤ S x y)
    (a : Aln) : ∀ p, scoreAffFrom S o p a ≤ scoreAffFrom S o p (fixAdj a) := by
  induction a with
  | nil => intro p; exact Int.le_refl _
  | cons c a ih =>
    intro p
    refine Int.le_trans ?_ (scoreAffFrom_push S o ho H c (fixAdj a) p)
    have := ih c.kind
    simp only [scoreAffFrom]
    omega

theorem exists_noAdj_ge (S : Matrix) (o : Int) (ho : o ≤ 0) (H : ∀ x y, S x 0 + S 0 y ≤ S x y)
    (r q : List Nat) (a : Aln) (h : IsGlobal a r q) :
    ∃ a', IsGlobal a' r q ∧ NoAdj a' ∧ scoreAff S o a ≤ scoreAff S o a' :=
  ⟨fixAdj a, ⟨(projR_fixAdj a).trans h.1, (projQ_fixAdj a).trans h.2⟩, noAdj_fixAdj a,
    scoreAffFrom_fixAdj S o ho H a .m⟩

/-- the surgery keeps the aligned segments -/
theorem exists_noAdj_ge_local (S : Matrix) (o : Int) (ho : o ≤ 0) (H : ∀ x y, S x 0 + S 0 y ≤ S x y)
    (r q : List Nat) (a : Aln) (h : IsLocal a r q) :
    ∃ a', IsLocal a' r q ∧ NoAdj a' ∧ scoreAff S o a ≤ scoreAff S o a' := by
  obtain ⟨r1, r2, r3, q1, q2, q3, hr, hq, hg⟩ := h
  obtain ⟨a', hg', hn, hle⟩ := exists_noAdj_ge S o ho H r2 q2 a hg
  exact ⟨a', ⟨r1, r2, r3, q1, q2, q3, hr, hq, hg'⟩, hn, hle⟩

end Biogo.Proofs.NoAdjSuffices
