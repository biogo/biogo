/-
Lemmas for C07: the column view of a container is a function of its row view; `Truncate` re-slices
a row to a range and `Subseq` does so on a copy; `AppendColumns` / `AppendEach` put every appended
column of an alignment in an array of its own.  Core-only.
-/
import Biogo.Model.ContWorld
import Biogo.Proofs.Containers
import Biogo.Proofs.ContFrame

namespace Biogo.Containers
open Biogo.Go

/-- the body of the loop of `Column`/`ColumnQL`:
    `if covers { c = append(c, x) } else if fill { c = append(c, g) }` -/
def colStep {β : Type} (p : Lin → Bool) (x : Lin → β) (g : β) (fill : Bool) (c : List β) (r : Lin) : List β :=
  if p r then c ++ [x r] else if fill then c ++ [g] else c

theorem foldl_colStep {β : Type} (p : Lin → Bool) (x : Lin → β) (g : β) (fill : Bool) :
    ∀ (rows : List Lin) (acc : List β),
      rows.foldl (colStep p x g fill) acc
        = acc ++ rows.filterMap (fun r => if p r then some (x r) else if fill then some g else none) := by
  intro rows
  induction rows with
  | nil => intro acc; simp
  | cons r rs ih =>
    intro acc
    rw [List.foldl_cons, ih, List.filterMap_cons]
    unfold colStep
    by_cases hp : p r = true
    · simp [hp]
    · cases fill <;> simp [hp]

theorem foldl_column_fill {β : Type} (p : Lin → Bool) (x : Lin → β) (g : β) (rows : List Lin) :
    rows.foldl (colStep p x g true) [] = rows.map (fun r => if p r then x r else g) := by
  rw [foldl_colStep, List.nil_append, ← List.filterMap_eq_map]
  congr 1
  funext r
  by_cases hp : p r = true <;> simp [hp]

theorem foldl_column_nofill {β : Type} (p : Lin → Bool) (x : Lin → β) (g : β) (rows : List Lin) :
    rows.foldl (colStep p x g false) [] = rows.filterMap (fun r => if p r then some (x r) else none) := by
  rw [foldl_colStep, List.nil_append]
  rfl

def Multi.cell (h : Cells) (r : Lin) (pos : Int) : Option QL :=
  if Multi.covers r pos then some ((r.at? h pos).getD zeroQL) else none

theorem Multi.columnQL_fill (cx : Ctx) (h : Cells) (m : Multi) (pos : Int) :
    m.columnQL cx h pos true = m.rows.map fun r => (Multi.cell h r pos).getD ⟨cx.gap, 0⟩ := by
  show m.rows.foldl (colStep (fun r => Multi.covers r pos) (fun r => (r.at? h pos).getD zeroQL) ⟨cx.gap, 0⟩ true) [] = _
  rw [foldl_column_fill]
  apply List.map_congr_left
  intro r _
  simp only [Multi.cell]
  cases Multi.covers r pos <;> simp

theorem Multi.column_fill (cx : Ctx) (h : Cells) (m : Multi) (pos : Int) :
    m.column cx h pos true = m.rows.map fun r => ((Multi.cell h r pos).map (·.L)).getD cx.gap := by
  show m.rows.foldl (colStep (fun r => Multi.covers r pos) (fun r => ((r.at? h pos).getD zeroQL).L) cx.gap true) [] = _
  rw [foldl_column_fill]
  apply List.map_congr_left
  intro r _
  simp only [Multi.cell]
  cases Multi.covers r pos <;> simp

theorem Multi.column_nofill (cx : Ctx) (h : Cells) (m : Multi) (pos : Int) :
    m.column cx h pos false = m.rows.filterMap fun r => (Multi.cell h r pos).map (·.L) := by
  show m.rows.foldl (colStep (fun r => Multi.covers r pos) (fun r => ((r.at? h pos).getD zeroQL).L) cx.gap false) [] = _
  rw [foldl_column_nofill]
  congr 1
  funext r
  simp only [Multi.cell]
  cases Multi.covers r pos <;> simp

/-- a covered position inside a valid row is a real `At` (no index panic) -/
theorem Lin.at?_isSome_of_covers (h : Cells) (r : Lin) (hv : r.Valid h) (pos : Int)
    (hc : Multi.covers r pos = true) : (r.at? h pos).isSome = true := by
  simp only [Multi.covers, Lin.start, Lin.«end», Bool.and_eq_true] at hc
  have hc1 := of_decide_eq_true hc.1
  have hc2 := of_decide_eq_true hc.2
  simp only [Lin.at?]
  have h1 : ¬ pos < r.off := by omega
  simp only [h1, if_false, Option.isSome_map]
  simp only [Heap.get?]
  have h2 : (pos - r.off).toNat < r.s.len := by omega
  simp only [h2, if_true]
  have h3 : r.s.off + (pos - r.off).toNat < (h.arr r.s.arr).length := by have := hv.2; omega
  rw [List.getElem?_eq_getElem h3]
  rfl

theorem Aln.at?_col (h : Cells) (a : Aln) (r i : Nat) :
    a.at? h r (a.off + (i : Int)) = (a.cols[i]?).bind fun c => (h.get? c r).map (Lin.shown a.q) := by
  simp only [Aln.at?]
  have h1 : ¬ (a.off + (i : Int) < a.off) := by omega
  have h2 : (a.off + (i : Int) - a.off).toNat = i := by omega
  simp only [h1, if_false, h2]
  cases a.cols[i]? <;> rfl

theorem Aln.columnQL_get (h : Cells) (a : Aln) (r i : Nat) :
    (a.columnQL h i)[r]? = (a.cols[i]?).bind fun c => (h.get? c r).map (Lin.shown a.q) := by
  simp only [Aln.columnQL]
  cases a.cols[i]? with
  | none => simp
  | some c => simp only [List.getElem?_map, Heap.get?_eq_read]; rfl

theorem Aln.column_get (cx : Ctx) (h : Cells) (a : Aln) (r i : Nat) :
    (a.column cx h i)[r]? = (a.cols[i]?).bind fun c => (h.get? c r).map fun x =>
      if a.q then (if x.Q ≥ alnThreshold then x.L else cx.amb) else x.L := by
  simp only [Aln.column]
  cases a.cols[i]? with
  | none => simp
  | some c => simp only [List.getElem?_map, Heap.get?_eq_read]; rfl

-- characterises `Slice.slice`; kept although nothing cites it
theorem read_slice {α : Type} (h : Heap α) (s s' : Slice) (lo hi : Nat) (hs : s.slice lo hi = some s')
    (hhi : hi ≤ s.len) : h.read s' = ((h.read s).drop lo).take (hi - lo) := by
  simp only [Slice.slice] at hs
  split at hs
  · simp only [Option.some.injEq] at hs
    subst hs
    simp only [Heap.read]
    rw [List.drop_take, List.take_take, List.drop_drop]
    congr 1
    omega
  · cases hs

/-- offsets of the range `[st, en)` inside a sequence that starts at `off` and has `len` cells -/
theorem toNat_window (off st en : Int) (len : Nat) (h1 : off ≤ st) (h3 : en ≤ off + len) :
    (en - off).toNat - (st - off).toNat = min (en - st).toNat (len - (st - off).toNat) := by
  have ha : ((st - off).toNat : Int) = st - off := Int.toNat_of_nonneg (Int.sub_nonneg.mpr h1)
  have hb : (en - off).toNat ≤ len := Int.toNat_le.mpr (Int.sub_left_le_of_le_add h3)
  have hab : (en - st).toNat = (en - off).toNat - (st - off).toNat := by
    rw [← Int.toNat_sub', ha]; congr 1; omega
  rw [hab, Nat.min_eq_left (Nat.sub_le_sub_right hb _)]

/-- `sequtils.Truncate(r, r, start, end)` on a linear sequence succeeds exactly on the ranges
    inside `[Start, End)` (that fit the capacity) and re-slices the sequence to the range -/
theorem Lin.truncate_eq_some (l l' : Lin) (st en : Int) :
    l.truncate st en = some l' ↔
      l.start ≤ st ∧ st ≤ en ∧ en ≤ l.«end» ∧ (en - l.off).toNat ≤ l.s.cap ∧
      l' = { l with off := st, s := ⟨l.s.arr, l.s.off + (st - l.off).toNat,
              (en - l.off).toNat - (st - l.off).toNat, l.s.cap - (st - l.off).toNat⟩ } := by
  unfold Lin.truncate Slice.slice
  by_cases hb : st < l.start ∨ en > l.«end»
  · have c : (decide (st < l.start) || decide (en > l.«end»)) = true := by simpa using hb
    rw [if_pos c]
    exact ⟨nofun, fun h => hb.elim (fun h' => absurd h.1 (Int.not_le.mpr h')) fun h' => absurd h.2.2.1 (Int.not_le.mpr h')⟩
  · have c : ¬ (decide (st < l.start) || decide (en > l.«end»)) = true := by simpa using hb
    rw [if_neg c]
    by_cases hse : st ≤ en
    · rw [if_pos hse]
      by_cases hc : (st - l.off).toNat ≤ (en - l.off).toNat ∧ (en - l.off).toNat ≤ l.s.cap
      · rw [if_pos hc]
        exact ⟨fun h => by
          cases h
          exact ⟨Int.not_lt.mp fun h' => hb (Or.inl h'), hse, Int.not_lt.mp fun h' => hb (Or.inr h'), hc.2, rfl⟩,
          fun h => by rw [h.2.2.2.2]⟩
      · rw [if_neg hc]
        exact ⟨nofun, fun h => (hc ⟨Int.toNat_le_toNat (Int.sub_le_sub_right h.2.1 _), h.2.2.2.1⟩).elim⟩
    · rw [if_neg hse]
      exact ⟨nofun, fun h => (hse h.2.1).elim⟩

theorem Lin.truncate_spec (h : Cells) (l l' : Lin) (st en : Int) (ht : l.truncate st en = some l') :
    l'.letters h = ((l.letters h).drop (st - l.start).toNat).take (en - st).toNat ∧
    l'.start = st ∧ l'.«end» = en ∧ l'.q = l.q ∧ l'.name = l.name ∧ l'.strand = l.strand ∧
    l'.s.arr = l.s.arr ∧ l.start ≤ st ∧ st ≤ en ∧ en ≤ l.«end» := by
  obtain ⟨h1, h2, h3, _, rfl⟩ := (Lin.truncate_eq_some l l' st en).mp ht
  have e1 : l.start = l.off := rfl
  refine ⟨?_, rfl, ?_, rfl, rfl, rfl, rfl, h1, h2, h3⟩
  · simp only [Lin.letters, Heap.read, ← List.map_drop, ← List.map_take, List.drop_take, List.take_take,
      List.drop_drop, e1]
    congr 3
    exact toNat_window l.off st en l.s.len h1 h3
  · have ha : ((st - l.off).toNat : Int) = st - l.off := Int.toNat_of_nonneg (Int.sub_nonneg.mpr h1)
    have hb : ((en - l.off).toNat : Int) = en - l.off :=
      Int.toNat_of_nonneg (Int.sub_nonneg.mpr (Int.le_trans h1 h2))
    show st + (((en - l.off).toNat - (st - l.off).toNat : Nat) : Int) = en
    rw [Int.ofNat_sub (Int.toNat_le_toNat (Int.sub_le_sub_right h2 _)), ha, hb]
    omega

theorem Lin.truncate_isSome (l : Lin) (st en : Int) (h1 : l.start ≤ st) (h2 : st ≤ en) (h3 : en ≤ l.«end»)
    (hcap : l.s.len ≤ l.s.cap) : (l.truncate st en).isSome = true :=
  Option.isSome_iff_exists.mpr ⟨_, (Lin.truncate_eq_some l _ st en).mpr
    ⟨h1, h2, h3, Nat.le_trans (Int.toNat_le.mpr (Int.sub_left_le_of_le_add h3)) hcap, rfl⟩⟩

theorem Lin.truncate_valid (h : Cells) (l l' : Lin) (st en : Int) (ht : l.truncate st en = some l')
    (hv : l.Valid h) : l'.Valid h := by
  obtain ⟨h1, h2, h3, _, rfl⟩ := (Lin.truncate_eq_some l l' st en).mp ht
  refine ⟨hv.1, ?_⟩
  have hab : (st - l.off).toNat ≤ (en - l.off).toNat := Int.toNat_le_toNat (Int.sub_le_sub_right h2 _)
  have hb : (en - l.off).toNat ≤ l.s.len := Int.toNat_le.mpr (Int.sub_left_le_of_le_add h3)
  have := hv.2
  show l.s.off + (st - l.off).toNat + ((en - l.off).toNat - (st - l.off).toNat) ≤ (h.arr l.s.arr).length
  generalize (st - l.off).toNat = a at *
  generalize (en - l.off).toNat = b at *
  omega

/-- **Truncate over a range every row covers**: every row is truncated, no error -/
theorem Multi.truncate_spec (m : Multi) (st en : Int)
    (hall : ∀ r ∈ m.rows, (r.truncate st en).isSome = true) :
    (m.truncate st en).2 = true ∧
    All2 (fun r r' => r.truncate st en = some r') m.rows (m.truncate st en).1.rows := by
  have key : ∀ (rows : List Lin) (acc : List Lin), (∀ r ∈ rows, (r.truncate st en).isSome = true) →
      ∃ rs', rows.foldl (Multi.truncStep st en) (acc, true) = (acc ++ rs', true) ∧
        All2 (fun r r' => r.truncate st en = some r') rows rs' := by
    intro rows
    induction rows with
    | nil => intro acc _; exact ⟨[], by simp, .nil⟩
    | cons r rs ih =>
      intro acc hall
      have hr := hall r List.mem_cons_self
      obtain ⟨r', hr'⟩ := Option.isSome_iff_exists.mp hr
      obtain ⟨rs', h1, h2⟩ := ih (acc ++ [r']) (fun x hx => hall x (List.mem_cons_of_mem _ hx))
      refine ⟨r' :: rs', ?_, .cons hr' h2⟩
      have hstep : Multi.truncStep st en (acc, true) r = (acc ++ [r'], true) := by
        simp only [Multi.truncStep, Bool.not_true, Bool.false_eq_true, if_false, hr']
      rw [List.foldl_cons, hstep, h1]; simp
  obtain ⟨rs', h1, h2⟩ := key m.rows [] hall
  simp only [Multi.truncate]
  rw [h1]
  exact ⟨rfl, by simpa using h2⟩

/-- what `Subseq(st, en)` makes of one row -/
def SubRel (h : Cells) (st en : Int) (h' : Cells) (r c : Lin) : Prop :=
  c.letters h' = ((r.letters h).drop (st - r.start).toNat).take (en - st).toNat ∧
  c.start = st ∧ c.«end» = en ∧ c.q = r.q ∧ c.name = r.name ∧ c.strand = r.strand

theorem clone_cap (cx : Ctx) (h : Cells) (l : Lin) : (l.clone cx h).2.s.len ≤ (l.clone cx h).2.s.cap := by
  simp only [Lin.clone, Heap.ofList]; omega

/-- `Subseq` over a range every row covers is the loop of `Clone`, every clone then truncated (truncation does
    not read the heap) -/
theorem subseqFold_clone (cx : Ctx) (st en : Int) : ∀ (rows : List Lin) (h : Cells) (acc : List Lin),
    (∀ r ∈ rows, r.Valid h ∧ r.start ≤ st ∧ st ≤ en ∧ en ≤ r.«end») →
    ∃ cs, rows.foldl (Multi.subseqStep cx st en) (h, acc, true)
        = ((thread (fun h (r : Lin) => r.clone cx h) rows h).1, acc ++ cs, true) ∧
      All2 (fun c c' => c.truncate st en = some c') (thread (fun h (r : Lin) => r.clone cx h) rows h).2 cs := by
  intro rows
  induction rows with
  | nil => intro h acc _; exact ⟨[], by simp [thread], .nil⟩
  | cons r rs ih =>
    intro h acc hv
    obtain ⟨hvr, hr1, hr2, hr3⟩ := hv r List.mem_cons_self
    obtain ⟨_, _, _, hsize, hold, hoff, _, _, _, hlen⟩ := Lin.clone_fresh cx h r hvr
    -- the clone covers the same range, so its truncation succeeds
    have hsome := Lin.truncate_isSome (r.clone cx h).2 st en (by show (r.clone cx h).2.off ≤ st; rw [hoff]; exact hr1) hr2
      (by simp only [Lin.«end», hoff, hlen]; exact hr3) (clone_cap cx h r)
    obtain ⟨c', hc'⟩ := Option.isSome_iff_exists.mp hsome
    obtain ⟨cs, h2, hall⟩ := ih (r.clone cx h).1 (acc ++ [c']) fun x hx =>
      ⟨Lin.valid_mono (by omega) (hold _ (hv x (List.mem_cons_of_mem _ hx)).1.1) (hv x (List.mem_cons_of_mem _ hx)).1,
        (hv x (List.mem_cons_of_mem _ hx)).2⟩
    have hstep : Multi.subseqStep cx st en (h, acc, true) r = ((r.clone cx h).1, acc ++ [c'], true) := by
      simp only [Multi.subseqStep, Bool.not_true, Bool.false_eq_true, if_false, hc']
    refine ⟨c' :: cs, ?_, .cons hc' hall⟩
    rw [List.foldl_cons, hstep, h2]
    simp [thread]

theorem subseqRows_spec (cx : Ctx) (st en : Int) (rows : List Lin) (h : Cells)
    (hcov : ∀ r ∈ rows, r.Valid h ∧ r.start ≤ st ∧ st ≤ en ∧ en ≤ r.«end») :
    ∃ cs, rows.foldl (Multi.subseqStep cx st en) (h, [], true)
        = ((thread (fun h (r : Lin) => r.clone cx h) rows h).1, cs, true) ∧
      All2 (fun r c => SubRel h st en (thread (fun h (r : Lin) => r.clone cx h) rows h).1 r c ∧
          h.arrays.length ≤ c.s.arr) rows cs ∧
      Extends h (thread (fun h (r : Lin) => r.clone cx h) rows h).1 := by
  obtain ⟨cs, h2, htr⟩ := subseqFold_clone cx st en rows h [] hcov
  obtain ⟨hcl, _, hext⟩ := cloneRows_spec cx rows h
  -- what `Clone` says of every copy, then what `Truncate` says of it; truncation keeps the array
  refine ⟨cs, by rw [h2, List.nil_append], (hcl.trans htr).imp_mem fun r c' hr ⟨c, ⟨_, hnew, hview⟩, ht⟩ => ?_, hext⟩
  obtain ⟨s1, s2, s3, s4, s5, s6, s7, _⟩ := Lin.truncate_spec (thread (fun h (r : Lin) => r.clone cx h) rows h).1 c c' st en ht
  have hview := hview (hcov r hr).1
  simp only [linRowV, RowV.mk.injEq] at hview
  obtain ⟨v1, _, v3, v4, v5, v6⟩ := hview
  exact ⟨⟨by rw [s1, v6, v1], s2, s3, s4.trans v5, s5.trans v4, s6.trans v3⟩, s7 ▸ hnew⟩

-- characterises `Aln.newColumn`; kept although nothing cites it
theorem newColumn_fresh (cx : Ctx) (q : Bool) (h : Cells) (col : List QL) :
    (Aln.newColumn cx q h col).1.read (Aln.newColumn cx q h col).2 = col.map (Lin.stored q) ∧
    (Aln.newColumn cx q h col).2.arr = h.arrays.length ∧
    (Aln.newColumn cx q h col).2.len = col.length ∧
    (Aln.newColumn cx q h col).1.arrays.length = h.arrays.length + 1 ∧
    (∀ b, b < h.arrays.length → (Aln.newColumn cx q h col).1.arr b = h.arr b) := by
  obtain ⟨oarr, olen, osz, _, oold, oread⟩ := ofList_factsG h (col.map (Lin.stored q)) (cx.grow 0 col.length) zeroQL
  exact ⟨oread, oarr, olen.trans (List.length_map _), osz, oold.old⟩

/-- the loop of `AppendColumns`: one new backing array per appended column -/
theorem newColumns_spec (cx : Ctx) (q : Bool) (colsIn : List (List QL)) (h : Cells) :
    All2 (fun c s => (thread (Aln.newColumn cx q) colsIn h).1.read s = c.map (Lin.stored q) ∧
        CapValidG (thread (Aln.newColumn cx q) colsIn h).1 s ∧ h.arrays.length ≤ s.arr ∧ s.len = c.length)
      colsIn (thread (Aln.newColumn cx q) colsIn h).2 ∧
    (thread (Aln.newColumn cx q) colsIn h).2.Pairwise (fun a b => a.arr ≠ b.arr) ∧
    Extends h (thread (Aln.newColumn cx q) colsIn h).1 := by
  obtain ⟨hall, hpw, hext⟩ := thread_ofList (fun (_ : Cells) (c : List QL) => c.map (Lin.stored q))
    (fun c => cx.grow 0 c.length) zeroQL (fun _ s => s) id (fun _ _ => rfl)
    (fun _ _ => True) (fun _ _ _ _ _ => trivial) (fun _ _ _ _ _ => rfl) colsIn h
  exact ⟨hall.imp fun c s hcs => ⟨(hcs.2.2.2 trivial).1, hcs.2.1, hcs.2.2.1, (hcs.2.2.2 trivial).2.trans (List.length_map _)⟩,
    hpw, hext⟩

theorem Aln.appendColumns_thread (cx : Ctx) (h : Cells) (a : Aln) (rows : Nat) (colsIn : List (List QL))
    (hok : colsIn.any (fun c => c.length != rows) = false) :
    a.appendColumns cx h rows colsIn =
      some ((thread (Aln.newColumn cx a.q) colsIn h).1,
        { a with cols := a.cols ++ (thread (Aln.newColumn cx a.q) colsIn h).2 }) := by
  simp only [Aln.appendColumns, hok, Bool.false_eq_true, if_false]
  exact congrArg (fun p : Cells × List Slice => some (p.1, ({ a with cols := p.2 } : Aln)))
    (foldl_thread (Aln.newColumn cx a.q) colsIn h a.cols)

def Aln.ColsValid (h : Cells) (a : Aln) : Prop := ∀ c ∈ a.cols, c.arr < h.arrays.length

theorem eachColumn_length (cx : Ctx) (runs : List (List QL)) (i : Nat) :
    (Aln.eachColumn cx runs i).length = runs.length := by
  simp [Aln.eachColumn]

/-- the loop of `AppendEach` over the column indices `idx` is `AppendColumns` of those columns -/
theorem eachFold_eq (cx : Ctx) (rows : Nat) (runs : List (List QL)) (hr : runs.length = rows) :
    ∀ (idx : List Nat) (h : Cells) (a : Aln),
      idx.foldl (Aln.eachStep cx rows runs) (some (h, a))
        = some ((thread (Aln.newColumn cx a.q) (idx.map (Aln.eachColumn cx runs)) h).1,
                { a with cols := a.cols ++ (thread (Aln.newColumn cx a.q) (idx.map (Aln.eachColumn cx runs)) h).2 }) := by
  intro idx
  induction idx with
  | nil => intro h a; simp [thread]
  | cons i is ih =>
    intro h a
    have hok : [Aln.eachColumn cx runs i].any (fun c => c.length != rows) = false := by
      simp [eachColumn_length, hr]
    simp only [List.foldl_cons, Aln.eachStep]
    rw [Aln.appendColumns_thread cx h a rows _ hok, ih]
    simp [thread]

/-- the loop of `AppendEach` after `k` columns, any `k` -/
theorem appendEach_prefix (cx : Ctx) (rows : Nat) (runs : List (List QL)) (hr : runs.length = rows)
    (h : Cells) (a : Aln) :
    ∀ k, ∃ hk ak news,
      (List.range k).foldl (Aln.eachStep cx rows runs) (some (h, a)) = some (hk, ak) ∧
      ak.cols = a.cols ++ news ∧ news.length = k ∧
      (∀ j s, news[j]? = some s →
        hk.read s = (Aln.eachColumn cx runs j).map (Lin.stored a.q) ∧
        h.arrays.length ≤ s.arr ∧ s.arr < hk.arrays.length) ∧
      (∀ b, b < h.arrays.length → hk.arr b = h.arr b) ∧ h.arrays.length ≤ hk.arrays.length ∧
      ak.q = a.q ∧ ak.subs = a.subs ∧ ak.strand = a.strand ∧ ak.off = a.off := by
  intro k
  obtain ⟨hall, _, hext⟩ := newColumns_spec cx a.q ((List.range k).map (Aln.eachColumn cx runs)) h
  have hlen := hall.length_eq
  rw [List.length_map, List.length_range] at hlen
  refine ⟨_, _, _, eachFold_eq cx rows runs hr (List.range k) h a, rfl, hlen.symm, fun j s hs => ?_, hext.old,
    hext.size, rfl, rfl, rfl, rfl⟩
  have hj : j < k := hlen ▸ (List.getElem?_eq_some_iff.mp hs).1
  have hc : ((List.range k).map (Aln.eachColumn cx runs))[j]? = some (Aln.eachColumn cx runs j) := by
    rw [List.getElem?_map, List.getElem?_range hj]; rfl
  obtain ⟨e1, e2, e3, _⟩ := hall.get j _ s hc hs
  exact ⟨e1, e3, e2.1⟩

end Biogo.Containers
