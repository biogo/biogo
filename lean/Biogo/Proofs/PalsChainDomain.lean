/-
When the query is at least a tube wide (`TubeOffset + MaxError ≤ Qlen + 1`), every hit the filter
model pushes has `-Diagonal ≤ Qlen`: the guard `Left > Qlen` of `MergeFilterHit` never fires on the
filter's output.

A hit carries the tube index it is *emitted under* (`Diagonal = Tlen - index·TubeOffset`): the index
of the common k-mer that evicts a run, of the tick that retires a tube, or of the final flush loop —
not necessarily the index the run was collected under (the tube array is circular).  The bound on
the label therefore needs a global invariant of the tube array (`GInv`): every slot holding an
emittable run (`Count ≥ minKmersPerHit`) was last addressed under an index `I` with
`I·off ≤ Tlen + Qlen` that has not been retired yet (`T ≤ I`, where the indices below `T` have been
retired by a tick or visited by the final flush).  The final flush starts at the number of ticks
(`ticked`) and is, where it emits, a retirement.
-/
import Biogo.Proofs.PalsChain

namespace Biogo.Proofs.PalsChainDomain
open Biogo.Filter Biogo.Proofs.FilterRun

structure GInv (c : Cfg) (qlen T : Nat) (st : St) : Prop where
  size : st.tubes.size = c.cap
  live : ∀ slot, ((getTube st slot).count : Int) ≥ c.minKmers →
    ∃ I, I % c.cap = slot ∧ T ≤ I ∧ I * c.off ≤ c.tlen + qlen
  hits : ∀ h ∈ st.hits, -h.diagonal ≤ (qlen : Int)

theorem addHit_dom (c : Cfg) (qlen : Nat) (st : St) (ti : Nat) (a b : Nat)
    (hl : ti * c.off ≤ c.tlen + qlen) (hh : ∀ h ∈ st.hits, -h.diagonal ≤ (qlen : Int)) :
    ∀ h ∈ (addHit c st (ti : Int) a b).hits, -h.diagonal ≤ (qlen : Int) := by
  intro h hm
  simp only [addHit, List.mem_cons] at hm
  rcases hm with rfl | e
  · have : ((ti * c.off : Nat) : Int) = (ti : Int) * (c.off : Int) := by simp
    show -((c.tlen : Int) - ti * c.off) ≤ qlen
    omega
  · exact hh h e

/-- `T'` is the first live tube afterwards: `T`, or `T + 1` when the slot of tube `T` itself is emptied -/
theorem put_g {c : Cfg} (hcap : 0 < c.cap) {qlen T T' : Nat} {st : St} (inv : GInv c qlen T st) (x : Nat) (emit : Bool)
    (v : Tube) (hem : emit = true → x * c.off ≤ c.tlen + qlen)
    (hv : (v.count : Int) ≥ c.minKmers → T' ≤ x ∧ x * c.off ≤ c.tlen + qlen)
    (hT : ∀ I, T ≤ I → I % c.cap ≠ x % c.cap → T' ≤ I) :
    GInv c qlen T' (put c st (x % c.cap) x emit v) := by
  refine ⟨(put_size ..).trans inv.size, fun slot hge => ?_, ?_⟩
  · rw [getTube_put] at hge
    split at hge
    · rename_i h; exact ⟨x, h.1, hv hge⟩
    · rename_i h
      obtain ⟨I, h1, h2, h3⟩ := inv.live slot hge
      refine ⟨I, h1, hT I h2 fun e => h ⟨e.symm.trans h1, ?_⟩, h3⟩
      rw [inv.size]; exact Nat.mod_lt _ hcap
  · rw [put_hits]
    split
    · rename_i h; exact addHit_dom c qlen st x _ _ (hem h) inv.hits
    · exact inv.hits

theorem hitTube_g {c : Cfg} (hcap : 0 < c.cap) {qlen T : Nat} {st : St} (inv : GInv c qlen T st) (ti q : Nat)
    (hT : T ≤ ti) (hB : ti * c.off ≤ c.tlen + qlen) : GInv c qlen T (hitTube c st ti q) := by
  rw [hitTube_put]
  exact put_g hcap inv ti _ _ (fun _ => hB) (fun _ => ⟨hT, hB⟩) fun _ h _ => h

/-- `hT`: any tube `j`, the first live tube staying what it is (the final `tubeEnd`); or `T` itself, after which
    it is `T + 1` (a tick, an emitting step of the flush) -/
theorem retire_g {c : Cfg} (hcap : 0 < c.cap) (hmin : 0 < c.minKmers) {qlen T T' : Nat} {st : St}
    (inv : GInv c qlen T st) (j : Nat) (hlab : j * c.off ≤ c.tlen + qlen) (hT : T' = T ∨ (T' = T + 1 ∧ j = T)) :
    GInv c qlen T' (retire c st (j : Int)) := by
  rw [retire_nat]
  refine put_g hcap inv j _ _ (fun _ => hlab) (fun h => by simp only [] at h; omega) fun I h1 h2 => ?_
  rcases hT with rfl | ⟨rfl, rfl⟩
  · exact h1
  · exact Nat.lt_of_le_of_ne h1 fun e => h2 (by rw [e])

/-- `hwide`: the query is at least a tube wide (the wrap-around `tubeIndex 0 → cap-1` is emitted
    under index `cap-1`, whose diagonal is up to `off+e-1` beyond the target's end) -/
theorem scan_g {c : Cfg} (w : WF c) (hmin : 0 < c.minKmers) (qlen : Nat) (ts : Nat → List Nat)
    (hts : ∀ p t, t ∈ ts p → t < c.tlen) (hwide : c.off + c.maxError ≤ qlen + 1) (l0 : Loop)
    (h0 : l0.ticker = c.off + c.maxError) (hi0 : GInv c qlen 0 l0.st) :
    ∀ N, N ≤ qlen + 1 → GInv c qlen (ticked c N) (scanN c ts l0 N).st := by
  intro N
  induction N with
  | zero => intro _; rw [show ticked c 0 = 0 by unfold ticked; rw [Nat.zero_sub, Nat.zero_div]]; exact hi0
  | succ N ih =>
    intro hN
    have inv1 : GInv c qlen (ticked c N) ((ts N).foldl (fun s t => commonKmer c s t N) (scanN c ts l0 N).st) := by
      rw [kmers_eq]
      exact List.foldlRecOn (motive := GInv c qlen (ticked c N)) _ _ (ih (by omega)) fun s hs x hx =>
        have ⟨h1, h2⟩ := kmers_live w (hts N) x hx
        hitTube_g w.cap_pos hs x N h1.1 (h2 qlen (by omega) hwide)
    rw [scanN_st_succ w ts l0 h0 N, ticked_succ w]
    split
    · rename_i hfire
      exact retire_g w.cap_pos hmin inv1 _ (by have := ticked_mul_le c N; omega) (Or.inr ⟨rfl, rfl⟩)
    · exact inv1

theorem flush_g {c : Cfg} (hcap : 0 < c.cap) (hmin : 0 < c.minKmers) (qlen : Nat) :
    ∀ (n x : Nat) (st : St), GInv c qlen x st → GInv c qlen (x + n) (flushLoop c n x st) := by
  intro n
  induction n with
  | zero => intro x st h; exact h
  | succ n ih =>
    intro x st h
    rw [flushLoop, show x + (n + 1) = (x + 1) + n by omega, tubeFlush_eq]
    apply ih
    split
    · rename_i hthr
      refine ⟨h.size, fun slot hge => ?_, h.hits⟩
      obtain ⟨I, h1, h2, h3⟩ := h.live slot hge
      exact ⟨I, h1, Nat.lt_of_le_of_ne h2 fun e => by subst e; rw [h1] at hthr; omega, h3⟩
    · rename_i hthr
      obtain ⟨I, _, h2, h3⟩ := h.live (x % c.cap) (by omega)
      exact retire_g hcap hmin h x (Nat.le_trans (Nat.mul_le_mul_right _ h2) h3) (Or.inr ⟨rfl, rfl⟩)

theorem runFilter_hits_dom {c : Cfg} (w : WF c) (ts : Nat → List Nat) (qlen : Nat)
    (hts : ∀ p t, t ∈ ts p → t < c.tlen) (hq : c.k ≤ qlen) (hqe : c.maxError + 1 ≤ qlen)
    (hwide : c.off + c.maxError ≤ qlen + 1) (hmin : 0 < c.minKmers) :
    ∀ h ∈ (runFilter c ts (qlen - c.k + 1) qlen).hits, -h.diagonal ≤ (qlen : Int) := by
  have inv := scan_g w hmin qlen ts hts hwide
    { st := { tubes := Array.replicate c.cap default, hits := [] }, ticker := c.off + c.maxError } rfl
    ⟨by simp, fun slot hge => by rw [getTube_init] at hge; exact absurd hge (Int.not_le.mpr hmin), by simp⟩
    (qlen - c.k + 1) (by omega)
  unfold runFilter
  simp only []
  generalize scanN c ts _ (qlen - c.k + 1) = l at inv
  unfold tubeEnd
  rw [tubeEndIndex_eq w (by omega), flushRange_eq w qlen hq (by omega)]
  exact (flush_g w.cap_pos hmin qlen _ _ _ (retire_g w.cap_pos hmin inv _
    (Nat.le_trans (ticked_mul_le c (qlen - 1)) (by omega)) (Or.inl rfl))).hits

open Biogo.Proofs.FilterComplete Biogo.Proofs.Kmer Biogo.Spec.Kmer Biogo.Kmer in
/-- **Any** query, on either strand: positions whose window holds a letter outside the alphabet
    contribute no common k-mer — `tsOf … = []` — and the ticks that fall on them are caught up by
    `tick`, so the invariant of the tube array is the one of a query over the alphabet. -/
theorem filter_hits_dom {lk : Lookup} (hlk : FourLetter lk) (t q : List UInt8) (k : Nat) (p : Params)
    (selfAlign complement : Bool) (hk1 : 1 ≤ k) (hk2 : 2 * k ≤ wordBits) (ht : k ≤ t.length)
    (hkq : k ≤ q.length) (he : p.maxError ≤ p.tubeOffset) (hoff : 1 ≤ p.tubeOffset)
    (hqe : p.maxError + 1 ≤ q.length) (hwide : p.tubeOffset + p.maxError ≤ q.length + 1)
    (hthr : 0 < minWordsPerFilterHit p.minMatch k p.maxError)
    (hits : List Hit) (hf : filter repaired lk (builtIndex lk k t) p q selfAlign complement = .ok hits) :
    ∀ h ∈ hits, -h.diagonal ≤ (q.length : Int) := by
  intro h hh
  rw [PalsChain.filter_ok_run hlk repaired t q k p selfAlign complement rfl hk1 hk2 hkq he hoff hits hf, List.mem_reverse] at hh
  exact runFilter_hits_dom ⟨hoff, he, rfl, rfl⟩ _ q.length (fun _ _ hx => tsOf_lt hlk k hk1 hk2 t q ht hx) hkq hqe hwide hthr
    h hh

end Biogo.Proofs.PalsChainDomain
