/-
What a single atomic block of the concurrent sorter model does and leaves alone, in any state — no invariant
assumed, so that the proofs about whole runs can cite it for whatever they follow.  A block of `write()` keeps
the caller's side of the state and the settings (`WFrame`); a block of the caller stays inside the call or
returns from it through `finishOp` (`CStep_shape`), which appends one output and leaves `progAfter` of the
program; `Pull` ends in one of two ways (`pullF_cases`).
-/
import Biogo.Model.MorassConc
import Biogo.Proofs.MorassConc

namespace Biogo.MorassConc
open Biogo.Morass

theorem finished_iff {s : CState} : finished s = true ↔ s.prog = [] ∧ s.pc = .idle := by
  simp only [finished, Bool.and_eq_true, List.isEmpty_iff, beq_iff_eq]

def Reported (s : CState) : Prop := ∃ o ∈ s.outs, o.res = .ioerr

/-- what is left of the caller's program when a call returns `r`; `giveUp`: an I/O error ends the
    program instead of skipping to the next `Clear` -/
def progAfter (r : Res) (giveUp : Bool) (p : List Op) : List Op :=
  if r = .panic ∨ r = .hang then []
  else if r = .ioerr then (if giveUp then [] else p.tail.dropWhile (· != Op.clear))
  else p.tail

theorem finishOp_prog (s : CState) (r : Res) (x : Option Elem) :
    (finishOp s r x).prog = progAfter r (s.conc && !s.reuse) s.prog := rfl

theorem progAfter_map (f : List Op → List Op) (r : Res) (g : Bool) {p : List Op} (h0 : f [] = [])
    (ht : f p.tail = (f p).tail)
    (hd : f (p.tail.dropWhile (· != Op.clear)) = (f p).tail.dropWhile (· != Op.clear)) :
    f (progAfter r g p) = progAfter r g (f p) := by
  unfold progAfter
  split
  · exact h0
  · split
    · cases g
      · exact hd
      · exact h0
    · exact ht

/-- what no block of `write()` touches, in any state (`WEffect` needs `1 ≤ wg` for its counting
    equations): the caller's side of the state and the sorter's settings; only the block that
    creates the temporary file adds a run file to the directory -/
structure WFrame (s s' : CState) (w : Writer) : Prop where
  writers : s'.writers = s.writers
  outs : s'.outs = s.outs
  prog : s'.prog = s.prog
  pc : s'.pc = s.pc
  inl : s'.inl = s.inl
  chunk : s'.m.chunk = s.m.chunk
  cs : s'.m.chunkSize = s.m.chunkSize
  ac : s'.m.autoClear = s.m.autoClear
  acl : s'.autoClean = s.autoClean
  disk : w.pc ≠ .recv → s'.onDisk = s.onDisk

theorem wstep_frame {s s' : CState} {w w' : Writer} (h : wstep s w = some (w', s')) : WFrame s s' w := by
  cases wstep_cases h with
  | recvOk _ _ _ hpc => exact ⟨rfl, rfl, rfl, rfl, rfl, rfl, rfl, rfl, rfl, fun h => absurd hpc h⟩
  | _ => exact ⟨rfl, rfl, rfl, rfl, rfl, rfl, rfl, rfl, rfl, fun _ => rfl⟩

theorem wstep_err {s s' : CState} {w w' : Writer} (h : wstep s w = some (w', s')) :
    s'.m.err = s.m.err ∨ s'.m.err = some .ioerr := by
  cases wstep_cases h with
  | recvBad | encodeBad | syncBad => exact Or.inr rfl
  | _ => exact Or.inl rfl

theorem wstep_done_pool {s s' : CState} {w w' : Writer} (h : wstep s w = some (w', s'))
    (hd : w'.pc = .done) : 1 ≤ s'.m.pool := by
  cases wstep_cases h with
  | ret => exact Nat.le_add_left 1 _
  | register | encodeOk => simp only at hd; split at hd <;> cases hd
  | _ => cases hd

theorem wstep_done_none (s : CState) {w : Writer} (h : w.pc = .done) : wstep s w = none := by
  simp [wstep, h]

theorem wstep_pool_ge {s s' : CState} {w w' : Writer} (h : wstep s w = some (w', s')) :
    s.m.pool ≤ s'.m.pool := by
  cases wstep_cases h with
  | ret => exact Nat.le_add_right _ 1
  | _ => exact Nat.le_refl _

theorem CStep_shape {s t : CState} (h : CStep s t) :
    (t.m.chunkSize = s.m.chunkSize ∧ t.m.autoClear = s.m.autoClear ∧ t.autoClean = s.autoClean)
    ∧ ((t.outs = s.outs ∧ t.prog = s.prog ∧ (t.writers = s.writers ∨ t.writers = s.writers ++ [({} : Writer)]))
      ∨ (∃ s1 r x, t = finishOp s1 r x ∧ s1.outs = s.outs ∧ s1.prog = s.prog ∧ s1.writers = s.writers)) := by
  cases h with
  | pushFull | finDisk | fsend => exact ⟨⟨rfl, rfl, rfl⟩, Or.inl ⟨rfl, rfl, Or.inl rfl⟩⟩
  | send => exact ⟨⟨rfl, rfl, rfl⟩, Or.inl ⟨rfl, rfl, Or.inr rfl⟩⟩
  | fwrite w s' hpc hw =>
    have fr := wstep_frame hw
    exact ⟨⟨fr.cs, fr.ac, fr.acl⟩, Or.inl ⟨fr.outs, fr.prog, Or.inl fr.writers⟩⟩
  | pushRoom e rest ch hpc hprog herr hch hfull =>
    refine ⟨?_, Or.inr ⟨_, _, _, rfl, rfl, rfl, rfl⟩⟩
    show (push s.m e).1.chunkSize = _ ∧ (push s.m e).1.autoClear = _ ∧ _
    rw [push_room e herr hch hfull]; exact ⟨rfl, rfl, rfl⟩
  | finFast rest ch hpc hprog herr hch hlt =>
    refine ⟨?_, Or.inr ⟨_, _, _, rfl, rfl, rfl, rfl⟩⟩
    show (finalise s.m).1.chunkSize = _ ∧ (finalise s.m).1.autoClear = _ ∧ _
    rw [finalise_mem herr hch hlt]; exact ⟨rfl, rfl, rfl⟩
  | pull =>
    have fr := pullF_frame s
    exact ⟨⟨fr.cs, fr.ac, fr.autoClean⟩, Or.inr ⟨_, _, _, rfl, fr.outs, fr.prog, fr.writers⟩⟩
  | clear =>
    have fr := clearF_frame s
    exact ⟨⟨fr.cs, fr.ac, fr.autoClean⟩, Or.inr ⟨_, _, _, rfl, fr.outs, fr.prog, fr.writers⟩⟩
  -- every other block returns from the call without touching the settings
  | _ => exact ⟨⟨rfl, rfl, rfl⟩, Or.inr ⟨_, _, _, rfl, rfl, rfl, rfl⟩⟩

theorem finishOp_m (s : CState) (r : Res) (v : Option Elem) : (finishOp s r v).m = s.m := rfl

theorem finishOp_outs (s : CState) (r : Res) (v : Option Elem) :
    (finishOp s r v).outs.reverse = s.outs.reverse ++ [⟨r, v, s.m.len, s.m.pos⟩] := by
  simp [finishOp]

theorem CStep.outs_grow {s t : CState} (h : CStep s t) : t.outs = s.outs ∨ ∃ o, t.outs = o :: s.outs := by
  rcases (CStep_shape h).2 with ⟨ho, _⟩ | ⟨s1, r, x, rfl, ho, _⟩
  · exact Or.inl ho
  · exact Or.inr ⟨_, by show _ :: s1.outs = _; rw [ho]⟩

theorem CStep.not_finished {s t : CState} (hst : CStep s t) : ¬ (s.pc = .idle ∧ s.prog = []) := by
  rintro ⟨hpc, hprog⟩
  cases hst with
  | pushErr _ _ _ _ h' | pushNil _ _ _ h' | pushFull _ _ _ _ h' | pushRoom _ _ _ _ h' | finErr _ _ _ h'
  | finNil _ _ h' | finFast _ _ _ h' | finDisk _ _ _ h' | finEmpty _ _ _ _ _ _ h' | pull _ _ h' | clear _ _ h'
  | reject _ _ h' => rw [hprog] at h'; cases h'
  | send _ _ h' | recvErr _ _ _ h' | recvOk _ _ h' | fsend _ _ h' | fwrite _ _ h' | waitErr _ h'
  | waitOk _ _ _ h' => rw [hpc] at h'; cases h'

/-- `Pull` ends in one of two ways.  It reports io.EOF — from the state it found or, in the fast
    path, after handing the drained chunk back to `pool` — and then clears under AutoClear; or it
    leaves `pool`, the chunk and the error slot alone.  It never returns the type-mismatch error. -/
theorem pullF_cases (s : CState) :
    (∃ s1, (s1 = s ∨ s1 = { s with m := { s.m with pool := s.m.pool + 1, chunk := none } })
        ∧ pullF s = (atEof (if s.m.autoClear = true then (clearF s1).1 else s1), .eof, none))
    ∨ ((pullF s).1.m.pool = s.m.pool ∧ (pullF s).1.m.chunk = s.m.chunk ∧ (pullF s).1.m.err = s.m.err
        ∧ (pullF s).2.1 ≠ .rejected) := by
  have h := pullF_branch s
  generalize pullF s = o at h ⊢
  cases h with
  | memEof => exact Or.inl ⟨_, Or.inr rfl, rfl⟩
  | nilEof | noFile => exact Or.inl ⟨s, Or.inl rfl, rfl⟩
  | mem | hang | decodeErr => exact Or.inr ⟨rfl, rfl, rfl, nofun⟩
  | next low | last low => exact Or.inr ⟨rfl, rfl, rfl, by cases low.head <;> nofun⟩

theorem pullF_res (s : CState) : (pullF s).2.1 ≠ .rejected := by
  rcases pullF_cases s with ⟨s1, _, e⟩ | h
  · rw [e]; nofun
  · exact h.2.2.2

end Biogo.MorassConc
