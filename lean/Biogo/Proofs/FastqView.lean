/-
The FASTQ reader sees its input only through `viewQ`: the complete lines after
`bytes.TrimSpace`, and the fragments pending at `io.EOF` with their white space removed.
Hence any layout of well-formed records reads back as these records (`renders_read`: the
layout is read on its own lines, which differ from what `ReadLine` delivers by a CR at most).
-/
import Biogo.Proofs.Fastq
import Biogo.Proofs.FastaView

namespace Biogo.Fastq
open Biogo.Go.Bytes Biogo.Spec.Seqio
open Biogo.Fasta (TrimEq trimEq_of_map_eq toCRLF terminated_parts terminated_joinLF)

theorem finish_removeSpaces (cfg : Cfg) (st : LoopSt) (l l' : Bytes) (rest : List Bytes × Bytes)
    (h : removeSpaces l = removeSpaces l') : finish cfg st l rest = finish cfg st l' rest := by
  unfold finish
  simp only [h]

theorem loop_view (cfg : Cfg) {pend pend' : Bytes} (hp : removeSpaces pend = removeSpaces pend')
    {lines lines' : List Bytes} (h : TrimEq lines lines') :
    ∀ (st : LoopSt) (ret : Ret) (rest : List Bytes) (p : Bytes), loop cfg pend st lines = .ok (ret, rest, p) →
      ∃ rest' p', loop cfg pend' st lines' = .ok (ret, rest', p') ∧ TrimEq rest rest' ∧
        removeSpaces p = removeSpaces p' := by
  induction h with
  | nil =>
    intro st ret rest p hr
    rw [loop_nil] at hr ⊢
    rw [← finish_removeSpaces cfg _ _ _ _ hp]
    exact ⟨rest, p, hr, TrimEq.refl _, rfl⟩
  | cons l l' ls ls' heq htail ih =>
    intro st ret rest p hr
    rw [loop_step] at hr ⊢
    rw [← heq]
    rcases hs : step cfg st (trimSpace l) with e | s1 | r1 <;> rw [hs] at hr
    · cases hr
    · exact ih _ _ _ _ hr
    · cases hr; exact ⟨ls', pend', rfl, htail, hp⟩

theorem calls_view (cfg : Cfg) {lines lines' : List Bytes} {pend pend' : Bytes} {rs : List Ret}
    (h : TrimEq lines lines') (hp : removeSpaces pend = removeSpaces pend')
    (hc : Calls (call cfg) IsEOF (lines, pend) rs) : Calls (call cfg) IsEOF (lines', pend') rs :=
  hc.sim (fun a b => TrimEq a.1 b.1 ∧ removeSpaces a.2 = removeSpaces b.2)
    (fun _ _ ret ⟨rest, p⟩ hab hr =>
      let ⟨rest', p', h1, h2, h3⟩ := loop_view cfg hab.2 hab.1 {} ret rest p hr
      ⟨(rest', p'), h1, h2, h3⟩) _ ⟨h, hp⟩

/-- what the FASTQ reader can see of an input: the lines `ReadLine` delivers completely, trimmed,
    and the bytes pending at `io.EOF` without their white space (`finish` uses them only through
    `bytes.Join(bytes.Fields(line), nil)`) -/
def viewQ (eofWithData : Bool) (bs : Bytes) : List Bytes × Bytes :=
  ((readLineInput eofWithData bs).1.map trimSpace, removeSpaces (readLineInput eofWithData bs).2)

/-- **The FASTQ reader sees an input only through `viewQ`.**  Two byte strings — valid files or
    not — with the same view (under either behaviour of the `io.Reader` at the end of each) give
    the same call history. -/
theorem readAll_viewQ (cfg : Cfg) (e e' : Bool) (bs bs' : Bytes) (h : viewQ e bs = viewQ e' bs') :
    readAll cfg e bs = readAll cfg e' bs' := by
  simp only [viewQ, Prod.mk.injEq] at h
  obtain ⟨rs, hc⟩ := Calls.exists_of_progress _ _ (call_progress cfg) (readLineInput e bs)
  exact (readAll_calls cfg e hc).trans
    (readAll_calls cfg e' (calls_view (lines' := (readLineInput e' bs').1) (pend' := (readLineInput e' bs').2) cfg
      (trimEq_of_map_eq _ _ h.1) h.2 hc)).symm

theorem viewQ_of_parts (e : Bool) {bs bs' : Bytes}
    (h1 : TrimEq (splitParts bs []).1 (splitParts bs' []).1) (h2 : (splitParts bs []).2 = (splitParts bs' []).2) :
    viewQ e bs = viewQ e bs' := by
  simp only [viewQ, readLineInput_parts, h2]
  split
  · rw [h1.map_eq]
  · rw [List.map_append, List.map_append, h1.map_eq]

theorem viewQ_toCRLF (e : Bool) (bs : Bytes) : viewQ e (toCRLF bs) = viewQ e bs :=
  viewQ_of_parts e (Biogo.Fasta.splitParts_toCRLF bs []).1 (Biogo.Fasta.splitParts_toCRLF bs []).2

/-- blanks in front of a line terminator are invisible -/
theorem viewQ_trailing_blanks (e : Bool) (a blanks b : Bytes) (hb : ∀ x ∈ blanks, isBlank x = true) :
    viewQ e (a ++ blanks ++ 10 :: b) = viewQ e (a ++ 10 :: b) := by
  have hline : trimSpace (dropCR (blanks.reverse ++ (splitParts a []).2.reverse)).reverse
      = trimSpace (dropCR (splitParts a []).2.reverse).reverse := by
    rw [trimSpace_dropCR_reverse, trimSpace_dropCR_reverse, List.reverse_append, List.reverse_reverse,
      trimSpace_append_blanks _ _ (fun x hx => isBlank_space (hb x (by simpa using hx)))]
  apply viewQ_of_parts <;>
    rw [List.append_assoc, splitParts_append a, splitParts_append a,
      splitParts_line blanks b _ (fun x hx => isBlank_ne_lf (hb x hx)), splitParts_lf]
  exact (TrimEq.refl _).append (.cons _ _ _ _ hline (TrimEq.refl _))

/-- `ReadLine` delivers the lines of a file up to a CR, the last one pending at `io.EOF` (`h2`) or not (`h1`) -/
theorem calls_terminated (cfg : Cfg) (e : Bool) {lines : List Bytes} {bs : Bytes} {rs : List Ret}
    (ht : Terminated lines bs) (h1 : Calls (call cfg) IsEOF (lines, []) rs)
    (h2 : (splitParts bs []).2 ≠ [] → ∀ init l, lines = init ++ [l] → Calls (call cfg) IsEOF (init, l) rs) :
    Calls (call cfg) IsEOF (readLineInput e bs) rs := by
  obtain ⟨init, rfl, hte⟩ := terminated_parts ht
  rw [readLineInput_parts]
  split
  · rename_i hcnd
    have hne : (splitParts bs []).2 ≠ [] := fun h0 => by simp [h0] at hcnd
    exact calls_view cfg hte rfl (h2 hne init _ (by simp [optLine, hne]))
  · exact calls_view cfg (hte.append (TrimEq.refl _)) rfl h1

/-- Reading any layout of records whose parts are well formed returns, call by call, the
    record built from each header, letters and quality line, then `io.EOF` — whatever the
    `io.Reader` does at the end of the input. -/
theorem renders_read (cfg : Cfg) (eofWithData : Bool) (ql : QRec → Bytes) (recs : List QRec) (bs : Bytes)
    (hok : ∀ r ∈ recs, RecOK ql r) (h : FastqRenders ql recs bs) :
    readAll cfg eofWithData bs
      = recs.map (fun r => retOK (built cfg r.name r.desc r.letters (ql r))) ++ [retEOF] := by
  suffices hc : Calls (call cfg) IsEOF (readLineInput eofWithData bs)
      (recs.map (fun r => ⟨some (built cfg r.name r.desc r.letters (ql r)), none⟩) ++ [⟨none, some .eof⟩]) by
    rw [readAll_calls cfg _ hc]
    simp only [List.map_append, List.map_map, List.map_cons, List.map_nil]
    rfl
  rcases h with ⟨lines, hl, ht⟩ | ⟨lines, hl, rfl⟩
  · have hq := fastqLines_calls cfg hl hok
    exact calls_terminated cfg _ ht (hq.1 []) (fun _ => hq.2)
  · -- the file ends in LF (or is empty): the last, empty, line of the layout is what vanished
    have hnolf : ∀ l ∈ lines, ∀ b ∈ l, b ≠ 10 := fun l hl' => fastqLines_nolf hl hok l (by simp [hl'])
    refine calls_terminated cfg _ (terminated_joinLF lines hnolf) ((fastqLines_calls cfg hl hok).2 lines [] rfl)
      (fun hne => ?_)
    exact absurd ((splitParts_final _ []).mpr ((joinLF_final lines).imp (⟨·, rfl⟩) id)) hne

/-- any layout of well-formed `linear.QSeq` records reads back as these records, then `io.EOF` -/
theorem renders_read_qseq (tabs : QTables) (enc : Encoding) (eofWithData : Bool) (recs : List QRec) (bs : Bytes)
    (hwf : ∀ r ∈ recs, wfFastq enc r = true) (h : FastqRenders (qlineOf tabs enc) recs bs) :
    readAll ⟨.qseq enc, tabs⟩ eofWithData bs
      = recs.map (fun r => Call.ret ⟨some r, none⟩) ++ [Call.ret ⟨none, some .eof⟩] := by
  rw [renders_read ⟨.qseq enc, tabs⟩ eofWithData _ recs bs (fun r hr => (recOK_of_wf tabs enc r (hwf r hr)).1) h]
  congr 1
  apply List.map_congr_left
  intro r hr
  rw [built_qseq tabs enc r (recOK_of_wf tabs enc r (hwf r hr)).2]
  rfl

end Biogo.Fastq
