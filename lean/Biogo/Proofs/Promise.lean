/-
The repaired Promise protocol (`Biogo.Promise.sys c` with `c.fixed = true`).

For every flag combination and every kind of call: the kinds of step (`step_cases`), the mutex
discipline (`Mutex`), a step seen from the promise's content (`cur_step`), the shape of a blocked
state (`stuck_shape`), and the variant `pmu` (for the unrepaired protocol too).  For an immutable
promise without relay and any number of concurrent Fulfill / Fail / Wait calls with any values
(nil included): the single-assignment invariant `Inv`, under every schedule.
-/
import Biogo.Model.Promise
import Biogo.Proofs.ActorTables

namespace Biogo.Promise
open Biogo.LTS

theorem fulfill_unset (f : Flags) (v : Option Nat) :
    fulfill f none v = (some ⟨v, none⟩, none) := by
  cases f with | mk m r l => cases m <;> cases l <;> rfl

theorem fulfill_fulfilled (f : Flags) (v0 v : Option Nat) :
    fulfill f (some ⟨v0, none⟩) v =
      (some (if f.mutable then ⟨v, none⟩ else ⟨v0, if f.relay then some .alreadySet else none⟩),
       if f.mutable then none else some .alreadySet) := by
  cases f with | mk m r l => cases m <;> cases l <;> rfl

theorem fulfill_failed (f : Flags) (v0 v : Option Nat) (e : ErrV) :
    fulfill f (some ⟨v0, some e⟩) v =
      (some ⟨v0, some e⟩, some (if f.relay then .cannotRelay else .failedPromise)) := by
  cases f with | mk m r l => cases m <;> cases l <;> rfl

theorem fulfill_fst_isSome (f : Flags) (box : Option Res) (v : Option Nat) :
    (fulfill f box v).1.isSome = true := by
  simp only [fulfill]; rfl

theorem fulfill_settled (f : Flags) (hm : f.mutable = false) (hr : f.relay = false) (r0 : Res)
    (v : Option Nat) :
    ∃ e, fulfill f (some r0) v = (some r0, some e) := by
  obtain ⟨v0, err⟩ := r0
  cases err with
  | none => exact ⟨.alreadySet, by simp only [fulfill_fulfilled, hm, hr, Bool.false_eq_true, if_false]⟩
  | some e => exact ⟨_, fulfill_failed f v0 v e⟩

theorem fail_unset (v : Option Nat) (e : Option ErrV) : fail none v e = (some ⟨v, e⟩, true) := by
  cases v <;> simp [fail, messageState, zero]

theorem fail_set (r0 : Res) (v : Option Nat) (e : Option ErrV) :
    fail (some r0) v e = (some r0, false) := by
  simp [fail, messageState]

theorem fail_settled (r0 : Res) (_hs : r0.settled = true) (v : Option Nat) (e : Option ErrV) :
    fail (some r0) v e = (some r0, false) := fail_set r0 v e

variable {c : Cfg} {s s' : St} {i : Nat}

inductive StepKind (c : Cfg) (s : St) (i : Nat) (s' : St) : Prop
  /-- Fulfill / Fail / Recover / Break: one atomic block under the mutex -/
  | atomic (call : Call) (b : Option Res) (ret : Ret)
      (hcall : c.calls[i]? = some call) (hnw : call ≠ .wait) (hpc : s.pcs[i]? = some .start)
      (hmu : s.mu = none) (heq : atomicCall c.flags s.box call = (b, ret))
      (hs' : s' = { s with box := b, pcs := s.pcs.set i (.done ret) })
  /-- Wait, first block: lock, (sleep while empty,) take the message -/
  | take (r : Res)
      (hcall : c.calls[i]? = some .wait) (hpc : s.pcs[i]? = some .start)
      (hmu : s.mu = none) (hbox : s.box = some r)
      (hs' : s' = { box := none, mu := some i, pcs := s.pcs.set i (.borrowed r) })
  /-- Wait, second block: put the message back, unlock, return it -/
  | put (r : Res)
      (hcall : c.calls[i]? = some .wait) (hpc : s.pcs[i]? = some (.borrowed r))
      (hs' : s' = { box := some r, mu := none, pcs := s.pcs.set i (.done (.res r)) })

theorem step_atomic {call : Call} (hcall : c.calls[i]? = some call) (hnw : call ≠ .wait)
    (hpc : s.pcs[i]? = some .start) (hmu : s.mu = none) :
    step c s i = some { s with box := (atomicCall c.flags s.box call).1,
                               pcs := s.pcs.set i (.done (atomicCall c.flags s.box call).2) } := by
  cases call <;> first | exact absurd rfl hnw | simp [step, hcall, hpc, hmu]

theorem step_take {r : Res} (hfix : c.fixed = true) (hcall : c.calls[i]? = some .wait)
    (hpc : s.pcs[i]? = some .start) (hmu : s.mu = none) (hbox : s.box = some r) :
    step c s i = some { box := none, mu := some i, pcs := s.pcs.set i (.borrowed r) } := by
  simp [step, hcall, hpc, hfix, hmu, hbox]

theorem step_put {r : Res} (hfix : c.fixed = true) (hcall : c.calls[i]? = some .wait)
    (hpc : s.pcs[i]? = some (.borrowed r)) :
    step c s i = some { box := some r, mu := none, pcs := s.pcs.set i (.done (.res r)) } := by
  simp [step, hcall, hpc, hfix]

theorem step_cases (hfix : c.fixed = true) (h : step c s i = some s') : StepKind c s i s' := by
  cases hcall : c.calls[i]? with
  | none => simp [step, hcall] at h
  | some call =>
    cases hpc : s.pcs[i]? with
    | none => simp [step, hcall, hpc] at h
    | some pc =>
      cases pc with
      | done ret => cases call <;> simp [step, hcall, hpc] at h
      | borrowed r =>
        cases call <;> simp [step, hcall, hpc, hfix] at h
        exact .put r hcall hpc h.symm
      | start =>
        cases hmu : s.mu with
        | some j => cases call <;> simp [step, hcall, hpc, hfix, hmu] at h
        | none =>
          by_cases hw : call = .wait
          · subst hw
            cases hbox : s.box <;> simp [step, hcall, hpc, hfix, hmu, hbox] at h
            exact .take _ hcall hpc hmu hbox h.symm
          · rw [step_atomic hcall hw hpc hmu] at h
            exact .atomic call _ _ hcall hw hpc hmu rfl (Option.some.inj h).symm

theorem cur_of_box {r : Res} (h : s.box = some r) : cur s = some r := by simp [cur, h]

theorem cur_of_borrowed {r : Res} (hbox : s.box = none) (hmu : s.mu = some i)
    (hpc : s.pcs[i]? = some (.borrowed r)) : cur s = some r := by simp [cur, hbox, hmu, hpc]

theorem cur_mu_none (hmu : s.mu = none) : cur s = s.box := by
  cases hb : s.box <;> simp [cur, hb, hmu]

theorem cur_none_of (hbox : s.box = none) (hmu : s.mu = none) : cur s = none := by
  rw [cur_mu_none hmu, hbox]

/-- The mutex discipline (any flags, any calls): whoever holds the mutex is a Wait that has
    borrowed the message, and the other way round. -/
structure Mutex (s : St) : Prop where
  bor : ∀ (i : Nat) (r : Res), s.pcs[i]? = some (.borrowed r) → s.mu = some i ∧ s.box = none
  mu_bor : ∀ (i : Nat), s.mu = some i → ∃ r, s.pcs[i]? = some (.borrowed r)

theorem mutex_step (hfix : c.fixed = true) (hM : Mutex s) (h : step c s i = some s') : Mutex s' := by
  cases step_cases hfix h with
  | atomic call b ret hcall hnw hpc hmu heq hs' =>
    subst hs'
    refine ⟨fun j r hj => ?_, fun j hj => ?_⟩
    · rcases getElem?_set_cases hj with ⟨_, e⟩ | ⟨_, hj⟩
      · cases e
      · have := (hM.bor j r hj).1; rw [hmu] at this; cases this
    · have : s.mu = some j := hj
      rw [hmu] at this; cases this
  | take r hcall hpc hmu hbox hs' =>
    subst hs'
    refine ⟨fun j r' hj => ?_, fun j hj => ?_⟩
    · rcases getElem?_set_cases hj with ⟨e, _⟩ | ⟨_, hj⟩
      · exact ⟨e ▸ rfl, rfl⟩
      · have := (hM.bor j r' hj).1; rw [hmu] at this; cases this
    · cases hj; exact ⟨r, List.getElem?_set_self (lt_of_getElem? hpc)⟩
  | put r hcall hpc hs' =>
    subst hs'
    refine ⟨fun j r' hj => ?_, fun j hj => by cases hj⟩
    rcases getElem?_set_cases hj with ⟨_, e⟩ | ⟨hji, hj⟩
    · cases e
    · have := (hM.bor j r' hj).1
      rw [(hM.bor i r hpc).1] at this; cases this; exact absurd rfl hji

/-- A step seen from the promise's content `cur`, mailbox and mutex forgotten: an atomic call
    maps the content by its sequential function; either block of a Wait leaves it as it is. -/
inductive CurStep (c : Cfg) (s : St) (i : Nat) (s' : St) : Prop
  | atomic (call : Call) (b : Option Res) (ret : Ret)
      (hcall : c.calls[i]? = some call) (hnw : call ≠ .wait) (hpc : s.pcs[i]? = some .start)
      (heq : atomicCall c.flags (cur s) call = (b, ret)) (hcur' : cur s' = b)
      (hpcs : s'.pcs = s.pcs.set i (.done ret))
  | wait (r : Res) (pc pc' : APc)
      (hcall : c.calls[i]? = some .wait) (hpc : s.pcs[i]? = some pc)
      (hcur : cur s = some r) (hcur' : cur s' = some r) (hpcs : s'.pcs = s.pcs.set i pc')
      (hkind : pc = .start ∧ pc' = .borrowed r ∨ pc = .borrowed r ∧ pc' = .done (.res r))

theorem cur_step (hfix : c.fixed = true) (hM : Mutex s) (h : step c s i = some s') : CurStep c s i s' := by
  cases step_cases hfix h with
  | atomic call b ret hcall hnw hpc hmu heq hs' =>
    refine .atomic call b ret hcall hnw hpc (by rw [cur_mu_none hmu, heq]) ?_ (by rw [hs'])
    rw [hs']; exact cur_mu_none (s := { s with box := b, pcs := _ }) hmu
  | take r hcall hpc hmu hbox hs' =>
    refine .wait r _ _ hcall hpc (cur_of_box hbox) ?_ (by rw [hs']) (.inl ⟨rfl, rfl⟩)
    rw [hs']; exact cur_of_borrowed rfl rfl (List.getElem?_set_self (lt_of_getElem? hpc))
  | put r hcall hpc hs' =>
    obtain ⟨hmu, hbox⟩ := hM.bor i r hpc
    exact .wait r _ _ hcall hpc (cur_of_borrowed hbox hmu hpc) (by rw [hs']; rfl) (by rw [hs'])
      (.inr ⟨rfl, rfl⟩)

def prank : APc → Nat
  | .start => 2 | .borrowed _ => 1 | .done _ => 0

def pmu (s : St) : Nat := (s.pcs.map prank).sum

theorem step_pcs (h : step c s i = some s') :
    ∃ pc pc', s.pcs[i]? = some pc ∧ s'.pcs = s.pcs.set i pc' ∧ prank pc' < prank pc := by
  cases hcall : c.calls[i]? with
  | none => simp [step, hcall] at h
  | some call =>
    cases hpc : s.pcs[i]? with
    | none => simp [step, hcall, hpc] at h
    | some pc =>
      refine ⟨pc, ?_⟩
      cases pc with
      | done ret => cases call <;> simp [step, hcall, hpc] at h
      | borrowed r =>
        -- every branch of `step` is `none`, or sets `i`'s pc to one of lower rank
        cases call <;> simp only [step, hcall, hpc] at h <;> try cases h
        repeat' split at h
        all_goals first | (cases h; exact ⟨_, rfl, rfl, by simp [prank]⟩) | cases h
      | start =>
        by_cases hw : call = .wait
        · subst hw
          simp only [step, hcall, hpc] at h
          repeat' split at h
          all_goals first | (cases h; exact ⟨_, rfl, rfl, by simp [prank]⟩) | cases h
        · cases hmu : s.mu with
          | none =>
            rw [step_atomic hcall hw hpc hmu] at h
            cases h; exact ⟨_, rfl, rfl, by simp [prank]⟩
          | some j => cases call <;> first | exact absurd rfl hw | simp [step, hcall, hpc, hmu] at h

theorem pmu_step (h : step c s i = some s') : pmu s' < pmu s := by
  obtain ⟨pc, pc', hget, hset, hlt⟩ := step_pcs h
  have := sum_map_set prank s.pcs i pc pc' hget
  simp only [pmu, hset]; omega

theorem step_other_pcs (h : step c s i = some s') {j : Nat} (hji : j ≠ i) : s'.pcs[j]? = s.pcs[j]? := by
  obtain ⟨pc, pc', hget, hset, _⟩ := step_pcs h
  rw [hset, List.getElem?_set]
  split
  · rename_i h'; exact absurd h'.symm hji
  · rfl

theorem step_done_stable (h : step c s i = some s') {j : Nat} {ret : Ret}
    (hj : s.pcs[j]? = some (.done ret)) : s'.pcs[j]? = some (.done ret) := by
  obtain ⟨pc, pc', hget, hset, hlt⟩ := step_pcs h
  rw [hset, List.getElem?_set]
  split
  · rename_i hij; subst hij
    rw [hget] at hj; cases hj; simp [prank] at hlt
  · exact hj

theorem exists_not_done (hnd : allDone s = false) :
    ∃ (k : Nat) (pc : APc), s.pcs[k]? = some pc ∧ pc.isDone = false := by
  simp only [allDone] at hnd
  rw [List.all_eq_false] at hnd
  obtain ⟨pc, hm, hp⟩ := hnd
  obtain ⟨k, hk, hget⟩ := List.getElem_of_mem hm
  exact ⟨k, pc, by simp [hk, hget], by simpa using hp⟩

theorem stuck_shape (hfix : c.fixed = true) (hM : Mutex s) (hlen : s.pcs.length = c.calls.length)
    (hbw : ∀ (i : Nat) (r : Res), s.pcs[i]? = some (.borrowed r) → c.calls[i]? = some .wait)
    (hstuck : ∀ i, step c s i = none) :
    s.mu = none ∧
    ∀ (i : Nat) (pc : APc), s.pcs[i]? = some pc → pc.isDone = false →
      c.calls[i]? = some .wait ∧ pc = .start ∧ s.box = none ∧ cur s = none := by
  have hmu : s.mu = none := by
    cases hm : s.mu with
    | none => rfl
    | some j =>
      -- the holder of the mutex can put the message back
      obtain ⟨r, hpc⟩ := hM.mu_bor j hm
      have := hstuck j
      rw [step_put hfix (hbw j r hpc) hpc] at this; cases this
  refine ⟨hmu, fun i pc hpc hnd => ?_⟩
  have hlt : i < c.calls.length := by rw [← hlen]; exact lt_of_getElem? hpc
  have hcall : c.calls[i]? = some c.calls[i] := List.getElem?_eq_getElem hlt
  have hst := hstuck i
  cases pc with
  | done ret => cases hnd
  | borrowed r => have := (hM.bor i r hpc).1; rw [hmu] at this; cases this
  | start =>
    by_cases hw : c.calls[i] = .wait
    · cases hbox : s.box with
      | some r => rw [step_take hfix (hw ▸ hcall) hpc hmu hbox] at hst; cases hst
      | none => exact ⟨by rw [hcall, hw], rfl, rfl, cur_none_of hbox hmu⟩
    · rw [step_atomic hcall hw hpc hmu] at hst; cases hst

/-- what actor state is compatible with the promise being settled to `r0` -/
def consistent (r0 : Res) : Call → APc → Bool
  | _, .start => true
  | .fulfill v, .done (.ferr none) => r0 == ⟨v, none⟩
  | .fulfill _, .done (.ferr (some _)) => true
  | .fail v e, .done (.bool true) => r0 == ⟨v, e⟩
  | .fail _ _, .done (.bool false) => true
  | .wait, .borrowed r => r == r0
  | .wait, .done (.res r) => r == r0
  | _, _ => false

structure Inv (c : Cfg) (s : St) : Prop where
  len : s.pcs.length = c.calls.length
  bor : ∀ (i : Nat) (r : Res), s.pcs[i]? = some (.borrowed r) → s.mu = some i ∧ s.box = none
  mu_bor : ∀ (i : Nat), s.mu = some i → ∃ r, s.pcs[i]? = some (.borrowed r)
  unset : cur s = none → ∀ (i : Nat) (pc : APc), s.pcs[i]? = some pc → pc = APc.start
  set_ : ∀ r0, cur s = some r0 → s.pcs.countP APc.isWin = 1 ∧
      ∀ (i : Nat) (call : Call) (pc : APc), c.calls[i]? = some call → s.pcs[i]? = some pc → consistent r0 call pc = true

structure Scope (c : Cfg) : Prop where
  fixed : c.fixed = true
  immutable : c.flags.mutable = false
  norelay : c.flags.relay = false
  calls : ∀ call ∈ c.calls, call.inScope = true

theorem inv_init (c : Cfg) : Inv c (init c) := by
  constructor
  · simp [init]
  · intro i r h; simp [init, List.getElem?_replicate] at h
  · intro i h; simp [init] at h
  · intro _ i pc h
    simp [init, List.getElem?_replicate] at h
    exact h.2.symm
  · intro r0 h; simp [init, cur] at h

theorem Inv.mutex (hI : Inv c s) : Mutex s := ⟨hI.bor, hI.mu_bor⟩

theorem atomic_scope (f : Flags) (hm : f.mutable = false) (hr : f.relay = false) {call : Call}
    (hs : call.inScope = true) (hnw : call ≠ .wait) (box : Option Res) :
    ∃ r ret, atomicCall f box call = (some r, ret) ∧ consistent r call (.done ret) = true ∧
      (APc.done ret).isWin = box.isNone ∧ ∀ r0, box = some r0 → r = r0 := by
  cases call with
  | fulfill v =>
    cases box with
    | none => exact ⟨⟨v, none⟩, .ferr none, by simp [atomicCall, fulfill_unset], by simp [consistent], rfl, nofun⟩
    | some r0 =>
      obtain ⟨e, he⟩ := fulfill_settled f hm hr r0 v
      exact ⟨r0, .ferr (some e), by simp [atomicCall, he], rfl, rfl, fun _ h => Option.some.inj h⟩
  | fail v e =>
    cases box with
    | none => exact ⟨⟨v, e⟩, .bool true, by simp [atomicCall, fail_unset], by simp [consistent], rfl, nofun⟩
    | some r0 => exact ⟨r0, .bool false, by simp [atomicCall, fail_set], rfl, rfl, fun _ h => Option.some.inj h⟩
  | recover v => cases hs
  | brk => cases hs
  | wait => exact absurd rfl hnw

theorem countP_all_start (pcs : List APc) (h : ∀ (i : Nat) (pc : APc), pcs[i]? = some pc → pc = APc.start) :
    pcs.countP APc.isWin = 0 := by
  rw [List.countP_eq_zero]
  intro pc hmem
  obtain ⟨i, hi, hget⟩ := List.getElem_of_mem hmem
  have := h i pc (by simp [hi, hget])
  subst this; simp [APc.isWin]

/-- Actor `i` moves to `pc'` and the promise then holds `r0`: as it did before, `pc'` being as
    much of a success as `pc` was, or for the first time, `pc'` being the one success. -/
theorem inv_settle (hI : Inv c s) {call : Call} (hcall : c.calls[i]? = some call) {pc pc' : APc}
    (hpc : s.pcs[i]? = some pc) (hM' : Mutex s') (hpcs : s'.pcs = s.pcs.set i pc') {r0 : Res}
    (hcur' : cur s' = some r0)
    (hold : cur s = some r0 ∧ pc'.isWin = pc.isWin ∨ cur s = none ∧ pc'.isWin = true)
    (hc : consistent r0 call pc' = true) : Inv c s' := by
  have hcnt := countP_set APc.isWin s.pcs i pc pc' hpc
  refine ⟨by rw [hpcs, List.length_set]; exact hI.len, hM'.bor, hM'.mu_bor,
    fun hn => (by rw [hcur'] at hn; cases hn), fun r1 hr1 => ?_⟩
  rw [hcur'] at hr1; cases hr1
  rw [hpcs]
  constructor
  · rcases hold with ⟨hc0, hw⟩ | ⟨hc0, hw⟩
    · rw [hw] at hcnt; have := (hI.set_ r0 hc0).1; omega
    · have hall := hI.unset hc0
      rw [hw, hall i pc hpc, countP_all_start s.pcs hall] at hcnt
      simpa [APc.isWin] using hcnt
  · intro j call' pcj hcj hj
    rcases getElem?_set_cases hj with ⟨e, e'⟩ | ⟨_, hj⟩
    · subst e e'; rw [hcall] at hcj; cases hcj; exact hc
    · rcases hold with ⟨hc0, _⟩ | ⟨hc0, _⟩
      · exact (hI.set_ r0 hc0).2 j call' pcj hcj hj
      · rw [hI.unset hc0 j pcj hj]; cases call' <;> rfl

theorem inv_step (hS : Scope c) (hI : Inv c s) (h : step c s i = some s') : Inv c s' := by
  have hM' := mutex_step hS.fixed hI.mutex h
  cases cur_step hS.fixed hI.mutex h with
  | atomic call b ret hcall hnw hpc heq hcur' hpcs =>
    obtain ⟨r, ret', he, hc, hw, hsame⟩ := atomic_scope c.flags hS.immutable hS.norelay
      (hS.calls call (List.mem_of_getElem? hcall)) hnw (cur s)
    rw [he] at heq; cases heq
    refine inv_settle hI hcall hpc hM' hpcs hcur' ?_ hc
    cases hcs : cur s with
    | none => exact .inr ⟨rfl, by rw [hw, hcs]; rfl⟩
    | some r0 => cases hsame r0 hcs; exact .inl ⟨rfl, by rw [hw, hcs]; rfl⟩
  | wait r pc pc' hcall hpc hcur hcur' hpcs hkind =>
    refine inv_settle hI hcall hpc hM' hpcs hcur' (.inl ⟨hcur, ?_⟩) ?_ <;>
      rcases hkind with ⟨rfl, rfl⟩ | ⟨rfl, rfl⟩ <;> simp [consistent, APc.isWin]

theorem inv_reach (hS : Scope c) : ∀ s, Reach (sys c) s → Inv c s :=
  inv_induction (S := sys c) (Inv c) (inv_init c) (fun _ _ _ hI h => inv_step hS hI h)

end Biogo.Promise
