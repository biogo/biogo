/-
What the letter-check loops of the model accept (`checkLetters_none`).  The three aligners of
the model never reach the `default: panic` of their traceback and return a well-formed path of
their class whose pair scores are the recomputed scores and whose total is the table value
(`nwScore`, `swScore`, `fitScoreAt … (fitEnd …)`).  Then the `Align` entry points: a successful
call ran the core aligner (`align_ok_inv`, `of_ok`), no call panics, and a call that is not
`Accepted` returns an error.
-/
import Biogo.Proofs.AlignLinTrace
import Biogo.Proofs.AlignLinBest

namespace Biogo.Proofs.AlignLin
open Biogo.Spec.Alignment Biogo.AlignLin Biogo.Spec.AlignPairs Biogo.Proofs.AlignPairs

theorem firstIllegal_none (index : UInt8 → Int) : ∀ (ls : List UInt8) (i : Nat),
    firstIllegal index ls i = none ↔ ∀ l ∈ ls, 0 ≤ index l := by
  intro ls
  induction ls with
  | nil => intro i; exact ⟨fun _ => nofun, fun _ => rfl⟩
  | cons l ls ih =>
    intro i
    simp only [firstIllegal, List.forall_mem_cons]
    split
    · exact ⟨nofun, fun h => absurd h.1 (Int.not_le.mpr ‹_›)⟩
    · rw [ih]; exact ⟨fun h => ⟨Int.not_lt.mp ‹_›, h⟩, And.right⟩

/-- the inner loop tests the reference letter once per query letter, so not at all for an empty query -/
theorem checkInner_none (index : UInt8 → Int) (a : UInt8) (i : Nat) : ∀ (q : List UInt8) (j : Nat),
    checkInner index a i q j = none ↔ q = [] ∨ (0 ≤ index a ∧ ∀ b ∈ q, 0 ≤ index b) := by
  intro q
  induction q with
  | nil => intro j; exact ⟨fun _ => .inl rfl, fun _ => rfl⟩
  | cons b q ih =>
    intro j
    simp only [checkInner, List.forall_mem_cons, reduceCtorEq, false_or]
    split
    · exact ⟨nofun, fun h => absurd h.1 (Int.not_le.mpr ‹_›)⟩
    · split
      · exact ⟨nofun, fun h => absurd h.2.1 (Int.not_le.mpr ‹_›)⟩
      · have ha : 0 ≤ index a := Int.not_lt.mp ‹_›
        have hb : 0 ≤ index b := Int.not_lt.mp ‹_›
        rw [ih]
        exact ⟨fun h => ⟨ha, hb, h.elim (fun e => e ▸ nofun) And.right⟩, fun h => .inr ⟨ha, h.2.2⟩⟩

theorem checkOuter_none (index : UInt8 → Int) (q : List UInt8) : ∀ (r : List UInt8) (i : Nat),
    checkOuter index q r i = none ↔
      r = [] ∨ q = [] ∨ ((∀ a ∈ r, 0 ≤ index a) ∧ ∀ b ∈ q, 0 ≤ index b) := by
  intro r
  induction r with
  | nil => intro i; exact ⟨fun _ => .inl rfl, fun _ => rfl⟩
  | cons a r ih =>
    intro i
    simp only [checkOuter, List.forall_mem_cons, reduceCtorEq, false_or]
    cases hin : checkInner index a i q 0 with
    | some e =>
      refine ⟨nofun, fun h => ?_⟩
      rw [(checkInner_none index a i q 0).mpr (h.imp id fun h => ⟨h.1.1, h.2⟩)] at hin
      exact nomatch hin
    | none =>
      rw [ih]
      rcases (checkInner_none index a i q 0).mp hin with rfl | ⟨ha, hq⟩
      · exact ⟨fun _ => .inl rfl, fun _ => .inr (.inl rfl)⟩
      · refine ⟨fun h => h.elim (fun e => .inr ⟨⟨ha, e ▸ nofun⟩, hq⟩) (Or.imp id fun h => ⟨⟨ha, h.1⟩, h.2⟩), ?_⟩
        exact fun h => .inr (h.imp id fun h => ⟨h.1.2, h.2⟩)

theorem checkLetters_none (al : Aligner) (index : UInt8 → Int) (r q : List UInt8) (hr : r ≠ []) (hq : q ≠ []) :
    checkLetters al index r q = none ↔ ((∀ a ∈ r, 0 ≤ index a) ∧ ∀ b ∈ q, 0 ≤ index b) := by
  have ho : checkOuter index q r 0 = none ↔ ((∀ a ∈ r, 0 ≤ index a) ∧ ∀ b ∈ q, 0 ≤ index b) := by
    simp only [checkOuter_none, hr, hq, false_or]
  have hQ : ∀ j, firstIllegal index q 0 = some j → ¬ ((∀ a ∈ r, 0 ≤ index a) ∧ ∀ b ∈ q, 0 ≤ index b) :=
    fun j h1 h => nomatch h1.symm.trans ((firstIllegal_none index q 0).mpr h.2)
  cases al with
  | sw => exact ho
  | nw =>
    simp only [checkLetters]
    cases h1 : firstIllegal index q 0 with
    | some j => exact ⟨nofun, fun h => absurd h (hQ j h1)⟩
    | none =>
      cases h2 : firstIllegal index r 0 with
      | some j => exact ⟨nofun, fun h => nomatch h2.symm.trans ((firstIllegal_none index r 0).mpr h.1)⟩
      | none => exact ho
  | fit =>
    simp only [checkLetters]
    cases h1 : firstIllegal index q 0 with
    | some j => exact ⟨nofun, fun h => absurd h (hQ j h1)⟩
    | none => exact ho

theorem nwCore_spec (S : Matrix) (r q : List Nat) :
    ∃ ps, nwCore S r q = some ps ∧ wellFormed .global r.length q.length ps = true ∧
      pairScoresOk S r q ps = true ∧ total ps = nwScore S r q := by
  have hT := tabOK_fill S false r q
  obtain ⟨o, last', ho, hinv, hexit⟩ := trace_from hT r.length q.length (Nat.le_refl _) (Nat.le_refl _)
  have hoi := Nat.le_trans hinv.hi hinv.hI
  have hoj := Nat.le_trans hinv.hj hinv.hJ
  have hexit : o.i = 0 ∨ o.j = 0 := by simpa using hexit
  rw [← hT.get _ _ (Nat.le_refl _) (Nat.le_refl _)] at hinv
  simp only [nwCore, nwTable, ho, nwScore, hT.get o.i o.j hoi hoj]
  have hwf {ps} (h : span ps = some (0, 0, r.length, q.length)) :=
    wellFormed_of_span .global _ _ h ⟨rfl, rfl, rfl, rfl⟩
  by_cases hij : o.i ≠ o.j
  · rw [if_pos hij]
    refine ⟨_, rfl, (hinv.lead hexit ?_).imp_left hwf⟩
    rcases hexit with h | h
    · rw [h, cols_left, cell_first_row S false r q o.j hoj]; rfl
    · rw [h, cols_up, cell_first_col S false r q o.i hoi]; rfl
  · rw [if_neg hij]
    have hi : o.i = 0 := by omega
    have hj : o.j = 0 := by omega
    refine ⟨_, rfl, ?_⟩
    have := hinv.close (by rw [hi, hj, cell_zero_zero])
    rw [hi, hj] at this ⊢
    exact this.imp_left hwf

theorem fitEndGo_lt (S : Matrix) (tab : Array Int) (c qv : Nat) : ∀ (rest : List Nat) (y i : Nat) (mx : Int),
    i < y → fitEndGo S tab c qv rest y i mx < y + rest.length := by
  intro rest
  induction rest with
  | nil => intro y i mx h; exact h
  | cons a rest ih =>
    intro y i mx h
    simp only [fitEndGo, List.length_cons]
    split
    · have := ih (y + 1) y (tab.getD (y * c + c - 1) 0) (Nat.lt_succ_self y); omega
    · have := ih (y + 1) i mx (Nat.lt_succ_of_lt h); omega

theorem fitEnd_le (S : Matrix) (r q : List Nat) : fitEnd S r q ≤ r.length := by
  have := fitEndGo_lt S (fitTable S r q) (q.length + 1) (q.getD (q.length - 1) 0) r 1 0 minInt Nat.zero_lt_one
  simp only [fitEnd]; omega

theorem fitCore_spec (S : Matrix) (r q : List Nat) :
    ∃ ps, fitCore S r q = some ps ∧
      (wellFormed .fitted r.length q.length ps = true ∧ consumesQuery q.length ps = true ∧
        endRef ps = fitEnd S r q) ∧
      pairScoresOk S r q ps = true ∧ total ps = fitScoreAt S r q (fitEnd S r q) := by
  have hT := tabOK_fill S true r q
  have he := fitEnd_le S r q
  obtain ⟨o, last', ho, hinv, hexit⟩ := trace_from hT (fitEnd S r q) q.length he (Nat.le_refl _)
  have hoi := Nat.le_trans hinv.hi hinv.hI
  have hoj := Nat.le_trans hinv.hj hinv.hJ
  have hexit : o.i = 0 ∨ o.j = 0 := by simpa using hexit
  rw [← hT.get _ _ he (Nat.le_refl _)] at hinv
  simp only [fitCore, fitTable, ho, fitScoreAt, hT.get o.i o.j hoi hoj]
  by_cases hj : o.j ≠ 0
  · rw [if_pos hj]
    have hi : o.i = 0 := by omega
    rw [hi] at hinv ⊢
    refine ⟨_, rfl, (hinv.lead (.inl rfl) ?_).imp_left (fitted_of_span · he)⟩
    rw [cols_left, cell_first_row S true r q o.j hoj]; rfl
  · rw [if_neg hj]
    have hj : o.j = 0 := by omega
    refine ⟨_, rfl, ?_⟩
    have := hinv.close (by rw [hj, cell_free_col])
    rw [hj] at this ⊢
    exact this.imp_left (fitted_of_span · he)

theorem swCore_spec (S : Matrix) (r q : List Nat) :
    ∃ ps, swCore S r q = some ps ∧ wellFormed .loc r.length q.length ps = true ∧
      pairScoresOk S r q ps = true ∧ total ps = swScore S r q := by
  have hT := tabOK_swFill S r q
  obtain ⟨hbi, hbj, hbest⟩ := sw_best_cell S r q
  obtain ⟨o, last', ho, hinv, hexit⟩ := trace_from hT _ _ hbi hbj
  rw [hbest] at hinv
  have hz : cell S true true r q o.i o.j = 0 := by
    rcases hexit with h | h | h
    · rw [h, cell_free_row]
    · rw [h, cell_free_col]
    · exact h.2
  obtain ⟨h1, h2, h3⟩ := hinv.close hz
  simp only [swCore, swTable, ho]
  exact ⟨_, rfl, wellFormed_of_span .loc _ _ h1 ⟨hbi, hbj⟩, h2, h3⟩

/-- the scoring function an `Align` call uses -/
def callS (c : Call) : Matrix := matOf c.mat.flatten.toArray c.mat.length
def callR (c : Call) : List Nat := toIdx c.index c.r
def callQ (c : Call) : List Nat := toIdx c.index c.q

theorem callR_length (c : Call) : (callR c).length = c.r.length := by simp [callR, toIdx]
theorem callQ_length (c : Call) : (callQ c).length = c.q.length := by simp [callQ, toIdx]

def core (al : Aligner) (S : Matrix) (r q : List Nat) : Option (List Pair) :=
  match al with
  | .nw => nwCore S r q
  | .sw => swCore S r q
  | .fit => fitCore S r q

theorem isSquare_iff (m : List (List Int)) : isSquare m = true ↔ ∀ row ∈ m, row.length = m.length := by
  simp only [isSquare, List.all_eq_true, beq_iff_eq]

/-- all argument checks of `Align` / `alignType` pass -/
def Accepted (al : Aligner) (c : Call) : Prop :=
  c.refAlpha ≠ none ∧ c.refAlpha = c.qryAlpha ∧ c.gapIndex = 0 ∧ c.refQ = c.qryQ ∧
  c.alphaLen ≤ c.mat.length ∧ (∀ row ∈ c.mat, row.length = c.mat.length) ∧
  checkLetters al c.index c.r c.q = none

/-- the `panic` of a traceback that finds no path -/
def noPath : Aligner → String
  | .nw => "align: nw internal error: no path"
  | .sw => "align: sw internal error: no path"
  | .fit => "align: fitted nw internal error: no path"

/-- once all checks have passed, `Align` runs the core aligner on the index sequences -/
theorem align_of_accepted (al : Aligner) (c : Call) (h : Accepted al c) :
    align al c =
      if al = .fit ∧ (callQ c).isEmpty = true then .panic "index out of range [-1]"
      else match core al (callS c) (callR c) (callQ c) with
        | some ps => .ok ps
        | none => .panic (noPath al) := by
  obtain ⟨h1, h2, h3, h4, h5, h6, h7⟩ := h
  simp only [align]
  rw [if_neg (by simpa using h1), if_neg (by simp [h2]), if_neg (by simp [h3]), if_neg (by simp [h4])]
  simp only [alignType, Nat.not_lt.mpr h5, (isSquare_iff _).mpr h6, h7, callS, callR, callQ]
  cases al <;> simp [core, noPath] <;> rfl

theorem align_not_accepted (al : Aligner) (c : Call) (h : ¬ Accepted al c) : ∃ e, align al c = .error e := by
  simp only [align, alignType]
  by_cases h1 : c.refAlpha.isNone = true
  · exact ⟨_, if_pos h1⟩
  rw [if_neg h1]
  by_cases h2 : c.refAlpha ≠ c.qryAlpha
  · exact ⟨_, if_pos h2⟩
  rw [if_neg h2]
  by_cases h3 : c.gapIndex ≠ 0
  · exact ⟨_, if_pos h3⟩
  rw [if_neg h3]
  by_cases h4 : c.refQ ≠ c.qryQ
  · exact ⟨_, if_pos h4⟩
  rw [if_neg h4]
  by_cases h5 : c.mat.length < c.alphaLen
  · exact ⟨_, if_pos h5⟩
  rw [if_neg h5]
  by_cases h6 : isSquare c.mat = true
  · simp only [h6, Bool.not_true, Bool.false_eq_true, if_false]
    cases h7 : checkLetters al c.index c.r c.q with
    | some e => exact ⟨e, rfl⟩
    | none =>
      exact absurd ⟨by simpa using h1, Decidable.not_not.mp h2, Decidable.not_not.mp h3,
        Decidable.not_not.mp h4, Nat.le_of_not_lt h5, (isSquare_iff _).mp h6, h7⟩ h
  · exact ⟨.notSquare, by simp [h6]⟩

/-- every traceback finds its path -/
theorem core_some (al : Aligner) (S : Matrix) (r q : List Nat) : ∃ ps, core al S r q = some ps := by
  cases al with
  | nw => exact (nwCore_spec S r q).imp fun _ h => h.1
  | sw => exact (swCore_spec S r q).imp fun _ h => h.1
  | fit => exact (fitCore_spec S r q).imp fun _ h => h.1

theorem align_ok_inv (al : Aligner) (c : Call) (ps : List Pair) (h : align al c = .ok ps) :
    Accepted al c ∧ core al (callS c) (callR c) (callQ c) = some ps := by
  by_cases ha : Accepted al c
  · refine ⟨ha, ?_⟩
    rw [align_of_accepted al c ha] at h
    split at h
    · exact nomatch h
    · obtain ⟨ps', hc⟩ := core_some al (callS c) (callR c) (callQ c)
      rw [hc] at h ⊢
      exact congrArg some (Res.ok.inj h)
  · obtain ⟨e, he⟩ := align_not_accepted al c ha
    exact nomatch he.symm.trans h

theorem of_ok {al : Aligner} {c : Call} {ps : List Pair} (h : align al c = .ok ps) {P : List Pair → Prop}
    (hP : ∃ ps', core al (callS c) (callR c) (callQ c) = some ps' ∧ P ps') : P ps := by
  obtain ⟨ps', h1, hp⟩ := hP
  rw [(align_ok_inv al c ps h).2] at h1
  exact Option.some.inj h1 ▸ hp

/-- no input makes NW or SW panic; Fitted panics only for an empty query -/
theorem align_no_panic (al : Aligner) (c : Call) (hq : al = .fit → c.q ≠ []) (msg : String) :
    align al c ≠ .panic msg := by
  by_cases ha : Accepted al c
  · obtain ⟨ps, hc⟩ := core_some al (callS c) (callR c) (callQ c)
    have hne : ¬ (al = .fit ∧ (callQ c).isEmpty = true) := fun ⟨hf, he⟩ =>
      hq hf (List.map_eq_nil_iff.mp (List.isEmpty_iff.mp he))
    rw [align_of_accepted al c ha, if_neg hne, hc]
    exact nofun
  · obtain ⟨e, he⟩ := align_not_accepted al c ha
    rw [he]; exact nofun

end Biogo.Proofs.AlignLin
