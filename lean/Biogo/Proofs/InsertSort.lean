/-
Insertion sort, once.  The models sort by straight insertion (`sort.Sort` on short inputs, the
interval tree's `Insert`), each with an insertion function of its own written out over its own
element type.  `Inserts before ins` says what all of them are: `x` goes in front of the first
element `a` with `before x a`, or to the end.  That the result is a permutation, and ordered
when the list was, is proved here from these two equations; a model's sort is an instance by
`rfl` (by `ite_not` where the model tests the other way round).
-/
namespace Biogo

variable {α : Type}

structure Inserts (before : α → α → Prop) [DecidableRel before] (ins : α → List α → List α) : Prop where
  nil : ∀ x, ins x [] = [x]
  cons : ∀ x a t, ins x (a :: t) = if before x a then x :: a :: t else a :: ins x t

namespace Inserts
variable {before : α → α → Prop} [DecidableRel before] {ins : α → List α → List α}

theorem perm (h : Inserts before ins) (x : α) (l : List α) : (ins x l).Perm (x :: l) := by
  induction l with
  | nil => rw [h.nil]
  | cons a t ih =>
    rw [h.cons]
    split
    · exact List.Perm.refl _
    · exact (ih.cons a).trans (List.Perm.swap x a t)

theorem pairwise (h : Inserts before ins) {r : α → α → Prop} (x : α) {l : List α} (hl : l.Pairwise r)
    (tr : ∀ a ∈ l, ∀ y ∈ l, r x a → r a y → r x y)
    (h1 : ∀ a ∈ l, before x a → r x a) (h2 : ∀ a ∈ l, ¬ before x a → r a x) : (ins x l).Pairwise r := by
  induction l with
  | nil => rw [h.nil]; exact List.pairwise_singleton _ _
  | cons a t ih =>
    obtain ⟨ha, ht⟩ := List.pairwise_cons.mp hl
    have ma : a ∈ a :: t := List.mem_cons_self
    rw [h.cons]
    split
    · rename_i hb
      refine List.pairwise_cons.mpr ⟨fun y hy => ?_, hl⟩
      rcases List.mem_cons.mp hy with rfl | hy'
      · exact h1 _ ma hb
      · exact tr a ma y hy (h1 a ma hb) (ha y hy')
    · rename_i hb
      refine List.pairwise_cons.mpr ⟨fun y hy => ?_, ih ht
        (fun b hb' y hy => tr b (List.mem_cons_of_mem _ hb') y (List.mem_cons_of_mem _ hy))
        (fun b hb' => h1 b (List.mem_cons_of_mem _ hb')) (fun b hb' => h2 b (List.mem_cons_of_mem _ hb'))⟩
      rcases List.mem_cons.mp ((h.perm x t).mem_iff.mp hy) with rfl | hy
      · exact h2 a ma hb
      · exact ha y hy

variable {sort : List α → List α}

theorem sort_perm (h : Inserts before ins) (s0 : sort [] = []) (s1 : ∀ x l, sort (x :: l) = ins x (sort l))
    (l : List α) : (sort l).Perm l := by
  induction l with
  | nil => rw [s0]
  | cons x l ih => rw [s1]; exact (h.perm x _).trans (ih.cons x)

theorem sort_pairwise (h : Inserts before ins) (s0 : sort [] = []) (s1 : ∀ x l, sort (x :: l) = ins x (sort l))
    {r : α → α → Prop} (tr : ∀ {a b c}, r a b → r b c → r a c)
    (h1 : ∀ {x a}, before x a → r x a) (h2 : ∀ {x a}, ¬ before x a → r a x) (l : List α) :
    (sort l).Pairwise r := by
  induction l with
  | nil => rw [s0]; exact List.Pairwise.nil
  | cons x l ih => rw [s1]; exact h.pairwise x ih (fun _ _ _ _ => tr) (fun _ _ => h1) (fun _ _ => h2)

end Inserts

end Biogo
