/-
Proofs about the C15 oracle (`Biogo.Model.PalsOracle`): the row-by-row score equals the
recursive one, the recursive one is the Needleman–Wunsch instance of the linear-gap recurrence
`Proofs.AlignLin.dpRec` and so the maximum over all global alignments, and the arithmetic that
links score, exact matches and edit operations.  Core-only.
-/
import Biogo.Model.PalsOracle
import Biogo.Proofs.AlignLinRec

namespace Biogo.PalsOracle
open Biogo.Spec.Alignment Biogo.Proofs.AlignLin

theorem nwRec_nil_nil (S : Matrix) : nwRec S [] [] = 0 := by simp [nwRec]

theorem nwRec_nil_cons (S : Matrix) (q : Nat) (qs : List Nat) :
    nwRec S [] (q :: qs) = S 0 q + nwRec S [] qs := by simp [nwRec]

theorem nwRec_cons_nil (S : Matrix) (r : Nat) (rs : List Nat) :
    nwRec S (r :: rs) [] = S r 0 + nwRec S rs [] := by simp [nwRec]

theorem nwRec_cons_cons (S : Matrix) (r : Nat) (rs : List Nat) (q : Nat) (qs : List Nat) :
    nwRec S (r :: rs) (q :: qs) =
      max (max (S r q + nwRec S rs qs) (S r 0 + nwRec S rs (q :: qs))) (S 0 q + nwRec S (r :: rs) qs) := by
  simp [nwRec]

theorem rowOf_head (S : Matrix) (rs q : List Nat) : (rowOf S rs q).headD 0 = nwRec S rs q := by
  cases q <;> simp [rowOf]

theorem rowOf_tail (S : Matrix) (rs : List Nat) (x : Nat) (xs : List Nat) :
    (rowOf S rs (x :: xs)).tail = rowOf S rs xs := by simp [rowOf]

theorem baseRow_eq (S : Matrix) (q : List Nat) : baseRow S q = rowOf S [] q := by
  induction q with
  | nil => simp [baseRow, rowOf, nwRec_nil_nil]
  | cons x xs ih =>
    simp only [baseRow, rowOf, ih, rowOf_head, nwRec_nil_cons]

theorem stepRow_eq (S : Matrix) (r : Nat) (rs q : List Nat) :
    stepRow S r q (rowOf S rs q) = rowOf S (r :: rs) q := by
  induction q with
  | nil => simp [stepRow, rowOf, nwRec_cons_nil]
  | cons x xs ih =>
    simp only [stepRow, rowOf_tail, ih, rowOf_head]
    simp only [rowOf, nwRec_cons_cons]

theorem globalRow_eq (S : Matrix) (r q : List Nat) : globalRow S r q = rowOf S r q := by
  induction r with
  | nil => simp [globalRow, baseRow_eq]
  | cons c cs ih =>
    have : globalRow S (c :: cs) q = stepRow S c q (globalRow S cs q) := by simp [globalRow]
    rw [this, ih, stepRow_eq]

theorem globalScore_eq (S : Matrix) (r q : List Nat) : globalScore S r q = nwRec S r q := by
  unfold globalScore; rw [globalRow_eq, rowOf_head]

/-- `false false`: neither sequence free at its ends (Needleman–Wunsch) -/
theorem nwRec_eq_dpRec (S : Matrix) (r q : List Nat) : nwRec S r q = dpRec S false false r q := by
  fun_induction nwRec S r q with
  | case1 => simp [dpRec]
  | case2 q qs ih => simp only [dpRec, ih, Bool.false_eq_true, if_false, Int.add_comm]
  | case3 r rs ih => simp only [dpRec, ih, Bool.false_eq_true, if_false, Int.add_comm]
  | case4 r rs q qs ih1 ih2 ih3 =>
    rw [dpRec]
    simp only [ih1, ih2, ih3, Bool.and_self, Bool.false_eq_true, if_false, max3_eq, Int.add_comm]

theorem nwRec_upper (S : Matrix) (a : Aln) : scoreLin S a ≤ nwRec S (projR a) (projQ a) :=
  nwRec_eq_dpRec S _ _ ▸ dpRec_upper S false false a _ _ nofun nofun rfl rfl

theorem nwRec_attained (S : Matrix) (r q : List Nat) :
    ∃ a : Aln, projR a = r ∧ projQ a = q ∧ scoreLin S a = nwRec S r q :=
  nwRec_eq_dpRec S r q ▸ dpRec_attain S false false r q

theorem nmatch_add_cost (a : Aln) : nmatch a + cost a = a.length := by
  induction a with
  | nil => rfl
  | cons c a ih => simp only [nmatch, cost, List.length_cons]; split <;> omega

def nM : Aln → Nat
  | [] => 0
  | .m _ _ :: a => nM a + 1
  | _ :: a => nM a

def nU : Aln → Nat
  | [] => 0
  | .u _ :: a => nU a + 1
  | _ :: a => nU a

def nL : Aln → Nat
  | [] => 0
  | .l _ :: a => nL a + 1
  | _ :: a => nL a

theorem projR_length (a : Aln) : (projR a).length = nM a + nU a := by
  induction a with
  | nil => rfl
  | cons c a ih => cases c <;> simp only [projR, nM, nU, List.length_cons, ih] <;> omega

theorem projQ_length (a : Aln) : (projQ a).length = nM a + nL a := by
  induction a with
  | nil => rfl
  | cons c a ih => cases c <;> simp only [projQ, nM, nL, List.length_cons, ih] <;> omega

theorem length_counts (a : Aln) : a.length = nM a + nU a + nL a := by
  induction a with
  | nil => rfl
  | cons c a ih => cases c <;> simp only [nM, nU, nL, List.length_cons, ih] <;> omega

theorem nmatch_le_nM (a : Aln) : nmatch a ≤ nM a := by
  induction a with
  | nil => simp [nmatch, nM]
  | cons c a ih =>
    cases c with
    | m r q => simp only [nmatch, nM]; split <;> omega
    | u r => simp only [nmatch, Col.exact, nM, Bool.false_eq_true, if_false]; omega
    | l q => simp only [nmatch, Col.exact, nM, Bool.false_eq_true, if_false]; omega

theorem nmatch_le_projR (a : Aln) : nmatch a ≤ (projR a).length := by
  rw [projR_length]; exact Nat.le_trans (nmatch_le_nM a) (Nat.le_add_right _ _)

theorem nmatch_le_projQ (a : Aln) : nmatch a ≤ (projQ a).length := by
  rw [projQ_length]; exact Nat.le_trans (nmatch_le_nM a) (Nat.le_add_right _ _)

theorem colScore_pals (same diff : Int) (c : Col) :
    colScore (palsS same diff) c = if Col.exact c then same else -diff := by
  cases c with
  | m r q =>
    simp only [colScore, palsS, Col.exact, Bool.and_eq_true, beq_iff_eq, bne_iff_ne, ne_eq]
  | u r => simp [colScore, palsS, Col.exact]
  | l q =>
    simp only [colScore, palsS, Col.exact]
    split
    · rename_i h; exact absurd rfl h.2
    · simp

theorem scoreLin_pals (same diff : Int) (a : Aln) :
    scoreLin (palsS same diff) a = same * nmatch a - diff * cost a := by
  induction a with
  | nil => simp [scoreLin, nmatch, cost]
  | cons c a ih =>
    simp only [scoreLin, colScore_pals, ih, nmatch, cost]
    split
    · simp only [Nat.zero_add, Int.natCast_add, Int.natCast_one, Int.mul_add, Int.mul_one]; omega
    · simp only [Nat.zero_add, Int.natCast_add, Int.natCast_one, Int.mul_add, Int.mul_one]; omega

/-- the edit scoring is the PALS scoring with `same = 0`, `diff = 1` -/
theorem scoreLin_edit (a : Aln) : scoreLin editS a = -(cost a : Int) := by
  have e : editS = palsS 0 1 := by funext r q; simp [editS, palsS]
  rw [e, scoreLin_pals]
  omega

end Biogo.PalsOracle
