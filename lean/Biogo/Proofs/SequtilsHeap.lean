/-
Storage lemmas for the heap model of `Biogo/Model/Sequtils.lean`:
what `mk`, `slice`, `append`, `copy`, `revInPlace` do to `read`, which arrays they leave
alone (`Keeps`: all that existed; `Frame`: all but one), and well-formedness of slice headers.

Every operation of `sequtils` but the in-place Truncate allocates its result and fills it by `copy`/`append` while it
reads slices that existed before.  `Building h0 h t` is the state of such a result `t`; the
operations are proved through its few lemmas.
-/
import Biogo.Model.Sequtils

set_option linter.unusedSectionVars false

namespace Biogo.Sequtils

variable {α : Type} [Inhabited α]

def WF (h : Heap α) (s : Sl) : Prop :=
  s.arr < h.length ∧ s.off + s.cap ≤ (h.arr s.arr).length ∧ s.len ≤ s.cap

def Keeps (h h' : Heap α) : Prop := h.length ≤ h'.length ∧ ∀ i, i < h.length → h'.arr i = h.arr i

theorem bind_eq_ok {ε β γ : Type} {x : Except ε β} {f : β → Except ε γ} {c : γ} (e : x >>= f = .ok c) :
    ∃ b, x = .ok b ∧ f b = .ok c := by
  cases x with
  | error _ => cases e
  | ok b => exact ⟨b, rfl, e⟩

theorem arr_append_left (h x : Heap α) (i : Nat) (hi : i < h.length) : (h ++ x).arr i = h.arr i := by
  simp [Heap.arr, List.getD_eq_getElem?_getD, List.getElem?_append_left hi]

theorem arr_append_new (h : Heap α) (a : List α) : (h ++ [a]).arr h.length = a := by
  simp [Heap.arr, List.getD_eq_getElem?_getD]

theorem arr_write_ne (h : Heap α) (a p : Nat) (vs : List α) (i : Nat) (hne : i ≠ a) :
    (h.write a p vs).arr i = h.arr i := by
  simp [Heap.arr, Heap.write, List.getD_eq_getElem?_getD, List.getElem?_set_ne (Ne.symm hne)]

theorem arr_write_eq (h : Heap α) (a p : Nat) (vs : List α) (ha : a < h.length) :
    (h.write a p vs).arr a = writeAt (h.arr a) p vs := by
  simp [Heap.arr, Heap.write, List.getD_eq_getElem?_getD, List.getElem?_set_self ha]

theorem length_write (h : Heap α) (a p : Nat) (vs : List α) : (h.write a p vs).length = h.length := by
  simp [Heap.write]

theorem length_writeAt (xs : List α) (p : Nat) (vs : List α) (hp : p + vs.length ≤ xs.length) :
    (writeAt xs p vs).length = xs.length := by
  simp only [writeAt, List.length_append, List.length_take, List.length_drop]
  omega

theorem read_writeAt (xs : List α) (off k : Nat) (vs : List α) (hp : off + k + vs.length ≤ xs.length) :
    ((writeAt xs (off + k) vs).drop off).take (k + vs.length) = ((xs.drop off).take k) ++ vs := by
  have h1 : (xs.take (off + k)).length = off + k := by
    rw [List.length_take]; exact Nat.min_eq_left (Nat.le_trans (Nat.le_add_right _ _) hp)
  have h2 : ((xs.take (off + k)).drop off).length = k := by
    rw [List.length_drop, h1, Nat.add_sub_cancel_left]
  have h3 : off - (off + k) = 0 := Nat.sub_eq_zero_of_le (Nat.le_add_right _ _)
  have h4 : k + vs.length - k = vs.length := Nat.add_sub_cancel_left ..
  rw [writeAt, List.append_assoc, List.drop_append, h1, h3, List.drop_zero, List.take_append, h2, h4,
    List.take_of_length_le (l := (xs.take (off + k)).drop off) (by rw [h2]; exact Nat.le_add_right _ _),
    List.take_left' rfl, List.drop_take, Nat.add_sub_cancel_left]

theorem read_length (h : Heap α) (s : Sl) (wf : WF h s) : (read h s).length = s.len := by
  obtain ⟨_, h2, h3⟩ := wf
  simp only [read, List.length_take, List.length_drop]
  omega

theorem read_congr (h h' : Heap α) (s : Sl) (e : h'.arr s.arr = h.arr s.arr) : read h' s = read h s := by
  simp only [read, e]

theorem WF_congr (h h' : Heap α) (s : Sl) (hl : h.length ≤ h'.length) (e : h'.arr s.arr = h.arr s.arr)
    (wf : WF h s) : WF h' s :=
  ⟨Nat.lt_of_lt_of_le wf.1 hl, by rw [e]; exact wf.2.1, wf.2.2⟩

theorem Keeps.refl (h : Heap α) : Keeps h h := ⟨Nat.le_refl _, fun _ _ => rfl⟩

theorem Keeps.trans {h1 h2 h3 : Heap α} (a : Keeps h1 h2) (b : Keeps h2 h3) : Keeps h1 h3 :=
  ⟨Nat.le_trans a.1 b.1, fun i hi => by rw [b.2 i (Nat.lt_of_lt_of_le hi a.1), a.2 i hi]⟩

theorem keeps_append (h x : Heap α) : Keeps h (h ++ x) :=
  ⟨by rw [List.length_append]; exact Nat.le_add_right _ _, fun i hi => arr_append_left h x i hi⟩

theorem Keeps.read {h h' : Heap α} (k : Keeps h h') {s : Sl} (hs : s.arr < h.length) : read h' s = read h s :=
  read_congr h h' s (k.2 _ hs)

theorem Keeps.wf {h h' : Heap α} (k : Keeps h h') {s : Sl} (wf : WF h s) : WF h' s :=
  WF_congr h h' s k.1 (k.2 _ wf.1) wf

def Frame (h h' : Heap α) (a : Nat) : Prop :=
  h.length ≤ h'.length ∧ ∀ i, i < h.length → i ≠ a → h'.arr i = h.arr i

theorem Frame.refl (h : Heap α) (a : Nat) : Frame h h a := ⟨Nat.le_refl _, fun _ _ _ => rfl⟩

theorem frame_write (h : Heap α) (a p : Nat) (vs : List α) : Frame h (h.write a p vs) a :=
  ⟨Nat.le_of_eq (length_write h a p vs).symm, fun i _ hne => arr_write_ne h a p vs i hne⟩

theorem Frame.keeps {h0 h h' : Heap α} {a : Nat} (fr : Frame h h' a) (k : Keeps h0 h) (ha : h0.length ≤ a) :
    Keeps h0 h' :=
  ⟨Nat.le_trans k.1 fr.1, fun i hi => by
    rw [fr.2 i (Nat.lt_of_lt_of_le hi k.1) (Nat.ne_of_lt (Nat.lt_of_lt_of_le hi ha))]; exact k.2 i hi⟩

theorem write_window (h : Heap α) (t : Sl) (vs : List α) (wf : WF h t) (hl : vs.length = t.len) :
    read (h.write t.arr t.off vs) t = vs ∧ WF (h.write t.arr t.off vs) t := by
  obtain ⟨w1, w2, w3⟩ := wf
  have hp : t.off + 0 + vs.length ≤ (h.arr t.arr).length := by omega
  refine ⟨?_, by rw [length_write]; exact w1, ?_, w3⟩
  · have := read_writeAt (h.arr t.arr) t.off 0 vs hp
    rw [Nat.add_zero, Nat.zero_add, List.take_zero, List.nil_append, hl] at this
    rw [read, arr_write_eq _ _ _ _ w1, this]
  · rw [arr_write_eq _ _ _ _ w1, length_writeAt _ _ _ (by omega)]
    exact w2

theorem mk_eq (h : Heap α) (l c : Int) (hl : 0 ≤ l) (hc : l ≤ c) :
    mk h l c = .ok (h ++ [List.replicate c.toNat default],
                    { arr := h.length, off := 0, len := l.toNat, cap := c.toNat }) := by
  unfold mk
  rw [if_neg (by omega)]

theorem mk_ne_panic (h : Heap α) (l c : Int) (hl : 0 ≤ l) (hc : l ≤ c) :
    ∃ h1 t, mk h l c = .ok (h1, t) :=
  ⟨_, _, mk_eq h l c hl hc⟩

theorem mk_ok (h : Heap α) (l c : Int) (h1 : Heap α) (t : Sl) (e : mk h l c = .ok (h1, t)) :
    0 ≤ l ∧ l ≤ c ∧ h1 = h ++ [List.replicate c.toNat default] ∧
    t = { arr := h.length, off := 0, len := l.toNat, cap := c.toNat } := by
  by_cases hg : l < 0 ∨ c < l
  · rw [mk, if_pos hg] at e
    cases e
  · have hl : 0 ≤ l := by omega
    have hc : l ≤ c := by omega
    rw [mk_eq h l c hl hc] at e
    cases e
    exact ⟨hl, hc, rfl, rfl⟩

theorem slice_eq (s : Sl) (a b : Int) (h0 : 0 ≤ a) (h1 : a ≤ b) (h2 : b ≤ s.cap) :
    slice s a b = .ok { arr := s.arr, off := s.off + a.toNat, len := (b - a).toNat, cap := s.cap - a.toNat } := by
  unfold slice
  rw [if_pos ⟨h0, h1, h2⟩]

theorem slice_ne_panic (s : Sl) (a b : Int) (h0 : 0 ≤ a) (h1 : a ≤ b) (h2 : b ≤ s.cap) :
    ∃ s', slice s a b = .ok s' :=
  ⟨_, slice_eq s a b h0 h1 h2⟩

theorem slice_ok (s : Sl) (a b : Int) (s' : Sl) (e : slice s a b = .ok s') :
    0 ≤ a ∧ a ≤ b ∧ b ≤ s.cap ∧
    s' = { arr := s.arr, off := s.off + a.toNat, len := (b - a).toNat, cap := s.cap - a.toNat } := by
  by_cases hg : 0 ≤ a ∧ a ≤ b ∧ b ≤ s.cap
  · rw [slice_eq s a b hg.1 hg.2.1 hg.2.2] at e
    cases e
    exact ⟨hg.1, hg.2.1, hg.2.2, rfl⟩
  · rw [slice, if_neg hg] at e
    cases e

theorem slice_arr (s : Sl) (a b : Int) (s' : Sl) (e : slice s a b = .ok s') : s'.arr = s.arr := by
  obtain ⟨_, _, _, rfl⟩ := slice_ok s a b s' e
  rfl

theorem read_slice (h : Heap α) (s : Sl) (a b : Int) (s' : Sl) (e : slice s a b = .ok s')
    (hb : b ≤ s.len) : read h s' = ((read h s).drop a.toNat).take (b - a).toNat := by
  obtain ⟨h0, h1, _, rfl⟩ := slice_ok s a b s' e
  simp only [read]
  rw [List.drop_take, List.drop_drop, List.take_take]
  congr 1
  omega

theorem slice_wf (h : Heap α) (s : Sl) (a b : Int) (s' : Sl) (wf : WF h s) (e : slice s a b = .ok s') : WF h s' := by
  obtain ⟨_, _, _, rfl⟩ := slice_ok s a b s' e
  obtain ⟨w1, w2, w3⟩ := wf
  exact ⟨w1, by dsimp only; omega, by dsimp only; omega⟩

theorem slice_len (s : Sl) (a b : Int) (s' : Sl) (e : slice s a b = .ok s') : s'.len = (b - a).toNat := by
  obtain ⟨_, _, _, rfl⟩ := slice_ok s a b s' e
  rfl

theorem append_read (h : Heap α) (t s : Sl) (wf : WF h t) :
    read (append h t s).1 (append h t s).2 = read h t ++ read h s := by
  obtain ⟨w1, w2, w3⟩ := wf
  unfold append
  simp only
  split
  · rename_i hfit
    simp only [read]
    rw [arr_write_eq _ _ _ _ w1, read_writeAt _ _ _ _ (by simp only [read] at hfit ⊢; omega)]
  · simp only [read, arr_append_new, List.drop_zero]
    rw [List.take_of_length_le]
    have := read_length h t ⟨w1, w2, w3⟩
    simp only [read] at this
    simp [List.length_append, this]

theorem frame_append (h : Heap α) (t s : Sl) : Frame h (append h t s).1 t.arr := by
  unfold append
  simp only
  split
  · exact frame_write _ _ _ _
  · exact ⟨by rw [List.length_append]; exact Nat.le_add_right _ _, fun i hi _ => arr_append_left _ _ _ hi⟩

theorem append_arr (h : Heap α) (t s : Sl) :
    (append h t s).2.arr = t.arr ∨ (append h t s).2.arr = h.length := by
  unfold append
  simp only
  split
  · exact Or.inl rfl
  · exact Or.inr rfl

theorem append_wf (h : Heap α) (t s : Sl) (wf : WF h t) : WF (append h t s).1 (append h t s).2 := by
  obtain ⟨w1, w2, w3⟩ := wf
  unfold append
  simp only
  split
  · rename_i hfit
    refine ⟨by simp [length_write]; exact w1, ?_, hfit⟩
    rw [arr_write_eq _ _ _ _ w1, length_writeAt _ _ _ (by simp only [read] at hfit ⊢; omega)]
    exact w2
  · refine ⟨by simp, ?_, Nat.le_refl _⟩
    have := read_length h t ⟨w1, w2, w3⟩
    simp [arr_append_new, List.length_append, this]

theorem append_len (h : Heap α) (t s : Sl) : (append h t s).2.len = t.len + (read h s).length := by
  unfold append
  simp only
  split <;> rfl

theorem copy_eq (h : Heap α) (t s : Sl) (hl : (read h s).length = t.len) :
    copy h t s = h.write t.arr t.off (read h s) := by
  rw [copy, List.take_of_length_le (Nat.le_of_eq hl)]

theorem copy_read (h : Heap α) (t s : Sl) (wf : WF h t) (hl : (read h s).length = t.len) :
    read (copy h t s) t = read h s := by
  rw [copy_eq h t s hl]
  exact (write_window h t _ wf hl).1

theorem copy_wf (h : Heap α) (t s : Sl) (wf : WF h t) (hl : (read h s).length = t.len) : WF (copy h t s) t := by
  rw [copy_eq h t s hl]
  exact (write_window h t _ wf hl).2

theorem length_revComp (rc : α → α) (l : List α) : (revComp rc l).length = l.length := by
  rw [revComp, List.length_map, List.length_reverse]

theorem revInPlace_read (rc : α → α) (h : Heap α) (t : Sl) (wf : WF h t) :
    read (revInPlace rc h t) t = revComp rc (read h t) :=
  (write_window h t _ wf (by rw [length_revComp, read_length h t wf])).1

theorem revInPlace_wf (rc : α → α) (h : Heap α) (t : Sl) (wf : WF h t) : WF (revInPlace rc h t) t :=
  (write_window h t _ wf (by rw [length_revComp, read_length h t wf])).2

theorem frame_revInPlace (rc : α → α) (h : Heap α) (t : Sl) : Frame h (revInPlace rc h t) t.arr :=
  frame_write _ _ _ _

/-- `h0` is the heap the operation began in; `t`'s array is younger (`fresh`), so writing through `t` keeps `h0` -/
structure Building (h0 h : Heap α) (t : Sl) : Prop where
  keeps : Keeps h0 h
  fresh : h0.length ≤ t.arr
  wf : WF h t

theorem mk_spec (h : Heap α) (l c : Int) (h1 : Heap α) (t : Sl) (e : mk h l c = .ok (h1, t)) :
    0 ≤ l ∧ t.len = l.toNat ∧ Building h h1 t ∧ read h1 t = List.replicate l.toNat default := by
  obtain ⟨a, b, rfl, rfl⟩ := mk_ok h l c h1 t e
  have hl : l.toNat ≤ c.toNat := by omega
  refine ⟨a, rfl, ⟨keeps_append h _, Nat.le_refl _, ?_, ?_, hl⟩, ?_⟩
  · rw [List.length_append]; exact Nat.lt_succ_self _
  · rw [arr_append_new, List.length_replicate]; exact Nat.le_of_eq (Nat.zero_add _)
  · rw [read, arr_append_new, List.drop_zero, List.take_replicate, Nat.min_eq_left hl]

namespace Building
variable {h0 h : Heap α} {t : Sl}

theorem of_keeps {h00 : Heap α} (k : Keeps h00 h0) (b : Building h0 h t) : Building h00 h t :=
  ⟨k.trans b.keeps, Nat.le_trans k.1 b.fresh, b.wf⟩

theorem after {h' : Heap α} (b : Building h0 h t) (k : Keeps h h') : Building h0 h' t :=
  ⟨b.keeps.trans k, b.fresh, k.wf b.wf⟩

theorem frame {h' : Heap α} {a : Nat} (b : Building h0 h t) (fr : Frame h h' a) (ha : h0.length ≤ a)
    (hne : t.arr ≠ a) : Building h0 h' t ∧ read h' t = read h t :=
  have e := fr.2 t.arr b.wf.1 hne
  ⟨⟨fr.keeps b.keeps ha, b.fresh, WF_congr h h' t fr.1 e b.wf⟩, read_congr h h' t e⟩

theorem write (b : Building h0 h t) (vs : List α) (hl : vs.length = t.len) :
    Building h0 (h.write t.arr t.off vs) t ∧ read (h.write t.arr t.off vs) t = vs :=
  have ⟨r, w⟩ := write_window h t vs b.wf hl
  ⟨⟨(frame_write h _ _ vs).keeps b.keeps b.fresh, b.fresh, w⟩, r⟩

theorem copy (b : Building h0 h t) (s : Sl) (hl : (read h s).length = t.len) :
    Building h0 (copy h t s) t ∧ read (copy h t s) t = read h s := by
  rw [copy_eq h t s hl]
  exact b.write _ hl

theorem revInPlace (b : Building h0 h t) (rc : α → α) :
    Building h0 (revInPlace rc h t) t ∧ read (revInPlace rc h t) t = revComp rc (read h t) :=
  b.write _ (by rw [length_revComp, read_length h t b.wf])

theorem append (b : Building h0 h t) (s : Sl) :
    Building h0 (append h t s).1 (append h t s).2 ∧
      read (append h t s).1 (append h t s).2 = read h t ++ read h s := by
  refine ⟨⟨(frame_append h t s).keeps b.keeps b.fresh, ?_, append_wf h t s b.wf⟩, append_read h t s b.wf⟩
  rcases append_arr h t s with e | e <;> rw [e]
  · exact b.fresh
  · exact b.keeps.1

end Building

/-- `t := Make(l, c); t.Copy(s1); t.Append(s2)`, as in `Join` (either end) and in `Truncate` through the origin -/
theorem mk_copy_append {h h1 : Heap α} {l c : Int} {t s1 s2 : Sl} (hmk : mk h l c = .ok (h1, t))
    (w1 : WF h s1) (w2 : WF h s2) (hl : s1.len = l.toNat) :
    Building h (append (copy h1 t s1) t s2).1 (append (copy h1 t s1) t s2).2 ∧
    read (append (copy h1 t s1) t s2).1 (append (copy h1 t s1) t s2).2 = read h s1 ++ read h s2 := by
  obtain ⟨-, l1, b1, -⟩ := mk_spec h l c h1 t hmk
  have r1 := b1.keeps.read w1.1
  obtain ⟨b2, e2⟩ := b1.copy s1 (by rw [r1, read_length h s1 w1, l1, hl])
  obtain ⟨b3, e3⟩ := b2.append s2
  exact ⟨b3, by rw [e3, e2, r1, b2.keeps.read w2.1]⟩

end Biogo.Sequtils
