/-
What Go `append` (`append_specG`, Proofs/ContAnnHeap.lean: in place iff capacity) means for the rows of a
multi: a row operation writes the row's own array or moves the row to a new one (`RowStep`), the
loop over the rows is an instance of `thread_spec` (`thread_rows`); AppendColumns / AppendEach /
Flush.  Core-only.
-/
import Biogo.Model.ContWorld
import Biogo.Proofs.Containers
import Biogo.Proofs.ContFrame

namespace Biogo.Containers
open Biogo.Go

def CapValid (h : Cells) (s : Slice) : Prop :=
  s.arr < h.arrays.length ∧ s.len ≤ s.cap ∧ s.off + s.cap ≤ (h.arr s.arr).length

def RowsCapWF (h : Cells) (rows : List Lin) : Prop :=
  (∀ r ∈ rows, CapValid h r.s) ∧ rows.Pairwise (fun a b => a.s.arr ≠ b.s.arr)

theorem CapValid.mono {h h' : Cells} {s : Slice} (hv : CapValid h s)
    (hl : h.arrays.length ≤ h'.arrays.length) (ha : h'.arr s.arr = h.arr s.arr) : CapValid h' s :=
  CapValidG.mono hv hl ha

theorem CapValid.toValid {h : Cells} {l : Lin} (hv : CapValid h l.s) : l.Valid h :=
  CapValidG.toValid hv

/-- an operation on an item that carries a row (`row x`; the rest of `x` is payload): it writes the row's own
    array or moves the row to an array that did not exist, and touches nothing else -/
structure RowStep {ι : Type} (row : ι → Lin) (g : Cells → ι → Cells × Lin) : Prop where
  within : ∀ h x, CapValid h (row x).s → Within ((row x).s.arr = ·) h (g h x).1
  foot : ∀ h x, CapValid h (row x).s → (g h x).2.s.arr = (row x).s.arr ∨ h.arrays.length ≤ (g h x).2.s.arr
  valid : ∀ h x, CapValid h (row x).s → CapValid (g h x).1 (g h x).2.s

theorem RowStep.skip {ι : Type} (row : ι → Lin) : RowStep row (fun h x => (h, row x)) :=
  ⟨fun h _ _ => .refl _ h, fun _ _ _ => Or.inl rfl, fun _ _ hv => hv⟩

theorem RowStep.ite {ι : Type} {row : ι → Lin} {g g' : Cells → ι → Cells × Lin} (c : ι → Prop) [DecidablePred c]
    (hg : RowStep row g) (hg' : RowStep row g') : RowStep row (fun h x => if c x then g h x else g' h x) where
  within h x hv := by
    split
    · exact hg.within h x hv
    · exact hg'.within h x hv
  foot h x hv := by
    split
    · exact hg.foot h x hv
    · exact hg'.foot h x hv
  valid h x hv := by
    split
    · exact hg.valid h x hv
    · exact hg'.valid h x hv

theorem RowStep.comap {ι κ : Type} {row : ι → Lin} {g : Cells → ι → Cells × Lin} (hg : RowStep row g) (f : κ → ι) :
    RowStep (fun y => row (f y)) (fun h y => g h (f y)) :=
  ⟨fun h y => hg.within h (f y), fun h y => hg.foot h (f y), fun h y => hg.valid h (f y)⟩

theorem thread_rows {ι : Type} (row : ι → Lin) (g : Cells → ι → Cells × Lin) (hg : RowStep row g)
    (Rel : List QL → ι → List QL → Lin → Prop)
    (hrel : ∀ h x, CapValid h (row x).s → Rel ((row x).letters h) x ((g h x).2.letters (g h x).1) (g h x).2)
    (xs : List ι) (h : Cells) (hwf : RowsCapWF h (xs.map row)) :
    All2 (fun x r' => Rel ((row x).letters h) x (r'.letters (thread g xs h).1) r' ∧
        (r'.s.arr = (row x).s.arr ∨ h.arrays.length ≤ r'.s.arr)) xs (thread g xs h).2 ∧
    RowsCapWF (thread g xs h).1 (thread g xs h).2 ∧
    Within (fun b => ∃ x ∈ xs, (row x).s.arr = b) h (thread g xs h).1 := by
  obtain ⟨hall, hpw, hwin⟩ := thread_spec g (fun x => (row x).s) (·.s) CapValid (fun _ _ hv => hv.1)
    (fun _ _ _ hv => hv.mono) (fun h x hv => ⟨hg.within h x hv, hg.foot h x hv, hg.valid h x hv⟩)
    (fun bl x al r' => Rel (bl.map (Lin.shown (row x).q)) x (al.map (Lin.shown r'.q)) r') hrel xs h
    (fun x hx => hwf.1 (row x) (List.mem_map_of_mem hx)) (List.pairwise_map (f := row).mp hwf.2)
  exact ⟨hall.imp fun _ _ hab => ⟨hab.1, hab.2.1⟩,
    ⟨fun r' hr' => by obtain ⟨_, _, hx⟩ := hall.exists_left r' hr'; exact hx.2.2, hpw⟩, hwin⟩

theorem foldRows_thread (g : Cells → Lin → Cells × Lin) (rows : List Lin) (h : Cells) :
    Multi.foldRows g rows h = thread g rows h := by
  rw [Multi.foldRows, foldl_thread]; rfl

theorem shown_stored (q : Bool) (c : QL) : Lin.shown q (Lin.stored q c) = if q then c else ⟨c.L, defaultQ⟩ := by
  cases q <;> rfl

/-- `AppendQLetters(a...)` on one row: the row shows its old letters followed by the appended
    ones (a `linear.Seq` keeps the letters only); coordinates: same start, end moved by `len(a)` -/
theorem Lin.appendQL_spec (cx : Ctx) (h : Cells) (l : Lin) (a : List QL) (hv : CapValid h l.s) :
    (l.appendQL cx h a).2.letters (l.appendQL cx h a).1
        = l.letters h ++ a.map (fun c => Lin.shown l.q (Lin.stored l.q c)) ∧
    (l.appendQL cx h a).2.start = l.start ∧ (l.appendQL cx h a).2.«end» = l.«end» + a.length ∧
    (l.appendQL cx h a).2.q = l.q ∧ (l.appendQL cx h a).2.name = l.name ∧
    (l.appendQL cx h a).2.strand = l.strand := by
  obtain ⟨r1, _, r3, _, _⟩ := append_specG cx.grow h l.s (a.map (Lin.stored l.q)) zeroQL hv
  refine ⟨?_, rfl, ?_, rfl, rfl, rfl⟩
  · simp only [Lin.appendQL, Lin.letters]
    rw [r1, List.map_append, List.map_map]
    rfl
  · simp only [Lin.appendQL, Lin.«end»]
    rw [r3, List.length_map]
    omega

theorem rowStep_appendQL (cx : Ctx) : RowStep (·.1) (fun h (rp : Lin × List QL) => rp.1.appendQL cx h rp.2) where
  within h rp hv := (append_specG cx.grow h rp.1.s (rp.2.map (Lin.stored rp.1.q)) zeroQL hv).2.2.2.2
  foot h rp hv := (append_specG cx.grow h rp.1.s (rp.2.map (Lin.stored rp.1.q)) zeroQL hv).2.2.2.1
  valid h rp hv := (append_specG cx.grow h rp.1.s (rp.2.map (Lin.stored rp.1.q)) zeroQL hv).2.1

def AppendRel (bl : List QL) (rp : Lin × List QL) (al : List QL) (r' : Lin) : Prop :=
  al = bl ++ rp.2.map (fun c => Lin.shown rp.1.q (Lin.stored rp.1.q c)) ∧
  r'.start = rp.1.start ∧ r'.«end» = rp.1.«end» + rp.2.length ∧ r'.q = rp.1.q ∧ r'.name = rp.1.name ∧
  r'.strand = rp.1.strand

/-- the loop `for i, r := range rows { r.AppendQLetters(payload(i)...) }` with its counter is the
    loop over the rows paired with their payloads -/
theorem counterFold_eq (cx : Ctx) (payload : Nat → List QL) : ∀ (rows : List Lin) (h : Cells) (acc : List Lin) (i : Nat),
    rows.foldl (fun (acc : Cells × List Lin × Nat) r =>
        ((r.appendQL cx acc.1 (payload acc.2.2)).1, acc.2.1 ++ [(r.appendQL cx acc.1 (payload acc.2.2)).2], acc.2.2 + 1))
        (h, acc, i)
      = ((thread (fun h (rp : Lin × List QL) => rp.1.appendQL cx h rp.2)
            ((rows.zipIdx i).map fun rk => (rk.1, payload rk.2)) h).1,
         acc ++ (thread (fun h (rp : Lin × List QL) => rp.1.appendQL cx h rp.2)
            ((rows.zipIdx i).map fun rk => (rk.1, payload rk.2)) h).2,
         i + rows.length) := by
  intro rows
  induction rows with
  | nil => intro h acc i; simp [thread]
  | cons r rs ih =>
    intro h acc i
    simp only [List.foldl_cons, List.zipIdx_cons, List.map_cons, List.length_cons, thread]
    rw [ih]
    simp only [List.append_assoc, List.singleton_append]
    congr 2
    omega

/-- the loop over the rows with payload `payload i` for row `i`: every row is extended by
    exactly its payload, in its own array or in a new one; rows end up in pairwise different arrays;
    nothing else changes -/
theorem appendRows_within (cx : Ctx) (payload : Nat → List QL) (h : Cells) (rows : List Lin)
    (hwf : RowsCapWF h rows) :
    let res := rows.foldl (fun (acc : Cells × List Lin × Nat) r =>
        ((r.appendQL cx acc.1 (payload acc.2.2)).1, acc.2.1 ++ [(r.appendQL cx acc.1 (payload acc.2.2)).2], acc.2.2 + 1))
        (h, [], 0)
    res.2.1.length = rows.length ∧
    (∀ (i : Nat) (r : Lin), rows[i]? = some r → ∃ r', res.2.1[i]? = some r' ∧
      AppendRel (r.letters h) (r, payload i) (r'.letters res.1) r' ∧
      (r'.s.arr = r.s.arr ∨ h.arrays.length ≤ r'.s.arr)) ∧
    RowsCapWF res.1 res.2.1 ∧
    Within (fun b => ∃ r ∈ rows, r.s.arr = b) h res.1 := by
  intro res
  have hres : res = _ := counterFold_eq cx payload rows h [] 0
  have hfst : ((rows.zipIdx 0).map fun rk => (rk.1, payload rk.2)).map (·.1) = rows := by
    rw [List.map_map]; exact List.zipIdx_map_fst 0 rows
  obtain ⟨hall, hwf', hwin⟩ := thread_rows Prod.fst (fun h (rp : Lin × List QL) => rp.1.appendQL cx h rp.2)
    (rowStep_appendQL cx) AppendRel
    (fun h rp hv => (Lin.appendQL_spec cx h rp.1 rp.2 hv : AppendRel (rp.1.letters h) rp _ _)) ((rows.zipIdx 0).map fun rk => (rk.1, payload rk.2)) h
    (by rw [hfst]; exact hwf)
  rw [hres]
  have hlen := hall.length_eq
  simp only [List.length_map, List.length_zipIdx] at hlen
  refine ⟨hlen.symm, fun i r hi => ?_, hwf',
    hwin.mono fun b ⟨rp, hrp, e⟩ => ⟨rp.1, hfst ▸ List.mem_map_of_mem (f := (·.1)) hrp, e⟩⟩
  have hil := hlen ▸ (List.getElem?_eq_some_iff.mp hi).1
  have hp : ((rows.zipIdx 0).map fun rk => (rk.1, payload rk.2))[i]? = some (r, payload i) := by
    rw [List.getElem?_map, List.getElem?_zipIdx, hi]; simp
  exact ⟨_, List.getElem?_eq_getElem hil, hall.get i _ _ hp (List.getElem?_eq_getElem hil)⟩

/-- `appendRows_within` weakened to what `C07.append_each_exact_multi` and `C07.append_columns_exact_multi`
    cite: not where each new row lives, and the frame array by array -/
theorem appendRows_spec (cx : Ctx) (payload : Nat → List QL) (h : Cells) (rows : List Lin)
    (hwf : RowsCapWF h rows) :
    let res := rows.foldl (fun (acc : Cells × List Lin × Nat) r =>
        ((r.appendQL cx acc.1 (payload acc.2.2)).1, acc.2.1 ++ [(r.appendQL cx acc.1 (payload acc.2.2)).2], acc.2.2 + 1))
        (h, [], 0)
    res.2.1.length = rows.length ∧
    (∀ (i : Nat) (r : Lin), rows[i]? = some r → ∃ r', res.2.1[i]? = some r' ∧
      AppendRel (r.letters h) (r, payload i) (r'.letters res.1) r') ∧
    RowsCapWF res.1 res.2.1 ∧
    (∀ b, (∀ r ∈ rows, r.s.arr ≠ b) → b < h.arrays.length → res.1.arr b = h.arr b) :=
  let ⟨hlen, hrows, hwf', hwin⟩ := appendRows_within cx payload h rows hwf
  ⟨hlen, fun i r hi => let ⟨r', a, b, _⟩ := hrows i r hi; ⟨r', a, b⟩, hwf',
    fun b hb hbl => hwin.frame b (fun ⟨r, hr, e⟩ => hb r hr e) hbl⟩

theorem foldRows_spec (g : Cells → Lin → Cells × Lin) (hg : RowStep id g)
    (Rel : List QL → Lin → List QL → Lin → Prop)
    (hrel : ∀ h r, CapValid h r.s → Rel (r.letters h) r ((g h r).2.letters (g h r).1) (g h r).2)
    (rows : List Lin) (h : Cells) (hwf : RowsCapWF h rows) :
    All2 (fun r r' => Rel (r.letters h) r (r'.letters (Multi.foldRows g rows h).1) r')
      rows (Multi.foldRows g rows h).2 ∧
    RowsCapWF (Multi.foldRows g rows h).1 (Multi.foldRows g rows h).2 := by
  rw [foldRows_thread]
  obtain ⟨hall, hwf', _⟩ := thread_rows id g hg Rel hrel rows h (by rw [List.map_id]; exact hwf)
  exact ⟨hall.imp fun _ _ hab => hab.1, hwf'⟩

/-- what `Flush`'s `seq.Start` pass does to one row when `st ≤ r.Start()` -/
def FlushStartRel (st : Int) (fill : UInt8) (bl : List QL) (r : Lin) (al : List QL) (r' : Lin) : Prop :=
  al = List.replicate (r.start - st).toNat (Lin.shown r.q ⟨fill, 0⟩) ++ bl ∧
  (st ≤ r.start → r'.start = st ∧ r'.«end» = r.«end») ∧
  r'.q = r.q ∧ r'.name = r.name ∧ r'.strand = r.strand

theorem rowStep_flushStart (cx : Ctx) (st : Int) (fill : UInt8) : RowStep id (Multi.flushStartStep cx st fill) :=
  RowStep.ite (fun (r : Lin) => r.start - st < 1) (RowStep.skip id)
    { within := fun h _ _ => (Extends.ofList h _ _ zeroQL).within _
      foot := fun h _ _ => Or.inr (Nat.le_of_eq (ofList_factsG h _ _ zeroQL).1.symm)
      valid := fun h _ _ => (ofList_factsG h _ _ zeroQL).2.2.2.1 }

theorem flushStart_rel (cx : Ctx) (st : Int) (fill : UInt8) (h : Cells) (r : Lin) (hv : CapValid h r.s) :
    FlushStartRel st fill (r.letters h) r
      ((Multi.flushStartStep cx st fill h r).2.letters (Multi.flushStartStep cx st fill h r).1)
      (Multi.flushStartStep cx st fill h r).2 := by
  unfold FlushStartRel
  by_cases hlt : r.start - st < 1
  · have hstep : Multi.flushStartStep cx st fill h r = (h, r) := by simp only [Multi.flushStartStep, hlt, if_true]
    rw [hstep]
    refine ⟨?_, fun hle => ⟨by show r.start = st; omega, rfl⟩, rfl, rfl, rfl⟩
    have : (r.start - st).toNat = 0 := by omega
    simp [this]
  · obtain ⟨_, olen, _, _, _, oread⟩ := ofList_factsG h (List.replicate (r.start - st).toNat ⟨fill, 0⟩ ++ h.read r.s)
      (cx.grow (r.start - st).toNat ((r.start - st).toNat + r.s.len)) zeroQL
    rw [List.length_append, List.length_replicate, length_read_of_valid h r hv.toValid] at olen
    unfold Multi.flushStartStep
    rw [if_neg hlt]
    refine ⟨?_, fun _ => ⟨rfl, ?_⟩, rfl, rfl, rfl⟩
    · simp only [Lin.letters]
      rw [oread, List.map_append, List.map_replicate]
    · simp only [Lin.«end»]
      rw [olen]
      simp only [Lin.start] at hlt ⊢
      omega

/-- what the `seq.End` pass does to one row when `r.End() ≤ en` -/
def FlushEndRel (en : Int) (fill : UInt8) (bl : List QL) (r : Lin) (al : List QL) (r' : Lin) : Prop :=
  al = bl ++ List.replicate (en - r.«end»).toNat (Lin.shown r.q ⟨fill, 0⟩) ∧
  r'.start = r.start ∧ (r.«end» ≤ en → r'.«end» = en) ∧
  r'.q = r.q ∧ r'.name = r.name ∧ r'.strand = r.strand

theorem rowStep_flushEnd (cx : Ctx) (en : Int) (fill : UInt8) : RowStep id (Multi.flushEndStep cx en fill) :=
  RowStep.ite (fun (r : Lin) => en - r.«end» < 1) (RowStep.skip id)
    ((rowStep_appendQL cx).comap fun r => (r, List.replicate (en - r.«end»).toNat ⟨fill, 0⟩))

theorem flushEnd_rel (cx : Ctx) (en : Int) (fill : UInt8) (h : Cells) (r : Lin) (hv : CapValid h r.s) :
    FlushEndRel en fill (r.letters h) r
      ((Multi.flushEndStep cx en fill h r).2.letters (Multi.flushEndStep cx en fill h r).1)
      (Multi.flushEndStep cx en fill h r).2 := by
  unfold FlushEndRel
  by_cases hlt : en - r.«end» < 1
  · have hstep : Multi.flushEndStep cx en fill h r = (h, r) := by simp only [Multi.flushEndStep, hlt, if_true]
    rw [hstep]
    refine ⟨?_, rfl, fun hle => by show r.«end» = en; omega, rfl, rfl, rfl⟩
    have : (en - r.«end»).toNat = 0 := by omega
    simp [this]
  · have hstep : Multi.flushEndStep cx en fill h r
        = r.appendQL cx h (List.replicate (en - r.«end»).toNat ⟨fill, 0⟩) := by
      simp only [Multi.flushEndStep, hlt, if_false]
    rw [hstep]
    obtain ⟨a1, a2, a3, a4, a5, a6⟩ := Lin.appendQL_spec cx h r (List.replicate (en - r.«end»).toNat ⟨fill, 0⟩) hv
    refine ⟨?_, a2, fun _ => ?_, a4, a5, a6⟩
    · rw [a1, List.map_replicate]
      cases r.q <;> rfl
    · rw [a3, List.length_replicate]; omega

theorem Multi.end_congr : ∀ (rows rows' : List Lin) (init : Int),
    All2 (fun r r' => r'.«end» = r.«end») rows rows' →
    rows'.foldl (fun e r => if r.«end» > e then r.«end» else e) init
      = rows.foldl (fun e r => if r.«end» > e then r.«end» else e) init := by
  intro rows rows' init h
  induction h generalizing init with
  | nil => rfl
  | cons hab _ ih => simp only [List.foldl_cons, hab]; exact ih _

theorem Multi.isFlush_spec (m : Multi) (wh : Nat) (hr : m.InRange) (hf : m.isFlush wh = true) :
    ∀ r ∈ m.rows, ((wh % 2 == 1) = true → r.start = m.start) ∧ (((wh / 2) % 2 == 1) = true → r.«end» = m.«end») := by
  obtain ⟨s1, s2, e1, e2, _, _⟩ := m.span_spec hr
  obtain ⟨rs, hrs, hrs2⟩ := s2
  obtain ⟨re, hre, hre2⟩ := e2
  cases hrows : m.rows with
  | nil => exact (hr.1 hrows).elim
  | cons r0 rest =>
    simp only [Multi.isFlush, Multi.nrows, hrows, List.length_cons] at hf
    rw [hrows] at hrs hre
    have key : ∀ r ∈ r0 :: rest, ((wh % 2 == 1) = true → r.start = r0.start) ∧
        (((wh / 2) % 2 == 1) = true → r.«end» = r0.«end») := by
      intro r hr'
      rcases List.mem_cons.mp hr' with e | e
      · subst e; exact ⟨fun _ => rfl, fun _ => rfl⟩
      · have hle : ¬ rest.length + 1 ≤ 1 := by have := List.length_pos_of_mem e; omega
        simp only [hle, if_false] at hf
        have := List.all_eq_true.mp hf r e
        simp only [Bool.not_eq_true', Bool.or_eq_false_iff, Bool.and_eq_false_iff, bne_eq_false_iff_eq] at this
        constructor
        · intro hw
          rcases this.1 with h1 | h1
          · exact h1
          · rw [hw] at h1; cases h1
        · intro hw
          rcases this.2 with h1 | h1
          · exact h1
          · rw [hw] at h1; cases h1
    intro r hr'
    exact ⟨fun hw => by rw [(key r hr').1 hw, ← hrs2, (key rs hrs).1 hw],
           fun hw => by rw [(key r hr').2 hw, ← hre2, (key re hre).2 hw]⟩

/-- what `Flush(where, fill)` does to one row of a multi with span `[S,E)` -/
def FlushRel (S E : Int) (wh : Nat) (fill : UInt8) (h : Cells) (r : Lin) (h' : Cells) (r' : Lin) : Prop :=
  r'.start = (if wh % 2 == 1 then S else r.start) ∧
  r'.«end» = (if (wh / 2) % 2 == 1 then E else r.«end») ∧
  r'.letters h' = List.replicate (r.start - r'.start).toNat (Lin.shown r.q ⟨fill, 0⟩) ++ r.letters h ++
    List.replicate (r'.«end» - r.«end»).toNat (Lin.shown r.q ⟨fill, 0⟩) ∧
  r'.q = r.q ∧ r'.name = r.name ∧ r'.strand = r.strand

/-- **flush_preserves**, on the model -/
theorem Multi.flush_spec (cx : Ctx) (h : Cells) (m : Multi) (wh : Nat) (fill : UInt8)
    (hwf : RowsCapWF h m.rows) (hr : m.InRange) :
    All2 (fun r r' => FlushRel m.start m.«end» wh fill h r (m.flush cx h wh fill).1 r')
      m.rows (m.flush cx h wh fill).2.rows := by
  obtain ⟨s1, _, e1, _, _, _⟩ := m.span_spec hr
  by_cases hf : m.isFlush wh = true
  · -- nothing to do: the requested ends are flush already
    have hres : m.flush cx h wh fill = (h, m) := by simp only [Multi.flush, hf, if_true]
    rw [hres]
    have hsp := Multi.isFlush_spec m wh hr hf
    apply All2.refl_of
    intro r hrm
    obtain ⟨a, b⟩ := hsp r hrm
    refine ⟨?_, ?_, ?_, rfl, rfl, rfl⟩
    · by_cases hw : (wh % 2 == 1) = true
      · rw [if_pos hw]; exact a hw
      · rw [if_neg hw]
    · by_cases hw : ((wh / 2) % 2 == 1) = true
      · rw [if_pos hw]; exact b hw
      · rw [if_neg hw]
    · simp
  · have hpass1 : ∃ h1 rows1, (if wh % 2 == 1 then Multi.foldRows (Multi.flushStartStep cx m.start fill) m.rows h else (h, m.rows)) = (h1, rows1) ∧
        All2 (fun r r1 => r1.letters h1 = List.replicate (r.start - r1.start).toNat (Lin.shown r.q ⟨fill, 0⟩) ++ r.letters h ∧
            r1.start = (if wh % 2 == 1 then m.start else r.start) ∧ r1.«end» = r.«end» ∧
            r1.q = r.q ∧ r1.name = r.name ∧ r1.strand = r.strand) m.rows rows1 ∧
        RowsCapWF h1 rows1 := by
      by_cases hw : (wh % 2 == 1) = true
      · rw [if_pos hw]
        obtain ⟨hall, hwf1⟩ := foldRows_spec _ (rowStep_flushStart cx m.start fill) (FlushStartRel m.start fill)
          (fun h r hv => flushStart_rel cx m.start fill h r hv) m.rows h hwf
        refine ⟨(Multi.foldRows (Multi.flushStartStep cx m.start fill) m.rows h).1,
          (Multi.foldRows (Multi.flushStartStep cx m.start fill) m.rows h).2, rfl,
          hall.imp_mem fun r r1 hrm ⟨l1, l2, l3, l4, l5⟩ => ?_, hwf1⟩
        obtain ⟨b1, b2⟩ := l2 (s1 r hrm)
        refine ⟨?_, by rw [if_pos hw]; exact b1, b2, l3, l4, l5⟩
        rw [l1, b1]
      · rw [if_neg hw]
        refine ⟨h, m.rows, rfl, ?_, hwf⟩
        apply All2.refl_of
        intro r _
        refine ⟨by simp, by rw [if_neg hw], rfl, rfl, rfl, rfl⟩
    obtain ⟨h1, rows1, hp1, hall1, hwf1⟩ := hpass1
    have hend1 : ({ m with rows := rows1 } : Multi).«end» = m.«end» :=
      Multi.end_congr m.rows rows1 minInt (hall1.imp fun r r1 hrr => hrr.2.2.1)
    have hres : m.flush cx h wh fill =
        ((if (wh / 2) % 2 == 1 then Multi.foldRows (Multi.flushEndStep cx m.«end» fill) rows1 h1 else (h1, rows1)).1,
         { m with rows := (if (wh / 2) % 2 == 1 then Multi.foldRows (Multi.flushEndStep cx m.«end» fill) rows1 h1 else (h1, rows1)).2 }) := by
      simp only [Multi.flush, hf, Bool.false_eq_true, if_false, hp1, hend1]
    rw [hres]
    by_cases hw2 : ((wh / 2) % 2 == 1) = true
    · simp only [if_pos hw2]
      obtain ⟨hall2, _⟩ := foldRows_spec _ (rowStep_flushEnd cx m.«end» fill) (FlushEndRel m.«end» fill)
        (fun h r hv => flushEnd_rel cx m.«end» fill h r hv) rows1 h1 hwf1
      refine (hall1.trans hall2).imp_mem fun r r2 hrm ⟨r1, hr1, hr2⟩ => ?_
      obtain ⟨a1, a2, a3, a4, a5, a6⟩ := hr1
      obtain ⟨b1, b2, b3, b4, b5, b6⟩ := hr2
      have hle : r1.«end» ≤ m.«end» := by rw [a3]; exact e1 r hrm
      refine ⟨by rw [b2, a2], by rw [if_pos hw2]; exact b3 hle, ?_, by rw [b4, a4], by rw [b5, a5], by rw [b6, a6]⟩
      rw [b1, a1, b2, b3 hle, a3, a4]
    · simp only [if_neg hw2]
      refine hall1.imp fun r r1 hrr => ?_
      obtain ⟨a1, a2, a3, a4, a5, a6⟩ := hrr
      refine ⟨a2, by rw [if_neg hw2]; exact a3, ?_, a4, a5, a6⟩
      rw [a1, a3]; simp

theorem newLin_capValid (cx : Ctx) (h : Cells) (sp : SeqSpec) :
    CapValid (newLin cx h sp).1 (newLin cx h sp).2.s :=
  (newLin_fresh cx h sp).2.1

end Biogo.Containers
