/-
Soundness of the executable laws of Spec/ContLaws.lean: when a law evaluates to `none` (no
complaint) on observations, the declarative statement it stands for holds of those observations.
The drivers answer `fail` whenever a law complains (and on `panic:`/`hang` observations, before any law
is evaluated), so a verdict `ok`/`diff` means the declarative statements below hold of the
implementation's own observations.
-/
import Biogo.Spec.ContLaws

namespace Biogo.Containers.Laws
open Biogo.Containers Biogo.Alphabet

theorem check_none (c : Bool) (w : String) : check c w = none ↔ c = true := by
  unfold check; cases c <;> simp

theorem and_none (a : Why) (b : Unit → Why) : a.and b = none ↔ a = none ∧ b () = none := by
  unfold Why.and; cases a <;> simp

theorem allIdx_succ (n : Nat) (f : Nat → Why) :
    allIdx (n + 1) f = match allIdx n f with | some w => some w | none => f n := by
  unfold allIdx
  rw [List.range_succ, List.foldl_append]
  rfl

theorem allIdx_none (n : Nat) (f : Nat → Why) : allIdx n f = none ↔ ∀ i, i < n → f i = none := by
  induction n with
  | zero => simp [allIdx]
  | succ n ih =>
    rw [allIdx_succ]
    constructor
    · intro h i hi
      cases hn : allIdx n f with
      | some w => rw [hn] at h; cases h
      | none =>
        rw [hn] at h
        by_cases e : i = n
        · subst e; exact h
        · exact ih.mp hn i (by omega)
    · intro h
      have hn : allIdx n f = none := ih.mpr fun i hi => h i (by omega)
      rw [hn]
      exact h n (Nat.lt_succ_self n)

theorem zip_all {α β : Type} (l1 : List α) (l2 : List β) (p : α × β → Bool) :
    (List.zip l1 l2).all p = true ↔ ∀ (i : Nat) (x : α) (y : β), l1[i]? = some x → l2[i]? = some y → p (x, y) = true := by
  rw [List.all_eq_true]
  constructor
  · intro h i x y hx hy
    apply h
    rw [List.mem_iff_getElem?]
    exact ⟨i, by rw [List.getElem?_zip_eq_some]; exact ⟨hx, hy⟩⟩
  · intro h xy hm
    obtain ⟨i, hi⟩ := List.mem_iff_getElem?.mp hm
    obtain ⟨x, y⟩ := xy
    rw [List.getElem?_zip_eq_some] at hi
    exact h i x y hi.1 hi.2

/-- `hP` is met by rewriting the law's `match b[i]?, a[i]?` with the two equations -/
theorem rows_of_allIdx {b a : List RowV} {f : Nat → Why} {P : Nat → RowV → RowV → Prop}
    (hlen : a.length = b.length) (h : allIdx b.length f = none)
    (hP : ∀ i rb ra, b[i]? = some rb → a[i]? = some ra → f i = none → P i rb ra) :
    ∀ (i : Nat) (rb : RowV), b[i]? = some rb → ∃ ra, a[i]? = some ra ∧ P i rb ra := by
  intro i rb hb
  have hi : i < b.length := (List.getElem?_eq_some_iff.mp hb).1
  have hia : i < a.length := by rw [hlen]; exact hi
  exact ⟨a[i], List.getElem?_eq_getElem hia, hP i rb a[i] hb (List.getElem?_eq_getElem hia) ((allIdx_none _ f).mp h i hi)⟩

def FrameSpec (before after : List ObjV) (k : Option Nat) : Prop :=
  ∀ j, j < before.length → k ≠ some j → after[j]? = before[j]?

theorem lawFrame_sound (before after : List ObjV) (k : Option Nat) (h : lawFrame before after k = none) :
    FrameSpec before after k := by
  intro j hj hk
  have := (allIdx_none _ _).mp h j hj
  have hne : (some j == k) = false := by
    cases k with
    | none => rfl
    | some k' =>
      have : j ≠ k' := fun e => hk (by rw [e])
      simp [this]
  simp only [hne, Bool.false_eq_true, if_false, check_none, beq_iff_eq] at this
  exact this

/-! ### C05 -/

/-- `RevComp()` of a whole object, on observations: every row reads as the reverse complement
    (qualities travelling), names kept; strand(s) negated; a column-stored alignment keeps its
    coordinates, the rows of a multi are mirrored about its span (which is kept), the rows of
    the other kinds keep their coordinates -/
def RevCompSpec (comp : UInt8 → UInt8) (b a : ObjV) : Prop :=
  a.kind = b.kind ∧ a.nrows = b.nrows ∧ a.rows.length = b.rows.length ∧
  (∀ (i : Nat) (rb ra : RowV), b.rows[i]? = some rb → a.rows[i]? = some ra →
    ra.cells = revCompCells comp rb.cells ∧ ra.name = rb.name) ∧
  (if b.kind = "aln" ∨ b.kind = "qaln" then
     a.strand = -b.strand ∧ a.start = b.start ∧ a.«end» = b.«end»
   else if b.kind = "multi" then
     (∀ (i : Nat) (rb ra : RowV), b.rows[i]? = some rb → a.rows[i]? = some ra →
        ra.strand = -rb.strand ∧ ra.start = b.start + b.«end» - rb.«end» ∧ ra.«end» = b.start + b.«end» - rb.start) ∧
     a.start = b.start ∧ a.«end» = b.«end»
   else
     ∀ (i : Nat) (rb ra : RowV), b.rows[i]? = some rb → a.rows[i]? = some ra →
        ra.strand = -rb.strand ∧ ra.start = rb.start ∧ ra.«end» = rb.«end»)

theorem lawRevComp_sound (comp : UInt8 → UInt8) (b a : ObjV) (h : lawRevComp comp b a = none) :
    RevCompSpec comp b a := by
  simp only [lawRevComp, and_none, check_none, Bool.and_eq_true, beq_iff_eq, zip_all] at h
  obtain ⟨⟨⟨h1, h2⟩, h3⟩, h4, h5⟩ := h
  refine ⟨h1, h2, h3, fun i rb ra hb ha => h4 i rb ra hb ha, ?_⟩
  split at h5
  · rename_i e
    simp only [and_none, check_none, Bool.and_eq_true, beq_iff_eq] at h5
    rw [if_pos (Or.inl e)]
    exact ⟨h5.1, h5.2.1, h5.2.2⟩
  · rename_i e
    simp only [and_none, check_none, Bool.and_eq_true, beq_iff_eq] at h5
    rw [if_pos (Or.inr e)]
    exact ⟨h5.1, h5.2.1, h5.2.2⟩
  · rename_i e
    simp only [and_none, check_none, Bool.and_eq_true, beq_iff_eq, zip_all] at h5
    have hn : ¬ (b.kind = "aln" ∨ b.kind = "qaln") := by rw [e]; decide
    rw [if_neg hn, if_pos e]
    obtain ⟨h6, h7, h8⟩ := h5
    exact ⟨fun i rb ra hb ha => ⟨h6 i rb ra hb ha, (h7 i rb ra hb ha).1, (h7 i rb ra hb ha).2⟩, h8.1, h8.2⟩
  · rename_i e1 e2 e3
    simp only [and_none, check_none, Bool.and_eq_true, beq_iff_eq, zip_all] at h5
    have hn : ¬ (b.kind = "aln" ∨ b.kind = "qaln") := fun e => e.elim (e1 ·) (e2 ·)
    rw [if_neg hn, if_neg e3]
    obtain ⟨h6, h7⟩ := h5
    exact fun i rb ra hb ha => ⟨h6 i rb ra hb ha, (h7 i rb ra hb ha).1, (h7 i rb ra hb ha).2⟩

def SameLettersCoords (x y : ObjV) : Prop :=
  x.rows.length = y.rows.length ∧
  ∀ (i : Nat) (rx ry : RowV), x.rows[i]? = some rx → y.rows[i]? = some ry →
    rx.cells = ry.cells ∧ rx.start = ry.start ∧ rx.«end» = ry.«end» ∧ rx.strand = ry.strand

theorem sameLettersCoords_sound (x y : ObjV) (h : sameLettersCoords x y = true) : SameLettersCoords x y := by
  simp only [sameLettersCoords, Bool.and_eq_true, beq_iff_eq, zip_all] at h
  exact ⟨h.1, fun i rx ry hx hy => by
    obtain ⟨⟨⟨a, b⟩, c⟩, d⟩ := h.2 i rx ry hx hy; exact ⟨a, b, c, d⟩⟩

def SameLetters (x y : ObjV) : Prop :=
  x.rows.length = y.rows.length ∧
  ∀ (i : Nat) (rx ry : RowV), x.rows[i]? = some rx → y.rows[i]? = some ry → rx.cells = ry.cells

theorem sameLetters_sound (x y : ObjV) (h : sameLetters x y = true) : SameLetters x y := by
  simp only [sameLetters, Bool.and_eq_true, beq_iff_eq, zip_all] at h
  exact ⟨h.1, fun i rx ry hx hy => h.2 i rx ry hx hy⟩

/-- `Row(r).RevComp()`: row `r` reverse-complemented with its strand negated and its name and
    coordinates kept; every other row observed exactly as before -/
def RowRevCompSpec (comp : UInt8 → UInt8) (b a : ObjV) (r : Nat) : Prop :=
  a.rows.length = b.rows.length ∧
  ∀ (i : Nat) (rb : RowV), b.rows[i]? = some rb → ∃ ra, a.rows[i]? = some ra ∧
    (if i = r then
       ra.cells = revCompCells comp rb.cells ∧ ra.strand = -rb.strand ∧ ra.name = rb.name ∧
       ra.start = rb.start ∧ ra.«end» = rb.«end»
     else ra = rb)

theorem lawRowRevComp_sound (comp : UInt8 → UInt8) (b a : ObjV) (r : Nat) (h : lawRowRevComp comp b a r = none) :
    RowRevCompSpec comp b a r := by
  simp only [lawRowRevComp, and_none, check_none, beq_iff_eq] at h
  refine ⟨h.1, rows_of_allIdx h.1 h.2 fun i rb ra hb ha hf => ?_⟩
  simp only [hb, ha] at hf
  split at hf <;> rename_i e <;> simp only [e, if_true, if_false]
  · simp only [check_none, rowRevComped, Bool.and_eq_true, beq_iff_eq] at hf
    obtain ⟨⟨⟨⟨c1, c2⟩, c3⟩, c4⟩, c5⟩ := hf
    exact ⟨c1, c2, c3, c4, c5⟩
  · exact (check_none _ _).mp hf |> beq_iff_eq.mp

/-- `Set(pos, c)` through row `r`: exactly that cell shows `c` (with the default quality for a
    row without qualities); nothing else of the object changes -/
def SetSpec (b a : ObjV) (r : Nat) (pos : Int) (c : QL) : Prop :=
  a.rows.length = b.rows.length ∧
  ∀ (i : Nat) (rb : RowV), b.rows[i]? = some rb → ∃ ra, a.rows[i]? = some ra ∧
    (if i = r then
       let idx := (pos - setBase b rb).toNat
       ra.cells[idx]? = some (if rb.q then c else ⟨c.L, defaultQ⟩) ∧ ra.cells.length = rb.cells.length ∧
       (∀ j, j < rb.cells.length → j ≠ idx → ra.cells[j]? = rb.cells[j]?) ∧
       ra.start = rb.start ∧ ra.«end» = rb.«end» ∧ ra.strand = rb.strand ∧ ra.name = rb.name ∧ ra.q = rb.q
     else ra = rb)

theorem lawSet_sound (b a : ObjV) (r : Nat) (pos : Int) (c : QL) (h : lawSet b a r pos c = none) :
    SetSpec b a r pos c := by
  simp only [lawSet, and_none, check_none, beq_iff_eq] at h
  refine ⟨h.1, rows_of_allIdx h.1 h.2 fun i rb ra hb ha hf => ?_⟩
  simp only [hb, ha] at hf
  split at hf <;> rename_i e <;> simp only [e, if_true, if_false]
  · simp only [check_none, Bool.and_eq_true, beq_iff_eq, List.all_eq_true, List.mem_range, Bool.or_eq_true] at hf
    obtain ⟨⟨⟨⟨⟨⟨⟨c1, c2⟩, c3⟩, c4⟩, c5⟩, c6⟩, c7⟩, c8⟩ := hf
    exact ⟨c1, c2, fun j hj hne => (c3 j hj).resolve_left hne, c4, c5, c6, c7, c8⟩
  · exact (check_none _ _).mp hf |> beq_iff_eq.mp

theorem setBase_eq (b : ObjV) (rb : RowV) :
    setBase b rb = if b.kind = "aln" ∨ b.kind = "qaln" then b.start else rb.start := by
  unfold setBase
  split
  · rename_i e1; rw [if_pos (Or.inl e1)]
  · rename_i e1; rw [if_pos (Or.inr e1)]
  · rename_i e1 e2; rw [if_neg (fun e => e.elim (e1 ·) (e2 ·))]

/-! ### C07 -/

/-- what the column view must show for a cell of the row view: the letter, or for a quality
    alignment (`Column` applies the documented filter) the ambiguity letter below the threshold;
    the gap letter for a row that does not cover the position -/
def columnLetter (gap amb : UInt8) (o : ObjV) (c : Option QL) : UInt8 :=
  match c with
  | some c => if o.kind == "qaln" && c.Q < alnThreshold then amb else c.L
  | none => gap

/-- **row_eq_column**, on one observation: `Rows()` and `Len()` agree with the rows and the
    span; at every position `Start+p` of the span the column views have one entry per row, entry
    `i` of `ColumnQL` is what row `i` shows there (`At`) or `{gap, 0}` when the row does not
    cover the position, entry `i` of `Column` is its letter (under the quality filter); for a
    multi, `Column(pos, false)` lists the letters of the covering rows in row order -/
def RowEqColumnSpec (gap amb : UInt8) (o : ObjV) : Prop :=
  isAligned o = true →
  o.nrows = o.rows.length ∧ o.len = o.«end» - o.start ∧
  ∀ p, p < (o.«end» - o.start).toNat →
    ∃ cq c, o.colsQL[p]? = some cq ∧ o.cols[p]? = some c ∧
      cq.length = o.rows.length ∧ c.length = o.rows.length ∧
      (∀ (i : Nat) (r : RowV), o.rows[i]? = some r →
        cq[i]? = some ((rowCell o r (o.start + (p : Int))).getD ⟨gap, 0⟩) ∧
        c[i]? = some (columnLetter gap amb o (rowCell o r (o.start + (p : Int))))) ∧
      (o.kind = "multi" →
        o.colsNF[p]? = some ((o.rows.map fun r => rowCell o r (o.start + (p : Int))).filterMap fun c => c.map (·.L)))

theorem lawRowEqColumn_sound (gap amb : UInt8) (o : ObjV) (h : lawRowEqColumn gap amb o = none) :
    RowEqColumnSpec gap amb o := by
  intro hal
  simp only [lawRowEqColumn, hal, Bool.not_true, Bool.false_eq_true, if_false, and_none, check_none,
    Bool.and_eq_true, beq_iff_eq, allIdx_none, Bool.or_eq_true, bne_iff_ne, ne_eq] at h
  obtain ⟨⟨h1, h2⟩, ⟨⟨_, _⟩, _⟩, h4⟩ := h
  refine ⟨h1, h2, ?_⟩
  intro p hp
  obtain ⟨hq, hc, hnf⟩ := h4 p hp
  refine ⟨_, _, hq, hc, by simp, by simp, ?_, ?_⟩
  · intro i r hr
    constructor
    · simp only [List.getElem?_map, hr, Option.map_some]
    · simp only [List.getElem?_map, hr, Option.map_some, columnLetter]
      cases rowCell o r (o.start + (p : Int)) with
      | none => rfl
      | some x => simp only [Bool.and_eq_true, beq_iff_eq]
  · intro hk
    simp only [hk, if_true, check_none, beq_iff_eq] at hnf
    exact hnf

/-- **unanimous_consensus**, on one observation: at a position where every row shows a valid
    letter equal, up to case, to the letter `c0` of the first row (and, for a quality alignment,
    of quality at least the threshold), the consensus letter is `c0` up to case -/
def ConsensusSpec (valid : UInt8 → Bool) (o : ObjV) : Prop :=
  isAligned o = true →
  ∀ p, p < (o.«end» - o.start).toNat → ∀ (r0 : RowV) (rest : List RowV) (c0 : QL), o.rows = r0 :: rest →
    rowCell o r0 (o.start + (p : Int)) = some c0 →
    (∀ r ∈ o.rows, ∃ c, rowCell o r (o.start + (p : Int)) = some c ∧ toLower c.L = toLower c0.L ∧
      valid c.L = true ∧ (o.kind = "qaln" → c.Q ≥ alnThreshold)) →
    (o.cons[p]?).map toLower = some (toLower c0.L)

theorem lawConsensus_sound (valid : UInt8 → Bool) (o : ObjV) (h : lawConsensus valid o = none) :
    ConsensusSpec valid o := by
  intro hal p hp r0 rest c0 hrows hc0 hall
  have hne : o.rows.isEmpty = false := by rw [hrows]; rfl
  simp only [lawConsensus, hal, hne, Bool.not_true, Bool.or_false, Bool.false_eq_true, if_false, allIdx_none] at h
  have := h p hp
  simp only [hrows, List.map_cons, hc0] at this
  split at this
  · simp only [check_none, beq_iff_eq] at this
    exact this
  · rename_i hneg
    exfalso
    apply hneg
    rw [List.all_eq_true]
    intro x hx
    have hx' : x ∈ o.rows.map fun r => rowCell o r (o.start + (p : Int)) := by
      rw [hrows, List.map_cons, hc0]; exact hx
    obtain ⟨r, hr, rfl⟩ := List.mem_map.mp hx'
    obtain ⟨c, e1, e2, e3, e4⟩ := hall r hr
    rw [e1]
    simp only [Bool.and_eq_true, beq_iff_eq, Bool.or_eq_true, bne_iff_ne, ne_eq, decide_eq_true_eq]
    refine ⟨⟨e2, e3⟩, ?_⟩
    by_cases hk : o.kind = "qaln"
    · exact Or.inr (e4 hk)
    · exact Or.inl hk

def SameMeta (b a : RowV) : Prop := a.name = b.name ∧ a.strand = b.strand ∧ a.q = b.q

theorem sameMeta_sound (b a : RowV) (h : sameMeta b a = true) : SameMeta b a := by
  simp only [sameMeta, Bool.and_eq_true, beq_iff_eq] at h
  exact ⟨h.1.1, h.1.2, h.2⟩

/-- **append_exact (AppendColumns)**: no row is added or removed; row `i` reads as before followed
    by `cols[0][i], cols[1][i], …` (with the default quality for a row without qualities), starts
    where it started, ends `len(cols)` later, keeps name, strand and kind -/
def AppendColsSpec (b a : ObjV) (cols : List (List QL)) : Prop :=
  a.rows.length = b.rows.length ∧ a.nrows = b.nrows ∧
  ∀ (i : Nat) (rb : RowV), b.rows[i]? = some rb → ∃ ra, a.rows[i]? = some ra ∧
    ra.cells = rb.cells ++ cols.map (fun c => shownAs rb.q (c.getD i zeroQL)) ∧
    ra.start = rb.start ∧ ra.«end» = rb.«end» + cols.length ∧ SameMeta rb ra

theorem lawAppendCols_sound (b a : ObjV) (cols : List (List QL)) (h : lawAppendCols b a cols = none) :
    AppendColsSpec b a cols := by
  simp only [lawAppendCols, and_none, check_none, Bool.and_eq_true, beq_iff_eq] at h
  refine ⟨h.1.1, h.1.2, rows_of_allIdx h.1.1 h.2 fun i rb ra hb ha hf => ?_⟩
  simp only [hb, ha, check_none, Bool.and_eq_true, beq_iff_eq] at hf
  obtain ⟨⟨⟨c1, c2⟩, c3⟩, c4⟩ := hf
  exact ⟨c1, c2, c3, sameMeta_sound rb ra c4⟩

/-- **append_exact (AppendEach)**: row `i` reads as before, then exactly run `i` (letters and
    qualities), then — column-stored alignments only — gap letters up to the longest run; same
    start, end moved by the number of cells gained -/
def AppendEachSpec (gap : UInt8) (b a : ObjV) (runs : List (List QL)) : Prop :=
  a.rows.length = b.rows.length ∧ a.nrows = b.nrows ∧
  ∀ (i : Nat) (rb : RowV), b.rows[i]? = some rb → ∃ ra, a.rows[i]? = some ra ∧
    let run := runs.getD i []
    let npad := if b.kind = "multi" then 0 else (runs.foldl (fun m r => Nat.max m r.length) 0) - run.length
    ra.cells.take rb.cells.length = rb.cells ∧
    ((ra.cells.drop rb.cells.length).take run.length) = run.map (shownAs rb.q) ∧
    ((ra.cells.drop rb.cells.length).drop run.length).map (·.L) = List.replicate npad gap ∧
    ra.start = rb.start ∧ ra.«end» = rb.«end» + ((run.length + npad : Nat) : Int) ∧ SameMeta rb ra

theorem lawAppendEach_sound (gap : UInt8) (b a : ObjV) (runs : List (List QL))
    (h : lawAppendEach gap b a runs = none) : AppendEachSpec gap b a runs := by
  simp only [lawAppendEach, and_none, check_none, Bool.and_eq_true, beq_iff_eq] at h
  refine ⟨h.1.1, h.1.2, rows_of_allIdx h.1.1 h.2 fun i rb ra hb ha hf => ?_⟩
  simp only [hb, ha, check_none, Bool.and_eq_true, beq_iff_eq] at hf
  obtain ⟨⟨⟨⟨⟨c1, c2⟩, c3⟩, c4⟩, c5⟩, c6⟩ := hf
  exact ⟨c1, c2, c3, c4, c5, sameMeta_sound rb ra c6⟩

/-- **delete_exact**: the rows observed after are the rows before without row `i` -/
def DeleteSpec (b a : ObjV) (i : Nat) : Prop := a.rows = b.rows.eraseIdx i ∧ a.nrows + 1 = b.nrows

theorem lawDelete_sound (b a : ObjV) (i : Nat) (h : lawDelete b a i = none) : DeleteSpec b a i := by
  simp only [lawDelete, check_none, Bool.and_eq_true, beq_iff_eq] at h
  exact h

/-- **flush_preserves**: every row starts at the span's start / ends at the span's end according
    to the bits of `where`, shows the fill letter on the positions gained and its old letters and
    qualities in between -/
def FlushSpec (b a : ObjV) (wh : Nat) (fill : UInt8) : Prop :=
  a.rows.length = b.rows.length ∧
  ∀ (i : Nat) (rb : RowV), b.rows[i]? = some rb → ∃ ra, a.rows[i]? = some ra ∧
    let st := if wh % 2 = 1 then b.start else rb.start
    let en := if (wh / 2) % 2 = 1 then b.«end» else rb.«end»
    let nl := (rb.start - st).toNat
    let nr := (en - rb.«end»).toNat
    ra.start = st ∧ ra.«end» = en ∧ SameMeta rb ra ∧
    (ra.cells.take nl).map (·.L) = List.replicate nl fill ∧
    (ra.cells.drop nl).take rb.cells.length = rb.cells ∧
    ((ra.cells.drop nl).drop rb.cells.length).map (·.L) = List.replicate nr fill

theorem lawFlush_sound (b a : ObjV) (wh : Nat) (fill : UInt8) (h : lawFlush b a wh fill = none) :
    FlushSpec b a wh fill := by
  simp only [lawFlush, and_none, check_none, beq_iff_eq] at h
  refine ⟨h.1, rows_of_allIdx h.1 h.2 fun i rb ra hb ha hf => ?_⟩
  simp only [hb, ha, check_none, Bool.and_eq_true, beq_iff_eq] at hf
  obtain ⟨⟨⟨⟨⟨c1, c2⟩, c3⟩, c4⟩, c5⟩, c6⟩ := hf
  exact ⟨c1, c2, sameMeta_sound rb ra c3, c4, c5, c6⟩

/-- **subseq_truncate_exact**: every row spans exactly `[st,en)` and shows exactly the cells it
    showed at those positions -/
def RangeSpec (b a : ObjV) (st en : Int) : Prop :=
  a.rows.length = b.rows.length ∧
  ∀ (i : Nat) (rb : RowV), b.rows[i]? = some rb → ∃ ra, a.rows[i]? = some ra ∧
    ra.start = st ∧ ra.«end» = en ∧ SameMeta rb ra ∧
    ra.cells = (rb.cells.drop (st - rb.start).toNat).take (en - st).toNat

theorem lawRange_sound (b a : ObjV) (st en : Int) (h : lawRange b a st en = none) : RangeSpec b a st en := by
  simp only [lawRange, and_none, check_none, beq_iff_eq] at h
  refine ⟨h.1, rows_of_allIdx h.1 h.2 fun i rb ra hb ha hf => ?_⟩
  simp only [hb, ha, check_none, Bool.and_eq_true, beq_iff_eq] at hf
  obtain ⟨⟨⟨c1, c2⟩, c3⟩, c4⟩ := hf
  exact ⟨c1, c2, sameMeta_sound rb ra c3, c4⟩

theorem allCover_iff (o : ObjV) (st en : Int) :
    allCover o st en = true ↔ st ≤ en ∧ ∀ r ∈ o.rows, r.start ≤ st ∧ en ≤ r.«end» := by
  simp only [allCover, Bool.and_eq_true, decide_eq_true_eq, List.all_eq_true]

theorem allCover_sound (o : ObjV) (st en : Int) (h : allCover o st en = true) :
    st ≤ en ∧ ∀ r ∈ o.rows, r.start ≤ st ∧ en ≤ r.«end» :=
  (allCover_iff o st en).mp h

end Biogo.Containers.Laws
