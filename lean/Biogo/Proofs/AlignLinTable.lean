/-
The row-major fills of the model (`fill`, `swFill`, flattened into `table`) compute the
recurrence of `Proofs/AlignLinRec.lean`: `table[i*c+j]` is `cell … i j`.  `TabOK` is all the
traceback uses of a table; NW's corner and Fitted's last column are optimal (`nw_opt`, `fit_opt`).
-/
import Biogo.Proofs.AlignLinRec

namespace Biogo.Proofs.AlignLin
open Biogo.Spec.Alignment Biogo.AlignLin

/-! Specification of a row: the values of `f` on the growing reversed prefixes of a list.
The table is the row of its rows (`specRows`). -/

def rowSpecGo {α} (f : List Nat → α) (Q : List Nat) : List Nat → List α
  | [] => []
  | b :: rest => f (b :: Q) :: rowSpecGo f (b :: Q) rest

def rowSpec {α} (f : List Nat → α) (q : List Nat) : List α := f [] :: rowSpecGo f [] q

theorem rowSpecGo_length {α} (f : List Nat → α) (Q rest : List Nat) :
    (rowSpecGo f Q rest).length = rest.length := by
  induction rest generalizing Q with
  | nil => rfl
  | cons b rest ih => simp [rowSpecGo, ih]

theorem rowSpec_length {α} (f : List Nat → α) (q : List Nat) : (rowSpec f q).length = q.length + 1 := by
  simp [rowSpec, rowSpecGo_length]

theorem rowSpecGo_get {α} (f : List Nat → α) : ∀ (rest Q : List Nat) (j : Nat), j < rest.length →
    (rowSpecGo f Q rest)[j]? = some (f ((rest.take (j + 1)).reverse ++ Q)) := by
  intro rest
  induction rest with
  | nil => intro Q j h; simp at h
  | cons b rest ih =>
    intro Q j h
    cases j with
    | zero => simp [rowSpecGo]
    | succ j =>
      simp only [rowSpecGo, List.getElem?_cons_succ]
      rw [ih (b :: Q) j (by simpa using h)]
      simp [List.take_succ_cons]

theorem rowSpec_get {α} (f : List Nat → α) (q : List Nat) (j : Nat) (h : j ≤ q.length) :
    (rowSpec f q)[j]? = some (f (q.take j).reverse) := by
  cases j with
  | zero => simp [rowSpec]
  | succ j =>
    simp only [rowSpec, List.getElem?_cons_succ]
    rw [rowSpecGo_get f q [] j (by omega)]
    simp

theorem rowSpec_mem {α} (f : List Nat → α) (q : List Nat) {y : α} (h : y ∈ rowSpec f q) : ∃ x, y = f x := by
  obtain ⟨j, hj⟩ := List.mem_iff_getElem?.mp h
  have hlt := (List.getElem?_eq_some_iff.mp hj).1
  rw [rowSpec_length] at hlt
  exact ⟨_, Option.some.inj (hj.symm.trans (rowSpec_get f q j (Nat.le_of_lt_succ hlt)))⟩

def specRows (F : List Nat → List Nat → Int) (r q : List Nat) : List (List Int) :=
  rowSpec (fun R => rowSpec (F R) q) r

theorem spec_get (F : List Nat → List Nat → Int) (r q : List Nat) {i j : Nat}
    (hi : i ≤ r.length) (hj : j ≤ q.length) :
    ((specRows F r q)[i]?).bind (·[j]?) = some (F (r.take i).reverse (q.take j).reverse) := by
  rw [specRows, rowSpec_get _ _ _ hi, Option.bind_some, rowSpec_get _ _ _ hj]

theorem spec_row_length (F : List Nat → List Nat → Int) (r q : List Nat) :
    ∀ row ∈ specRows F r q, row.length = q.length + 1 := by
  intro row h
  obtain ⟨R, rfl⟩ := rowSpec_mem _ _ h
  exact rowSpec_length _ q

theorem spec_length (F : List Nat → List Nat → Int) (r q : List Nat) : (specRows F r q).length = r.length + 1 := by
  rw [specRows, rowSpec_length]

theorem spec_cell (F : List Nat → List Nat → Int) (r q : List Nat) (i j : Nat)
    (hi : i ≤ r.length) (hj : j ≤ q.length) :
    (flat (specRows F r q)).getD (i * (q.length + 1) + j) 0 = F (r.take i).reverse (q.take j).reverse := by
  rw [flat, toArray_getD, flatten_get _ _ i j (spec_row_length F r q) (by omega), spec_get F r q hi hj]; rfl

theorem spec_size (F : List Nat → List Nat → Int) (r q : List Nat) :
    (flat (specRows F r q)).size = (r.length + 1) * (q.length + 1) := by
  rw [flat, List.size_toArray, flatten_length _ _ (spec_row_length F r q), spec_length]

theorem spec_lookup (F : List Nat → List Nat → Int) (r q : List Nat) {i j : Nat} {x : Int}
    (h : ((specRows F r q)[i]?).bind (·[j]?) = some x) :
    i ≤ r.length ∧ j ≤ q.length ∧ F (r.take i).reverse (q.take j).reverse = x := by
  obtain ⟨row, hrow, hx⟩ := Option.bind_eq_some_iff.mp h
  have hi := (List.getElem?_eq_some_iff.mp hrow).1
  have hj := (List.getElem?_eq_some_iff.mp hx).1
  rw [spec_length] at hi
  rw [spec_row_length F r q row (List.mem_of_getElem? hrow)] at hj
  have hi : i ≤ r.length := Nat.le_of_lt_succ hi
  have hj : j ≤ q.length := Nat.le_of_lt_succ hj
  exact ⟨hi, hj, Option.some.inj ((spec_get F r q hi hj).symm.trans h)⟩

theorem spec_mem (F : List Nat → List Nat → Int) (r q : List Nat) (i j : Nat)
    (hi : i ≤ r.length) (hj : j ≤ q.length) :
    ∃ row ∈ specRows F r q, F (r.take i).reverse (q.take j).reverse ∈ row := by
  obtain ⟨row, hrow, hx⟩ := Option.bind_eq_some_iff.mp (spec_get F r q hi hj)
  exact ⟨row, List.mem_of_getElem? hrow, List.mem_of_getElem? hx⟩

theorem firstRowGo_spec (S : Matrix) (free : Bool) : ∀ (rest Q : List Nat),
    firstRowGo S (dpRec S free false [] Q) rest = rowSpecGo (dpRec S free false []) Q rest := by
  intro rest
  induction rest with
  | nil => intro Q; rfl
  | cons b rest ih =>
    intro Q
    have : dpRec S free false [] Q + S 0 b = dpRec S free false [] (b :: Q) := by simp [dpRec]
    simp only [firstRowGo, rowSpecGo, this, ih]

theorem rowGo_spec (S : Matrix) (free : Bool) (a : Nat) (R : List Nat) : ∀ (rest Q : List Nat),
    rowGo S a (dpRec S free false R Q) (dpRec S free false (a :: R) Q)
        (rowSpecGo (dpRec S free false R) Q rest) rest
      = rowSpecGo (dpRec S free false (a :: R)) Q rest := by
  intro rest
  induction rest with
  | nil => intro Q; simp [rowGo, rowSpecGo]
  | cons b rest ih =>
    intro Q
    have : max3 (dpRec S free false R Q + S a b) (dpRec S free false R (b :: Q) + S a 0)
        (dpRec S free false (a :: R) Q + S 0 b) = dpRec S free false (a :: R) (b :: Q) := by
      simp [dpRec]
    simp only [rowGo, rowSpecGo, this, ih]

theorem rowsFrom_spec (S : Matrix) (free : Bool) (q : List Nat) : ∀ (rest R : List Nat),
    rowsFrom S free q (rowSpec (dpRec S free false R) q) rest =
      rowSpecGo (fun R => rowSpec (dpRec S free false R) q) R rest := by
  intro rest
  induction rest with
  | nil => intro R; rfl
  | cons a rest ih =>
    intro R
    have h0 : (if free then 0 else dpRec S free false R [] + S a 0) = dpRec S free false (a :: R) [] := by
      simp [dpRec]
    have : nextRow S free a (rowSpec (dpRec S free false R) q) q = rowSpec (dpRec S free false (a :: R)) q := by
      simp only [nextRow, rowSpec, h0, rowGo_spec]
    simp only [rowsFrom, rowSpecGo, this, ih]

theorem fill_spec (S : Matrix) (free : Bool) (r q : List Nat) :
    fill S free r q = specRows (dpRec S free false) r q := by
  have h0 : dpRec S free false [] [] = 0 := by simp [dpRec]
  have := firstRowGo_spec S free q []
  rw [h0] at this
  have hfirst : firstRow S q = rowSpec (dpRec S free false []) q := by simp only [firstRow, rowSpec, this, h0]
  rw [fill, hfirst, rowsFrom_spec]; rfl

theorem swRowGo_fst (S : Matrix) (a i : Nat) (R : List Nat) : ∀ (rest Q : List Nat) (j : Nat) (best : Best),
    (swRowGo S a i j (dpRec S true true R Q) (dpRec S true true (a :: R) Q)
        (rowSpecGo (dpRec S true true R) Q rest) rest best).1
      = rowSpecGo (dpRec S true true (a :: R)) Q rest := by
  intro rest
  induction rest with
  | nil => intro Q j best; simp [swRowGo, rowSpecGo]
  | cons b rest ih =>
    intro Q j best
    simp only [swRowGo, rowSpecGo, ← dpRec_clip]
    rw [ih]

theorem swRowsFrom_fst (S : Matrix) (q : List Nat) : ∀ (rest R : List Nat) (i : Nat) (best : Best),
    (swRowsFrom S q i (rowSpec (dpRec S true true R) q) rest best).1 =
      rowSpecGo (fun R => rowSpec (dpRec S true true R) q) R rest := by
  intro rest
  induction rest with
  | nil => intro R i best; rfl
  | cons a rest ih =>
    intro R i best
    have h1 := swRowGo_fst S a i R q [] 1 best
    rw [dpRec_nil_right S true (a :: R), dpRec_nil_right S true R] at h1
    have h2 := ih (a :: R) (i + 1) (swRowGo S a i 1 0 0 (rowSpecGo (dpRec S true true R) [] q) q best).2
    simp only [rowSpec, dpRec_nil_right] at h2
    simp only [swRowsFrom, rowSpec, rowSpecGo, dpRec_nil_right, h1, h2]

theorem swFill_fst (S : Matrix) (r q : List Nat) :
    (swFill S r q).1 = specRows (dpRec S true true) r q := by
  have hfirst : List.replicate (q.length + 1) 0 = rowSpec (dpRec S true true []) q :=
    (List.eq_replicate_iff.mpr ⟨rowSpec_length _ _, fun b hb => by
      obtain ⟨x, rfl⟩ := rowSpec_mem _ _ hb
      exact dpRec_nil_left S true x⟩).symm
  rw [swFill, hfirst, swRowsFrom_fst]; rfl

/-- `loc`: SW's table, clamped at 0; `recur` then holds at the non-zero cells only, where its traceback goes on. -/
structure TabOK (S : Matrix) (r q : List Nat) (tab : Array Int) (loc : Bool) (T : Nat → Nat → Int) : Prop where
  get : ∀ i j, i ≤ r.length → j ≤ q.length → tab.getD (i * (q.length + 1) + j) 0 = T i j
  size : tab.size = (r.length + 1) * (q.length + 1)
  recur : ∀ i j, i < r.length → j < q.length → (loc = true → T (i + 1) (j + 1) ≠ 0) →
    T (i + 1) (j + 1) = max3 (T i j + S (r.getD i 0) (q.getD j 0)) (T i (j + 1) + S (r.getD i 0) 0)
      (T (i + 1) j + S 0 (q.getD j 0))

theorem tabOK_spec (S : Matrix) (fr fq : Bool) (r q : List Nat) {rows : List (List Int)}
    (h : rows = specRows (dpRec S fr fq) r q) :
    TabOK S r q (flat rows) (fr && fq) (cell S fr fq r q) where
  get := fun i j hi hj => h ▸ spec_cell _ r q i j hi hj
  size := h ▸ spec_size _ r q
  recur := cell_succ_succ S fr fq r q

theorem tabOK_fill (S : Matrix) (free : Bool) (r q : List Nat) :
    TabOK S r q (flat (fill S free r q)) false (cell S free false r q) := by
  have := tabOK_spec S free false r q (fill_spec S free r q)
  rwa [Bool.and_false] at this

theorem tabOK_swFill (S : Matrix) (r q : List Nat) :
    TabOK S r q (flat (swFill S r q).1) true (cell S true true r q) :=
  tabOK_spec S true true r q (swFill_fst S r q)

theorem nw_opt (S : Matrix) (r q : List Nat) :
    (∀ a, IsGlobal a r q → scoreLin S a ≤ nwScore S r q) ∧
    ∃ a, IsGlobal a r q ∧ scoreLin S a = nwScore S r q := by
  have h := cell_opt S false false r q r.length q.length (fun h => nomatch h) (fun h => nomatch h)
  rw [← (tabOK_fill S false r q).get _ _ (Nat.le_refl _) (Nat.le_refl _), List.take_length, List.take_length] at h
  exact ⟨fun a ha => h.1 a ha.1 ha.2, h.2.imp fun a ⟨h1, h2, h3⟩ => ⟨⟨h1, h2⟩, h3⟩⟩

theorem fit_opt (S : Matrix) (r q : List Nat) (hg : ∀ x ∈ r, S x 0 ≤ 0) (e : Nat) (he : e ≤ r.length) :
    (∀ a, IsFitted a r q e → scoreLin S a ≤ fitScoreAt S r q e) ∧
    ∃ a, IsFitted a r q e ∧ scoreLin S a = fitScoreAt S r q e := by
  have h := cell_opt S true false r q e q.length (fun _ => hg) (fun h => nomatch h)
  rw [← (tabOK_fill S true r q).get _ _ he (Nat.le_refl _), List.take_length] at h
  exact ⟨fun a ha => let ⟨hR, hQ⟩ := (isFitted_iff he).mp ha; h.1 a hR hQ,
    h.2.imp fun a ⟨hR, hQ, hs⟩ => ⟨(isFitted_iff he).mpr ⟨hR, hQ⟩, hs⟩⟩

end Biogo.Proofs.AlignLin
