/-
Loop invariant of the traceback (`traceLoop`, shared by NW/Fitted and, with `loc = true`, SW):
the pairs emitted so far plus the pending block always form a chain of well-shaped pairs that
ends at the fixed end cell, every pair's score is the score recomputed from its columns, and
(pending score) + (scores emitted) + (table value of the current cell) is constant.  The
`default: panic` branch is never reached.  `Inv.close` and `Inv.lead` read the finished path off
the invariant at the cell where the loop stops.
-/
import Biogo.Proofs.AlignLinTable
import Biogo.Proofs.AlignPairs

namespace Biogo.Proofs.AlignLin
open Biogo.Spec.Alignment Biogo.AlignLin Biogo.Spec.AlignPairs Biogo.Proofs.AlignPairs

theorem drop_take_cons (l : List Nat) (i M : Nat) (h1 : i < M) (h2 : M ≤ l.length) :
    (l.take M).drop i = l.getD i 0 :: (l.take M).drop (i + 1) := by
  have hlen : i < (l.take M).length := by simp; omega
  rw [List.drop_eq_getElem_cons hlen]
  have : i < l.length := by omega
  simp [List.getD, this]

theorem cols_cons_diag (r q : List Nat) {i maxI j maxJ : Nat} (sc sc' : Int)
    (h : maxI - i = maxJ - j) (hi : i < maxI) (hj : j < maxJ)
    (hI : maxI ≤ r.length) (hJ : maxJ ≤ q.length) :
    Pair.cols r q ⟨i, maxI, j, maxJ, sc⟩ =
      .m (r.getD i 0) (q.getD j 0) :: Pair.cols r q ⟨i + 1, maxI, j + 1, maxJ, sc'⟩ := by
  rw [cols_diag r q i maxI j maxJ sc h (Nat.le_of_lt hi) (Nat.le_of_lt hj),
    cols_diag r q _ _ _ _ sc' (by rw [Nat.sub_succ, Nat.sub_succ, h]) hi hj,
    drop_take_cons r i maxI hi hI, drop_take_cons q j maxJ hj hJ]
  rfl

theorem cols_cons_up (r q : List Nat) {i maxI : Nat} (j : Nat) (sc sc' : Int)
    (hi : i < maxI) (hI : maxI ≤ r.length) :
    Pair.cols r q ⟨i, maxI, j, j, sc⟩ = .u (r.getD i 0) :: Pair.cols r q ⟨i + 1, maxI, j, j, sc'⟩ := by
  rw [cols_up, cols_up, drop_take_cons r i maxI hi hI]; rfl

theorem cols_cons_left (r q : List Nat) (i : Nat) {j maxJ : Nat} (sc sc' : Int)
    (hj : j < maxJ) (hJ : maxJ ≤ q.length) :
    Pair.cols r q ⟨i, i, j, maxJ, sc⟩ = .l (q.getD j 0) :: Pair.cols r q ⟨i, i, j + 1, maxJ, sc'⟩ := by
  rw [cols_left, cols_left, drop_take_cons q j maxJ hj hJ]; rfl

/-- the pending block `[i, maxI) × [j, maxJ)` is a run in direction `k`, hence `okShape` once emitted (`Inv.pending_ok`) -/
def kindOK (k : Dir) (i j maxI maxJ : Nat) : Prop :=
  match k with
  | .diag => maxI - i = maxJ - j
  | .up => j = maxJ
  | .left => i = maxI

structure Inv (S : Matrix) (r q : List Nat) (T : Nat → Nat → Int) (E1 E2 : Nat) (K : Int)
    (i j : Nat) (last : Dir) (score : Int) (maxI maxJ : Nat) (acc : List Pair) : Prop where
  hi : i ≤ maxI
  hj : j ≤ maxJ
  hI : maxI ≤ r.length
  hJ : maxJ ≤ q.length
  kind : kindOK last i j maxI maxJ
  sc : score = scoreLin S (Pair.cols r q ⟨i, maxI, j, maxJ, 0⟩)
  chain : chainEnd maxI maxJ acc = some (E1, E2)
  accOK : pairScoresOk S r q acc = true
  tot : score + total acc + T i j = K

theorem kindOK_self (k : Dir) (i j : Nat) : kindOK k i j i j := by
  cases k <;> simp only [kindOK, Nat.sub_self]

theorem Inv.pending_ok {S r q T E1 E2 K i j last score maxI maxJ acc}
    (h : Inv S r q T E1 E2 K i j last score maxI maxJ acc) :
    (⟨i, maxI, j, maxJ, score⟩ : Pair).okShape = true := by
  refine (okShape_iff _).mpr ⟨h.hi, h.hj, ?_, ?_⟩
  · show maxI - i = maxJ - j ∨ i = maxI ∨ j = maxJ
    have hk := h.kind
    cases last with
    | diag => exact .inl hk
    | up => exact .inr (.inr hk)
    | left => exact .inr (.inl hk)
  · show i = maxI → j = maxJ → score = 0
    rintro rfl rfl
    simpa [cols_empty, scoreLin] using h.sc

theorem Inv.emit {S r q T E1 E2 K i j last score maxI maxJ acc}
    (h : Inv S r q T E1 E2 K i j last score maxI maxJ acc) :
    chainEnd i j (⟨i, maxI, j, maxJ, score⟩ :: acc) = some (E1, E2) ∧
    pairScoresOk S r q (⟨i, maxI, j, maxJ, score⟩ :: acc) = true ∧
    total (⟨i, maxI, j, maxJ, score⟩ :: acc) = score + total acc := by
  refine ⟨chainEnd_cons.mpr ⟨rfl, rfl, h.pending_ok, h.chain⟩, ?_, total_cons _ _⟩
  rw [pairScoresOk_cons, h.accOK, Bool.and_true, decide_eq_true_eq]
  exact h.sc

/-- `emitIf` leaves the invariant in place with the block's direction set to `k`, provided the
    pending block is emitted unless it already runs in direction `k` -/
theorem Inv.emitIf {S r q T E1 E2 K i j last score maxI maxJ acc}
    (h : Inv S r q T E1 E2 K i j last score maxI maxJ acc) (cond : Bool) (k : Dir)
    (hk : cond = false → kindOK k i j maxI maxJ) :
    Inv S r q T E1 E2 K i j k (emitIf cond i j score maxI maxJ acc).1
      (emitIf cond i j score maxI maxJ acc).2.1 (emitIf cond i j score maxI maxJ acc).2.2.1
      (emitIf cond i j score maxI maxJ acc).2.2.2 := by
  cases cond with
  | false => exact { h with kind := hk rfl }
  | true =>
    obtain ⟨e1, e2, e3⟩ := h.emit
    show Inv S r q T E1 E2 K i j k 0 i j (⟨i, maxI, j, maxJ, score⟩ :: acc)
    exact ⟨Nat.le_refl _, Nat.le_refl _, Nat.le_trans h.hi h.hI, Nat.le_trans h.hj h.hJ,
      kindOK_self k i j, by rw [cols_empty]; rfl, e1, e2, by rw [e3]; have := h.tot; omega⟩

/-- Moving the start of the pending block from `(i', j')` back to `(i, j)` over a column `c` whose
    score is the difference of the two table values. -/
theorem Inv.move {S r q T E1 E2 K i' j' k score maxI maxJ acc}
    (h : Inv S r q T E1 E2 K i' j' k score maxI maxJ acc) {i j : Nat} {c : Col}
    (hi : i ≤ maxI) (hj : j ≤ maxJ) (hk : kindOK k i j maxI maxJ)
    (hc : Pair.cols r q ⟨i, maxI, j, maxJ, 0⟩ = c :: Pair.cols r q ⟨i', maxI, j', maxJ, 0⟩)
    (hT : T i' j' = T i j + colScore S c) :
    Inv S r q T E1 E2 K i j k (score + (T i' j' - T i j)) maxI maxJ acc :=
  ⟨hi, hj, h.hI, h.hJ, hk, by rw [hc, scoreLin, ← h.sc, hT, Int.add_comm (T i j), Int.add_sub_cancel, Int.add_comm], h.chain, h.accOK, by have := h.tot; omega⟩

theorem Inv.diag {S r q T E1 E2 K i j score maxI maxJ acc}
    (h : Inv S r q T E1 E2 K (i + 1) (j + 1) .diag score maxI maxJ acc)
    (hT : T (i + 1) (j + 1) = T i j + S (r.getD i 0) (q.getD j 0)) :
    Inv S r q T E1 E2 K i j .diag (score + (T (i + 1) (j + 1) - T i j)) maxI maxJ acc := by
  have hi := h.hi; have hj := h.hj
  have hk : maxI - i = maxJ - j := by
    have : maxI - (i + 1) = maxJ - (j + 1) := h.kind
    rw [Nat.sub_succ, Nat.sub_succ] at this
    exact Nat.pred_inj (Nat.sub_pos_of_lt hi) (Nat.sub_pos_of_lt hj) this
  exact h.move (Nat.le_of_succ_le hi) (Nat.le_of_succ_le hj) hk (cols_cons_diag r q 0 0 hk hi hj h.hI h.hJ) hT

theorem Inv.up {S r q T E1 E2 K i j score maxI maxJ acc}
    (h : Inv S r q T E1 E2 K (i + 1) j .up score maxI maxJ acc)
    (hT : T (i + 1) j = T i j + S (r.getD i 0) 0) :
    Inv S r q T E1 E2 K i j .up (score + (T (i + 1) j - T i j)) maxI maxJ acc := by
  have hk : j = maxJ := h.kind
  subst hk
  exact h.move (Nat.le_of_succ_le h.hi) h.hj rfl (cols_cons_up r q j 0 0 h.hi h.hI) hT

theorem Inv.left {S r q T E1 E2 K i j score maxI maxJ acc}
    (h : Inv S r q T E1 E2 K i (j + 1) .left score maxI maxJ acc)
    (hT : T i (j + 1) = T i j + S 0 (q.getD j 0)) :
    Inv S r q T E1 E2 K i j .left (score + (T i (j + 1) - T i j)) maxI maxJ acc := by
  have hk : i = maxI := h.kind
  subst hk
  exact h.move h.hi (Nat.le_of_succ_le h.hj) rfl (cols_cons_left r q i 0 0 h.hj h.hJ) hT

theorem idx_up (i j c : Nat) : (i + 1) * c + (j + 1) - c = i * c + (j + 1) := by
  rw [Nat.succ_mul, Nat.add_right_comm, Nat.add_sub_cancel]
theorem idx_pred (i j c : Nat) : i * c + (j + 1) - 1 = i * c + j := rfl
theorem idx_diag (i j c : Nat) : (i + 1) * c + (j + 1) - c - 1 = i * c + j := by
  rw [idx_up, idx_pred]

/-- `p == len(table)-1` only at the bottom-right corner -/
theorem corner (i j n m : Nat) (hi : i ≤ n) (hj : j ≤ m)
    (h : i * (m + 1) + j = (n + 1) * (m + 1) - 1) : i = n ∧ j = m := by
  rw [Nat.succ_mul] at h
  rcases Nat.lt_or_eq_of_le hi with hlt | rfl
  · have := Nat.mul_le_mul_right (m + 1) hlt
    rw [Nat.succ_mul] at this
    omega
  · exact ⟨rfl, by omega⟩

/-- When a gap step does not emit, the pending block may continue in the step's direction: it
    already runs that way, or the cell is the bottom-right corner (the guard `p != len(table)-1`),
    where the pending block is still empty. -/
theorem Inv.kind_of_guard {S r q T E1 E2 K i j last score maxI maxJ acc} {tab : Array Int} {loc : Bool}
    (h : Inv S r q T E1 E2 K i j last score maxI maxJ acc) (hT : TabOK S r q tab loc T) (k : Dir)
    (hc : (last != k && (loc || i * (q.length + 1) + j != tab.size - 1)) = false) :
    kindOK k i j maxI maxJ := by
  simp only [Bool.and_eq_false_iff, Bool.or_eq_false_iff, bne_eq_false_iff_eq] at hc
  rcases hc with rfl | ⟨_, hc⟩
  · exact h.kind
  · rw [hT.size] at hc
    obtain ⟨hi, hj⟩ := corner i j r.length q.length (Nat.le_trans h.hi h.hI) (Nat.le_trans h.hj h.hJ) hc
    obtain rfl : i = maxI := Nat.le_antisymm h.hi (hi ▸ h.hI)
    obtain rfl : j = maxJ := Nat.le_antisymm h.hj (hj ▸ h.hJ)
    exact kindOK_self k i j

theorem traceLoop_spec {S : Matrix} {r q : List Nat} {tab : Array Int} {loc : Bool} {T : Nat → Nat → Int}
    (hT : TabOK S r q tab loc T) (E1 E2 : Nat) (K : Int) :
    ∀ (fuel i j : Nat) (last : Dir) (score : Int) (maxI maxJ : Nat) (acc : List Pair),
    i + j ≤ fuel → Inv S r q T E1 E2 K i j last score maxI maxJ acc →
    ∃ o last', traceLoop S r q tab (q.length + 1) loc fuel i j last score maxI maxJ acc = some o ∧
      Inv S r q T E1 E2 K o.i o.j last' o.score o.maxI o.maxJ o.acc ∧
      (o.i = 0 ∨ o.j = 0 ∨ (loc = true ∧ T o.i o.j = 0)) := by
  intro fuel
  induction fuel with
  | zero =>
    intro i j last score maxI maxJ acc hf hinv
    exact ⟨⟨i, j, score, maxI, maxJ, acc⟩, last, rfl, hinv, .inl (Nat.eq_zero_of_add_eq_zero_right (Nat.le_zero.mp hf))⟩
  | succ fuel ih =>
    intro i j last score maxI maxJ acc hf hinv
    by_cases hpos : i > 0 ∧ j > 0
    · obtain ⟨i', rfl⟩ := Nat.exists_eq_add_one_of_ne_zero (Nat.ne_of_gt hpos.1)
      obtain ⟨j', rfl⟩ := Nat.exists_eq_add_one_of_ne_zero (Nat.ne_of_gt hpos.2)
      have hi : i' + 1 ≤ r.length := Nat.le_trans hinv.hi hinv.hI
      have hj : j' + 1 ≤ q.length := Nat.le_trans hinv.hj hinv.hJ
      have hf : i' + j' ≤ fuel ∧ i' + (j' + 1) ≤ fuel ∧ i' + 1 + j' ≤ fuel := by omega
      have g11 := hT.get (i' + 1) (j' + 1) hi hj
      have g00 := hT.get i' j' (Nat.le_of_succ_le hi) (Nat.le_of_succ_le hj)
      have g01 := hT.get i' (j' + 1) (Nat.le_of_succ_le hi) hj
      have g10 := hT.get (i' + 1) j' hi (Nat.le_of_succ_le hj)
      simp only [traceLoop, if_pos hpos, Nat.add_sub_cancel, idx_up, idx_pred, g11, g00, g01, g10]
      by_cases hstop : loc = true ∧ T (i' + 1) (j' + 1) = 0
      · rw [if_pos hstop]
        exact ⟨_, last, rfl, hinv, .inr (.inr hstop)⟩
      · rw [if_neg hstop]
        have hrec := hT.recur i' j' hi hj (fun hl h0 => hstop ⟨hl, h0⟩)
        by_cases h1 : T (i' + 1) (j' + 1) = T i' j' + S (r.getD i' 0) (q.getD j' 0)
        · rw [if_pos h1]
          refine ih _ _ _ _ _ _ _ hf.1 ((hinv.emitIf _ .diag fun hc => ?_).diag h1)
          rw [bne_eq_false_iff_eq] at hc
          subst hc; exact hinv.kind
        · rw [if_neg h1]
          by_cases h2 : T (i' + 1) (j' + 1) = T i' (j' + 1) + S (r.getD i' 0) 0
          · rw [if_pos h2]
            exact ih _ _ _ _ _ _ _ hf.2.1 ((hinv.emitIf _ .up (hinv.kind_of_guard hT .up)).up h2)
          · -- the cell is the `max3` of its predecessors, so the third candidate is the one left
            have h3 : T (i' + 1) (j' + 1) = T (i' + 1) j' + S 0 (q.getD j' 0) := by
              rw [hrec] at h1 h2 ⊢
              exact ((max3_cases ..).resolve_left h1).resolve_left h2
            rw [if_neg h2, if_pos h3]
            exact ih _ _ _ _ _ _ _ hf.2.2 ((hinv.emitIf _ .left (hinv.kind_of_guard hT .left)).left h3)
    · simp only [traceLoop, if_neg hpos]
      exact ⟨_, last, rfl, hinv, by simp only; omega⟩

theorem inv_init (S : Matrix) (r q : List Nat) (T : Nat → Nat → Int) (e m : Nat)
    (he : e ≤ r.length) (hm : m ≤ q.length) :
    Inv S r q T e m (T e m) e m .diag 0 e m [] where
  hi := Nat.le_refl _
  hj := Nat.le_refl _
  hI := he
  hJ := hm
  kind := by simp [kindOK]
  sc := by rw [cols_empty]; rfl
  chain := rfl
  accOK := rfl
  tot := by simp [total]

theorem trace_from {S : Matrix} {r q : List Nat} {tab : Array Int} {loc : Bool} {T : Nat → Nat → Int}
    (hT : TabOK S r q tab loc T) (e m : Nat) (he : e ≤ r.length) (hm : m ≤ q.length) :
    ∃ o last', traceLoop S r q tab (q.length + 1) loc (e + m) e m .diag 0 e m [] = some o ∧
      Inv S r q T e m (T e m) o.i o.j last' o.score o.maxI o.maxJ o.acc ∧
      (o.i = 0 ∨ o.j = 0 ∨ (loc = true ∧ T o.i o.j = 0)) :=
  traceLoop_spec hT e m _ (e + m) e m .diag 0 e m [] (Nat.le_refl _) (inv_init S r q T e m he hm)

theorem Inv.close {S r q T E1 E2 K i j last score maxI maxJ acc}
    (h : Inv S r q T E1 E2 K i j last score maxI maxJ acc) (h0 : T i j = 0) :
    span (⟨i, maxI, j, maxJ, score⟩ :: acc) = some (i, j, E1, E2) ∧
    pairScoresOk S r q (⟨i, maxI, j, maxJ, score⟩ :: acc) = true ∧
    total (⟨i, maxI, j, maxJ, score⟩ :: acc) = K := by
  obtain ⟨e1, e2, e3⟩ := h.emit
  exact ⟨span_cons_of_chain e1, e2, by rw [e3, ← h.tot, h0, Int.add_zero]⟩

/-- closing the path on the first row or column with the pending block and, before it, the gap
    block from the origin, whose score is the table value of the cell reached -/
theorem Inv.lead {S r q T E1 E2 K i j last score maxI maxJ acc}
    (h : Inv S r q T E1 E2 K i j last score maxI maxJ acc) (h0 : i = 0 ∨ j = 0)
    (hT : T i j = scoreLin S (Pair.cols r q ⟨0, i, 0, j, 0⟩)) :
    span (⟨0, i, 0, j, T i j⟩ :: ⟨i, maxI, j, maxJ, score⟩ :: acc) = some (0, 0, E1, E2) ∧
    pairScoresOk S r q (⟨0, i, 0, j, T i j⟩ :: ⟨i, maxI, j, maxJ, score⟩ :: acc) = true ∧
    total (⟨0, i, 0, j, T i j⟩ :: ⟨i, maxI, j, maxJ, score⟩ :: acc) = K := by
  obtain ⟨e1, e2, e3⟩ := h.emit
  have hshape : (⟨0, i, 0, j, T i j⟩ : Pair).okShape = true := by
    refine (okShape_iff _).mpr ⟨Nat.zero_le _, Nat.zero_le _, ?_, ?_⟩
    · exact .inr (h0.imp Eq.symm Eq.symm)
    · show 0 = i → 0 = j → T i j = 0
      rintro rfl rfl
      rw [hT, cols_empty]; rfl
  refine ⟨span_cons_of_chain (chainEnd_cons.mpr ⟨rfl, rfl, hshape, e1⟩), ?_, ?_⟩
  · rw [pairScoresOk_cons, e2, Bool.and_true, decide_eq_true_eq]; exact hT
  · rw [total_cons, e3, Int.add_comm]; exact h.tot

end Biogo.Proofs.AlignLin
