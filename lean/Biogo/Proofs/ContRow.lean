/-
`alignment.Row.RevComp` / `Row.Reverse` (and `QRow`): the two-pointer loop over the columns that
touches only entry `r` of every column refines the two-pointer loop on the list of the letters
of row `r`; every other row is untouched.
-/
import Biogo.Proofs.ContAln

namespace Biogo.Containers
open Biogo.Go

/-- the loop of `Row.RevComp` / `Row.Reverse` refines the two-pointer loop on the letters of that
    row, and leaves every other row as it was -/
theorem rowVec_rowLoop (f : QL → QL) (mid : Bool) (n : Nat) (cols : List Slice) (r : Nat) (hr : r < n) :
    ∀ (fuel i j1 : Nat) (h : Cells), ColsWF h n cols → j1 ≤ cols.length →
      rowVec (Aln.rowLoop f mid cols r fuel i j1 h) cols r = twoPtr f mid fuel i j1 (rowVec h cols r) ∧
      ∀ r', r' ≠ r → rowVec (Aln.rowLoop f mid cols r fuel i j1 h) cols r' = rowVec h cols r' := by
  intro fuel
  induction fuel with
  | zero => intro i j1 h _ _; exact ⟨rfl, fun _ _ => rfl⟩
  | succ fuel ih =>
    intro i j1 h hw hj1
    unfold Aln.rowLoop twoPtr
    by_cases h1 : i + 1 < j1
    · simp only [h1, if_true]
      have hil : i < cols.length := by omega
      have hjl : j1 - 1 < cols.length := by omega
      have hi := List.getElem?_eq_getElem hil
      have hj := List.getElem?_eq_getElem hjl
      rw [hi, hj]
      simp only
      obtain ⟨s1, s2⟩ := rowVec_rowSwap f h n cols hw i (j1 - 1) _ _ hi hj r hr
      have hw' : ColsWF (Aln.rowSwap f h cols[i] cols[j1 - 1] r) n cols :=
        hw.writesOnly (writesOnly_rowSwap f h _ _ r)
      obtain ⟨t1, t2⟩ := ih (i + 1) (j1 - 1) _ hw' (by omega)
      exact ⟨by rw [t1, s1], fun r' hne => by rw [t2 r' hne, s2 r' hne]⟩
    · simp only [h1, if_false]
      by_cases h2 : (mid && i + 1 == j1) = true
      · simp only [h2, if_true]
        have hil : i < cols.length := by
          simp only [Bool.and_eq_true, beq_iff_eq] at h2; omega
        have hi := List.getElem?_eq_getElem hil
        rw [hi]
        simp only
        exact rowVec_hModAt f h n cols hw i _ hi r hr
      · simp only [h2]; exact ⟨rfl, fun _ _ => rfl⟩

/-- the loop of `Row(r).RevComp()` / `Row(r).Reverse()` on a well-formed alignment, seen through an
    alignment `a'` with the same columns -/
theorem Aln.rowLoop_spec (f : QL → QL) (mid : Bool) (h : Cells) (a a' : Aln) (n : Nat) (hw : ColsWF h n a.cols)
    (r : Nat) (hr : r < n) (hcols : a'.cols = a.cols) (hq : a'.q = a.q) :
    a'.rowLetters (Aln.rowLoop f mid a.cols r (loopFuel a.cols.length) 0 a.cols.length h) r
      = (twoPtr f mid (loopFuel (rowVec h a.cols r).length) 0 (rowVec h a.cols r).length (rowVec h a.cols r)).map
          (Lin.shown a.q) ∧
    (∀ r', r' ≠ r →
      a'.rowLetters (Aln.rowLoop f mid a.cols r (loopFuel a.cols.length) 0 a.cols.length h) r' = a.rowLetters h r') ∧
    ColsWF (Aln.rowLoop f mid a.cols r (loopFuel a.cols.length) 0 a.cols.length h) n a'.cols ∧
    (∀ b, b ∉ a.cols.map (·.arr) →
      (Aln.rowLoop f mid a.cols r (loopFuel a.cols.length) 0 a.cols.length h).arr b = h.arr b) := by
  obtain ⟨t1, t2⟩ := rowVec_rowLoop f mid n a.cols r hr (loopFuel a.cols.length) 0
    a.cols.length h hw (Nat.le_refl _)
  have hs := writesOnly_rowLoop f mid a.cols r (loopFuel a.cols.length) 0 a.cols.length h
  refine ⟨?_, fun r' hne => ?_, by rw [hcols]; exact hw.writesOnly hs, hs.frame⟩
  · rw [Aln.rowLetters_eq_rowVec, hcols, hq, t1, rowVec_length]
  · rw [Aln.rowLetters_eq_rowVec, Aln.rowLetters_eq_rowVec, hcols, hq, t2 r' hne]

theorem Aln.rowRevComp_spec (cx : Ctx) (h : Cells) (a : Aln) (n : Nat) (hw : ColsWF h n a.cols) (r : Nat)
    (hr : r < n) :
    (a.rowRevComp cx h r).2.rowLetters (a.rowRevComp cx h r).1 r
        = (a.rowLetters h r).reverse.map (compQL cx.comp) ∧
    (∀ r', r' ≠ r → (a.rowRevComp cx h r).2.rowLetters (a.rowRevComp cx h r).1 r' = a.rowLetters h r') ∧
    ColsWF (a.rowRevComp cx h r).1 n (a.rowRevComp cx h r).2.cols ∧
    (∀ b, b ∉ a.cols.map (·.arr) → (a.rowRevComp cx h r).1.arr b = h.arr b) := by
  obtain ⟨t1, t⟩ := Aln.rowLoop_spec (compQL cx.comp) true h a (a.rowRevComp cx h r).2 n hw r hr rfl rfl
  refine ⟨t1.trans ?_, t⟩
  rw [twoPtr_spec, Aln.rowLetters_eq_rowVec, ← List.map_reverse, List.map_map, List.map_map]
  exact List.map_congr_left fun c _ => shown_compQL a.q cx.comp c

theorem Aln.rowReverse_spec (h : Cells) (a : Aln) (n : Nat) (hw : ColsWF h n a.cols) (r : Nat) (hr : r < n) :
    (a.rowReverse h r).2.rowLetters (a.rowReverse h r).1 r = (a.rowLetters h r).reverse ∧
    (∀ r', r' ≠ r → (a.rowReverse h r).2.rowLetters (a.rowReverse h r).1 r' = a.rowLetters h r') ∧
    ColsWF (a.rowReverse h r).1 n (a.rowReverse h r).2.cols ∧
    (∀ b, b ∉ a.cols.map (·.arr) → (a.rowReverse h r).1.arr b = h.arr b) := by
  obtain ⟨t1, t⟩ := Aln.rowLoop_spec id false h a (a.rowReverse h r).2 n hw r hr rfl rfl
  refine ⟨t1.trans ?_, t⟩
  rw [twoPtr_reverse, Aln.rowLetters_eq_rowVec, List.map_reverse]

end Biogo.Containers
