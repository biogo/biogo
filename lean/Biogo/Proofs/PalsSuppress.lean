/-
The duplicate-start / duplicate-end suppression of `dp.AlignTraps` (`Biogo.PalsOracle.markRun`,
`suppress`): a pass returns the list it was given with some hits marked (`markRuns_all2`), so it only
removes hits; in every run the best hit survives; and after sorts on both coordinates no two surviving
hits share a start or an end point.  Core-only.
-/
import Biogo.Model.PalsOracle
import Biogo.Proofs.All2

namespace Biogo.PalsOracle
open Biogo.Containers (All2)

def Marked (x y : Hit) : Prop := y = x ∨ y = { x with score := -1 }

theorem Marked.refl (x : Hit) : Marked x x := Or.inl rfl

theorem Marked.trans {x y z : Hit} (h1 : Marked x y) (h2 : Marked y z) : Marked x z := by
  rcases h1 with rfl | rfl
  · exact h2
  · rcases h2 with rfl | rfl
    · exact Or.inr rfl
    · exact Or.inr rfl

theorem Marked.eq_of_nonneg {x y : Hit} (h : Marked x y) (hs : 0 ≤ y.score) : y = x := by
  rcases h with rfl | rfl
  · rfl
  · simp at hs

theorem markRun_acc (key : Hit → Int × Int) : ∀ (rest acc : List Hit) (best : Hit) (mid : List Hit),
    markRun key acc best mid rest = acc.reverse ++ markRun key [] best mid rest := by
  intro rest
  induction rest with
  | nil => intro acc best mid; simp [markRun]
  | cons h rest ih =>
    intro acc best mid
    simp only [markRun]
    split
    · rw [ih (mid ++ best :: acc), ih (mid ++ [best])]; simp
    · split
      · rw [ih (mid ++ _ :: acc), ih (mid ++ [_])]; simp
      · exact ih acc best _

theorem markRun_step (key : Hit → Int × Int) (best : Hit) (mid : List Hit) (h : Hit) (rest : List Hit) :
    markRun key [] best mid (h :: rest) =
      if key h ≠ key best then best :: mid.reverse ++ markRun key [] h [] rest
      else if h.score > best.score then { best with score := -1 } :: mid.reverse ++ markRun key [] h [] rest
      else markRun key [] best ({ h with score := -1 } :: mid) rest := by
  simp only [markRun]
  split
  · rw [markRun_acc]; simp
  · split
    · rw [markRun_acc]; simp
    · rfl

theorem all2_mark {L l1 l2 : List Hit} {x x' : Hit} (m : Marked x x') :
    All2 Marked L (l1 ++ x :: l2) → All2 Marked L (l1 ++ x' :: l2) := by
  induction l1 generalizing L with
  | nil => intro h; cases h with | cons h1 h2 => exact .cons (h1.trans m) h2
  | cons a l1 ih => intro h; cases h with | cons h1 h2 => exact .cons h1 (ih h2)

/-- a pass only marks: the list under construction (`acc` and `mid` are kept in reverse) stays a
    marked copy, position by position, of what it was -/
theorem markRun_all2 (key : Hit → Int × Int) : ∀ (rest acc : List Hit) (best : Hit) (mid L : List Hit),
    All2 Marked L (acc.reverse ++ best :: (mid.reverse ++ rest)) → All2 Marked L (markRun key acc best mid rest) := by
  intro rest
  induction rest with
  | nil => intro acc best mid L h; simpa [markRun] using h
  | cons h rest ih =>
    intro acc best mid L hL
    simp only [markRun]
    split
    · exact ih _ _ _ L (by simpa [List.reverse_append, List.append_assoc] using hL)
    · split
      · exact ih _ _ _ L (by simpa [List.reverse_append, List.append_assoc] using all2_mark (Or.inr rfl) hL)
      · refine ih _ _ _ L ?_
        have hL' : All2 Marked L ((acc.reverse ++ best :: mid.reverse) ++ h :: rest) := by
          simpa [List.append_assoc] using hL
        simpa [List.reverse_append, List.append_assoc] using all2_mark (x' := { h with score := -1 }) (Or.inr rfl) hL'

theorem markRuns_all2 (key : Hit → Int × Int) (l : List Hit) : All2 Marked l (markRuns key l) := by
  cases l with
  | nil => exact .nil
  | cons x rest =>
    exact markRun_all2 key rest [] x [] _ (by simpa using All2.refl_of (x :: rest) fun a _ => Marked.refl a)

theorem markRuns_marked (key : Hit → Int × Int) (l : List Hit) :
    ∀ y ∈ markRuns key l, ∃ x ∈ l, Marked x y :=
  (markRuns_all2 key l).exists_left

/-- `b ∈ best :: rest`: the hit is returned unmarked -/
theorem markRun_best (key : Hit → Int × Int) : ∀ (rest : List Hit) (best : Hit) (mid : List Hit),
    ∀ g ∈ best :: rest, ∃ b ∈ markRun key [] best mid rest,
      b ∈ best :: rest ∧ key b = key g ∧ g.score ≤ b.score := by
  intro rest
  induction rest with
  | nil =>
    intro best mid g hg
    obtain rfl := List.mem_singleton.mp hg
    exact ⟨g, by simp [markRun], List.mem_singleton_self g, rfl, Int.le_refl _⟩
  | cons h rest ih =>
    intro best mid g hg
    rw [markRun_step]
    have tail : ∀ (b' : Hit) (g' : Hit), g' ∈ h :: rest → ∃ b ∈ b' :: mid.reverse ++ markRun key [] h [] rest,
        b ∈ best :: h :: rest ∧ key b = key g' ∧ g'.score ≤ b.score := fun b' g' hg' => by
      obtain ⟨b, hb, wb, kb, sb⟩ := ih h [] g' hg'
      exact ⟨b, List.mem_append_right _ hb, List.mem_cons_of_mem _ wb, kb, sb⟩
    split
    · -- the run ends: `best` is returned as it is
      rcases List.mem_cons.mp hg with rfl | hg
      · exact ⟨g, List.mem_cons_self, List.mem_cons_self, rfl, Int.le_refl _⟩
      · exact tail _ g hg
    · rename_i hk
      have hk' : key h = key best := by simpa using hk
      split
      · -- `h` scores more: what stands for `h` stands for `best` too
        rcases List.mem_cons.mp hg with rfl | hg
        · obtain ⟨b, hb, wb, kb, sb⟩ := tail _ h List.mem_cons_self
          exact ⟨b, hb, wb, by rw [kb, hk'], by omega⟩
        · exact tail _ g hg
      · -- `h` does not score more: what stands for `best` stands for `h` too
        have keep : ∀ g', g' ∈ best :: rest → ∃ b ∈ markRun key [] best ({ h with score := -1 } :: mid) rest,
            b ∈ best :: h :: rest ∧ key b = key g' ∧ g'.score ≤ b.score := fun g' hg' => by
          obtain ⟨b, hb, wb, kb, sb⟩ := ih best _ g' hg'
          refine ⟨b, hb, ?_, kb, sb⟩
          rcases List.mem_cons.mp wb with rfl | wb
          · exact List.mem_cons_self
          · exact List.mem_cons_of_mem _ (List.mem_cons_of_mem _ wb)
        rcases List.mem_cons.mp hg with rfl | hg
        · exact keep g List.mem_cons_self
        · rcases List.mem_cons.mp hg with rfl | hg
          · obtain ⟨b, hb, wb, kb, sb⟩ := keep best List.mem_cons_self
            exact ⟨b, hb, wb, by rw [kb, hk'], by omega⟩
          · exact keep g (List.mem_cons_of_mem _ hg)

/-- in every run the best hit survives a marking pass with its score -/
theorem markRuns_keeps_best (key : Hit → Int × Int) (l : List Hit) :
    ∀ g ∈ l, ∃ b ∈ markRuns key l, b ∈ l ∧ key b = key g ∧ g.score ≤ b.score := by
  cases l with
  | nil => intro g hg; cases hg
  | cons h rest => exact markRun_best key rest h []

/-! ### with keys grouped by the sort, at most one hit per key survives a marking pass

Since the seventh repair `starts.Less` / `ends.Less` compare both coordinates, so the hits that
share a start (end) point are neighbours after the sort, whatever the sort does with equal keys. -/

/-- lexicographic order on `(Abpos, Bbpos)` / `(Aepos, Bepos)` -/
def keyLe (a b : Int × Int) : Prop := a.1 < b.1 ∨ (a.1 = b.1 ∧ a.2 ≤ b.2)

theorem keyLe_refl (a : Int × Int) : keyLe a a := Or.inr ⟨rfl, Int.le_refl _⟩

theorem keyLe_trans {a b c : Int × Int} (h1 : keyLe a b) (h2 : keyLe b c) : keyLe a c := by
  unfold keyLe at *; omega

theorem keyLe_total (a b : Int × Int) : keyLe a b ∨ keyLe b a := by
  unfold keyLe; omega

theorem keyLe_antisymm {a b : Int × Int} (h1 : keyLe a b) (h2 : keyLe b a) : a = b := by
  unfold keyLe at *
  have e1 : a.1 = b.1 := by omega
  have e2 : a.2 = b.2 := by omega
  exact Prod.ext e1 e2

def NoShare (key : Hit → Int × Int) (a b : Hit) : Prop := 0 ≤ a.score → 0 ≤ b.score → key a ≠ key b

theorem NoShare.symm {key : Hit → Int × Int} {a b : Hit} (h : NoShare key a b) : NoShare key b a :=
  fun hb ha e => h ha hb e.symm

theorem NoShare.of_neg {key : Hit → Int × Int} {a : Hit} (h : a.score < 0) (b : Hit) : NoShare key a b :=
  fun ha _ => absurd ha (by omega)

def KeyIgnoresScore (key : Hit → Int × Int) : Prop := ∀ (h : Hit) (s : Int), key { h with score := s } = key h

/-- a relation that marking can only make easier: it constrains hits with a score `≥ 0` only -/
def MarkClosed (R : Hit → Hit → Prop) : Prop :=
  ∀ a b a' b', Marked a a' → Marked b b' → R a b → R a' b'

theorem noShare_markClosed (key : Hit → Int × Int) : MarkClosed (NoShare key) := by
  intro a b a' b' ma mb h ha hb
  obtain rfl := ma.eq_of_nonneg ha
  obtain rfl := mb.eq_of_nonneg hb
  exact h ha hb

theorem pairwise_of_all2 {R : Hit → Hit → Prop} (hc : MarkClosed R) {l l' : List Hit} (h : All2 Marked l l')
    (hp : l.Pairwise R) : l'.Pairwise R := by
  induction h with
  | nil => exact .nil
  | cons m hrest ih =>
    obtain ⟨h1, h2⟩ := List.pairwise_cons.mp hp
    refine List.pairwise_cons.mpr ⟨fun b' hb' => ?_, ih h2⟩
    obtain ⟨b, hb, mb⟩ := hrest.exists_left b' hb'
    exact hc _ _ _ _ m mb (h1 b hb)

theorem markRuns_pairwise (key : Hit → Int × Int) {R : Hit → Hit → Prop} (hc : MarkClosed R) (l : List Hit)
    (h : l.Pairwise R) : (markRuns key l).Pairwise R :=
  pairwise_of_all2 hc (markRuns_all2 key l) h

theorem markRun_distinct (key : Hit → Int × Int) (hk : KeyIgnoresScore key) :
    ∀ (rest : List Hit) (best : Hit) (mid : List Hit), (∀ x ∈ mid, x.score < 0) →
      (best :: rest).Pairwise (fun a b => keyLe (key a) (key b)) →
      (markRun key [] best mid rest).Pairwise (NoShare key) := by
  intro rest
  induction rest with
  | nil =>
    intro best mid hm _
    simp only [markRun, List.reverse_nil, List.nil_append, List.pairwise_cons, List.mem_reverse]
    exact ⟨fun y hy => (NoShare.of_neg (hm y hy) best).symm,
      List.pairwise_of_forall_mem_list fun a ha b _ => NoShare.of_neg (hm a (List.mem_reverse.mp ha)) b⟩
  | cons h rest ih =>
    intro best mid hm hs
    obtain ⟨hb, hs'⟩ := List.pairwise_cons.mp hs
    rw [markRun_step]
    -- the closed run, `b` for `best` or `best` marked, in front of the pass from `h` on
    have closed : ∀ b : Hit, (∀ y ∈ markRun key [] h [] rest, NoShare key b y) →
        (b :: mid.reverse ++ markRun key [] h [] rest).Pairwise (NoShare key) := by
      intro b hby
      have neg : ∀ a ∈ mid.reverse, ∀ y, NoShare key a y := fun a ha y =>
        NoShare.of_neg (hm a (List.mem_reverse.mp ha)) y
      rw [List.cons_append, List.pairwise_cons, List.pairwise_append]
      refine ⟨fun y hy => ?_, List.pairwise_of_forall_mem_list fun a ha y _ => neg a ha y, ih h [] (by simp) hs',
        fun a ha y _ => neg a ha y⟩
      rcases List.mem_append.mp hy with hy | hy
      · exact (neg y hy b).symm
      · exact hby y hy
    split
    · -- the run ends: the keys from `h` on lie above that of `best`
      rename_i hne
      refine closed best fun y hy _ _ e => hne ?_
      obtain ⟨x, hx, m⟩ := markRuns_marked key (h :: rest) y hy
      have ky : key y = key x := by
        rcases m with rfl | rfl
        · rfl
        · exact hk x (-1)
      have hx' : keyLe (key h) (key x) := by
        rcases List.mem_cons.mp hx with rfl | hx
        · exact keyLe_refl _
        · exact (List.pairwise_cons.mp hs').1 x hx
      rw [← ky, ← e] at hx'
      exact keyLe_antisymm hx' (hb h List.mem_cons_self)
    · split
      · exact closed _ fun y _ => NoShare.of_neg (by simp) y
      · refine ih best _ (fun x hx => ?_) (hs.sublist (List.Sublist.cons_cons _ (List.sublist_cons_self _ _)))
        rcases List.mem_cons.mp hx with rfl | hx
        · simp
        · exact hm x hx

theorem markRuns_distinct (key : Hit → Int × Int) (hk : KeyIgnoresScore key) (l : List Hit)
    (hs : l.Pairwise (fun a b => keyLe (key a) (key b))) : (markRuns key l).Pairwise (NoShare key) := by
  cases l with
  | nil => simp [markRuns]
  | cons x rest =>
    exact markRun_distinct key hk rest x [] (by simp) hs

/-- **the two passes**: when the two sorts return permutations sorted by `(Abpos, Bbpos)`, resp.
    `(Aepos, Bepos)`, no two returned hits share a start point and no two share an end point -/
theorem suppress_distinct (sortStart sortEnd : List Hit → List Hit)
    (p2 : ∀ l, (sortEnd l).Perm l)
    (s1 : ∀ l, (sortStart l).Pairwise (fun a b => keyLe (a.abpos, a.bbpos) (b.abpos, b.bbpos)))
    (s2 : ∀ l, (sortEnd l).Pairwise (fun a b => keyLe (a.aepos, a.bepos) (b.aepos, b.bepos)))
    (segs : List Hit) :
    (suppress sortStart sortEnd segs).Pairwise
      (fun a b => (a.abpos, a.bbpos) ≠ (b.abpos, b.bbpos) ∧ (a.aepos, a.bepos) ≠ (b.aepos, b.bepos)) := by
  have kS : KeyIgnoresScore (fun h => (h.abpos, h.bbpos)) := fun _ _ => rfl
  have kE : KeyIgnoresScore (fun h => (h.aepos, h.bepos)) := fun _ _ => rfl
  have d1 := markRuns_distinct (fun h => (h.abpos, h.bbpos)) kS (sortStart segs) (s1 segs)
  have d1' := (p2 (markRuns (fun h => (h.abpos, h.bbpos)) (sortStart segs))).symm.pairwise d1 NoShare.symm
  have d2s := markRuns_pairwise (fun h => (h.aepos, h.bepos)) (noShare_markClosed _) _ d1'
  have d2e := markRuns_distinct (fun h => (h.aepos, h.bepos)) kE _
    (s2 (markRuns (fun h => (h.abpos, h.bbpos)) (sortStart segs)))
  have both := d2s.and d2e
  unfold suppress
  simp only []
  apply List.Pairwise.imp_of_mem _ (both.filter _)
  intro a b ha hb h
  simp only [List.mem_filter, decide_eq_true_eq] at ha hb
  exact ⟨h.1 ha.2 hb.2, h.2 ha.2 hb.2⟩

end Biogo.PalsOracle
