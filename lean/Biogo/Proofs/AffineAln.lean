/-
Alignments column by column from the right: what appending one column does to the
projections, to the affine score and to the no-adjacent-gaps predicate
(`Biogo.Spec.Alignment`).
-/
import Biogo.Spec.Alignment

namespace Biogo.Proofs.AffineAln
open Biogo.Spec.Alignment

def endFrom (p : Kind) : Aln → Kind
  | [] => p
  | c :: a => endFrom c.kind a

/-- kind of the last column; the empty alignment counts as ending in a match (a following gap
    column opens a gap) -/
def endK (a : Aln) : Kind := endFrom .m a

def stepCost (S : Matrix) (gapOpen : Int) (prev : Kind) (c : Col) : Int :=
  (if c.kind ≠ .m ∧ c.kind ≠ prev then gapOpen else 0) + colScore S c

def compat : Kind → Kind → Bool
  | .u, .l => false
  | .l, .u => false
  | _, _ => true

theorem endFrom_snoc (p : Kind) (a : Aln) (c : Col) : endFrom p (a ++ [c]) = c.kind := by
  induction a generalizing p with
  | nil => rfl
  | cons d a ih => exact ih d.kind

theorem endK_snoc (a : Aln) (c : Col) : endK (a ++ [c]) = c.kind := endFrom_snoc _ a c

theorem scoreAffFrom_snoc (S : Matrix) (o : Int) (p : Kind) (a : Aln) (c : Col) :
    scoreAffFrom S o p (a ++ [c]) = scoreAffFrom S o p a + stepCost S o (endFrom p a) c := by
  induction a generalizing p with
  | nil =>
    show scoreAffFrom S o p [c] = scoreAffFrom S o p [] + stepCost S o p c
    simp only [scoreAffFrom, stepCost, Int.add_zero, Int.zero_add]
  | cons d a ih =>
    simp only [List.cons_append, scoreAffFrom, endFrom, ih d.kind, Int.add_assoc]

theorem scoreAff_snoc (S : Matrix) (o : Int) (a : Aln) (c : Col) :
    scoreAff S o (a ++ [c]) = scoreAff S o a + stepCost S o (endK a) c :=
  scoreAffFrom_snoc S o .m a c

def noAdjFrom (p : Kind) : Aln → Bool
  | [] => true
  | c :: a => compat p c.kind && noAdjFrom c.kind a

theorem noAdj_cons_cons (c d : Col) (a : Aln) :
    noAdj (c :: d :: a) = (compat c.kind d.kind && noAdj (d :: a)) := by
  cases c <;> cases d <;> rfl

theorem noAdj_eq_from (a : Aln) : noAdj a = noAdjFrom .m a := by
  have h : ∀ (c : Col) (a : Aln), noAdj (c :: a) = noAdjFrom c.kind a := by
    intro c a
    induction a generalizing c with
    | nil => cases c <;> rfl
    | cons d a ih => rw [noAdj_cons_cons, ih d]; rfl
  cases a with
  | nil => rfl
  | cons c a =>
    rw [h c a]
    cases c <;> simp [noAdjFrom, compat, Col.kind]

theorem noAdjFrom_snoc (p : Kind) (a : Aln) (c : Col) :
    noAdjFrom p (a ++ [c]) = (noAdjFrom p a && compat (endFrom p a) c.kind) := by
  induction a generalizing p with
  | nil => simp [noAdjFrom, endFrom]
  | cons d a ih => simp [noAdjFrom, endFrom, ih d.kind, Bool.and_assoc]

theorem noAdj_snoc (a : Aln) (c : Col) :
    noAdj (a ++ [c]) = (noAdj a && compat (endK a) c.kind) := by
  rw [noAdj_eq_from, noAdj_eq_from, noAdjFrom_snoc]; rfl

theorem endK_nil : endK [] = .m := rfl

theorem eq_snoc_of_ne_nil {α} (a : List α) (h : a ≠ []) : ∃ a' c, a = a' ++ [c] :=
  ⟨a.dropLast, a.getLast h, (List.dropLast_concat_getLast h).symm⟩

theorem endK_ne_m_ne_nil (a : Aln) (h : endK a ≠ .m) : a ≠ [] := by
  intro e; subst e; exact h rfl

end Biogo.Proofs.AffineAln
