/-
C01 — what the driver demands of a FASTA / FASTQ round trip (`Drive.C01.demands` with
`expectedFa` / `expectedFq`) is exactly the conclusion of `fasta_roundtrip` / `fastq_roundtrip` /
`fastq_roundtrip_plain`, rendered in the harness's notation, together with "returned count =
bytes emitted" (`fasta_write_count`, `fastq_write_count`).
-/
import Biogo.Drive.C01
import Biogo.Properties.C01

namespace Biogo.Properties.C01_checker
open Biogo.Drive.C01 Biogo.Drive.Seqio Biogo.Spec.Seqio

/-- **the demand, declaratively**: no violation for a parsed observation iff every returned count
    equals the bytes emitted (the two renderings coincide) and — for well-formed records — the
    reader's call history is token for token the expected one -/
theorem demands_none_iff (wf : Bool) (expected : List String) (ns ds : String) (calls : List String) :
    demands wf expected ns ds calls = none ↔ ns = ds ∧ (wf = true → calls = expected) := by
  unfold demands
  by_cases h1 : ns = ds <;> cases wf <;> by_cases h2 : calls = expected <;> simp [h1, h2]

/-- **FASTA**: the expected call history is the rendering of the right-hand side of
    `fasta_roundtrip` — the records in order, each returned without error, then `io.EOF` -/
theorem fasta_expected_is_roundtrip (recs : List Biogo.Fasta.Rec) :
    " ".intercalate (expectedFa recs) =
      fastaCalls (recs.map (fun r => Biogo.Fasta.Call.ret ⟨some r, none⟩) ++ [Biogo.Fasta.Call.ret ⟨none, some .eof⟩]) := by
  unfold fastaCalls expectedFa
  congr 1
  simp only [List.map_append, List.map_map, List.map_cons, List.map_nil]
  rfl

/-- … hence, by `fasta_roundtrip`: for well-formed records and a positive width the expected
    history is the rendering of what the model's reader returns on what the model's writer wrote -/
theorem fasta_expected_is_model (recs : List Biogo.Fasta.Rec) (w : Nat) (hw : 1 ≤ w)
    (hwf : ∀ r ∈ recs, wfFasta r = true) :
    ∃ sink ns, Biogo.Fasta.writeAll { width := w } {} recs = .ok (sink, ns) ∧
      " ".intercalate (expectedFa recs) = fastaCalls (Biogo.Fasta.readAll {} sink.bytes) := by
  obtain ⟨sink, ns, h1, h2⟩ := Biogo.Properties.C01.fasta_roundtrip recs w hw hwf
  exact ⟨sink, ns, h1, by rw [h2, fasta_expected_is_roundtrip]⟩

/-- the driver's scope `wf` for FASTA is the hypothesis of `fasta_roundtrip` -/
theorem fasta_scope (width : Nat) (recs : List Biogo.Fasta.Rec) :
    (decide (width ≥ 1) && recs.all wfFasta) = true ↔ 1 ≤ width ∧ ∀ r ∈ recs, wfFasta r = true := by
  simp [List.all_eq_true]

/-- **FASTQ, `linear.QSeq`**: the expected call history is the rendering of the right-hand side of
    `fastq_roundtrip` -/
theorem fastq_expected_is_roundtrip (recs : List Biogo.Fastq.QRec) :
    " ".intercalate (expectedFq false recs) =
      fastqCalls (recs.map (fun r => Biogo.Fastq.Call.ret ⟨some r, none⟩) ++ [Biogo.Fastq.Call.ret ⟨none, some .eof⟩]) := by
  unfold fastqCalls expectedFq
  congr 1
  simp only [List.map_append, List.map_map, List.map_cons, List.map_nil]
  rfl

/-- **FASTQ, plain `linear.Seq`**: for records without scores of their own (`wfFastqPlain`) the
    expected history is the rendering of the right-hand side of `fastq_roundtrip_plain` -/
theorem fastq_plain_expected_is_roundtrip (recs : List Biogo.Fastq.QRec)
    (hwf : ∀ r ∈ recs, wfFastqPlain r = true) :
    " ".intercalate (expectedFq true recs) =
      fastqCalls (recs.map (fun r => Biogo.Fastq.Call.ret ⟨some r, none⟩) ++ [Biogo.Fastq.Call.ret ⟨none, some .eof⟩]) := by
  unfold fastqCalls expectedFq
  congr 1
  simp only [List.map_append, List.map_map, List.map_cons, List.map_nil]
  congr 1
  apply List.map_congr_left
  intro r hr
  have hq : r.quals = [] := by
    have := hwf r hr
    simp only [wfFastqPlain, Bool.and_eq_true, List.isEmpty_iff] at this
    exact this.2
  simp only [Function.comp, fastqRet, if_true, hq]

/-- … hence, by `fastq_roundtrip` / `fastq_roundtrip_plain`: the expected history is the rendering
    of the model's read-back of the model's output, for every encoding with a printable range, both
    `+`-line styles and both end-of-input behaviours of the underlying reader -/
theorem fastq_expected_is_model (tabs : Biogo.Fastq.QTables) (enc : Biogo.Fastq.Encoding) (qid eofWithData : Bool)
    (recs : List Biogo.Fastq.QRec) :
    ((∀ r ∈ recs, wfFastq enc r = true) →
      " ".intercalate (expectedFq false recs) =
        fastqCalls (Biogo.Fastq.readAll ⟨.qseq enc, tabs⟩ eofWithData
          (Biogo.Fastq.writeAll tabs qid enc {} recs).1.bytes)) ∧
    ((∀ r ∈ recs, wfFastqPlain r = true) →
      " ".intercalate (expectedFq true recs) =
        fastqCalls (Biogo.Fastq.readAll ⟨.seq, tabs⟩ eofWithData
          (Biogo.Fastq.writeAll tabs qid .sanger {} (recs.map Biogo.Fastq.ofPlain)).1.bytes)) := by
  constructor
  · intro hwf
    rw [Biogo.Properties.C01.fastq_roundtrip tabs enc qid eofWithData recs hwf, fastq_expected_is_roundtrip]
  · intro hwf
    rw [Biogo.Properties.C01.fastq_roundtrip_plain tabs qid eofWithData recs hwf,
      fastq_plain_expected_is_roundtrip recs hwf]

/-- the reader/writer configuration the driver's model runs with (prefixes regenerated from the
    source) is the default one the theorems are stated for -/
theorem driver_cfg_is_default : fastaCfg = ({} : Biogo.Fasta.Cfg) := by
  unfold fastaCfg
  have h := Biogo.Properties.C01.source_constants
  rw [h.1, h.2.1]

/-! ### writers over a failing `io.Writer` (ops `fax`, `fqx`) -/

/-- **the demand at one failure point, declaratively**: no violation iff the token is
    `<counts>/<emitted>/<e>/1` with the two renderings equal — every `Write` of the run, the failed
    one included, returned exactly the bytes it emitted ("The byte count returned by each write
    equals the number of bytes actually emitted"), and the bytes emitted are the first bytes of the
    fault-free text.  Whether and where an error was reported (`e`) is not demanded. -/
theorem faultDemand_none_iff (k : Nat) (tok : String) :
    faultDemand k tok = none ↔ ∃ ns e, tok.splitOn "/" = [ns, ns, e, "1"] := by
  unfold faultDemand
  split
  · next ns ds e p h =>
    by_cases h1 : ns = ds
    · by_cases h2 : p = "1"
      · subst h1 h2; simp only [ne_eq, not_true_eq_false, if_false, true_iff]; exact ⟨ns, e, h⟩
      · simp only [h1, ne_eq, not_true_eq_false, if_false, h2, not_false_eq_true, if_true, reduceCtorEq, false_iff, not_exists]
        intro a b h3; rw [h] at h3; simp at h3; exact h2 h3.2.2.2
    · simp only [ne_eq, h1, not_false_eq_true, if_true, reduceCtorEq, false_iff, not_exists]
      intro a b h3; rw [h] at h3; simp at h3; exact h1 (h3.1.trans h3.2.1.symm)
  · next h =>
    simp only [reduceCtorEq, false_iff, not_exists]
    intro ns e h'
    exact h ns ns e "1" h'

/-- … and the demand on the whole observation is that demand at every failure point -/
theorem faultDemands_none_iff (toks : List String) : ∀ k,
    faultDemands k toks = none ↔ ∀ j (h : j < toks.length), faultDemand (k + j) toks[j] = none := by
  induction toks with
  | nil => intro k; simp [faultDemands]
  | cons t ts ih =>
    intro k
    unfold faultDemands
    cases hd : faultDemand k t with
    | some why =>
      simp only [reduceCtorEq, false_iff]
      intro h
      have := h 0 (by simp)
      simp [hd] at this
    | none =>
      simp only
      rw [ih (k + 1)]
      constructor
      · intro h j hj
        cases j with
        | zero => simpa using hd
        | succ j =>
          have := h j (by simpa using hj)
          simpa [Nat.add_assoc, Nat.add_comm 1 j] using this
      · intro h j hj
        have := h (j + 1) (by simpa using hj)
        simpa [Nat.add_assoc, Nat.add_comm 1 j] using this

/-- **the failing sink of the model** (`faultRun`, what the driver compares the implementation with):
    a writer that accepts `k` bytes, fed records whose fault-free texts have the lengths `lens`
    starting at offset `s ≤ k`, has emitted exactly the first `min k (s + Σ lens)` bytes when the run
    stops, the counts it returned add up to what was emitted, and no `Write` failed iff everything
    fitted. -/
theorem faultRun_total (k : Nat) (lens : List Nat) : ∀ (i s : Nat), s ≤ k →
    s + (faultRun k i s lens).1.sum = min k (s + lens.sum) ∧
    ((faultRun k i s lens).2 = none ↔ s + lens.sum ≤ k) := by
  induction lens with
  | nil => intro i s h; simp [faultRun]; omega
  | cons len rest ih =>
    intro i s h
    unfold faultRun
    by_cases hf : s + len ≤ k
    · have := ih (i + 1) (s + len) hf
      simp only [hf, if_true, List.sum_cons]
      constructor
      · omega
      · rw [this.2]; omega
    · simp only [hf, if_false, List.sum_cons, List.sum_nil]
      constructor
      · omega
      · simp; omega


example : faultRun 4 0 0 [3, 2, 5] = ([3, 1], some 1) := by decide

end Biogo.Properties.C01_checker
