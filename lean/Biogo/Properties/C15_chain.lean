/-
C15 — the proved chain from an ε-match to the trapezoid handed to the DP aligner:

  ε-match  ⇒ (C14 `filter_complete`)  covered by a filter hit
           ⇒ (`merger_covers_hits`)    inside a trapezoid `FinaliseMerge` returns.

Both links are theorems about the models the drivers run against `filter.Filter` and
`filter.Merger`; the hit list passes from one to the other through the morass, modelled as
"some list with the same elements in ascending `From`".

One theorem carries the chain (`chain_given_merge`): either strand of the filter, any setting of the
merger's `selfComparison` flag, given that the merger model answers.  Its instances: the forward
strand (`epsmatch_inside_trapezoid…`), either strand of `PALS.Align(complement)` with the flag
`pals.go` passes (`…_strand…`), the complement strand of a self comparison (`…_complement…`); each
in two forms: `…_given_merge` assumes that the merger model answers (`merge … = some traps`), the
unsuffixed form proves it (`merger_answers`) and so has no hypothesis on the merger.
-/
import Biogo.Properties.C14
import Biogo.Properties.C15_merge
import Biogo.Proofs.PalsChain
import Biogo.Proofs.PalsChainDomain

namespace Biogo.Properties.C15_chain
open Biogo.Spec.Filter Biogo.Spec.Kmer Biogo.Proofs.Kmer Biogo.Proofs.FilterComplete
open Biogo.Filter (filter minWordsPerFilterHit)
open Biogo.PalsMerge Biogo.Proofs.PalsMerge Biogo.Properties.C15_merge
open Biogo.Proofs.PalsChain (kmer_range)

def toF (h : Biogo.Filter.Hit) : FHit := { from_ := h.from_, to := h.to, diagonal := h.diagonal }

/-- which letters `valueToCode` accepts -/
def validity (lk : Lookup) (s : List UInt8) : Array Bool := (s.map fun b => (lk b).isSome).toArray

/-- `NewMerger(index, query, params, maxIGap, selfCompare)` for the pair the filter ran on -/
def mergerCfg (lk : Lookup) (t q : List UInt8) (k e off g : Nat) (selfAlign : Bool) : Cfg :=
  { qv := validity lk q, tv := validity lk t, k := k, maxError := e, tubeOffset := off, maxIGap := g,
    selfComparison := selfAlign }

theorem validity_allValid (lk : Lookup) (s : List UInt8) (h : Biogo.Proofs.FilterComplete.AllValid lk s) :
    Biogo.Proofs.PalsMerge.AllValid (validity lk s) := by
  intro i hi
  have hi' : i < s.length := by simpa [validity] using hi
  have := h _ (List.getElem_mem hi')
  simp [validity, Array.getD, hi', this]

@[simp] theorem mergerCfg_qlen (lk : Lookup) (t q : List UInt8) (k e off g : Nat) (mself : Bool) :
    (mergerCfg lk t q k e off g mself).qlen = (q.length : Int) := by
  simp [Cfg.qlen, mergerCfg, validity]

/-- The chain for any strand and any setting `mself` of the merger's `selfComparison` flag, *given
    that the merger model answers* (`hm`): the filter runs with the flags `(selfAlign, complement)`.
    Every ε-match `t[a:a+n] ~ q[b:b+n]` (at most `e` substitutions) required on the strand
    (`requiredC`) — where the merger cuts at the main diagonal (`mself`): every such match at least
    `MaxError + maxIGap + tubeWidth` diagonals above it, below that the cut may drop the covering hit
    on purpose — lies in a returned trapezoid: its diagonal `b - a` is within `[Left, Right]`, its
    query interval `[b, b+n)` overlaps `[Bottom, Top]`, and the trapezoid is at least `k` high (it
    contains a filter hit, which contains a whole k-mer), so it passes the pre-screen
    `t.Top-t.Bottom >= a.k` of `AlignTraps` and — unless an earlier hit already covers it — is
    handed to the kernel. -/
theorem chain_given_merge {lk : Lookup} (hlk : FourLetter lk) (t q : List UInt8)
    (k n e off g : Nat) (selfAlign complement mself : Bool)
    (hk : Biogo.Kmer.minKmerLen ≤ k) (hk' : k ≤ Biogo.Kmer.maxKmerLen) (ht : k + 1 ≤ t.length)
    (hq : Biogo.Proofs.FilterComplete.AllValid lk q) (htv : Biogo.Proofs.FilterComplete.AllValid lk t)
    (hthr : 0 < minWordsPerFilterHit n k e) (he : e ≤ off) (hoff : 1 ≤ off) (hg : 1 ≤ g)
    (hits : List Biogo.Filter.Hit)
    (hf : filter Biogo.Generated.FilterFacts.rule lk (builtIndex lk k t)
            { minMatch := n, maxError := e, tubeOffset := off } q selfAlign complement = .ok hits)
    (sorted : List FHit) (hsame : ∀ x, x ∈ sorted ↔ x ∈ hits.map toF) (hsorted : SortedByFrom sorted)
    (traps : List Trap) (hm : merge (mergerCfg lk t q k e off g mself) sorted = some traps) :
    ∀ a b, EpsMatch lk t q n e a b → requiredC selfAlign complement t.length a b = true →
      (mself = true → (b : Int) - a > (e : Int) + g + ((off : Int) + e - 1)) →
      ∃ T ∈ traps, T.left ≤ (b : Int) - a ∧ (b : Int) - a ≤ T.right ∧
        T.bottom < (b : Int) + n ∧ (b : Int) < T.top ∧ preScreen k T = true := by
  intro a b hmatch hreq hfar
  have hbq : b + n ≤ q.length := hmatch.2.1
  have hkq : k ≤ q.length := by
    have := thr_pos_imp hthr (by have := kmer_range hk hk'; omega : 1 ≤ k)
    omega
  obtain ⟨h, hh, hcov⟩ := Biogo.Properties.C14.filter_complete_strand hlk t q k n e off selfAlign complement
    hk hk' ht hthr he hoff hits hf a b hmatch hreq
  obtain ⟨h0, hh0, rfl⟩ := List.mem_map.mp hh
  simp only [covers, toSpec, Bool.and_eq_true] at hcov
  obtain ⟨⟨⟨c1, c2⟩, c3⟩, c4⟩ := hcov
  have c1 := of_decide_eq_true c1
  have c2 := of_decide_eq_true c2
  have c3 := of_decide_eq_true c3
  have c4 := of_decide_eq_true c4
  have hwf := Biogo.Proofs.PalsChain.filter_hits_wf hlk _ t q k _ selfAlign complement
    (by rw [Biogo.Properties.C14.rule_tie]; rfl) hk hk' hkq he hoff hits hf
  have pre : Pre (mergerCfg lk t q k e off g mself) sorted :=
    { band := by simp only [Cfg.binWidth, Cfg.tubeWidth, mergerCfg]; omega
      gap := by simp only [mergerCfg]; omega
      qvalid := validity_allValid lk q hq
      tvalid := validity_allValid lk t htv
      sorted := hsorted
      ordered := by
        intro x hx
        obtain ⟨y, hy, rfl⟩ := List.mem_map.mp ((hsame x).mp hx)
        have := (hwf y hy).1
        simp only [toF]
        omega }
  have hin : toF h0 ∈ sorted := (hsame _).mpr (List.mem_map.mpr ⟨h0, hh0, rfl⟩)
  have hnotcut : dropped (mergerCfg lk t q k e off g mself) (toF h0) = false := by
    rw [dropped_eq_false, mergerCfg_qlen]
    -- the band of the covering hit contains the diagonal of the match, which lies inside the query
    refine ⟨by simp only [toF]; omega, fun hs => ?_⟩
    have := hfar hs
    simp only [mergerCfg, toF]; omega
  obtain ⟨T, hT, l1, l2, l3, l4⟩ := merger_covers_hits _ sorted traps pre hm (toF h0) hin hnotcut
  have hk0 := (hwf h0 hh0).1
  simp only [toF, Cfg.binWidth, Cfg.tubeWidth, mergerCfg] at l1 l2 l3 l4
  exact ⟨T, hT, by omega, by omega, by omega, by omega, decide_eq_true (by omega)⟩

/-- **`epsmatch_inside_trapezoid_given_merge`**: the forward strand, the merger built with the
    filter's `selfAlign` flag, *given that the merger model answers* (`hm`;
    `epsmatch_inside_trapezoid` below discharges this hypothesis). -/
theorem epsmatch_inside_trapezoid_given_merge {lk : Lookup} (hlk : FourLetter lk) (t q : List UInt8)
    (k n e off g : Nat) (selfAlign : Bool)
    (hk : Biogo.Kmer.minKmerLen ≤ k) (hk' : k ≤ Biogo.Kmer.maxKmerLen) (ht : k + 1 ≤ t.length)
    (hq : Biogo.Proofs.FilterComplete.AllValid lk q) (htv : Biogo.Proofs.FilterComplete.AllValid lk t)
    (hthr : 0 < minWordsPerFilterHit n k e) (he : e ≤ off) (hoff : 1 ≤ off) (hg : 1 ≤ g)
    (hits : List Biogo.Filter.Hit)
    (hf : filter Biogo.Generated.FilterFacts.rule lk (builtIndex lk k t)
            { minMatch := n, maxError := e, tubeOffset := off } q selfAlign false = .ok hits)
    (sorted : List FHit) (hsame : ∀ x, x ∈ sorted ↔ x ∈ hits.map toF) (hsorted : SortedByFrom sorted)
    (traps : List Trap) (hm : merge (mergerCfg lk t q k e off g selfAlign) sorted = some traps) :
    ∀ a b, EpsMatch lk t q n e a b → required selfAlign a b = true →
      (selfAlign = true → (b : Int) - a > (e : Int) + g + ((off : Int) + e - 1)) →
      ∃ T ∈ traps, T.left ≤ (b : Int) - a ∧ (b : Int) - a ≤ T.right ∧
        T.bottom < (b : Int) + n ∧ (b : Int) < T.top ∧ preScreen k T = true :=
  chain_given_merge hlk t q k n e off g selfAlign false selfAlign hk hk' ht hq htv hthr he hoff hg hits hf
    sorted hsame hsorted traps hm

/-- `NewMerger(index, working, params, maxIGap, selfCompare && !complement)` as `PALS.Align(complement)`
    builds it since the repair `d09a2b0` (upstream `fd44978`): on the complement strand the merger's
    main-diagonal cut is off — the filter has already restricted that strand to one side of the
    anti-diagonal. -/
def mergerCfgStrand (lk : Lookup) (t q : List UInt8) (k e off g : Nat) (selfAlign complement : Bool) : Cfg :=
  mergerCfg lk t q k e off g (selfAlign && !complement)

/-- **`epsmatch_inside_trapezoid_strand_given_merge`** — either strand of `PALS.Align(complement)` with the merger as
    `pals.go` builds it (`mergerCfgStrand`), given that the merger model answers: the margin above the main diagonal is
    asked for on the forward strand of a self comparison only, the one case in which the merger cuts. -/
theorem epsmatch_inside_trapezoid_strand_given_merge {lk : Lookup} (hlk : FourLetter lk) (t q : List UInt8)
    (k n e off g : Nat) (selfAlign complement : Bool)
    (hk : Biogo.Kmer.minKmerLen ≤ k) (hk' : k ≤ Biogo.Kmer.maxKmerLen) (ht : k + 1 ≤ t.length)
    (hq : Biogo.Proofs.FilterComplete.AllValid lk q) (htv : Biogo.Proofs.FilterComplete.AllValid lk t)
    (hthr : 0 < minWordsPerFilterHit n k e) (he : e ≤ off) (hoff : 1 ≤ off) (hg : 1 ≤ g)
    (hits : List Biogo.Filter.Hit)
    (hf : filter Biogo.Generated.FilterFacts.rule lk (builtIndex lk k t)
            { minMatch := n, maxError := e, tubeOffset := off } q selfAlign complement = .ok hits)
    (sorted : List FHit) (hsame : ∀ x, x ∈ sorted ↔ x ∈ hits.map toF) (hsorted : SortedByFrom sorted)
    (traps : List Trap) (hm : merge (mergerCfgStrand lk t q k e off g selfAlign complement) sorted = some traps) :
    ∀ a b, EpsMatch lk t q n e a b → requiredC selfAlign complement t.length a b = true →
      (selfAlign = true → complement = false → (b : Int) - a > (e : Int) + g + ((off : Int) + e - 1)) →
      ∃ T ∈ traps, T.left ≤ (b : Int) - a ∧ (b : Int) - a ≤ T.right ∧
        T.bottom < (b : Int) + n ∧ (b : Int) < T.top ∧ preScreen k T = true := by
  intro a b hmatch hreq hfar
  refine chain_given_merge hlk t q k n e off g selfAlign complement _ hk hk' ht hq htv hthr he hoff hg hits hf
    sorted hsame hsorted traps hm a b hmatch hreq fun h => ?_
  simp only [Bool.and_eq_true, Bool.not_eq_true'] at h
  exact hfar h.1 h.2

/-- **`epsmatch_inside_trapezoid_complement_given_merge`** — the complement strand of a self comparison
    (`PALS.Align(true)` with `selfCompare`), given that the merger model answers: the filter keeps the matches on or above
    the anti-diagonal (`Tlen ≤ a + b`), the merger does not cut on this strand, so there is no margin. -/
theorem epsmatch_inside_trapezoid_complement_given_merge {lk : Lookup} (hlk : FourLetter lk) (t q : List UInt8)
    (k n e off g : Nat)
    (hk : Biogo.Kmer.minKmerLen ≤ k) (hk' : k ≤ Biogo.Kmer.maxKmerLen) (ht : k + 1 ≤ t.length)
    (hq : Biogo.Proofs.FilterComplete.AllValid lk q) (htv : Biogo.Proofs.FilterComplete.AllValid lk t)
    (hthr : 0 < minWordsPerFilterHit n k e) (he : e ≤ off) (hoff : 1 ≤ off) (hg : 1 ≤ g)
    (hits : List Biogo.Filter.Hit)
    (hf : filter Biogo.Generated.FilterFacts.rule lk (builtIndex lk k t)
            { minMatch := n, maxError := e, tubeOffset := off } q true true = .ok hits)
    (sorted : List FHit) (hsame : ∀ x, x ∈ sorted ↔ x ∈ hits.map toF) (hsorted : SortedByFrom sorted)
    (traps : List Trap) (hm : merge (mergerCfg lk t q k e off g false) sorted = some traps) :
    ∀ a b, EpsMatch lk t q n e a b → t.length ≤ a + b →
      ∃ T ∈ traps, T.left ≤ (b : Int) - a ∧ (b : Int) - a ≤ T.right ∧
        T.bottom < (b : Int) + n ∧ (b : Int) < T.top ∧ preScreen k T = true := by
  intro a b hmatch hab
  exact chain_given_merge hlk t q k n e off g true true false hk hk' ht hq htv hthr he hoff hg hits hf
    sorted hsame hsorted traps hm a b hmatch (by simp [requiredC, hab]) (fun h => nomatch h)

/-! ### the filter's hits lie in the merger's domain

Since the ticker follows the query position (`Rule.tickByPosition`, fix `0c69d0c`) the scan of the
filter model is the position-by-position scan for *any* query, so these hold for any query, with or
without letters outside the alphabet, and on either strand; the merger's `selfComparison` flag plays
no part in them (`mself` below is arbitrary; `PALS.Align` passes
`selfAlign && !complement`, `mergerCfgStrand`). -/

/-- **`filter_hits_in_merger_domain_strand`** — every hit the filter model returns (any query at
    least a word long, either strand) lies inside the domain of the merger model:
    `From - bottomPadding ≤ Qlen + 1` (a hit starts at a query position already scanned), i.e. the
    sentinel of the merger's active list stays an inert end marker. -/
theorem filter_hits_in_merger_domain_strand {lk : Lookup} (hlk : FourLetter lk) (t q : List UInt8)
    (k n e off g : Nat) (selfAlign complement mself : Bool)
    (hk : Biogo.Kmer.minKmerLen ≤ k) (hk' : k ≤ Biogo.Kmer.maxKmerLen)
    (hkq : k ≤ q.length) (he : e ≤ off) (hoff : 1 ≤ off)
    (hits : List Biogo.Filter.Hit)
    (hf : filter Biogo.Generated.FilterFacts.rule lk (builtIndex lk k t)
            { minMatch := n, maxError := e, tubeOffset := off } q selfAlign complement = .ok hits) :
    ∀ h ∈ hits, inDomain (mergerCfg lk t q k e off g mself) (toF h) = true := by
  intro h hh
  have := (Biogo.Proofs.PalsChain.filter_hits_wf hlk _ t q k _ selfAlign complement
    (by rw [Biogo.Properties.C14.rule_tie]; rfl) hk hk' hkq he hoff hits hf h hh).2
  rw [inDomain, mergerCfg_qlen]
  exact decide_eq_true (by simp only [toF, Cfg.bottomPadding, mergerCfg]; omega)

/-- **`filter_hits_in_merger_domain`** — the forward strand, the merger built with the filter's
    `selfAlign` flag (the form `epsmatch_inside_trapezoid` uses). -/
theorem filter_hits_in_merger_domain {lk : Lookup} (hlk : FourLetter lk) (t q : List UInt8)
    (k n e off g : Nat) (selfAlign : Bool)
    (hk : Biogo.Kmer.minKmerLen ≤ k) (hk' : k ≤ Biogo.Kmer.maxKmerLen)
    (hkq : k ≤ q.length) (he : e ≤ off) (hoff : 1 ≤ off)
    (hits : List Biogo.Filter.Hit)
    (hf : filter Biogo.Generated.FilterFacts.rule lk (builtIndex lk k t)
            { minMatch := n, maxError := e, tubeOffset := off } q selfAlign false = .ok hits) :
    ∀ h ∈ hits, inDomain (mergerCfg lk t q k e off g selfAlign) (toF h) = true :=
  filter_hits_in_merger_domain_strand hlk t q k n e off g selfAlign false selfAlign hk hk' hkq he hoff hits hf

/-- **`filter_hits_within_query_band_strand`** — when the query is at least a tube wide
    (`TubeOffset + MaxError ≤ Qlen + 1`) no hit of the filter model (any query, either strand) lies
    beyond the last query row (`-Diagonal ≤ Qlen`): the guard `Left > Qlen` of `MergeFilterHit` never
    fires.  The diagonal of a hit is that of the tube index it is *emitted under* (by an evicting
    k-mer, a tick, or the final flush over a circular array), so this needs a global invariant of the
    tube array (`Proofs/PalsChainDomain.lean`).  The width condition is needed
    (`filter_hit_beyond_query_narrow`): the wrap-around `tubeIndex 0 → cap-1` of `commonKmer` emits
    under index `cap-1`, whose diagonal lies up to `TubeOffset + MaxError - 1` beyond the end of the
    target — the sixth defect (`MergeFilterHit` walked off its list on such a hit). -/
theorem filter_hits_within_query_band_strand {lk : Lookup} (hlk : FourLetter lk) (t q : List UInt8)
    (k n e off g : Nat) (selfAlign complement mself : Bool)
    (hk : Biogo.Kmer.minKmerLen ≤ k) (hk' : k ≤ Biogo.Kmer.maxKmerLen) (ht : k + 1 ≤ t.length)
    (hkq : k ≤ q.length)
    (hthr : 0 < minWordsPerFilterHit n k e) (he : e ≤ off) (hoff : 1 ≤ off) (hwide : off + e ≤ q.length + 1)
    (hits : List Biogo.Filter.Hit)
    (hf : filter Biogo.Generated.FilterFacts.rule lk (builtIndex lk k t)
            { minMatch := n, maxError := e, tubeOffset := off } q selfAlign complement = .ok hits) :
    ∀ h ∈ hits, beyondQuery (mergerCfg lk t q k e off g mself) (toF h) = false := by
  obtain ⟨hk2, hkw⟩ := kmer_range hk hk'
  rw [Biogo.Properties.C14.rule_tie] at hf
  intro h hh
  have d1 := Biogo.Proofs.PalsChainDomain.filter_hits_dom hlk t q k
    { minMatch := n, maxError := e, tubeOffset := off } selfAlign complement (by omega) hkw (by omega) hkq he hoff
    (by show e + 1 ≤ q.length; omega) hwide hthr hits hf h hh
  rw [beyondQuery, mergerCfg_qlen]
  exact decide_eq_false (by simp only [toF]; omega)

/-- **`filter_hits_within_query_band`** — the forward strand, the merger built with the filter's
    `selfAlign` flag. -/
theorem filter_hits_within_query_band {lk : Lookup} (hlk : FourLetter lk) (t q : List UInt8)
    (k n e off g : Nat) (selfAlign : Bool)
    (hk : Biogo.Kmer.minKmerLen ≤ k) (hk' : k ≤ Biogo.Kmer.maxKmerLen) (ht : k + 1 ≤ t.length)
    (hkq : k ≤ q.length)
    (hthr : 0 < minWordsPerFilterHit n k e) (he : e ≤ off) (hoff : 1 ≤ off) (hwide : off + e ≤ q.length + 1)
    (hits : List Biogo.Filter.Hit)
    (hf : filter Biogo.Generated.FilterFacts.rule lk (builtIndex lk k t)
            { minMatch := n, maxError := e, tubeOffset := off } q selfAlign false = .ok hits) :
    ∀ h ∈ hits, beyondQuery (mergerCfg lk t q k e off g selfAlign) (toF h) = false :=
  filter_hits_within_query_band_strand hlk t q k n e off g selfAlign false selfAlign hk hk' ht hkq hthr he hoff hwide
    hits hf

/-- the merger model answers on the filter's hits (`filter_hits_in_merger_domain_strand` +
    `merger_total`: they never reach the sentinel of the active list) -/
theorem merger_answers {lk : Lookup} (hlk : FourLetter lk) (t q : List UInt8)
    (k n e off g : Nat) (selfAlign complement mself : Bool)
    (hk : Biogo.Kmer.minKmerLen ≤ k) (hk' : k ≤ Biogo.Kmer.maxKmerLen)
    (hkq : k ≤ q.length) (he : e ≤ off) (hoff : 1 ≤ off)
    (hits : List Biogo.Filter.Hit)
    (hf : filter Biogo.Generated.FilterFacts.rule lk (builtIndex lk k t)
            { minMatch := n, maxError := e, tubeOffset := off } q selfAlign complement = .ok hits)
    (sorted : List FHit) (hsame : ∀ x, x ∈ sorted ↔ x ∈ hits.map toF) :
    ∃ traps, merge (mergerCfg lk t q k e off g mself) sorted = some traps := by
  refine merger_total _ sorted fun x hx => ?_
  obtain ⟨y, hy, rfl⟩ := List.mem_map.mp ((hsame x).mp hx)
  exact Or.inr (filter_hits_in_merger_domain_strand hlk t q k n e off g selfAlign complement mself hk hk' hkq he hoff
    hits hf y hy)

/-- **`epsmatch_inside_trapezoid`** — *ε-match ⇒ covered by a filter hit ⇒ inside a trapezoid handed to the DP*, forward
    strand, with no hypothesis on the merger: on the filter's hits, in the order the morass hands them over (`sorted`),
    the merger model answers (`merger_answers`), and its answer has what `chain_given_merge` says. -/
theorem epsmatch_inside_trapezoid {lk : Lookup} (hlk : FourLetter lk) (t q : List UInt8)
    (k n e off g : Nat) (selfAlign : Bool)
    (hk : Biogo.Kmer.minKmerLen ≤ k) (hk' : k ≤ Biogo.Kmer.maxKmerLen) (ht : k + 1 ≤ t.length)
    (hq : Biogo.Proofs.FilterComplete.AllValid lk q) (htv : Biogo.Proofs.FilterComplete.AllValid lk t)
    (hkq : k ≤ q.length)
    (hthr : 0 < minWordsPerFilterHit n k e) (he : e ≤ off) (hoff : 1 ≤ off) (hg : 1 ≤ g)
    (hits : List Biogo.Filter.Hit)
    (hf : filter Biogo.Generated.FilterFacts.rule lk (builtIndex lk k t)
            { minMatch := n, maxError := e, tubeOffset := off } q selfAlign false = .ok hits)
    (sorted : List FHit) (hsame : ∀ x, x ∈ sorted ↔ x ∈ hits.map toF) (hsorted : SortedByFrom sorted) :
    ∃ traps, merge (mergerCfg lk t q k e off g selfAlign) sorted = some traps ∧
      ∀ a b, EpsMatch lk t q n e a b → required selfAlign a b = true →
        (selfAlign = true → (b : Int) - a > (e : Int) + g + ((off : Int) + e - 1)) →
        ∃ T ∈ traps, T.left ≤ (b : Int) - a ∧ (b : Int) - a ≤ T.right ∧
          T.bottom < (b : Int) + n ∧ (b : Int) < T.top ∧ preScreen k T = true := by
  obtain ⟨traps, hm⟩ := merger_answers hlk t q k n e off g selfAlign false selfAlign hk hk' hkq he hoff hits hf sorted hsame
  exact ⟨traps, hm, epsmatch_inside_trapezoid_given_merge hlk t q k n e off g selfAlign hk hk' ht hq htv hthr he hoff hg
    hits hf sorted hsame hsorted traps hm⟩

/-- **`epsmatch_inside_trapezoid_strand`** — the same for either strand of `PALS.Align(complement)`, the merger as
    `pals.go` builds it (`mergerCfgStrand`). -/
theorem epsmatch_inside_trapezoid_strand {lk : Lookup} (hlk : FourLetter lk) (t q : List UInt8)
    (k n e off g : Nat) (selfAlign complement : Bool)
    (hk : Biogo.Kmer.minKmerLen ≤ k) (hk' : k ≤ Biogo.Kmer.maxKmerLen) (ht : k + 1 ≤ t.length)
    (hq : Biogo.Proofs.FilterComplete.AllValid lk q) (htv : Biogo.Proofs.FilterComplete.AllValid lk t)
    (hkq : k ≤ q.length)
    (hthr : 0 < minWordsPerFilterHit n k e) (he : e ≤ off) (hoff : 1 ≤ off) (hg : 1 ≤ g)
    (hits : List Biogo.Filter.Hit)
    (hf : filter Biogo.Generated.FilterFacts.rule lk (builtIndex lk k t)
            { minMatch := n, maxError := e, tubeOffset := off } q selfAlign complement = .ok hits)
    (sorted : List FHit) (hsame : ∀ x, x ∈ sorted ↔ x ∈ hits.map toF) (hsorted : SortedByFrom sorted) :
    ∃ traps, merge (mergerCfgStrand lk t q k e off g selfAlign complement) sorted = some traps ∧
      ∀ a b, EpsMatch lk t q n e a b → requiredC selfAlign complement t.length a b = true →
        (selfAlign = true → complement = false → (b : Int) - a > (e : Int) + g + ((off : Int) + e - 1)) →
        ∃ T ∈ traps, T.left ≤ (b : Int) - a ∧ (b : Int) - a ≤ T.right ∧
          T.bottom < (b : Int) + n ∧ (b : Int) < T.top ∧ preScreen k T = true := by
  obtain ⟨traps, hm⟩ := merger_answers hlk t q k n e off g selfAlign complement (selfAlign && !complement) hk hk' hkq
    he hoff hits hf sorted hsame
  exact ⟨traps, hm, epsmatch_inside_trapezoid_strand_given_merge hlk t q k n e off g selfAlign complement hk hk' ht hq htv
    hthr he hoff hg hits hf sorted hsame hsorted traps hm⟩

/-- **`epsmatch_inside_trapezoid_complement`** — the same for the complement strand of a self comparison, the merger built
    with `selfComparison = false` as `pals.go` does there: every ε-match on or above the anti-diagonal, with no margin. -/
theorem epsmatch_inside_trapezoid_complement {lk : Lookup} (hlk : FourLetter lk) (t q : List UInt8)
    (k n e off g : Nat)
    (hk : Biogo.Kmer.minKmerLen ≤ k) (hk' : k ≤ Biogo.Kmer.maxKmerLen) (ht : k + 1 ≤ t.length)
    (hq : Biogo.Proofs.FilterComplete.AllValid lk q) (htv : Biogo.Proofs.FilterComplete.AllValid lk t)
    (hkq : k ≤ q.length)
    (hthr : 0 < minWordsPerFilterHit n k e) (he : e ≤ off) (hoff : 1 ≤ off) (hg : 1 ≤ g)
    (hits : List Biogo.Filter.Hit)
    (hf : filter Biogo.Generated.FilterFacts.rule lk (builtIndex lk k t)
            { minMatch := n, maxError := e, tubeOffset := off } q true true = .ok hits)
    (sorted : List FHit) (hsame : ∀ x, x ∈ sorted ↔ x ∈ hits.map toF) (hsorted : SortedByFrom sorted) :
    ∃ traps, merge (mergerCfg lk t q k e off g false) sorted = some traps ∧
      ∀ a b, EpsMatch lk t q n e a b → t.length ≤ a + b →
        ∃ T ∈ traps, T.left ≤ (b : Int) - a ∧ (b : Int) - a ≤ T.right ∧
          T.bottom < (b : Int) + n ∧ (b : Int) < T.top ∧ preScreen k T = true := by
  obtain ⟨traps, hm⟩ := merger_answers hlk t q k n e off g true true false hk hk' hkq he hoff hits hf sorted hsame
  exact ⟨traps, hm, epsmatch_inside_trapezoid_complement_given_merge hlk t q k n e off g hk hk' ht hq htv hthr he hoff hg
    hits hf sorted hsame hsorted traps hm⟩

theorem fourLetter_dna : FourLetter Biogo.Properties.C14.dna := Biogo.Properties.C14.fourLetter_dna

/-! ### non-vacuity: the hypotheses hold on the K4 witness of `corpus/C14.txt`
(`k=4 n=4 e=0 off=2`, target `caacc`, query `acaacaaaca`, exact match at `a=0 b=1`), where the chain
yields the trapezoid `{Top 5, Bottom 1, Left 1, Right 2}` -/

open Biogo.Properties.C14 (dna) in
example :
    ∃ T ∈ [(⟨5, 1, 1, 2⟩ : Trap)], T.left ≤ ((1 : Nat) : Int) - (0 : Nat) ∧ ((1 : Nat) : Int) - (0 : Nat) ≤ T.right ∧
      T.bottom < ((1 : Nat) : Int) + (4 : Nat) ∧ ((1 : Nat) : Int) < T.top ∧ preScreen (4 : Nat) T = true :=
  epsmatch_inside_trapezoid_given_merge fourLetter_dna [99, 97, 97, 99, 99] [97, 99, 97, 97, 99, 97, 97, 97, 99, 97] 4 4 0 2 5 false
    (by decide) (by decide) (by decide)
    (by unfold Biogo.Proofs.FilterComplete.AllValid; decide) (by unfold Biogo.Proofs.FilterComplete.AllValid; decide)
    (by decide) (by decide) (by decide) (by decide)
    [⟨1, 5, -1⟩] (Biogo.Properties.C14.rule_tie ▸ Biogo.Properties.C14.flush_witness_repaired)
    [⟨1, 5, -1⟩] (by simp [toF]) (by simp [SortedByFrom])
    [⟨5, 1, 1, 2⟩] (by decide +kernel) 0 1 (by decide +kernel) (by decide) (by intro h; cases h)

/-- the same witness through `epsmatch_inside_trapezoid`: no hypothesis on the merger — the theorem
    itself supplies the trapezoid list, and every ε-match of the pair lies in it -/
example :
    ∃ traps, merge (mergerCfg Biogo.Properties.C14.dna [99, 97, 97, 99, 99] [97, 99, 97, 97, 99, 97, 97, 97, 99, 97] 4 0 2 5 false)
        [⟨1, 5, -1⟩] = some traps ∧
      ∀ a b, EpsMatch Biogo.Properties.C14.dna [99, 97, 97, 99, 99] [97, 99, 97, 97, 99, 97, 97, 97, 99, 97] 4 0 a b →
        required false a b = true → (false = true → (b : Int) - a > ((0 : Nat) : Int) + (5 : Nat) + (((2 : Nat) : Int) + (0 : Nat) - 1)) →
        ∃ T ∈ traps, T.left ≤ (b : Int) - a ∧ (b : Int) - a ≤ T.right ∧
          T.bottom < (b : Int) + (4 : Nat) ∧ (b : Int) < T.top ∧ preScreen (4 : Nat) T = true :=
  epsmatch_inside_trapezoid fourLetter_dna [99, 97, 97, 99, 99] [97, 99, 97, 97, 99, 97, 97, 97, 99, 97] 4 4 0 2 5 false
    (by decide) (by decide) (by decide)
    (by unfold Biogo.Proofs.FilterComplete.AllValid; decide) (by unfold Biogo.Proofs.FilterComplete.AllValid; decide)
    (by decide) (by decide) (by decide) (by decide) (by decide)
    [⟨1, 5, -1⟩] (Biogo.Properties.C14.rule_tie ▸ Biogo.Properties.C14.flush_witness_repaired)
    [⟨1, 5, -1⟩] (by simp [toF]) (by simp [SortedByFrom])

/-! ### non-vacuity on the complement strand: `caacgttg` (its own reverse complement, `L = 8`),
`k = n = 4`, `e = 0`, `off = 2`, `maxIGap = 5`: the match `(4, 4)` on the anti-diagonal is handed to
the DP in the trapezoid `{Top 8, Bottom 4, Left 0, Right 1}`.  The covering hit has diagonal 0: with
the merger's main-diagonal cut on (as before `d09a2b0`) it would have been dropped
(`Left - maxIGap = -5 ≤ MaxError`). -/

open Biogo.Properties.C14 (dna) in
example :
    (∃ T ∈ [(⟨8, 4, 0, 1⟩ : Trap)], T.left ≤ ((4 : Nat) : Int) - (4 : Nat) ∧ ((4 : Nat) : Int) - (4 : Nat) ≤ T.right ∧
      T.bottom < ((4 : Nat) : Int) + (4 : Nat) ∧ ((4 : Nat) : Int) < T.top ∧ preScreen (4 : Nat) T = true) ∧
    merge (mergerCfg dna [99, 97, 97, 99, 103, 116, 116, 103] [99, 97, 97, 99, 103, 116, 116, 103] 4 0 2 5 true)
      [⟨4, 8, 0⟩] = some [] := by
  refine ⟨?_, by decide +kernel⟩
  exact epsmatch_inside_trapezoid_complement_given_merge fourLetter_dna [99, 97, 97, 99, 103, 116, 116, 103] [99, 97, 97, 99, 103, 116, 116, 103] 4 4 0 2 5
    (by decide) (by decide) (by decide)
    (by unfold Biogo.Proofs.FilterComplete.AllValid; decide) (by unfold Biogo.Proofs.FilterComplete.AllValid; decide)
    (by decide) (by decide) (by decide) (by decide)
    [⟨4, 8, 0⟩] (Biogo.Properties.C14.rule_tie ▸ Biogo.Properties.C14.palindrome_witness_repaired)
    [⟨4, 8, 0⟩] (by simp [toF]) (by simp [SortedByFrom])
    [⟨8, 4, 0, 1⟩] (by decide +kernel) 4 4 (by decide +kernel) (by decide)

/-- the same witness through `epsmatch_inside_trapezoid_complement`: no hypothesis on the merger —
    the theorem supplies the trapezoid list of the complement strand -/
example :
    ∃ traps, merge (mergerCfg Biogo.Properties.C14.dna [99, 97, 97, 99, 103, 116, 116, 103] [99, 97, 97, 99, 103, 116, 116, 103] 4 0 2 5 false)
        [⟨4, 8, 0⟩] = some traps ∧
      ∀ a b, EpsMatch Biogo.Properties.C14.dna [99, 97, 97, 99, 103, 116, 116, 103] [99, 97, 97, 99, 103, 116, 116, 103] 4 0 a b →
        [99, 97, 97, 99, 103, 116, 116, 103].length ≤ a + b →
        ∃ T ∈ traps, T.left ≤ (b : Int) - a ∧ (b : Int) - a ≤ T.right ∧
          T.bottom < (b : Int) + (4 : Nat) ∧ (b : Int) < T.top ∧ preScreen (4 : Nat) T = true :=
  epsmatch_inside_trapezoid_complement fourLetter_dna [99, 97, 97, 99, 103, 116, 116, 103] [99, 97, 97, 99, 103, 116, 116, 103] 4 4 0 2 5
    (by decide) (by decide) (by decide)
    (by unfold Biogo.Proofs.FilterComplete.AllValid; decide) (by unfold Biogo.Proofs.FilterComplete.AllValid; decide)
    (by decide) (by decide) (by decide) (by decide) (by decide)
    [⟨4, 8, 0⟩] (Biogo.Properties.C14.rule_tie ▸ Biogo.Properties.C14.palindrome_witness_repaired)
    [⟨4, 8, 0⟩] (by simp [toF]) (by simp [SortedByFrom])

/-! ### the width condition of `filter_hits_within_query_band` is needed (the sixth defect) -/

/-- 22 × `a` then `acgt` -/
def narrowT : List UInt8 := List.replicate 22 97 ++ [97, 99, 103, 116]
/-- `acgt` then 22 × `t` -/
def narrowQ : List UInt8 := [97, 99, 103, 116] ++ List.replicate 22 116

/-- **`filter_hit_beyond_query_narrow`** — `k = 4, n = 24, e = 5, off = 30` (threshold 1), a 26-letter
    target ending in `acgt` and a 26-letter query beginning with it (`TubeOffset + MaxError = 35 >
    Qlen + 1`): the only common 4-mer lies on diagonal index 4 `< MaxError` of tube 0, `commonKmer`
    also credits it to slot `cap-1 = 2`, and the final flush reports that slot as tube 2: the filter
    model — and `filter.Filter` (second witness of the sixth defect in `corpus/C15.txt`, and the `fl`
    run recorded in `notes/C15.md`) — returns the hit `0:4:-34` whose band starts at
    `-Diagonal = 34 > Qlen = 26`.  Before the repair `MergeFilterHit` walked past the end marker of
    its list on it (nil dereference); now it is dropped and the merger returns the trapezoid of the
    real hit alone. -/
theorem filter_hit_beyond_query_narrow :
    filter Biogo.Generated.FilterFacts.rule Biogo.Properties.C14.dna (builtIndex Biogo.Properties.C14.dna 4 narrowT)
      { minMatch := 24, maxError := 5, tubeOffset := 30 } narrowQ false false = .ok [⟨0, 4, 26⟩, ⟨0, 4, -34⟩] ∧
    beyondQuery (mergerCfg Biogo.Properties.C14.dna narrowT narrowQ 4 5 30 5 false) ⟨0, 4, -34⟩ = true ∧
    merge (mergerCfg Biogo.Properties.C14.dna narrowT narrowQ 4 5 30 5 false) [⟨0, 4, 26⟩, ⟨0, 4, -34⟩]
      = some [⟨4, 0, -26, 8⟩] :=
  ⟨by rw [Biogo.Properties.C14.filter_dna _ (by decide)]; decide +kernel, by decide +kernel, by decide +kernel⟩

end Biogo.Properties.C15_chain
