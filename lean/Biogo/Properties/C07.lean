/-
C07 — Multi-sequence containers keep row and column views consistent under edits.
Property theorems only; the lemmas are in the `Biogo.Proofs.Cont*` modules.  The
theorems are about the definitions the driver executes (Biogo/Model/Containers.lean:
`Multi.column`, `Multi.columnQL`, `Aln.column`, `Aln.columnQL`, `Lin.at?`, `Aln.at?`, …).
-/
import Biogo.Model.ContWorld
import Biogo.Proofs.Containers
import Biogo.Proofs.ContFrame
import Biogo.Proofs.ContGrid
import Biogo.Proofs.ContCons
import Biogo.Proofs.ContAln
import Biogo.Proofs.ContAppend
import Biogo.Proofs.ContSepWorld
import Biogo.Proofs.ContModelObs
import Biogo.Proofs.ContModelObs07
import Biogo.Proofs.AlphabetBuild
import Biogo.Generated.Alphabets

namespace Biogo.Properties.C07
open Biogo.Containers Biogo.Go Biogo.Alphabet

/-- **row_eq_column (multi.Multi, row-stored, arbitrary row offsets).** "the letter seen
    through the row view at a position equals the corresponding entry of the column view at
    that position, the gap letter standing in for rows that do not cover it when filling is
    requested": for every heap, multi, position and row index `i`, entry `i` of
    `ColumnQL(pos, true)` is `Row(i).At(pos)` when row `i` covers `pos` and `{gap, 0}`
    otherwise; entry `i` of `Column(pos, true)` is its letter; and `Column(pos, false)` lists
    exactly the letters of the covering rows, in row order. -/
theorem row_eq_column_multi (cx : Ctx) (h : Cells) (m : Multi) (pos : Int) :
    (∀ (i : Nat) (r : Lin), m.rows[i]? = some r →
      (m.columnQL cx h pos true)[i]? =
        some (if Multi.covers r pos then (r.at? h pos).getD zeroQL else ⟨cx.gap, 0⟩) ∧
      (m.column cx h pos true)[i]? =
        some (if Multi.covers r pos then ((r.at? h pos).getD zeroQL).L else cx.gap)) ∧
    (m.columnQL cx h pos true).length = m.nrows ∧ (m.column cx h pos true).length = m.nrows ∧
    m.column cx h pos false =
      m.rows.filterMap fun r => if Multi.covers r pos then some ((r.at? h pos).getD zeroQL).L else none := by
  refine ⟨fun i r hi => ⟨?_, ?_⟩, ?_, ?_, ?_⟩
  · rw [Multi.columnQL_fill, List.getElem?_map, hi]
    simp only [Option.map_some, Multi.cell]
    cases Multi.covers r pos <;> simp
  · rw [Multi.column_fill, List.getElem?_map, hi]
    simp only [Option.map_some, Multi.cell]
    cases Multi.covers r pos <;> simp
  · rw [Multi.columnQL_fill, List.length_map]; rfl
  · rw [Multi.column_fill, List.length_map]; rfl
  · rw [Multi.column_nofill]
    congr 1
    funext r
    simp only [Multi.cell]
    cases Multi.covers r pos <;> simp

/-- in a well-formed multi, `At(pos)` of a covering row is a real read (no index panic), so
    the `getD` above never takes its default -/
theorem row_at_defined (h : Cells) (r : Lin) (hv : r.Valid h) (pos : Int)
    (hc : Multi.covers r pos = true) : (r.at? h pos).isSome = true :=
  Lin.at?_isSome_of_covers h r hv pos hc

/-- **row_eq_column (alignment.Seq / alignment.QSeq, column-stored).** For every heap,
    alignment, column index `i` and row `r`: entry `r` of `ColumnQL(Start+i)` is exactly
    `Row(r).At(Start+i)` (both undefined together); entry `r` of `Column(Start+i)` is its
    letter — for the quality alignment under the container's documented filter
    `Q ≥ Threshold`, the ambiguity letter standing for letters below it. -/
theorem row_eq_column_aln (cx : Ctx) (h : Cells) (a : Aln) (r i : Nat) :
    (a.columnQL h i)[r]? = a.at? h r (a.off + (i : Int)) ∧
    (a.column cx h i)[r]? = ((a.cols[i]?).bind fun c => (h.get? c r)).map fun x =>
      if a.q then (if x.Q ≥ alnThreshold then x.L else cx.amb) else x.L := by
  refine ⟨?_, ?_⟩
  · rw [Aln.columnQL_get, Aln.at?_col]
  · rw [Aln.column_get]
    cases a.cols[i]? with
    | none => rfl
    | some c => cases h.get? c r <;> rfl

-- non-vacuity: a ragged multi, position 3 is covered by row 0 only
example :
    let cx : Ctx := { comp := fun l => l, gap := 45, amb := 110,
                      alpha := ⟨[], 0, fun _ => false, fun _ => -1, 45, 110, false⟩, grow := growExact }
    let w := initWorld cx "multi" 1 [⟨false, 0, 1, 0, [⟨65, 0⟩, ⟨67, 0⟩, ⟨71, 0⟩, ⟨84, 0⟩]⟩,
                                    ⟨true, 5, 1, 1, [⟨71, 30⟩, ⟨71, 31⟩]⟩]
    (match w.objs with
     | [.multi m] => m.column cx w.cells 3 true == [84, 45] && m.column cx w.cells 3 false == [84]
                     && m.columnQL cx w.cells 5 true == [⟨45, 0⟩, ⟨71, 30⟩]
     | _ => false) = true := by decide +kernel

/-- **subseq_truncate_exact (Truncate).** If every row of the multi covers `[st,en)` then
    `Truncate(st, en)` reports no error and every row afterwards spans exactly `[st,en)` and
    shows exactly the letters (and qualities) it showed at those positions. -/
theorem truncate_exact (h : Cells) (m : Multi) (st en : Int)
    (hcov : ∀ r ∈ m.rows, r.start ≤ st ∧ st ≤ en ∧ en ≤ r.«end» ∧ r.s.len ≤ r.s.cap) :
    (m.truncate st en).2 = true ∧
    All2 (fun r r' =>
        r'.letters h = ((r.letters h).drop (st - r.start).toNat).take (en - st).toNat ∧
        r'.start = st ∧ r'.«end» = en ∧ r'.q = r.q ∧ r'.name = r.name ∧ r'.strand = r.strand)
      m.rows (m.truncate st en).1.rows := by
  have hall : ∀ r ∈ m.rows, (r.truncate st en).isSome = true := fun r hr =>
    Lin.truncate_isSome r st en (hcov r hr).1 (hcov r hr).2.1 (hcov r hr).2.2.1 (hcov r hr).2.2.2
  obtain ⟨hok, hrows⟩ := Multi.truncate_spec m st en hall
  refine ⟨hok, hrows.imp fun r r' hrr => ?_⟩
  obtain ⟨s1, s2, s3, s4, s5, s6, _⟩ := Lin.truncate_spec h r r' st en hrr
  exact ⟨s1, s2, s3, s4, s5, s6⟩

/-- **subseq_truncate_exact (Subseq).** If every row covers `[st,en)` then `Subseq(st, en)`
    returns a multi (no error, no panic) whose rows span exactly `[st,en)` and show exactly the
    letters the receiver shows there; the receiver's backing arrays are untouched and the new
    rows live in arrays that did not exist before (so the two are independent). -/
theorem subseq_exact (cx : Ctx) (h : Cells) (m : Multi) (st en : Int)
    (hcov : ∀ r ∈ m.rows, r.Valid h ∧ r.start ≤ st ∧ st ≤ en ∧ en ≤ r.«end») :
    ∃ m', (m.subseq cx h st en).2 = some m' ∧
      All2 (fun r c =>
          c.letters (m.subseq cx h st en).1 = ((r.letters h).drop (st - r.start).toNat).take (en - st).toNat ∧
          c.start = st ∧ c.«end» = en ∧ c.q = r.q ∧ c.name = r.name ∧ c.strand = r.strand ∧
          h.arrays.length ≤ c.s.arr) m.rows m'.rows ∧
      (∀ b, b < h.arrays.length → (m.subseq cx h st en).1.arr b = h.arr b) ∧
      (∀ r ∈ m.rows, r.letters (m.subseq cx h st en).1 = r.letters h) := by
  obtain ⟨cs, h2, hall, hext⟩ := subseqRows_spec cx st en m.rows h hcov
  have hres : m.subseq cx h st en = ((thread (fun h (r : Lin) => r.clone cx h) m.rows h).1, some { m with rows := cs }) := by
    simp only [Multi.subseq, h2, if_true]
  rw [hres]
  exact ⟨_, rfl, hall.imp fun r c hrc => ⟨hrc.1.1, hrc.1.2.1, hrc.1.2.2.1, hrc.1.2.2.2.1, hrc.1.2.2.2.2.1,
      hrc.1.2.2.2.2.2, hrc.2⟩, hext.old, fun r hr => Lin.letters_congr (hext.old _ (hcov r hr).1.1)⟩

/-- **append_exact (alignment.Seq / alignment.QSeq, AppendColumns).** When `AppendColumns`
    accepts its arguments, the alignment's columns are the old columns, every one read exactly
    as before ("without altering existing columns"), followed by one new column per supplied
    column holding exactly the supplied letters (`Seq`: letters only, `QSeq`: letter and
    quality); the new columns live in arrays allocated by the call. -/
theorem append_exact_aln (cx : Ctx) (h h' : Cells) (a a' : Aln) (rows : Nat) (colsIn : List (List QL))
    (hv : a.ColsValid h) (happ : a.appendColumns cx h rows colsIn = some (h', a')) :
    ∃ news, a'.cols = a.cols ++ news ∧
      (∀ c ∈ a.cols, h'.read c = h.read c) ∧
      All2 (fun c s => h'.read s = c.map (Lin.stored a.q) ∧ c.length = rows ∧
          h.arrays.length ≤ s.arr ∧ s.arr < h'.arrays.length) colsIn news ∧
      (∀ b, b < h.arrays.length → h'.arr b = h.arr b) ∧
      a'.q = a.q ∧ a'.subs = a.subs ∧ a'.strand = a.strand ∧ a'.off = a.off :=
  appendColumns_facts cx h h' a a' rows colsIn hv happ

/-- **append_no_retain (AppendColumns).** "without … retaining the caller's buffers": after
    `AppendColumns`, a write to any slice `b` that existed before the call and is not a column
    of the alignment — in particular to any of the caller's buffers — changes no column of
    the alignment. -/
theorem append_no_retain_aln (cx : Ctx) (h h' : Cells) (a a' : Aln) (rows : Nat) (colsIn : List (List QL))
    (hv : a.ColsValid h) (happ : a.appendColumns cx h rows colsIn = some (h', a'))
    (b : Slice) (hb : b.arr < h.arrays.length) (hsep : ∀ c ∈ a.cols, c.arr ≠ b.arr) (i : Nat) (v : QL) :
    ∀ s ∈ a'.cols, (h'.set b i v).read s = h'.read s := by
  obtain ⟨news, h2, _, hall, _, _⟩ := append_exact_aln cx h h' a a' rows colsIn hv happ
  intro s hs
  rw [h2] at hs
  apply Heap.read_set_other
  rcases List.mem_append.mp hs with hold | hnew
  · exact fun e => hsep s hold e.symm
  · obtain ⟨c, _, hcs⟩ := hall.exists_left s hnew
    have := hcs.2.2.1
    omega

/-- the built-in alphabets are case-insensitive and name no letter twice, in either case -/
theorem builtins_uncased_nodup :
    ∀ d ∈ Biogo.Generated.builtins, d.cased = false ∧ (d.letters.map toLower).Nodup := by
  decide +kernel

/-- per-letter facts about a built-in alphabet that the consensus law needs: a valid letter
    has an index inside `0..Len-1`, `Letter(IndexOf l)` is `l` up to case, and (the built-in
    alphabets being case-insensitive) the index does not depend on the case -/
theorem builtin_consensus_facts (d : Def) (hd : d ∈ Biogo.Generated.builtins) (a : Alpha)
    (p : Option Pairing) (hb : d.build = .ok (a, p)) (l : UInt8) (hv : a.valid l = true) :
    0 ≤ a.index l ∧ (a.index l).toNat < a.length ∧
    (∃ x, a.letter (a.index l).toNat = some x ∧ toLower x = toLower l) ∧
    a.index (toLower l) = a.index l := by
  obtain ⟨hc, hnd⟩ := builtins_uncased_nodup d hd
  have ha := (Def.build_ok hb).1
  rw [hc] at ha
  exact newAlphabet_uncased_index ha hnd l hv

/-- the consensus of a unanimous column, for any case-insensitive alphabet whose definition
    names no letter twice -/
theorem unanimous_consensus_uncased {ls : List UInt8} {g amb : UInt8} {a : Alpha}
    (ha : newAlphabet ls g amb false = .ok a) (hnd : (ls.map toLower).Nodup)
    (col : List UInt8) (l0 : UInt8) (hl0 : l0 ∈ col)
    (hall : ∀ l ∈ col, a.valid l = true ∧ toLower l = toLower l0) :
    toLower (consensusLetter a col) = toLower l0 := by
  have facts := newAlphabet_uncased_index ha hnd
  obtain ⟨hv0, _⟩ := hall l0 hl0
  obtain ⟨_, hk, ⟨x, hx, hxl⟩, e0⟩ := facts l0 hv0
  -- every letter of the column has the index of `l0`, through their common lower-case form
  have hidx : ∀ l ∈ col, a.valid l = true ∧ (a.index l).toNat = (a.index l0).toNat := by
    intro l hl
    obtain ⟨hv, hlow⟩ := hall l hl
    refine ⟨hv, ?_⟩
    rw [← (facts l hv).2.2.2, hlow, e0]
  rw [consensus_unanimous a col (a.index l0).toNat (List.ne_nil_of_mem hl0) hk hidx, hx]
  exact hxl

/-- **unanimous_consensus.** "a column in which every row holds the same valid letter has that
    letter, up to case, as its count-based consensus": for every built-in alphabet and every
    non-empty column whose letters are all valid and all equal to `l0` up to case, the letter of
    `seq.DefaultConsensus` (arg-max of the counts of valid letters) equals `l0` up to case. -/
theorem unanimous_consensus (d : Def) (hd : d ∈ Biogo.Generated.builtins) (a : Alpha)
    (p : Option Pairing) (hb : d.build = .ok (a, p)) (col : List UInt8) (l0 : UInt8) (hl0 : l0 ∈ col)
    (hall : ∀ l ∈ col, a.valid l = true ∧ toLower l = toLower l0) :
    toLower (consensusLetter a col) = toLower l0 := by
  obtain ⟨hc, hnd⟩ := builtins_uncased_nodup d hd
  exact unanimous_consensus_uncased (hc ▸ (Def.build_ok hb).1) hnd col l0 hl0 hall

-- non-vacuity: DNA, the column [A, a, A] has consensus a
example : (match Biogo.Generated.alphaDNA.build with
    | .ok (a, _) => consensusLetter a [65, 97, 65] == 97 && a.valid 65
    | .error _ => false) = true := by
  -- the alphabet is `newAlphabet`'s; evaluating `build` itself would run the 256-entry
  -- acceptance loop of `NewComplementor`
  obtain ⟨⟨a, p⟩, hb⟩ := Def.build_isOk Biogo.Generated.alphaDNA (by decide) (by decide)
  obtain ⟨ha, _⟩ := Def.build_ok hb
  rw [hb]
  cases ha
  simp only
  decide +kernel

/-- **delete_exact (alignment.Seq / alignment.QSeq).** "Delete removes exactly the indexed
    row": for a well-formed alignment of `n` rows and `i < n`, after `Delete(i)` every column
    reads as it read before with entry `i` removed (the entries of the other rows keep their
    order), every column has `n-1` rows, and the row annotations lose exactly entry `i`. -/
theorem delete_exact_aln (h : Cells) (a : Aln) (n i : Nat) (hi : i < n) (hw : ColsWF h n a.cols)
    (hcap : ∀ c ∈ a.cols, c.len ≤ c.cap) :
    All2 (fun c c' => (a.delete h i).1.read c' = (h.read c).eraseIdx i ∧ c'.len = n - 1)
      a.cols (a.delete h i).2.cols ∧
    (a.delete h i).2.subs = a.subs.eraseIdx i ∧ (a.delete h i).2.strand = a.strand ∧
    (a.delete h i).2.q = a.q := by
  obtain ⟨hall, _⟩ := delCols_spec i n hi a.cols h hw hcap
  rw [Aln.delete_thread]
  exact ⟨hall.imp fun c c' hcc => ⟨hcc.1, by rw [hcc.2]⟩, rfl, rfl, rfl⟩

/-- **delete_exact (multi.Multi).** The rows after `Delete(i)` are the rows before without
    row `i`; no letter is touched. -/
theorem delete_exact_multi (h : Cells) (m : Multi) (i : Nat) :
    (Obj.multi (m.delete i)).rowsV h = ((Obj.multi m).rowsV h).eraseIdx i := by
  simp only [Obj.rowsV, Obj.lins, Multi.delete]
  exact map_eraseIdx' _ _ _

/-- **append_exact (alignment.Seq / alignment.QSeq, AppendEach).** With one run per row,
    `AppendEach` reports no error and appends `max_i len(run_i)` columns; the old columns read
    exactly as before; new column `j` holds, for row `r`, the `j`-th letter of run `r`, or the
    gap letter when run `r` is shorter ("column-stored alignments padding shorter runs with the
    gap letter"); every new column lives in an array allocated by the call (so nothing of the
    caller's buffers or of the scratch column is retained). -/
theorem append_each_exact_aln (cx : Ctx) (h : Cells) (a : Aln) (rows : Nat) (runs : List (List QL))
    (hv : a.ColsValid h) (hr : runs.length = rows) :
    ∃ h' a' news, a.appendEach cx h rows runs = some (h', a') ∧
      a'.cols = a.cols ++ news ∧
      news.length = runs.foldl (fun m ss => Nat.max m ss.length) 0 ∧
      (∀ c ∈ a.cols, h'.read c = h.read c) ∧
      (∀ (j : Nat) (s : Slice), news[j]? = some s →
        h'.read s = (runs.map fun ss => match ss[j]? with | some c => c | none => ⟨cx.gap, 0⟩).map (Lin.stored a.q) ∧
        h.arrays.length ≤ s.arr) ∧
      a'.subs = a.subs ∧ a'.q = a.q := by
  obtain ⟨hk, ak, news, hfold, hcols, hlen, hnews, hold, _, hq, hsubs, _, _⟩ :=
    appendEach_prefix cx rows runs hr h a (runs.foldl (fun m ss => Nat.max m ss.length) 0)
  refine ⟨hk, ak, news, ?_, hcols, hlen, fun c hc => read_congr_arr _ _ _ (hold _ (hv c hc)), ?_, hsubs, hq⟩
  · simp only [Aln.appendEach, hr, bne_self_eq_false, Bool.false_eq_true, if_false]
    exact hfold
  · intro j s hs
    obtain ⟨e1, e2, _⟩ := hnews j s hs
    exact ⟨e1, e2⟩

/-- **append_exact (multi.Multi, AppendEach).** With one run per row `AppendEach` reports no
    error and row `i` afterwards shows its old letters followed by exactly run `i` (letters and
    qualities for a `QSeq` row, letters for a `Seq` row), starts where it started and ends
    `len(run_i)` later — whatever the spare capacity of the rows (in-place and reallocating
    appends alike); the rows stay in pairwise different arrays and no other array changes. -/
theorem append_each_exact_multi (cx : Ctx) (h : Cells) (m : Multi) (runs : List (List QL))
    (hwf : RowsCapWF h m.rows) (hr : runs.length = m.nrows) :
    ∃ h' m', m.appendEach cx h runs = some (h', m') ∧ m'.rows.length = m.rows.length ∧
      (∀ (i : Nat) (r : Lin), m.rows[i]? = some r → ∃ r', m'.rows[i]? = some r' ∧
        r'.letters h' = r.letters h ++ (runs.getD i []).map (fun c => Lin.shown r.q (Lin.stored r.q c)) ∧
        r'.start = r.start ∧ r'.«end» = r.«end» + (runs.getD i []).length ∧
        r'.q = r.q ∧ r'.name = r.name ∧ r'.strand = r.strand) ∧
      RowsCapWF h' m'.rows ∧
      (∀ b, (∀ r ∈ m.rows, r.s.arr ≠ b) → b < h.arrays.length → h'.arr b = h.arr b) := by
  obtain ⟨hlen, hrows, hwf', hfr⟩ := appendRows_spec cx (fun k => runs.getD k []) h m.rows hwf
  refine ⟨_, { m with rows := _ }, ?_, hlen, hrows, hwf', hfr⟩
  simp only [Multi.appendEach, hr, bne_self_eq_false, Bool.false_eq_true, if_false]

/-- **append_exact (multi.Multi, AppendColumns).** When every column has one entry per row,
    row `i` is extended by exactly `a[0][i], a[1][i], …`. -/
theorem append_columns_exact_multi (cx : Ctx) (h : Cells) (m : Multi) (colsIn : List (List QL))
    (hwf : RowsCapWF h m.rows) (hc : ∀ c ∈ colsIn, c.length = m.nrows) :
    ∃ h' m', m.appendColumns cx h colsIn = some (h', m') ∧ m'.rows.length = m.rows.length ∧
      (∀ (i : Nat) (r : Lin), m.rows[i]? = some r → ∃ r', m'.rows[i]? = some r' ∧
        r'.letters h' = r.letters h ++
          (colsIn.map fun c => c.getD i zeroQL).map (fun c => Lin.shown r.q (Lin.stored r.q c)) ∧
        r'.start = r.start ∧ r'.«end» = r.«end» + colsIn.length ∧
        r'.q = r.q ∧ r'.name = r.name ∧ r'.strand = r.strand) ∧
      RowsCapWF h' m'.rows ∧
      (∀ b, (∀ r ∈ m.rows, r.s.arr ≠ b) → b < h.arrays.length → h'.arr b = h.arr b) := by
  obtain ⟨hlen, hrows, hwf', hfr⟩ :=
    appendRows_spec cx (fun k => colsIn.map fun c => c.getD k zeroQL) h m.rows hwf
  have hok : colsIn.any (fun c => c.length != m.nrows) = false := by
    apply List.any_eq_false.mpr
    intro c hcm
    simp [hc c hcm]
  refine ⟨_, { m with rows := _ }, ?_, hlen, ?_, hwf', hfr⟩
  · simp only [Multi.appendColumns, hok, Bool.false_eq_true, if_false]
  · intro i r hi
    obtain ⟨r', h1, h2⟩ := hrows i r hi
    refine ⟨r', h1, h2.1, h2.2.1, ?_, h2.2.2.2⟩
    have := h2.2.2.1
    simp only [List.length_map] at this
    exact this

/-- **flush_preserves.** "Flush pads ragged rows with the fill letter so that all rows span
    the alignment while every original letter keeps its position": for a well-formed multi
    with span `[S,E)`, after `Flush(where, fill)` every row starts at `S` if `where` has the
    `seq.Start` bit (else where it started) and ends at `E` if it has the `seq.End` bit (else
    where it ended); it shows `fill` at the positions gained on either side and, between them,
    exactly the letters and qualities it showed before — at the same absolute positions, since
    the row's start moved left by exactly the number of letters prepended.  (Including the
    code's early return when `IsFlush(where)` already holds and its one-row special case.) -/
theorem flush_preserves (cx : Ctx) (h : Cells) (m : Multi) (wh : Nat) (fill : UInt8)
    (hwf : RowsCapWF h m.rows) (hr : m.InRange) :
    All2 (fun r r' =>
        r'.start = (if wh % 2 == 1 then m.start else r.start) ∧
        r'.«end» = (if (wh / 2) % 2 == 1 then m.«end» else r.«end») ∧
        r'.letters (m.flush cx h wh fill).1 =
          List.replicate (r.start - r'.start).toNat (Lin.shown r.q ⟨fill, 0⟩) ++ r.letters h ++
          List.replicate (r'.«end» - r.«end»).toNat (Lin.shown r.q ⟨fill, 0⟩) ∧
        r'.q = r.q ∧ r'.name = r.name ∧ r'.strand = r.strand)
      m.rows (m.flush cx h wh fill).2.rows :=
  Multi.flush_spec cx h m wh fill hwf hr

-- non-vacuity: rows [0,4) and [5,7) flushed at both ends with '-'
example :
    let cx : Ctx := { comp := fun l => l, gap := 45, amb := 110,
                      alpha := ⟨[], 0, fun _ => false, fun _ => -1, 45, 110, false⟩, grow := growExact }
    let w := initWorld cx "multi" 1 [⟨false, 0, 1, 0, [⟨65, 0⟩, ⟨67, 0⟩, ⟨71, 0⟩, ⟨84, 0⟩]⟩,
                                    ⟨true, 5, 1, 1, [⟨71, 30⟩, ⟨71, 31⟩]⟩]
    (match w.objs with
     | [.multi m] =>
        ((m.flush cx w.cells 3 45).2.rows.map fun r => (r.start, r.«end», (r.letters (m.flush cx w.cells 3 45).1).map (·.L)))
          == [(0, 7, [65, 67, 71, 84, 45, 45, 45]), (0, 7, [45, 45, 45, 45, 45, 71, 71])]
     | _ => false) = true := by decide +kernel

/-- the hypothesis `RowsCapWF` of the theorems about multis holds of every multi the harness
    (and any caller of `linear.NewSeq/NewQSeq` + `multi.NewMulti`) builds: each row owns a new
    backing array, with its capacity inside it -/
theorem initial_multi_wellformed (cx : Ctx) (strand : Int) (rows : List SeqSpec) :
    match (initWorld cx "multi" strand rows).objs with
    | [.multi m] => RowsCapWF (initWorld cx "multi" strand rows).cells m.rows
    | _ => False :=
  newLins_rowsCapWF cx Heap.empty rows

/-! ### every reachable state is well formed

The theorems above assume well-formedness of the container they speak about (`ColsWF`,
`Aln.ColsValid`, `c.len ≤ c.cap`, `RowsCapWF`, `RowsWF`, `Lin.Valid`).  `WorldWF` (defined in
Proofs/ContSep.lean) packages these for every object of a world, together with the separation
of objects and caller buffers; it holds of the initial object of every history and is preserved
by every operation, so the hypotheses hold of every state a history reaches. -/

/-- **preservation**: `AppendColumns`, `AppendEach`, `Delete`, `Add`, `Flush`, `Truncate`,
    `Subseq`, `Clone` — and every other operation of the histories, error returns and panics
    included — take a well-formed world to a well-formed world -/
theorem operation_preserves_wellformed (cx : Ctx) (w : World) (hw : WorldWF w) (op : Op) :
    WorldWF (apply cx w op).1 :=
  (step_all cx w hw op).1

/-- **Reach**: every state reachable from a constructor (`linear.NewSeq/NewQSeq`,
    `alignment.NewSeq/NewQSeq`, `multi.NewMulti`, `multi.Set`) by the modelled operations is
    well formed -/
theorem reachable_wellformed (cx : Ctx) (kind : String) (strand : Int) (rows : List SeqSpec) (ops : List Op) :
    WorldWF (runOps cx (initWorld cx kind strand rows) ops) :=
  reach_wf cx kind strand rows ops

/-- what `WorldWF` gives for one object: exactly the hypotheses of the theorems of this file and
    of C05 — for a column-stored alignment `ColsWF` for some number of rows `n` (which is
    `Rows()` whenever there is a column, and then also the number of row annotations, so that
    `Row(i)` for `i < Rows()` always finds its annotation), capacities, `ColsValid`, offset 0; for a multi
    `RowsCapWF` and `RowsWF`; for a linear sequence `Lin.Valid` -/
theorem wellformed_gives_hypotheses (w : World) (hw : WorldWF w) (k : Nat) :
    (∀ a, w.objs[k]? = some (.aln a) →
      a.off = 0 ∧ a.ColsValid w.cells ∧ (∀ c ∈ a.cols, c.len ≤ c.cap) ∧
      ∃ n, ColsWF w.cells n a.cols ∧ (a.cols ≠ [] → a.rows = n ∧ a.subs.length = n)) ∧
    (∀ m, w.objs[k]? = some (.multi m) → RowsCapWF w.cells m.rows ∧ RowsWF w.cells m.rows) ∧
    (∀ m, w.objs[k]? = some (.set m) → RowsCapWF w.cells m.rows ∧ RowsWF w.cells m.rows) ∧
    (∀ l, w.objs[k]? = some (.lin l) → l.Valid w.cells) := by
  refine ⟨?_, ?_, ?_, ?_⟩
  · intro a hk
    obtain ⟨h0, n, hc, hsub⟩ := hw.obj k _ hk
    refine ⟨h0, fun c hm => (hc.1.1 c hm).1, hc.cap, n, hc.toColsWF, ?_⟩
    exact fun hne => ⟨Aln.rows_eq hc hne, hsub hne⟩
  · intro m hk
    have := hw.obj k _ hk
    exact ⟨this, RowsCapWF.toRowsWF this⟩
  · intro m hk
    have := hw.obj k _ hk
    exact ⟨this, RowsCapWF.toRowsWF this⟩
  · intro l hk
    exact CapValid.toValid (hw.obj k _ hk)

/-- `clone_deep` for the edit histories of C07 (column-stored alignments and multis, all edit
    operations, caller buffers): the statement of C05's `clone_deep_all` -/
theorem clone_deep_edits (cx : Ctx) (w : World) (hw : WorldWF w) (k : Nat) (o : Obj)
    (hk : w.objs[k]? = some o) (hclonable : ∀ m, o ≠ .set m) (ops : List Op) :
    let w1 := (apply cx w (.clone k)).1
    ∃ c, w1.objs[w.objs.length]? = some c ∧ viewObj cx w1.cells c = viewObj cx w.cells o ∧
      ((∀ op ∈ ops, op.written ≠ some k) →
        (runOps cx w1 ops).objs[k]? = some o ∧
        viewObj cx (runOps cx w1 ops).cells o = viewObj cx w.cells o) ∧
      ((∀ op ∈ ops, op.written ≠ some w.objs.length) →
        (runOps cx w1 ops).objs[w.objs.length]? = some c ∧
        viewObj cx (runOps cx w1 ops).cells c = viewObj cx w.cells o) :=
  clone_deep_view cx w hw k o hk hclonable ops

/-- **append_no_retain, over histories**: after `AppendColumns` / `AppendEach` from caller
    buffers, any later sequence of writes to caller buffers (`mut`), creation of buffers and
    operations on other objects leaves the alignment / multi observed exactly as it was — the
    general form of `append_no_retain_aln`, for every container kind -/
theorem append_no_retain_history (cx : Ctx) (w : World) (hw : WorldWF w) (app : Op) (k : Nat) (o' : Obj)
    (hk' : (apply cx w app).1.objs[k]? = some o') (later : List Op)
    (hnot : ∀ op ∈ later, op.written ≠ some k) :
    (runOps cx (apply cx w app).1 later).objs[k]? = some o' ∧
    viewObj cx (runOps cx (apply cx w app).1 later).cells o' = viewObj cx (apply cx w app).1.cells o' :=
  untouched_all cx later _ (step_all cx w hw app).1 k o' hk' hnot

/-! ### the model satisfies the declarative statements the executable laws stand for

`Laws.RowEqColumnSpec`, `Laws.FrameSpec` (Proofs/ContLawsSound.lean) are the declarative
statements that `lawRowEqColumn`, `lawFrame` are proved to imply of the implementation's
observations (`C07_laws.c07_verdict_sound`).  Here they are proved of the model's own
observations, for every reachable state: the same proposition is a theorem on the model's side
and a sound executable check on the implementation's side. -/

/-- **row_eq_column, observation level, every reachable state**: for every object of every state
    a history reaches — column-stored alignment with or without qualities, multi with arbitrary
    row offsets — `Rows()`/`Len()` agree with the rows and the span, and at every position of the
    span entry `i` of `ColumnQL(pos, true)` / `Column(pos, true)` is what row `i` shows there
    (`At`), the gap letter standing for rows that do not cover it (quality filter for
    `alignment.QSeq.Column`); `Column(pos, false)` lists the covering rows' letters. -/
theorem row_eq_column_reachable (cx : Ctx) (kind : String) (strand : Int) (rows : List SeqSpec) (ops : List Op) :
    ∀ o ∈ (runOps cx (initWorld cx kind strand rows) ops).view cx, Laws.RowEqColumnSpec cx.gap cx.amb o :=
  model_row_eq_column cx _ (reach_wf cx kind strand rows ops)

/-- **append_no_retain / clone_deep, observation level**: after any operation on a well-formed
    world every object it is not applied to is observed exactly as before (`mut` of a caller
    buffer and `Clone` are applied to no object) -/
theorem frame_on_observations (cx : Ctx) (w : World) (hw : WorldWF w) (op : Op) :
    Laws.FrameSpec (w.view cx) ((apply cx w op).1.view cx) op.written :=
  model_frame cx w hw op

/-- `Clone`, observation level: the new object is observed exactly as the original -/
theorem clone_equal_on_observations (cx : Ctx) (w : World) (hw : WorldWF w) (k : Nat) (o : Obj)
    (hk : w.objs[k]? = some o) (hclonable : ∀ m, o ≠ .set m) :
    ((apply cx w (.clone k)).1.view cx)[w.objs.length]? = (w.view cx)[k]? :=
  model_clone_equal cx w hw k o hk hclonable

/-- **delete_exact, observation level** (column-stored alignment in a well-formed state,
    `ObjWF` = what `WorldWF` gives for the object): the rows observed after `Delete(i)` — letters
    over the span, names, strands, offsets — are the rows observed before without row `i`, and
    `Rows()` drops by one -/
theorem delete_on_observations_aln (cx : Ctx) (h : Cells) (a : Aln) (hwf : ObjWF h (.aln a)) (i : Nat)
    (hi : i < a.rows) :
    Laws.DeleteSpec (viewObj cx h (.aln a)) (viewObj cx (a.delete h i).1 (.aln (a.delete h i).2)) i := by
  obtain ⟨_, n, hc, _⟩ := hwf
  exact model_delete_aln cx h a n hc i hi

/-- **delete_exact, observation level** (multi) -/
theorem delete_on_observations_multi (cx : Ctx) (h : Cells) (m : Multi) (i : Nat) (hi : i < m.nrows) :
    Laws.DeleteSpec (viewObj cx h (.multi m)) (viewObj cx h (.multi (m.delete i))) i :=
  model_delete_multi cx h m i hi

/-- **subseq_truncate_exact (Truncate), observation level**: over a range every row of a
    well-formed multi covers, `Truncate` reports no error and every row is observed to span
    exactly `[st,en)` with exactly the cells it showed there -/
theorem truncate_on_observations (cx : Ctx) (h : Cells) (m : Multi) (hwf : ObjWF h (.multi m)) (st en : Int)
    (hse : st ≤ en) (hcov : ∀ r ∈ m.rows, r.start ≤ st ∧ en ≤ r.«end») :
    (m.truncate st en).2 = true ∧
    Laws.RangeSpec (viewObj cx h (.multi m)) (viewObj cx h (.multi (m.truncate st en).1)) st en :=
  model_truncate_multi cx h m hwf st en hse hcov

/-- **append_exact (AppendColumns), observation level** (column-stored alignment in a
    well-formed state): when `AppendColumns` accepts its arguments every row is observed as
    before followed by exactly the supplied letters (default quality for an alignment without
    qualities), same start, end moved by the number of columns, same name / strand / kind -/
theorem append_columns_on_observations (cx : Ctx) (h : Cells) (a : Aln) (hwf : ObjWF h (.aln a))
    (rows : Nat) (hr : a.rows? = some rows) (colsIn : List (List QL)) (h' : Cells) (a' : Aln)
    (happ : a.appendColumns cx h rows colsIn = some (h', a')) :
    Laws.AppendColsSpec (viewObj cx h (.aln a)) (viewObj cx h' (.aln a')) colsIn := by
  obtain ⟨_, n, hc, _⟩ := hwf
  exact model_appendCols_aln cx h a n hc rows hr colsIn h' a' happ

end Biogo.Properties.C07
