/-
C12 — Concurrent-mode external sort is schedule independent.

Theorems about the labelled transition system `Biogo.MorassConc.sys` (the system the driver
runs under forced schedules): its atomic blocks are the code between two `verif` hook points.
`Reach` quantifies over every interleaving of the caller with the background chunk writers.
-/
import Biogo.Model.MorassConc
import Biogo.Proofs.MorassConc
import Biogo.Proofs.MorassCycle
import Biogo.Proofs.MorassNoFault
import Biogo.Proofs.MorassHistory

namespace Biogo.Properties.C12
open Biogo.Morass Biogo.MorassConc Biogo.Interleave

variable {conc : Bool} {c : Nat} {ac acl : Bool} {prog : List Op} {flt : Fault}

/-- **Finalise returns only once every pushed value is safely in the sorter.**
    For every schedule, every caller program (and even with an injected I/O fault): when the
    caller executes the block of `Finalise` that follows `m.writers.Wait()` — the only place
    where run files are sought and decoded for the merge — every background writer has run to
    completion (`pc = done`, reached by the block that hands its buffer back). -/
theorem finalise_waits {s t : CState} (hr : Reach (sys conc c ac acl prog flt) s)
    (hpc : s.pc = .finWait) (hstep : step s 0 = some t) :
    ∀ w ∈ s.writers, w.pc = .done ∧ w.todo = w.todo ∧ live w = false := by
  have hs := reach_Str hr
  have hwg : s.wg = 0 := (cstep_cases hstep).wait_wg hpc
  intro w hw
  have hd := all_done_of_wg hs (by rw [hpc]; simp) hwg w hw
  exact ⟨hd, rfl, (done_false hd).1⟩

/-- the counterpart: while some background writer is still running, the caller cannot pass the
    wait (the step is disabled, so the schedule-forcing harness must see it blocked) -/
theorem finalise_blocked_while_writing {s : CState} (hr : Reach (sys conc c ac acl prog flt) s)
    (hpc : s.pc = .finWait) {w : Writer} (hw : w ∈ s.writers) (hl : w.pc ≠ .done) :
    step s 0 = none := by
  cases hst : step s 0 with
  | none => rfl
  | some t => exact absurd (finalise_waits hr hpc hst w hw).1 hl

/-- non-vacuity of `finalise_waits`: the caller does reach and pass the wait (chunk 1, two
    values, the writer runs to completion before Finalise) -/
example : ∃ s t, Reach (sys true 1 false false [.push ⟨2, 0⟩, .push ⟨1, 0⟩, .finalise] []) s
    ∧ s.pc = .finWait ∧ s.writers.length = 1 ∧ step s 0 = some t := by
  obtain ⟨s, hr, hpc, hlen, hstep⟩ := exists_reach_of_run (sys true 1 false false [.push ⟨2, 0⟩, .push ⟨1, 0⟩, .finalise] [])
    [0, 0, 0, 0, 1, 1, 1, 1, 1, 0, 0, 0, 0, 0, 0, 0]
    (P := fun s => s.pc = .finWait ∧ s.writers.length = 1 ∧ (step s 0).isSome) (by decide)
  obtain ⟨t, ht⟩ := Option.isSome_iff_exists.mp hstep
  exact ⟨s, t, hr, hpc, hlen, ht⟩

/-- **No deadlock.**  In every reachable state in which the caller has not yet returned from
    the last call of its program, some actor can move — for every caller program (well-formed
    or not), every schedule, with or without an injected fault, in both modes. -/
theorem no_deadlock {s : CState} (hr : Reach (sys conc c ac acl prog flt) s)
    (hnf : finished s = false) : ∃ i, (step s i).isSome = true :=
  some_actor_enabled (reach_Str hr) (reach_Ctl hr) hnf

/-- non-vacuity of `no_deadlock`: states in which only a writer can move are reachable -/
example : ∃ s, Reach (sys true 1 false false [.push ⟨2, 0⟩, .push ⟨1, 0⟩, .push ⟨3, 0⟩] []) s
    ∧ finished s = false ∧ step s 0 = none :=
  exists_reach_of_run _ [0, 0, 0, 0, 0] (by decide)

/-- **The pulls return the complete sorted multiset, whatever the interleaving.**
    One use cycle `cy` (push the values, `Finalise`, pull `cy.pulls` times, optionally `Clear`)
    on a fresh sorter, chunk size ≥ 1, background writing on or off, AutoClear/AutoClean on or
    off: in every state, reachable under any schedule of the caller against the background chunk
    writers, in which the caller has returned from its last call, the outputs of all its calls
    are those of `specCycle` for a non-decreasing permutation `ys` of the pushed values — every
    `Push` and `Finalise` succeeded, the j-th `Pull` delivered `ys[j]`, then `io.EOF`; `Len`/`Pos`
    as the property states.  No value is lost, duplicated or changed. -/
theorem conc_sorted_multiset (c : Nat) (hc : 1 ≤ c) (conc ac acl : Bool) (cy : Cycle) {s : CState}
    (hr : Reach (sys conc c ac acl cy.ops []) s) (hfin : finished s = true) :
    ∃ ys, SortedPermOf ys cy.pushes ∧ s.outs.reverse = specCycle ac ys cy :=
  (finished_cycle c ac hc cy hr hfin).resolve_left (reach_not_reported hr)

/-- no call ever fails when no fault is injected (so the caller's program runs to its end) -/
theorem conc_no_error (c : Nat) (conc ac acl : Bool) (prog : List Op) {s : CState}
    (hr : Reach (sys conc c ac acl prog []) s) : ∀ o ∈ s.outs, o.res ≠ .ioerr :=
  (reach_NoFault hr).2.2

/-- non-vacuity of `conc_sorted_multiset`: a finished state is reachable (chunk 1, values 2 1,
    the writer interleaved with the caller), and it delivers 1 2 then io.EOF -/
example : ∃ s, Reach (sys true 1 false false (Cycle.ops ⟨[⟨2, 0⟩, ⟨1, 0⟩], 3, false⟩) []) s
    ∧ finished s = true ∧ s.outs.reverse.filterMap (·.val) = [⟨1, 0⟩, ⟨2, 0⟩] :=
  exists_reach_of_run _ [0, 0, 0, 1, 0, 1, 0, 1, 0, 1, 0, 1, 0, 0, 0, 0, 0, 0, 0, 0] (by decide)
