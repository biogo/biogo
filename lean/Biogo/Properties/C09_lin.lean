/-
C09, part `lin` — alignment descriptions of NW, SW and Fitted are well-formed, faithfully
scored, type-independent and total.  The property theorems, each a short consequence of what
`Biogo/Proofs/AlignLin*.lean` and `Biogo/Proofs/AlignPairs.lean` prove.

The theorems are about `Biogo.AlignLin.align`, the executable model the driver runs.  For a call
`c`: `callS c` is the scoring function built from the flattened matrix, `callR c` / `callQ c` the
alphabet indices of the sequences.  `Spec.AlignPairs.wellFormed` is the executable path predicate
the driver evaluates on the implementation's pairs.
-/
import Biogo.Proofs.AlignLinCore
import Biogo.Proofs.AlignPairs
import Biogo.Generated.AlignTemplates
import Biogo.Properties.C08_lin

namespace Biogo.Properties.C09_lin
open Biogo.AlignLin Biogo.Spec.AlignPairs Biogo.Spec.Alignment Biogo.Proofs.AlignLin Biogo.Proofs.AlignPairs

/-- class of path each aligner must return -/
def classOf : Aligner → Class
  | .nw => .global | .sw => .loc | .fit => .fitted

/-- What `wellFormed k n m ps = true` says ("the feature pairs form one monotone path: consecutive
    pairs abut in both sequences, each pair is an equal-length ungapped block, a gap in exactly one
    sequence, or empty with zero score; global alignments span both sequences entirely and local
    ones stay within bounds"): the list is non-empty, every pair starts where its predecessor
    ends (`chainEnd`), every pair has one of the three shapes (`okShape_iff`), and the path runs
    from `(i, j)` to `(e₁, e₂)` with the class condition. -/
theorem wellFormed_iff (k : Class) (n m : Nat) (ps : List Pair) :
    wellFormed k n m ps = true ↔
      ∃ i j e1 e2, span ps = some (i, j, e1, e2) ∧ chainEnd i j ps = some (e1, e2) ∧
        match k with
        | .global => i = 0 ∧ j = 0 ∧ e1 = n ∧ e2 = m
        | .loc => e1 ≤ n ∧ e2 ≤ m
        | .fitted => e1 ≤ n ∧ e2 ≤ m :=
  Biogo.Proofs.AlignPairs.wellFormed_iff k n m ps

/-- every link of the chain is a well-shaped pair that starts where the previous one ended -/
theorem chain_links (ps : List Pair) (i j e1 e2 : Nat) (h : chainEnd i j ps = some (e1, e2)) :
    ∀ p ∈ ps, p.a0 ≤ p.a1 ∧ p.b0 ≤ p.b1 ∧
      (p.a1 - p.a0 = p.b1 - p.b0 ∨ p.a0 = p.a1 ∨ p.b0 = p.b1) ∧
      (p.a0 = p.a1 → p.b0 = p.b1 → p.score = 0) := by
  induction ps generalizing i j with
  | nil => nofun
  | cons p0 ps ih =>
    obtain ⟨_, _, hs, h⟩ := chainEnd_cons.mp h
    intro p hp
    rcases List.mem_cons.mp hp with rfl | hp
    · exact (okShape_iff p).mp hs
    · exact ih _ _ h p hp

/-- soundness for the global class: the pairs describe a global alignment -/
theorem wellFormed_global_sound (r q : List Nat) (ps : List Pair)
    (h : wellFormed .global r.length q.length ps = true) : IsGlobal (decode r q ps) r q :=
  Biogo.Proofs.AlignPairs.wellFormed_global_sound r q ps h

/-- soundness for the local class -/
theorem wellFormed_local_sound (r q : List Nat) (ps : List Pair)
    (h : wellFormed .loc r.length q.length ps = true) : IsLocal (decode r q ps) r q :=
  Biogo.Proofs.AlignPairs.wellFormed_local_sound r q ps h

/-- soundness for the fitted class (with the query consumed) -/
theorem wellFormed_fitted_sound (r q : List Nat) (ps : List Pair)
    (h : wellFormed .fitted r.length q.length ps = true) (hc : consumesQuery q.length ps = true) :
    IsFitted (decode r q ps) r q (endRef ps) :=
  Biogo.Proofs.AlignPairs.wellFormed_fitted_sound r q ps h hc

/-- faithful pair scores make the sum of the pair scores the score of the described alignment -/
theorem pairScores_total (S : Matrix) (r q : List Nat) (ps : List Pair)
    (h : pairScoresOk S r q ps = true) : total ps = scoreLin S (decode r q ps) :=
  Biogo.Proofs.AlignPairs.pairScores_total S r q ps h

theorem align_ok_path (al : Aligner) (c : Call) (ps : List Pair) (h : align al c = .ok ps) :
    wellFormed (classOf al) c.r.length c.q.length ps = true ∧
    pairScoresOk (callS c) (callR c) (callQ c) ps = true := by
  rw [← callR_length c, ← callQ_length c]
  cases al with
  | nw => exact (of_ok h (nwCore_spec (callS c) (callR c) (callQ c))).imp id And.left
  | sw => exact (of_ok h (swCore_spec (callS c) (callR c) (callQ c))).imp id And.left
  | fit => exact (of_ok h (fitCore_spec (callS c) (callR c) (callQ c))).imp And.left And.left

/-- `trace_wf_nw`: NW's pairs form one monotone path that spans both sequences entirely -/
theorem trace_wf_nw (c : Call) (ps : List Pair) (h : align .nw c = .ok ps) :
    wellFormed .global c.r.length c.q.length ps = true := (align_ok_path .nw c ps h).1

/-- `trace_wf_sw`: SW's pairs form one monotone path that stays within both sequences -/
theorem trace_wf_sw (c : Call) (ps : List Pair) (h : align .sw c = .ok ps) :
    wellFormed .loc c.r.length c.q.length ps = true := (align_ok_path .sw c ps h).1

/-- `trace_wf_fit`: Fitted's pairs form one monotone path within the sequences that covers the
    whole query -/
theorem trace_wf_fit (c : Call) (ps : List Pair) (h : align .fit c = .ok ps) :
    wellFormed .fitted c.r.length c.q.length ps = true ∧ consumesQuery c.q.length ps = true := by
  refine ⟨(align_ok_path .fit c ps h).1, ?_⟩
  rw [← callQ_length c]
  exact (Biogo.Properties.C08_lin.trace_faithful_fit c ps h).1

/-- `pair_scores_faithful`: "each pair's reported score equals the score recomputed from the
    letters, matrix and gap parameters", for all three aligners -/
theorem pair_scores_faithful (al : Aligner) (c : Call) (ps : List Pair) (h : align al c = .ok ps) :
    ∀ p ∈ ps, p.score = scoreLin (callS c) (p.cols (callR c) (callQ c)) := by
  have := (align_ok_path al c ps h).2
  simpa [pairScoresOk] using this

/-- `format_rows`: "Format renders two equal-length rows that reduce to the aligned subsequences
    when gap letters are removed" — for every well-formed pair list (in particular, by
    `trace_wf_*`, for everything the aligners return) over sequences that do not themselves
    contain the gap letter. -/
theorem format_rows (k : Class) (gap : UInt8) (r q : List UInt8) (ps : List Pair)
    (h : wellFormed k r.length q.length ps = true) :
    ∃ i j e1 e2, span ps = some (i, j, e1, e2) ∧
      (formatRows gap r q ps).1.length = (formatRows gap r q ps).2.length ∧
      (¬ gap ∈ r → (formatRows gap r q ps).1.filter (· ≠ gap) = (r.take e1).drop i) ∧
      (¬ gap ∈ q → (formatRows gap r q ps).2.filter (· ≠ gap) = (q.take e2).drop j) := by
  obtain ⟨i, j, e1, e2, hs, hc, hk⟩ := (wellFormed_iff k _ _ ps).mp h
  have hb : e1 ≤ r.length ∧ e2 ≤ q.length := by
    cases k <;> simp only at hk <;> omega
  obtain ⟨h1, h2, h3, _⟩ := format_chain gap r q ps i j e1 e2 hc hb.1 hb.2
  exact ⟨i, j, e1, e2, hs, h1, h2, h3⟩

/-- The "never `.panic`" half of C09's totality claim (DESIGN.md §C09, `align_total`): no input makes
    the model of NW or SW panic, and none with a non-empty query makes Fitted panic (the
    `default: panic("internal error: no path")` of the tracebacks is unreachable; after the repair of
    F12 no letter check comes after a table access). -/
theorem align_never_panics (al : Aligner) (c : Call) (hq : al = .fit → c.q ≠ []) (msg : String) :
    align al c ≠ .panic msg :=
  align_no_panic al c hq msg

/-- The other half, "illegal letters, mismatched alphabets or sequence types, and non-square or
    undersized matrices produce an error": no alphabet, different alphabet objects, no gap
    letter at index 0, different slice types, fewer matrix rows than alphabet letters, a row whose
    length differs from the number of rows, or — both sequences non-empty — a letter of either
    sequence outside the alphabet. -/
theorem align_total (al : Aligner) (c : Call)
    (h : c.refAlpha = none ∨ c.refAlpha ≠ c.qryAlpha ∨ c.gapIndex ≠ 0 ∨ c.refQ ≠ c.qryQ ∨
      c.mat.length < c.alphaLen ∨ (∃ row ∈ c.mat, row.length ≠ c.mat.length) ∨
      (c.r ≠ [] ∧ c.q ≠ [] ∧ ((∃ l ∈ c.r, c.index l < 0) ∨ ∃ l ∈ c.q, c.index l < 0))) :
    ∃ e, align al c = .error e := by
  apply align_not_accepted
  rintro ⟨h1, h2, h3, h4, h5, h6, h7⟩
  rcases h with h | h | h | h | h | h | ⟨hr, hq, h⟩
  · exact h1 h
  · exact h h2
  · exact h h3
  · exact h h4
  · exact Nat.not_le.mpr h h5
  · obtain ⟨row, hrow, hne⟩ := h
    exact hne (h6 row hrow)
  · obtain ⟨hvr, hvq⟩ := (checkLetters_none al c.index c.r c.q hr hq).mp h7
    rcases h with ⟨l, hl, hneg⟩ | ⟨l, hl, hneg⟩
    · have := hvr l hl; omega
    · have := hvq l hl; omega

/-- conversely a legal call (non-empty sequences) returns pairs -/
theorem align_legal_ok (al : Aligner) (c : Call)
    (h1 : c.refAlpha ≠ none) (h2 : c.refAlpha = c.qryAlpha) (h3 : c.gapIndex = 0) (h4 : c.refQ = c.qryQ)
    (h5 : c.alphaLen ≤ c.mat.length) (h6 : ∀ row ∈ c.mat, row.length = c.mat.length)
    (hr : c.r ≠ []) (hq : c.q ≠ []) (hvr : ∀ l ∈ c.r, 0 ≤ c.index l) (hvq : ∀ l ∈ c.q, 0 ≤ c.index l) :
    ∃ ps, align al c = .ok ps := by
  have hacc : Accepted al c :=
    ⟨h1, h2, h3, h4, h5, h6, (checkLetters_none al c.index c.r c.q hr hq).mpr ⟨hvr, hvq⟩⟩
  obtain ⟨ps, hc⟩ := core_some al (callS c) (callR c) (callQ c)
  refine ⟨ps, ?_⟩
  rw [align_of_accepted al c hacc, if_neg fun h => hq (List.map_eq_nil_iff.mp (List.isEmpty_iff.mp h.2)), hc]

/-- "Aligning quality-carrying sequences gives the same pairs as aligning plain sequences with
    the same letters" — static half: each of the twelve committed `*_letters.go` /
    `*_qletters.go` files is byte-for-byte what `genCode.sh` (the `gofmt -r` pipeline) produces
    from its `*_type.got` template, so the two variants of every aligner differ exactly by the
    rewrite rules (`Type → alphabet.Letters | alphabet.QLetters`, `xSeq[i] → xSeq[i].L`, names).
    The facts are regenerated from the working tree on every run; a hand edit of a generated
    file (or of a template without regeneration) turns one of them into `false`.  The dynamic
    half (Letters result = QLetters result on every case) is evaluated by the driver. -/
theorem generated_files_are_template_instances :
    Biogo.Generated.AlignTemplates.all.all (·.2) = true ∧
    Biogo.Generated.AlignTemplates.all.length = 12 ∧
    Biogo.Generated.AlignTemplates.generatedFileCount = 12 := by
  decide

/-! ### non-vacuity -/

open Biogo.Properties.C08_lin in
example : wellFormed .global 3 2 [⟨0, 1, 0, 1, 2⟩, ⟨1, 2, 1, 1, -1⟩, ⟨2, 3, 1, 2, 2⟩] = true := by decide +kernel
example : wellFormed .global 3 2 [⟨0, 1, 0, 1, 2⟩, ⟨2, 3, 1, 2, 2⟩] = false := by decide +kernel
open Biogo.Properties.C08_lin in
example : ∃ e, align .nw (exCall [97, 122] [97]) = .error e := ⟨.illegalR 1, by decide +kernel⟩
open Biogo.Properties.C08_lin in
example : ∃ e, align .fit { exCall [97] [97] with mat := [[0, -1], [-1, 2]] } = .error e :=
  ⟨.wrongSize 2 3, by decide +kernel⟩
/- matrix shapes relative to the 3-letter alphabet: an oversized square (5×5) is legal
   (`align_legal_ok`: `alphaLen ≤ mat.length`), an oversized matrix with a ragged row beyond the
   alphabet's rows, a wide and a tall one are `ErrMatrixNotSquare` (`align_total`, clause "a row
   whose length differs from the number of rows"), an undersized ragged one is
   `ErrMatrixWrongSize` (the size check comes first) — for every aligner -/
open Biogo.Properties.C08_lin in
example : ∀ al, (match align al (exCallOver [97, 98] [98]) with | .ok _ => true | _ => false) = true := by
  intro al; cases al <;> decide +kernel
open Biogo.Properties.C08_lin in
example : ∀ al, align al { exCall [97] [97] with mat := [[0, -1, -1, 7], [-1, 2, -1, 7], [-1, -1, 2, 7], [7, 7, 7]] }
    = .error .notSquare := by intro al; cases al <;> decide +kernel
open Biogo.Properties.C08_lin in
example : ∀ al, align al { exCall [97] [97] with mat := [[0, -1, -1, 7], [-1, 2, -1, 7], [-1, -1, 2, 7]] }
    = .error .notSquare := by intro al; cases al <;> decide +kernel
open Biogo.Properties.C08_lin in
example : ∀ al, align al { exCall [97] [97] with mat := [[0, -1, -1], [-1, 2, -1], [-1, -1, 2], [7, 7, 7]] }
    = .error .notSquare := by intro al; cases al <;> decide +kernel
open Biogo.Properties.C08_lin in
example : ∀ al, align al { exCall [97] [97] with mat := [[0, -1, -1], [-1, 2]] }
    = .error (.wrongSize 2 3) := by intro al; cases al <;> decide +kernel
example : formatRows (45 : UInt8) [97, 98, 97] [97, 97] [⟨0, 1, 0, 1, 2⟩, ⟨1, 2, 1, 1, -1⟩, ⟨2, 3, 1, 2, 2⟩]
    = ([97, 98, 97], [97, 45, 97]) := by decide +kernel

end Biogo.Properties.C09_lin
