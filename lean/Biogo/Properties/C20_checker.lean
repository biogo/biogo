/-
C20 — the executable statement the driver evaluates on the implementation's output
(`Spec.GeneCheck.addStatement`, `txStatement`, `gfStatement`, built from `sortedDisjoint`, `tiles`,
`abuts`, `alternate`, `intronsFit`, `utrOrder`, `maxStop`) implies the declarative
statements of C20: sorted and pairwise non-overlapping, introns are exactly the gaps, every
position of `[0, Len)` lies in exactly one piece, rejected updates change nothing.
-/
import Biogo.Spec.Gene
import Biogo.Spec.GeneCheck
import Biogo.Proofs.Gene
import Biogo.Drive.C20
import Biogo.Properties.C20

namespace Biogo.Properties.C20_checker
open Biogo.Gene Biogo.Feat Biogo.Spec.Gene Biogo.Spec.GeneCheck Biogo.Proofs.Gene

/-- `sortedDisjoint` (a test of consecutive exons) is the pairwise statement: every earlier exon
    starts no later than, and ends no later than the start of, every later one, on one location -/
theorem sortedDisjoint_iff (l : List Exon) : sortedDisjoint l = true ↔ Disjoint l := by
  refine ⟨disjoint_of_sortedDisjoint l, fun h => ?_⟩
  induction l with
  | nil => rfl
  | cons a l ih =>
    cases l with
    | nil => rfl
    | cons b rest =>
      have h' := List.pairwise_cons.mp h
      have hab := h'.1 b List.mem_cons_self
      simp only [sortedDisjoint, adjOK, ih h'.2, hab.1, hab.2.1, hab.2.2, decide_true, Bool.and_self]

/-- position `p` lies in exactly one piece of the list (one occurrence) -/
def CoveredOnce (ps : List Piece) (p : Int) : Prop :=
  ∃ l1 x l2, ps = l1 ++ x :: l2 ∧ (x.1 ≤ p ∧ p < x.2) ∧
    (∀ y ∈ l1, ¬ (y.1 ≤ p ∧ p < y.2)) ∧ (∀ y ∈ l2, ¬ (y.1 ≤ p ∧ p < y.2))

theorem cover_zero_iff (ps : List Piece) (p : Int) :
    cover ps p = 0 ↔ ∀ y ∈ ps, ¬ (y.1 ≤ p ∧ p < y.2) := by
  simp only [cover, List.length_eq_zero_iff, List.filter_eq_nil_iff, has_iff]

/-- exactly one piece of `x :: ps` holds `p`: `x` and none of `ps`, or not `x` and exactly one of `ps` -/
theorem coveredOnce_cons (x : Piece) (ps : List Piece) (p : Int) :
    CoveredOnce (x :: ps) p ↔
      ((x.1 ≤ p ∧ p < x.2) ∧ ∀ y ∈ ps, ¬ (y.1 ≤ p ∧ p < y.2)) ∨
      (¬ (x.1 ≤ p ∧ p < x.2) ∧ CoveredOnce ps p) := by
  constructor
  · rintro ⟨l1, y, l2, heq, hy, h1, h2⟩
    cases l1 with
    | nil => cases heq; exact Or.inl ⟨hy, h2⟩
    | cons z l1 =>
      cases heq
      exact Or.inr ⟨h1 _ List.mem_cons_self, l1, y, l2, rfl, hy,
        fun w hw => h1 w (List.mem_cons_of_mem _ hw), h2⟩
  · rintro (⟨hx, h⟩ | ⟨hx, l1, y, l2, rfl, hy, h1, h2⟩)
    · exact ⟨[], x, ps, rfl, hx, fun _ h => absurd h List.not_mem_nil, h⟩
    · exact ⟨x :: l1, y, l2, rfl, hy, List.forall_mem_cons.mpr ⟨hx, h1⟩, h2⟩

/-- the count `tiles_cover` speaks of is 1 exactly when one piece holds `p` -/
theorem cover_one_iff (ps : List Piece) (p : Int) : cover ps p = 1 ↔ CoveredOnce ps p := by
  induction ps with
  | nil => exact ⟨(fun h => nomatch h), fun ⟨l1, _, _, h, _⟩ => by cases l1 <;> cases h⟩
  | cons x ps ih =>
    rw [cover_cons, coveredOnce_cons, ← ih, ← cover_zero_iff, ← has_iff]
    by_cases hx : x.has p = true
    · simp only [hx, if_true, true_and, not_true_eq_false, false_and, or_false]; omega
    · simp only [hx, Bool.false_eq_true, if_false, Nat.zero_add, false_and, not_false_eq_true,
        true_and, false_or]

/-- **`tiles` gives the partition**: if the pieces tile `[a, b)` in order, every position of
    `[a, b)` lies in exactly one piece and every position outside in none -/
theorem tiles_partition (a b : Int) (ps : List Piece) (h : tiles a b ps = true) (p : Int) :
    (a ≤ p ∧ p < b → CoveredOnce ps p) ∧ (¬ (a ≤ p ∧ p < b) → ∀ y ∈ ps, ¬ (y.1 ≤ p ∧ p < y.2)) := by
  have hc := tiles_cover a b ps h p
  constructor
  · intro hp; rw [if_pos hp] at hc; exact (cover_one_iff ps p).mp hc
  · intro hp; rw [if_neg hp] at hc; exact (cover_zero_iff ps p).mp hc

/-- the introns are exactly the gaps between consecutive exons: intron `i` runs from the end of
    exon `i` to the start of exon `i+1`, on the location of the latter -/
def IntronsAreGaps (es : List Exon) (is : List Intron) : Prop :=
  ∀ i (h1 : i < is.length) (h2 : i + 1 < es.length),
    is[i].start = es[i].stop ∧ is[i].stop = es[i + 1].start ∧ is[i].loc = es[i + 1].loc

theorem intronsFit_iff (es : List Exon) (is : List Intron) :
    intronsFit es is = true ↔ IntronsAreGaps es is := by
  fun_induction intronsFit es is with
  | case1 a b rest i is ih =>
    -- index 0 is the head clause; index `j + 1` of the longer lists is index `j` of the tails
    simp only [Bool.and_eq_true, decide_eq_true_eq, ih]
    constructor
    · rintro ⟨⟨⟨h1, h2⟩, h3⟩, h4⟩ j hj1 hj2
      cases j with
      | zero => exact ⟨h1, h2, h3⟩
      | succ j => exact h4 j (Nat.lt_of_succ_lt_succ hj1) (Nat.lt_of_succ_lt_succ hj2)
    · intro h
      have h0 := h 0 (Nat.zero_lt_succ _) (Nat.succ_lt_succ (Nat.zero_lt_succ _))
      exact ⟨⟨⟨h0.1, h0.2.1⟩, h0.2.2⟩,
        fun j hj1 hj2 => h (j + 1) (Nat.succ_lt_succ hj1) (Nat.succ_lt_succ hj2)⟩
  | case2 es is hno =>
    -- fewer than two exons or no intron: nothing is demanded, and no index is in range
    refine iff_of_true rfl fun j h1 h2 => ?_
    match es, is, h1, h2 with
    | a :: b :: rest, i :: is, _, _ => exact absurd rfl (hno a b rest i is rfl)

/-- `alternate`: one intron between consecutive exons, none elsewhere -/
theorem alternate_iff (es : List Exon) (is : List Intron) :
    alternate es is = true ↔ (is.length + 1 = es.length ∨ (es = [] ∧ is = [])) := by
  simp [alternate, List.isEmpty_iff]

theorem maxStop_spec (fs : List FeatIv) :
    (∀ f ∈ fs, f.stop ≤ maxStop fs) ∧ 0 ≤ maxStop fs ∧
      (maxStop fs = 0 ∨ ∃ f ∈ fs, f.stop = maxStop fs) := by
  induction fs with
  | nil => exact ⟨fun _ h => absurd h List.not_mem_nil, Int.le_refl _, Or.inl rfl⟩
  | cons f fs ih =>
    obtain ⟨h1, h2, h3⟩ := ih
    simp only [maxStop, List.mem_cons, forall_eq_or_imp, exists_eq_or_imp]
    refine ⟨⟨Int.le_max_left _ _, fun g hg => Int.le_trans (h1 g hg) (Int.le_max_right _ _)⟩,
      Int.le_trans h2 (Int.le_max_right _ _), ?_⟩
    rcases Int.le_total f.stop (maxStop fs) with hle | hle
    · rw [Int.max_eq_right hle]; exact h3.imp id Or.inr
    · rw [Int.max_eq_left hle]; exact Or.inr (Or.inl rfl)

/-- the gene length the checker demands: the largest end, 0 at least -/
theorem maxStop_iff (fs : List FeatIv) (l : Int) :
    l = maxStop fs ↔ ((∀ f ∈ fs, f.stop ≤ l) ∧ 0 ≤ l ∧ (l = 0 ∨ ∃ f ∈ fs, f.stop = l)) := by
  obtain ⟨h1, h2, h3⟩ := maxStop_spec fs
  constructor
  · rintro rfl; exact ⟨h1, h2, h3⟩
  · rintro ⟨g1, g2, g3⟩
    -- each of the two numbers is 0 or the end of a feature, hence at most the other
    have hle : maxStop fs ≤ l := by
      rcases h3 with h | ⟨f, hf, h⟩
      · rw [h]; exact g2
      · rw [← h]; exact g1 f hf
    have hge : l ≤ maxStop fs := by
      rcases g3 with h | ⟨f, hf, h⟩
      · rw [h]; exact h2
      · rw [← h]; exact h1 f hf
    exact Int.le_antisymm hge hle

theorem firstViolation_cons (c : Bool) (m : String) (rest : List (Bool × String)) :
    firstViolation ((c, m) :: rest) = none ↔ c = false ∧ firstViolation rest = none := by
  cases c <;> simp [firstViolation]

theorem firstViolation_nil : firstViolation [] = none := rfl

/-- **`Exons.Add`, checker = statement**: the driver reports no violation for one `Add` call
    exactly when — rejected: the receiver's cells read as before, the returned slice is the old
    one (`rejected_add_unchanged`) and a held earlier value of the variable (whose live data may be
    the receiver's spare capacity) reads as before (`add_keeps_held_history`); accepted: the returned
    exons are pairwise sorted and non-overlapping on one location and are a permutation of the old
    exons plus the arguments (`accepted_sorted_disjoint`). -/
theorem add_checker_iff (accepted : Bool) (old afterOld res args heldOld heldAfter : List Exon) :
    addStatement accepted old afterOld res args heldOld heldAfter = none ↔
      (accepted = false → afterOld = old ∧ res = old ∧ heldAfter = heldOld) ∧
      (accepted = true → Disjoint res ∧ res.Perm (old ++ args)) := by
  simp only [addStatement, addClauses, firstViolation_cons, firstViolation_nil, and_true]
  cases accepted
  · simp
  · simp only [Bool.not_true, Bool.false_and, Bool.true_and, Bool.not_eq_false', true_and,
      reduceCtorEq, false_implies, forall_const]
    rw [sortedDisjoint_iff, List.isPerm_iff]

/-- what is demanded of a transcript after every operation (`S`, `R`: updates; `A`, `Z`: an `Add`
    on (a re-slice of) `t.Exons()` whose result is dropped; `O`, `M`: the orientation / the start of a
    feature of the location chain was assigned — `node`, `loc` are the chain after the operation, so
    `utr_cds` demands the order dictated by the *current* product of orientations) -/
structure TxOK (coding : Bool) (node : Node) (loc : Chain) (cdsStart cdsEnd : Int)
    (kind : String) (accepted : Bool) (args prev es : List Exon) (is : List Intron)
    (tstart tend tlen : Int) (utr : Option (Piece × Piece × Piece)) (sh : String) : Prop where
  /-- after an accepted operation the exons are sorted and pairwise non-overlapping, on the
      transcript, start at 0, and are the given ones: the arguments of `SetExons`, or — after an
      `Add` whose result is dropped or a change of the location chain — still the set accepted last -/
  accepted_exons : accepted = true →
    Disjoint es ∧ (∀ e ∈ es, e.loc = 1) ∧ startOf es = 0 ∧
      es.Perm (if kind = "R" then prev ++ args
       else if kind = "A" ∨ kind = "Z" ∨ kind = "O" ∨ kind = "M" then prev else args)
  /-- exons and introns alternate, the introns are the gaps -/
  alternate : is.length + 1 = es.length ∨ (es = [] ∧ is = [])
  gaps : IntronsAreGaps es is
  /-- exon, intron, exon, … tile `[0, Len)` in order: every position of the transcript lies in
      exactly one of them, every other position in none -/
  tiling : (∀ e ∈ es, 0 ≤ e.len) →
    tiles 0 tlen (interleave es is) = true ∧
    ∀ p, (0 ≤ p ∧ p < tlen → CoveredOnce (interleave es is) p) ∧
         (¬ (0 ≤ p ∧ p < tlen) → ∀ y ∈ interleave es is, ¬ (y.1 ≤ p ∧ p < y.2))
  span : tstart = node.start ∧ tend = tstart + tlen
  /-- a coding transcript with an orientation: the three regions are defined, the CDS is
      `[CDSstart, CDSend)`, they abut from 0 to `Len` in the order dictated by the base
      orientation, and for `0 ≤ CDSstart ≤ CDSend ≤ Len` they partition `[0, Len)` -/
  utr_cds : coding = true → node.oriented = true →
    ∃ u5 cds u3, utr = some (u5, cds, u3) ∧ cds = (cdsStart, cdsEnd) ∧
      abuts 0 tlen (utrOrder (orientProduct (node :: loc)) u5 cds u3) = true ∧
      (0 ≤ cdsStart → cdsStart ≤ cdsEnd → cdsEnd ≤ tlen →
        tiles 0 tlen (utrOrder (orientProduct (node :: loc)) u5 cds u3) = true ∧
        ∀ p, (0 ≤ p ∧ p < tlen → CoveredOnce (utrOrder (orientProduct (node :: loc)) u5 cds u3) p) ∧
             (¬ (0 ≤ p ∧ p < tlen) →
               ∀ y ∈ utrOrder (orientProduct (node :: loc)) u5 cds u3, ¬ (y.1 ≤ p ∧ p < y.2))) ∧
      sh = s!"{u5.1},{u5.2},{u3.1},{u3.2}"

theorem givenExons_eq (kind : String) (args prev : List Exon) :
    givenExons kind args prev =
      (if kind = "R" then prev ++ args
       else if kind = "A" ∨ kind = "Z" ∨ kind = "O" ∨ kind = "M" then prev else args) := by
  simp only [givenExons, dropped, chainChange, beq_iff_eq, Bool.or_eq_true, or_assoc]

/-- **transcripts, checker ⇒ statement**: when the driver reports no violation for a transcript
    after an operation, then — rejected (any kind, `Z` = `t.Exons()[:j].Add(…)` included): the exon
    set shown is the previous one (`rejected_update_unchanged_history`); and after every operation,
    everything in `TxOK` — the conclusions of `exons_introns_tile` and `utr_cds_tile` with "every
    position of `[0, Len)` lies in exactly one piece" spelled out, and after an accepted `Add` whose
    result was dropped the exons shown are still the ones accepted last
    (`dropped_add_unchanged_history`). -/
theorem tx_checker_sound (coding : Bool) (node : Node) (loc : Chain) (cdsStart cdsEnd : Int)
    (kind : String) (accepted : Bool) (args prev es : List Exon) (is : List Intron)
    (tstart tend tlen : Int) (utr : Option (Piece × Piece × Piece)) (sh : String)
    (h : txStatement coding node loc cdsStart cdsEnd kind accepted args prev es is tstart tend tlen utr sh = none) :
    (accepted = false → es = prev) ∧
      TxOK coding node loc cdsStart cdsEnd kind accepted args prev es is tstart tend tlen utr sh := by
  simp only [txStatement, txClauses, firstViolation_cons, firstViolation_nil, and_true] at h
  obtain ⟨c1, c2, c3, c4, c5, c6, c7, c8, c9, c10, c11, c12, c13, c14⟩ := h
  refine ⟨fun ha => ?_, fun ha => ?_, ?_, ?_, fun hnn => ?_, ?_, fun hc ho => ?_⟩
  · subst ha; simpa using c1
  · subst ha
    simp only [Bool.true_and, Bool.not_eq_false', decide_eq_false_iff_not, Decidable.not_not] at c2 c3 c4 c5
    exact ⟨(sortedDisjoint_iff es).mp c2, fun e he => by simpa using List.all_eq_true.mp c3 e he, c4,
      givenExons_eq kind args prev ▸ List.isPerm_iff.mp c5⟩
  · exact (alternate_iff es is).mp (by simpa using c6)
  · exact (intronsFit_iff es is).mp (by simpa using c7)
  · have hn : nonNeg es = true := by
      simp only [nonNeg, List.all_eq_true, decide_eq_true_eq]; exact hnn
    have ht : tiles 0 tlen (interleave es is) = true := by simpa [hn] using c8
    exact ⟨ht, tiles_partition 0 tlen _ ht⟩
  · simpa using c9
  · rw [hc, ho] at c10 c11 c12 c13 c14
    cases utr with
    | none => simp at c10
    | some u =>
      obtain ⟨u5, cds, u3⟩ := u
      simp only [Option.isSome_some, Option.getD_some, Bool.true_and, decide_eq_false_iff_not,
        Decidable.not_not, Bool.not_eq_false'] at c11 c12 c14
      refine ⟨u5, cds, u3, rfl, c11, c12, fun h1 h2 h3 => ?_, c14⟩
      simp only [Option.isSome_some, Option.getD_some, Bool.true_and, decide_eq_true h1,
        decide_eq_true h2, decide_eq_true h3, Bool.not_eq_false'] at c13
      exact ⟨c13, tiles_partition 0 tlen _ c13⟩

/-- **the location clause of `intronsFit` demands "the introns lie on the transcript", nothing
    more**: when all exons are on the transcript `tid` (which `txStatement` demands of accepted
    exons), "intron `i` is on the location of exon `i+1`" is "intron `i` is on the transcript" — a
    piece that is to tile *the transcript* has to be an interval of the transcript's coordinates. -/
theorem introns_gaps_on_transcript (tid : Nat) (es : List Exon) (is : List Intron)
    (hes : ∀ e ∈ es, e.loc = tid) :
    IntronsAreGaps es is ↔
      ∀ i (h1 : i < is.length) (h2 : i + 1 < es.length),
        is[i].start = es[i].stop ∧ is[i].stop = es[i + 1].start ∧ is[i].loc = tid := by
  constructor
  · intro h i h1 h2
    obtain ⟨a, b, c⟩ := h i h1 h2
    exact ⟨a, b, c.trans (hes _ (List.getElem_mem h2))⟩
  · intro h i h1 h2
    obtain ⟨a, b, c⟩ := h i h1 h2
    exact ⟨a, b, c.trans (hes _ (List.getElem_mem h2)).symm⟩

-- non-vacuity: the three exons 0–10, 10–15, 30–35 with introns 10–10 and 15–30 pass every clause
example : txStatement false ⟨1, 100, some 1⟩ [] 0 0 "S" true
    [⟨1, 30, 5, 3⟩, ⟨1, 0, 10, 1⟩, ⟨1, 10, 5, 2⟩] []
    [⟨1, 0, 10, 1⟩, ⟨1, 10, 5, 2⟩, ⟨1, 30, 5, 3⟩] [⟨1, 10, 0⟩, ⟨1, 15, 15⟩] 100 135 35 none "-" = none := by
  decide +kernel

-- … and a coding transcript on the reverse strand, CDS [5, 30): 3'UTR [0,5), CDS, 5'UTR [30,35)
example : txStatement true ⟨1, 100, some (-1)⟩ [] 5 30 "S" true
    [⟨1, 0, 35, 1⟩] [] [⟨1, 0, 35, 1⟩] [] 100 135 35 (some ((30, 35), (5, 30), (0, 5))) "30,35,0,5" = none := by
  decide +kernel

/-- **`Gene.SetFeatures`, checker ⇒ statement**: rejected — the gene's length and feature list are
    as before (`rejected_setFeatures_unchanged`); accepted — the features shown are the given ones,
    all on the gene, none starts below 0 and one starts at 0, all end within the gene's length,
    which is 0 or the end of one of them, and `Start/End/Len` are consistent
    (`accepted_setFeatures`). -/
theorem gf_checker_sound (accepted : Bool) (fs : List FeatIv) (off s en l plen : Int)
    (tagsSame tagsGiven : Bool)
    (h : gfStatement accepted fs off s en l plen tagsSame tagsGiven = none) :
    (accepted = false → l = plen ∧ tagsSame = true) ∧
    (accepted = true → tagsGiven = true ∧ (∀ f ∈ fs, f.loc = 1 ∧ 0 ≤ f.start ∧ f.stop ≤ l) ∧
      (∃ f ∈ fs, f.start = 0) ∧ 0 ≤ l ∧ (l = 0 ∨ ∃ f ∈ fs, f.stop = l) ∧ s = off ∧ en = s + l) := by
  simp only [gfStatement, gfClauses, firstViolation_cons, firstViolation_nil, and_true] at h
  obtain ⟨c1, c2, c3, c4, c5, c6⟩ := h
  constructor
  · intro ha; subst ha
    simpa using c1
  · intro ha; subst ha
    simp only [Bool.true_and, Bool.not_eq_false', Bool.or_eq_false_iff, decide_eq_false_iff_not,
      Decidable.not_not] at c2 c3 c4 c5 c6
    obtain ⟨hm1, hm2, hm3⟩ := (maxStop_iff fs l).mp c5
    refine ⟨c2, fun f hf => ⟨by simpa using List.all_eq_true.mp c3 f hf, ?_, hm1 f hf⟩,
      by simpa using c4.1, hm2, hm3, c6.1, c6.2⟩
    simpa using List.any_eq_false.mp c4.2 f hf

/-! ### nested positions: the closed forms `specQuery` compares with

`specQuery` compares the implementation's answers (as strings) with `p + startSum (segment nodes i j)`,
`orientAll (segment nodes i j)`, `startSum`/`lastId`/`baseOrientSpec` of `nodes.drop i`.  The last three are
the right-hand sides of `basePositionOf_eq` / `baseOrientationOf_eq` verbatim (the chain seen from node `i`
*is* `nodes.drop i`).  For the first two, the chain of the theorems is `pre ++ m :: rest`; the lemmas below
say that this is the driver's `segment`: for nodes numbered `1, 2, …` as `parseChainFrom 1` numbers them,
the model's answers are the closed forms the driver demands. -/

open Biogo.Drive.C20 in
theorem chain_split (nodes : List Node) (i j : Nat) (hij : i ≤ j) (hj : j < nodes.length) :
    nodes.drop i = segment nodes i j ++ nodes[j] :: nodes.drop (j + 1) := by
  unfold segment
  conv => lhs; rw [← List.take_append_drop (j - i) (nodes.drop i)]
  rw [List.drop_drop, show i + (j - i) = j by omega, List.drop_eq_getElem_cons hj]

open Biogo.Drive.C20 in
theorem segment_length (nodes : List Node) (i j : Nat) (hj : j < nodes.length) :
    (segment nodes i j).length = j - i := by
  unfold segment
  rw [List.length_take, List.length_drop]
  exact Nat.min_eq_left (Nat.sub_le_sub_right (Nat.le_of_lt hj) i)

open Biogo.Drive.C20 in
/-- the nodes of `segment nodes i j` have indices below `j`, hence other identities than node `j` -/
theorem mem_segment (nodes : List Node) (hid : ∀ idx (h : idx < nodes.length), nodes[idx].id = idx + 1)
    (i j : Nat) (x : Node) (hx : x ∈ segment nodes i j) : x.id ≠ j + 1 := by
  unfold segment at hx
  obtain ⟨t, ht, rfl⟩ := List.mem_take_iff_getElem.mp hx
  rw [List.getElem_drop, hid]
  have : t < j - i := Nat.lt_of_lt_of_le ht (Nat.min_le_left _ _)
  omega

open Biogo.Drive.C20 in
/-- clause "PositionWithin-is-not-the-sum-of-starts": what the driver demands of
    `PositionWithin(node i, node j, p)` for `i ≤ j`, fewer than 1000 links apart, is what the model
    answers (`positionWithin_eq`) -/
theorem query_positionWithin (nodes : List Node)
    (hid : ∀ idx (h : idx < nodes.length), nodes[idx].id = idx + 1)
    (i j : Nat) (p : Int) (hij : i ≤ j) (hj : j < nodes.length) (hlim : j - i < limit) :
    positionWithin (nodes.drop i) (some (j + 1)) p = .ok (p + startSum (segment nodes i j), true) := by
  rw [chain_split nodes i j hij hj]
  have := Biogo.Properties.C20.positionWithin_eq (segment nodes i j) nodes[j] (nodes.drop (j + 1)) p
    (fun x hx => by rw [hid j hj]; exact mem_segment nodes hid i j x hx)
    (by rw [segment_length nodes i j hj]; exact hlim)
  rw [hid j hj] at this
  exact this

open Biogo.Drive.C20 in
/-- clause "OrientationWithin-is-not-the-product", for a proper ancestor `i < j` -/
theorem query_orientationWithin (nodes : List Node)
    (hid : ∀ idx (h : idx < nodes.length), nodes[idx].id = idx + 1)
    (i j : Nat) (hij : i < j) (hj : j < nodes.length) (hlim : j - i ≤ limit) :
    orientationWithin (nodes.drop i) (some (j + 1)) = .ok (orientAll (segment nodes i j)) := by
  rw [chain_split nodes i j (Nat.le_of_lt hij) hj]
  have hl := segment_length nodes i j hj
  cases hseg : segment nodes i j with
  | nil => rw [hseg] at hl; exact absurd hl.symm (Nat.sub_ne_zero_of_lt hij)
  | cons x pre =>
    have hlen : (x :: pre).length ≤ limit := by rw [← hseg, hl]; exact hlim
    have := Biogo.Properties.C20.orientationWithin_eq x pre nodes[j] (nodes.drop (j + 1))
      (fun y hy => by rw [hid j hj]; exact mem_segment nodes hid i j y (hseg ▸ hy)) hlen
    rw [hid j hj] at this
    exact this

end Biogo.Properties.C20_checker
