/-
C10 — K-mer index returns exactly the occurrences of every k-mer.
-/
import Biogo.Model.Kmer
import Biogo.Spec.Kmer
import Biogo.Proofs.Kmer
import Biogo.Proofs.KmerIndex
import Biogo.Proofs.KmerWord
import Biogo.Proofs.KmerComplement
import Biogo.Generated.KmerFacts

namespace Biogo.Properties.C10
open Biogo.Kmer Biogo.Spec.Kmer Biogo.Proofs.Kmer Biogo.Proofs.KmerIndex Biogo.Proofs.KmerWord

/-- the constants the model assumes are the constants of the package as compiled -/
theorem facts_tie :
    Biogo.Generated.KmerFacts.kmerBits = wordBits ∧
    Biogo.Generated.KmerFacts.minKmerLen = minKmerLen ∧
    Biogo.Generated.KmerFacts.maxKmerLen = maxKmerLen ∧
    2 * maxKmerLen ≤ wordBits := by decide

/-- "Iterating k-mers over any sub-range visits exactly the valid windows of that range in
    increasing order": for every sequence, every `start`, `end` (in range or not) and every `k`
    that fits the word type, the callback arguments of `ForEachKmerOf` are the list
    `validWindows` of the plain scan; and no error is returned when the range is inside the
    sequence. -/
theorem foreach_spec {lk : Lookup} (hlk : FourLetter lk) (k : Nat) (hk : 1 ≤ k) (hk2 : 2 * k ≤ wordBits)
    (s : List UInt8) (start end_ : Nat) :
    (forEachKmer lk k s start end_).calls = validWindows lk k s start end_ ∧
    (start + (k - 1) ≤ s.length → end_ ≤ s.length → (forEachKmer lk k s start end_).err = false) :=
  ⟨forEachKmer_calls hlk k hk hk2 s start end_, forEachKmer_err lk k s start end_⟩

/-- what the list `validWindows` is: `(p, w)` is in it exactly when `p` lies in the range with its
    whole window (`start ≤ p`, `p + k ≤ end`) and the `k` letters at `p` are all valid and spell
    `w`; and the list is strictly increasing in `p`. -/
theorem validWindows_spec (lk : Lookup) (k : Nat) (s : List UInt8) (start end_ : Nat) :
    (∀ c : Nat × Nat, c ∈ validWindows lk k s start end_ ↔
      start ≤ c.1 ∧ c.1 + k ≤ end_ ∧ c.1 - start < (s.drop start).length ∧ wordAt lk k s c.1 = some c.2) ∧
    (validWindows lk k s start end_).Pairwise (fun a b => a.1 < b.1) := by
  constructor
  · intro c
    unfold validWindows wordAt
    rw [List.mem_filter, mem_wordsFrom_iff, List.drop_drop, decide_eq_true_eq]
    constructor
    · rintro ⟨⟨h1, h2, h3⟩, h4⟩
      exact ⟨h1, h4, h2, Nat.add_sub_of_le h1 ▸ h3⟩
    · rintro ⟨h1, h2, h3, h4⟩
      exact ⟨⟨h1, h3, (Nat.add_sub_of_le h1).symm ▸ h4⟩, h2⟩
  · exact (wordsFrom_pairwise lk k _ start).filter _

-- non-vacuity: a real lookup, a window with an invalid letter inside, a proper sub-range
example :
    let lk : Lookup := fun b => if b = 97 then some 0 else if b = 99 then some 1 else if b = 103 then some 2
      else if b = 116 then some 3 else none
    (forEachKmer lk 4 [97, 99, 103, 116, 110, 97, 97, 99, 103, 116, 116] 1 11).calls = [(5, 6), (6, 27), (7, 111)] := by
  decide

/-- supported parameters (`MinKmerLen ≤ k ≤ MaxKmerLen`, a sequence of at least `k+1` letters, a
    four-letter alphabet): `New` succeeds with the table of the callbacks of the whole sequence -/
theorem new_ok (lk : Lookup) (k : Nat) (s : List UInt8) (hk : minKmerLen ≤ k) (hk' : k ≤ maxKmerLen)
    (hs : k + 1 ≤ s.length) :
    new lk 4 k s = .ok { k, seq := s, finger := buildTable k (forEachKmer lk k s 0 s.length).calls,
                         pos := #[], indexed := false } := by
  unfold new newCheck
  rw [if_neg (by omega), if_neg (by omega), if_neg (by omega), if_neg (by omega)]

theorem supported_k {k : Nat} (hk : minKmerLen ≤ k) (hk' : k ≤ maxKmerLen) : 1 ≤ k ∧ 2 * k ≤ wordBits := by
  unfold minKmerLen at hk; unfold maxKmerLen at hk'; unfold wordBits; omega

/-- `Build` on the index `New` returns leaves every window in the bucket of its word -/
theorem new_build_inv {lk : Lookup} (hlk : FourLetter lk) (k : Nat) (s : List UInt8)
    (hk : minKmerLen ≤ k) (hk' : k ≤ maxKmerLen) (hs : k + 1 ≤ s.length) :
    let ix := build lk { k, seq := s, finger := buildTable k (forEachKmer lk k s 0 s.length).calls,
                         pos := #[], indexed := false }
    PlaceInv (allWindows lk k s) (allWindows lk k s) (pow4 k) ix.finger ix.pos := by
  obtain ⟨hk1, hk2⟩ := supported_k hk hk'
  exact build_inv hlk k hk1 hk2 s (by omega) _ rfl rfl (new_finger hlk k hk1 hk2 s)

/-- "the pre-build frequency table equals the occurrence counts": after `New`, finger entry `w`
    is the number of positions where word `w` occurs with no invalid letter inside it, and
    `KmerFrequencies` is the list of the non-zero counts. -/
theorem freq_spec {lk : Lookup} (hlk : FourLetter lk) (k : Nat) (s : List UInt8)
    (hk : minKmerLen ≤ k) (hk' : k ≤ maxKmerLen) (hs : k + 1 ≤ s.length) :
    ∃ ix, new lk 4 k s = .ok ix ∧
      (∀ w, w ≤ 4 ^ k → rd ix.finger w = frequency lk k s w) ∧
      kmerFrequencies ix = some ((List.range (4 ^ k + 1)).filterMap fun w =>
        if frequency lk k s w > 0 then some (w, frequency lk k s w) else none) := by
  obtain ⟨hk1, hk2⟩ := supported_k hk hk'
  have hrd : ∀ w, w ≤ 4 ^ k → rd (buildTable k (forEachKmer lk k s 0 s.length).calls) w = frequency lk k s w :=
    fun w hw => by rw [new_finger hlk k hk1 hk2, rd_buildTable k _ w (pow4_eq k ▸ hw)]; rfl
  refine ⟨_, new_ok lk k s hk hk' hs, hrd, ?_⟩
  unfold kmerFrequencies
  simp only [Bool.false_eq_true, if_false]
  rw [collect_eq, List.append_nil, size_buildTable, pow4_eq]
  exact congrArg some (filterMap_congr _ _ _ fun w hw => by
    rw [hrd w (Nat.le_of_lt_succ (List.mem_range.mp hw))])

/-- "after building the index the positions reported for each k-mer are exactly the positions
    where that word occurs with no invalid letter inside it" (as a list in increasing order —
    `occurrences` is the plain scan filtered by the word), for every word below `4^k`, word 0 and
    the last word included; a k-mer outside the range is rejected. -/
theorem positions_spec {lk : Lookup} (hlk : FourLetter lk) (k : Nat) (s : List UInt8)
    (hk : minKmerLen ≤ k) (hk' : k ≤ maxKmerLen) (hs : k + 1 ≤ s.length) :
    ∃ ix, new lk 4 k s = .ok ix ∧
      (∀ w, w < 4 ^ k → kmerPositions (build lk ix) w = .ok (occurrences lk k s w)) ∧
      (∀ w, 4 ^ k ≤ w → kmerPositions (build lk ix) w = .error .badKmer) := by
  obtain ⟨hk1, hk2⟩ := supported_k hk hk'
  refine ⟨_, new_ok lk k s hk hk' hs, ?_, ?_⟩
  · intro w hw
    rw [kmerPositions_of_inv _ k hk2 _ rfl (new_build_inv hlk k s hk hk' hs) w hw]
    rfl
  · intro w hw
    show (if w > kMask k then _ else _) = _
    rw [kMask_eq k hk2, if_pos (Nat.sub_one_lt_of_le (four_pow_pos k) hw)]

/-- "words absent from the sequence report no positions" -/
theorem absent_spec (lk : Lookup) (k : Nat) (s : List UInt8) (w : Nat)
    (h : frequency lk k s w = 0) : occurrences lk k s w = [] :=
  List.eq_nil_of_length_eq_zero ((occ_length (allWindows lk k s) w).trans h)

/-- `check_true`: after `Build`, `Check()` finds every callback in its bucket: `(true, number of
    valid windows)` -/
theorem check_true {lk : Lookup} (hlk : FourLetter lk) (k : Nat) (s : List UInt8)
    (hk : minKmerLen ≤ k) (hk' : k ≤ maxKmerLen) (hs : k + 1 ≤ s.length) :
    ∃ ix, new lk 4 k s = .ok ix ∧ check lk (build lk ix) = (true, (allWindows lk k s).length) := by
  obtain ⟨hk1, hk2⟩ := supported_k hk hk'
  exact ⟨_, new_ok lk k s hk hk' hs,
    check_of_inv hlk k hk1 hk2 s (by omega) _ rfl rfl (new_build_inv hlk k s hk hk' hs)⟩

-- non-vacuity of the hypotheses of `freq_spec` / `positions_spec`, and a concrete index:
-- "acgtnaacgtt" at k = 4 has the words acgt (27) at 0 and 6, aacg (6) at 5, cgtt (111) at 7
example :
    let lk : Lookup := fun b => if b = 97 then some 0 else if b = 99 then some 1 else if b = 103 then some 2
      else if b = 116 then some 3 else none
    FourLetter lk ∧ minKmerLen ≤ 4 ∧ 4 ≤ maxKmerLen ∧
    occurrences lk 4 [97, 99, 103, 116, 110, 97, 97, 99, 103, 116, 116] 27 = [0, 6] ∧
    occurrences lk 4 [97, 99, 103, 116, 110, 97, 97, 99, 103, 116, 116] 0 = [] := by
  refine ⟨?_, by decide, by decide, by decide +kernel, by decide +kernel⟩
  intro b d h
  dsimp only at h
  by_cases h1 : b = 97
  · rw [if_pos h1] at h; cases h; decide
  by_cases h2 : b = 99
  · rw [if_neg h1, if_pos h2] at h; cases h; decide
  by_cases h3 : b = 103
  · rw [if_neg h1, if_neg h2, if_pos h3] at h; cases h; decide
  by_cases h4 : b = 116
  · rw [if_neg h1, if_neg h2, if_neg h3, if_pos h4] at h; cases h; decide
  · rw [if_neg h1, if_neg h2, if_neg h3, if_neg h4] at h; cases h

/-- `alpha.Letter(d)` is a letter whose index is `d` -/
def LetterOf (lk : Lookup) (letter : Nat → UInt8) : Prop := ∀ d, d < 4 → lk (letter d) = some d

theorem digits_map_letter {lk : Lookup} {letter : Nat → UInt8} (hl : LetterOf lk letter) (ds : List Nat)
    (h : ∀ d ∈ ds, d < 4) : digits lk (ds.map letter) = some ds := by
  induction ds with
  | nil => rfl
  | cons d ds ih =>
    rw [List.map_cons, digits, hl d (h d (by simp)), ih (fun x hx => h x (by simp [hx]))]

/-- "k-mer encoding … agree[s] with the corresponding string operations": a text of `k` valid
    letters is encoded as the base-4 numeral of its letter indices (for every `k` that fits the
    word type), and formatting that word gives back the letters of those indices. -/
theorem format_kmerOf {lk : Lookup} (hlk : FourLetter lk) (letter : Nat → UInt8) (k : Nat)
    (hk : 2 * k ≤ wordBits) (text : List UInt8) (ds : List Nat) (hlen : text.length = k)
    (hd : digits lk text = some ds) :
    kmerOf lk k text = .ok (encode ds) ∧ format letter k (encode ds) = ds.map letter := by
  constructor
  · unfold kmerOf
    rw [if_neg (by omega)]
    exact kmerOfLoop_ok hlk text ds hd 0 0 Nat.one_pos (by omega)
  · rw [format_eq, ← hlen, ← digits_length hd, toDigits_encode ds (digits_lt hlk hd)]

/-- "… formatting … agree[s] with the corresponding string operations": `Format` writes the `k`
    base-4 digits of the word as letters, most significant first, and `KmerOf` reads them back:
    `KmerOf(Format(w)) = w` for every word below `4^k`. -/
theorem kmerOf_format {lk : Lookup} (hlk : FourLetter lk) {letter : Nat → UInt8} (hl : LetterOf lk letter)
    (k : Nat) (hk : 2 * k ≤ wordBits) (w : Nat) (hw : w < 4 ^ k) :
    format letter k w = (toDigits k w).map letter ∧ kmerOf lk k (format letter k w) = .ok w := by
  refine ⟨format_eq letter k w, ?_⟩
  have hd := digits_map_letter hl (toDigits k w) (toDigits_lt k w)
  have := (format_kmerOf hlk letter k hk ((toDigits k w).map letter) (toDigits k w)
    (by rw [List.length_map, toDigits_length]) hd).1
  rw [format_eq, this, encode_toDigits, Nat.mod_eq_of_lt hw]

/-- texts of the wrong length or with an invalid letter are rejected -/
theorem kmerOf_rejects (lk : Lookup) (k : Nat) (text : List UInt8) :
    (text.length ≠ k → kmerOf lk k text = .error .badKmerTextLen) ∧
    (text.length = k → digits lk text = none → kmerOf lk k text = .error .badKmerText) := by
  constructor
  · intro h; unfold kmerOf; rw [if_pos h]
  · intro h hd; unfold kmerOf; rw [if_neg (by omega), kmerOfLoop_bad lk text hd]

/-- "GC fraction … agree[s] with the corresponding string operations": the numerator of `GCof`
    is the number of `c`/`g` digits among the `k` digits of the word (any `k`, any word) -/
theorem gc_spec (k w : Nat) : gcOf k w = gcCount (toDigits k w) := by
  unfold gcOf; rw [gcLoop_eq, Nat.zero_add]

/-- "reverse-complement agree[s] with the corresponding string operations": for every supported
    word length that fits the word type (`2 ≤ k`, `2k ≤ 32`) and every digit list of length `k`,
    `ComplementOf` of its numeral is the numeral of the reversed list with `0,1,2,3 ↦ 3,2,1,0`.
    Proved by bit extensionality over the loop as written (no `bv_decide`). -/
theorem complement_spec (k : Nat) (hk2 : 2 ≤ k) (hk : 2 * k ≤ wordBits) (ds : List Nat)
    (hlen : ds.length = k) (hd : ∀ d ∈ ds, d < 4) :
    complementOf k (encode ds) = encode (revComp ds) := by
  rw [Biogo.Proofs.KmerComplement.complementOf_eq k (encode ds) hk2 hk, ← hlen, toDigits_encode ds hd]

-- non-vacuity: "gatc" (141) reverse-complemented is "gatc" again; "aacg" (6) gives "cgtt" (111)
example : complementOf 4 141 = 141 ∧ complementOf 4 6 = 111 ∧ encode (revComp [0, 0, 1, 2]) = 111 := by decide

-- non-vacuity: the DNA letters; "gatc" = 2·64 + 0·16 + 3·4 + 1 = 141, two of its letters are G/C
example :
    let lk : Lookup := fun b => if b = 97 then some 0 else if b = 99 then some 1 else if b = 103 then some 2
      else if b = 116 then some 3 else none
    let letter : Nat → UInt8 := fun d => if d = 0 then 97 else if d = 1 then 99 else if d = 2 then 103 else 116
    LetterOf lk letter ∧ kmerOf lk 4 [103, 97, 116, 99] = .ok 141 ∧ format letter 4 141 = [103, 97, 116, 99] ∧
    gcOf 4 141 = 2 := by
  intro lk letter
  have key : ∀ x : Fin 4, lk (letter x.1) = some x.1 := by decide +revert
  exact ⟨fun d hd => key ⟨d, hd⟩, by rfl, by decide, by decide⟩

end Biogo.Properties.C10
