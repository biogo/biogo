/-
C17 — the loops the driver runs over the implementation's 256-entry answers
(`Drive.C17.naStatement` for `NewAlphabet`, `npStatement` for `NewPairing`, `avFirst` for
`AllValid`) are the ∀-statements of the property.
-/
import Biogo.Drive.C17

namespace Biogo.Properties.C17_checker
open Biogo.Alphabet Biogo.Drive.C17

theorem firstBad_none_iff (p : Nat → Bool) : firstBad p = none ↔ ∀ l < 256, p l = true := by
  unfold firstBad
  rw [List.find?_eq_none]
  simp only [List.mem_range, Bool.not_eq_true', Bool.not_eq_false]

/-! The second, third and fourth test of `naStatement`, named after the violation each reports,
    as the clause of the statement it decides. -/

theorem indexOfNegative_test (a : Int) (b : Bool) :
    (decide (a < 0) == !b) = true ↔ (a < 0 ↔ b = false) := by
  cases b <;> simp

theorem indexOfLetter_test (ox : Option UInt8) (v : Nat → Bool) (ix : Nat → Int) (i : Nat) :
    ¬ (match ox with
       | some x => !(v x.toNat && ix x.toNat == (i : Int))
       | none => true) = true ↔ ∃ x, ox = some x ∧ v x.toNat = true ∧ ix x.toNat = (i : Int) := by
  cases ox <;> simp

theorem letterIndexOf_test (b : Bool) (a : Int) (n : Nat) (ox : Option UInt8) (cased : Bool) (l : Nat) :
    (!b || (decide (0 ≤ a) && decide (a < (n : Int)) &&
      match ox with
      | some x => if cased then x.toNat == l else toLower x == toLower (UInt8.ofNat l)
      | none => false)) = true ↔
    (b = true → 0 ≤ a ∧ a < (n : Int) ∧
      ∃ x, ox = some x ∧ (if cased then x.toNat = l else toLower x = toLower (UInt8.ofNat l))) := by
  cases b <;> cases ox <;> cases cased <;> simp [and_assoc]

/-- **`NewAlphabet`, checker = statement**: no violation is reported for the parsed answers
    exactly when `Len()` is the length of the definition; for every one of the 256 letter values
    `IsValid` ⇔ the letter (in either case for a case-insensitive alphabet) is in the definition and
    `IndexOf < 0` ⇔ invalid; `IndexOf (Letter i) = i` with `Letter i` valid for every `i < Len`;
    and `Letter (IndexOf l)` is `l` (up to case when case-insensitive) with `0 ≤ IndexOf l < Len`
    for every valid `l`. -/
theorem naStatement_none_iff (cased : Bool) (ls : List UInt8) (len : Nat) (valid : Array Bool)
    (idx : Array Int) (letters : Array UInt8) :
    naStatement cased ls len valid idx letters = none ↔
      idx.size = 256 ∧ len = ls.length ∧
      (∀ l < 256, valid.getD l false = inDefinition cased ls (UInt8.ofNat l)) ∧
      (∀ l < 256, (idx.getD l (-1) < 0 ↔ valid.getD l false = false)) ∧
      (∀ i < len, ∃ x, letters[i]? = some x ∧ valid.getD x.toNat false = true ∧
        idx.getD x.toNat (-1) = (i : Int)) ∧
      (∀ l < 256, valid.getD l false = true →
        0 ≤ idx.getD l (-1) ∧ idx.getD l (-1) < len ∧
        ∃ x, letters[(idx.getD l (-1)).toNat]? = some x ∧
          (if cased then x.toNat = l else toLower x = toLower (UInt8.ofNat l))) := by
  unfold naStatement
  simp only []
  constructor
  · intro h
    split at h; · cases h
    split at h; · cases h
    split at h; · cases h
    split at h; · cases h
    split at h; · cases h
    split at h; · cases h
    rename_i h1 h2 _ hA _ hB _ hC _ hD
    rw [List.find?_eq_none] at hC
    exact ⟨Classical.not_not.mp h1, Classical.not_not.mp h2,
      fun l hl => beq_iff_eq.mp ((firstBad_none_iff _).mp hA l hl),
      fun l hl => (indexOfNegative_test _ _).mp ((firstBad_none_iff _).mp hB l hl),
      fun i hi => (indexOfLetter_test _ (fun n => valid.getD n false) (fun n => idx.getD n (-1)) i).mp
        (hC i (List.mem_range.mpr hi)),
      fun l hl => (letterIndexOf_test _ _ _ _ cased l).mp ((firstBad_none_iff _).mp hD l hl)⟩
  · rintro ⟨h1, rfl, hA, hB, hC, hD⟩
    rw [if_neg (by simp [h1]), if_neg (by simp),
      (firstBad_none_iff _).mpr fun l hl => beq_iff_eq.mpr (hA l hl),
      (firstBad_none_iff _).mpr fun l hl => (indexOfNegative_test _ _).mpr (hB l hl),
      List.find?_eq_none.mpr ?_, (firstBad_none_iff _).mpr ?_]
    · intro l hl; exact (letterIndexOf_test _ _ _ _ cased l).mpr (hD l hl)
    · intro i hi
      exact (indexOfLetter_test _ (fun n => valid.getD n false) (fun n => idx.getD n (-1)) i).mpr
        (hC i (List.mem_range.mp hi))

/-- **`NewPairing`, checker = statement**: no violation is reported for the parsed answers exactly
    when, for every one of the 256 letter values, the complement of the complement is the letter
    (`complement_involutive`) and the table entry is the method's result with the high bit set
    exactly when `ok` is false (`table_agrees_method`). -/
theorem npStatement_none_iff (pair : Array UInt8) (okb : Array Bool) (comp : Array UInt8) :
    npStatement pair okb comp = none ↔
      pair.size = 256 ∧ comp.size = 256 ∧
      (∀ l < 256, (pair.getD (pair.getD l 0).toNat 0).toNat = l) ∧
      (∀ l < 256, comp.getD l 0 = if okb.getD l false then pair.getD l 0 else pair.getD l 0 ||| 128) := by
  unfold npStatement
  constructor
  · intro h
    split at h; · cases h
    split at h; · cases h
    split at h; · cases h
    rename_i h1 _ hA _ hB
    simp only [ne_eq, Bool.or_eq_true, decide_eq_true_eq, not_or, Classical.not_not] at h1
    exact ⟨h1.1, h1.2, fun l hl => beq_iff_eq.mp ((firstBad_none_iff _).mp hA l hl),
      fun l hl => beq_iff_eq.mp ((firstBad_none_iff _).mp hB l hl)⟩
  · rintro ⟨h1, h2, hA, hB⟩
    rw [if_neg (by simp [h1, h2]), (firstBad_none_iff _).mpr fun l hl => beq_iff_eq.mpr (hA l hl),
      (firstBad_none_iff _).mpr fun l hl => beq_iff_eq.mpr (hB l hl)]

/-- **`AllValid`, what is demanded**: `avFirst d ls = some p` exactly when position `p` is inside
    the slice, its letter is not in the definition and every earlier letter is; `= none` exactly
    when every letter is in the definition — the shape of `allValid_first_invalid` -/
theorem avFirst_spec (d : Def) (ls : List UInt8) :
    (∀ p, avFirst d ls = some p ↔
      ∃ h : p < ls.length, inDef d ls[p] = false ∧ ∀ m (hm : m < p), inDef d (ls[m]'(by omega)) = true) ∧
    (avFirst d ls = none ↔ ∀ l ∈ ls, inDef d l = true) := by
  simp [avFirst, List.findIdx?_eq_some_iff_getElem, List.findIdx?_eq_none_iff]

end Biogo.Properties.C17_checker
