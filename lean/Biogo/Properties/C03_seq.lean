/-
C03 (part seq) — the FASTA and FASTQ readers are total.  Property theorems only.

`readAll cfg bs` is the history of the calls of `Read` on a fresh reader over the bytes `bs`,
made with a budget of (number of input lines + 1) calls: `.ret ⟨s, e⟩` for a call that
returned the pair `(s, e)`, `.panic p` for a call that panicked (every slice expression and
nil dereference of the code is explicit in the model), `.unfinished` if the budget ran out
before `io.EOF`.  Termination of every single call is by structural recursion on the
remaining lines (accepted by Lean's termination checker).
-/
import Biogo.Proofs.Fasta
import Biogo.Proofs.Fastq
import Biogo.Generated.Seqio  -- read by `./check`: the import closure decides which regenerated facts the property owns

namespace Biogo.Properties.C03_seq
open Biogo.Go.Bytes

section fasta
open Biogo.Fasta

/-- **never panics, every user-set `IDPrefix` / `SeqPrefix`** (FASTA; the exported fields of the
    reader — e.g. the `##DNA ` / `##` that `gff.Writer` writes): for every byte string and every
    pair of prefixes no call panics, the budget is never exhausted, the history has at most
    `lineCount bs + 1` entries, ends with `io.EOF`, and every call returns a sequence or an error.
    Before fix `501e905` an `IDPrefix` containing a blank made every header line panic. -/
theorem fasta_total_any_prefixes (cfg : Cfg) (bs : Bytes) :
    (∀ p, Call.panic p ∉ readAll cfg bs) ∧ Call.unfinished ∉ readAll cfg bs ∧
    (readAll cfg bs).length ≤ lineCount bs + 1 ∧
    (∃ r, (readAll cfg bs).getLast? = some (Call.ret r) ∧ r.e = some .eof) ∧
    (∀ r, Call.ret r ∈ readAll cfg bs → r.s.isSome ∨ r.e.isSome) := by
  have := readAllAux_total_cfg cfg ((splitLines bs).length + 1) {} (splitLines bs) (by simp [Fasta.measure])
  refine ⟨this.1, this.2.1, ?_, this.2.2.2.1, this.2.2.2.2⟩
  simpa [Fasta.measure, lineCount, readAll] using this.2.2.1

-- the witness of the defect: `IDPrefix = "##DNA "`, input `##DNA x / ##acgt` is read as the record
example : readAll { idPrefix := [35, 35, 68, 78, 65, 32], seqPrefix := [35, 35] }
    [35, 35, 68, 78, 65, 32, 120, 10, 35, 35, 97, 99, 103, 116, 10]
    = [.ret ⟨some ⟨[120], [], [97, 99, 103, 116]⟩, none⟩, .ret ⟨none, some .eof⟩] := by decide +kernel

/-- **never panics** (FASTA): for every byte string, no call of `Read` panics. -/
theorem fasta_never_panics (bs : Bytes) : ∀ p, Call.panic p ∉ readAll {} bs :=
  (fasta_total_any_prefixes {} bs).1

/-- **progress** (FASTA): the call sequence reaches `io.EOF` within one call per input line
    plus one — the budget is never exhausted, the history has at most `lineCount bs + 1`
    entries and its last entry is a call that returned `io.EOF`. -/
theorem fasta_progress (bs : Bytes) :
    Call.unfinished ∉ readAll {} bs ∧ (readAll {} bs).length ≤ lineCount bs + 1 ∧
    ∃ r, (readAll {} bs).getLast? = some (Call.ret r) ∧ r.e = some .eof :=
  have h := fasta_total_any_prefixes {} bs
  ⟨h.2.1, h.2.2.1, h.2.2.2.1⟩

/-- **never neither** (FASTA): every call returns a non-nil sequence or a non-nil error. -/
theorem fasta_record_or_error (bs : Bytes) :
    ∀ r, Call.ret r ∈ readAll {} bs → r.s.isSome ∨ r.e.isSome :=
  (fasta_total_any_prefixes {} bs).2.2.2.2

/-- **rejects data before a header** (FASTA): if the first non-blank line does not start with
    `>`, the first call returns the error "badly formed line" and no sequence. -/
theorem fasta_rejects_data_before_header (blanks : List Bytes) (raw : Bytes) (rest : List Bytes)
    (hb : ∀ l ∈ blanks, trimSpace l = []) (hne : trimSpace raw ≠ [])
    (hp : hasPrefix (trimSpace raw) [62] = false) :
    read {} {} (blanks ++ raw :: rest) = .ok (⟨none, some (.badLine (trimSpace raw))⟩, {}, rest) := by
  have h0 : ((trimSpace raw).length == 0) = false :=
    beq_eq_false_iff_ne.mpr (mt List.eq_nil_of_length_eq_zero hne)
  have hstep : step {} {} (trimSpace raw) = .ok (.inr (⟨none, some (.badLine (trimSpace raw))⟩, {})) := by
    simp only [step, h0, hp]; rfl
  rw [read_skip_blanks _ _ blanks _ hb, read_cons, hstep]

-- non-vacuity of `fasta_rejects_data_before_header`, and a run on bytes that are no FASTA file
example : readAll {} [32, 10, 97, 99, 13, 10, 62, 120] =
    [.ret ⟨none, some (.badLine [97, 99])⟩, .ret ⟨some ⟨[120], [], []⟩, none⟩, .ret ⟨none, some .eof⟩] := by
  decide +kernel

end fasta

section fastq
open Biogo.Fastq

/-- the budget of `readAll` covers the lines handed to the first call -/
private theorem budget (e : Bool) (bs : Bytes) : (readLineInput e bs).1.length < lineCount bs + 1 :=
  Nat.lt_succ_of_le (readLineInput_length e bs)

/-- every template, tables and `io.Reader` behaviour (FASTQ): no call panics, the budget is never
    exhausted, the history has at most `lineCount bs + 1` entries, ends with `io.EOF`, and every
    call returns a sequence or an error -/
theorem fastq_total (cfg : Cfg) (eofWithData : Bool) (bs : Bytes) :
    (∀ p, Call.panic p ∉ readAll cfg eofWithData bs) ∧ Call.unfinished ∉ readAll cfg eofWithData bs ∧
    (readAll cfg eofWithData bs).length ≤ lineCount bs + 1 ∧
    (∃ r, (readAll cfg eofWithData bs).getLast? = some (Call.ret r) ∧ r.e = some .eof) ∧
    (∀ r, Call.ret r ∈ readAll cfg eofWithData bs → r.s.isSome ∨ r.e.isSome) := by
  obtain ⟨a, b, c, d, e⟩ := readAllAux_total cfg _ _ (readLineInput eofWithData bs).2 (budget eofWithData bs)
  exact ⟨a, b, Nat.le_trans c (Nat.succ_le_succ (readLineInput_length eofWithData bs)), d, e⟩

/-- **never panics** (FASTQ): for every byte string, every template (`linear.Seq`, or
    `linear.QSeq` with any encoding), every pair of conversion tables and either behaviour of
    the `io.Reader` at the end of the input, no call of `Read` panics. -/
theorem fastq_never_panics (cfg : Cfg) (eofWithData : Bool) (bs : Bytes) :
    ∀ p, Call.panic p ∉ readAll cfg eofWithData bs :=
  (fastq_total cfg eofWithData bs).1

/-- **progress** (FASTQ): `io.EOF` is reached within one call per input line plus one. -/
theorem fastq_progress (cfg : Cfg) (eofWithData : Bool) (bs : Bytes) :
    Call.unfinished ∉ readAll cfg eofWithData bs ∧ (readAll cfg eofWithData bs).length ≤ lineCount bs + 1 ∧
    ∃ r, (readAll cfg eofWithData bs).getLast? = some (Call.ret r) ∧ r.e = some .eof :=
  have h := fastq_total cfg eofWithData bs
  ⟨h.2.1, h.2.2.1, h.2.2.2.1⟩

/-- **never neither** (FASTQ): every call returns a non-nil sequence or a non-nil error. -/
theorem fastq_record_or_error (cfg : Cfg) (eofWithData : Bool) (bs : Bytes) :
    ∀ r, Call.ret r ∈ readAll cfg eofWithData bs → r.s.isSome ∨ r.e.isSome :=
  (fastq_total cfg eofWithData bs).2.2.2.2

/-- **rejects sequence/quality length mismatch** (FASTQ).  A record `@header / letters / + /
    quality` — with blank lines anywhere between its lines, `+` alone or followed by the same
    header — whose quality line, blanks removed, has another length than the sequence line
    is answered by the error "sequence/quality length mismatch" and no sequence. -/
theorem fastq_rejects_length_mismatch (cfg : Cfg) (pend : Bytes) (b0 b1 b2 b3 : List Bytes) (h s p q : Bytes)
    (rest : List Bytes)
    (hb0 : ∀ l ∈ b0, trimSpace l = []) (hb1 : ∀ l ∈ b1, trimSpace l = [])
    (hb2 : ∀ l ∈ b2, trimSpace l = []) (hb3 : ∀ l ∈ b3, trimSpace l = [])
    (hh : maybeID1 (trimSpace h) = true)
    (hs : trimSpace s ≠ []) (hs2 : maybeID2 (trimSpace s) = false)
    (hletters : (trimSpace s).filter (fun b => !isSpace b) ≠ [])
    (hp : maybeID2 (trimSpace p) = true)
    (hsame : (trimSpace p).length = 1 ∨ (trimSpace h).drop 1 = (trimSpace p).drop 1)
    (hq : trimSpace q ≠ [])
    (hlen : (removeSpaces (trimSpace q)).length ≠ ((trimSpace s).filter (fun b => !isSpace b)).length) :
    read cfg (b0 ++ h :: (b1 ++ s :: (b2 ++ p :: (b3 ++ q :: rest)))) pend
      = .ok (⟨none, some .lengthMismatch⟩, rest, pend) := by
  unfold Fastq.read
  obtain ⟨t, ht⟩ := loop_to_id2 cfg pend b0 b1 h s (b2 ++ p :: (b3 ++ q :: rest)) hb0 hb1 hh hs hs2
  rw [ht, loop_skip_blanks cfg pend b2 _ (sI t _ _) rfl (by intro h; cases h) hb2,
    loop_cont (step_plus cfg t _ (maybeID_ne_nil (.inl hh)) ⟨hp, hsame⟩),
    loop_skip_blanks cfg pend b3 _ (sQ t _ _) rfl (fun _ => hletters) hb3]
  exact loop_ret (by rw [step_quality cfg t _ _ (fun h => absurd h hq), if_pos (by simpa using hlen)]) pend rest

/-- the same when the input ends before a quality line: what is left (`pend`, usually nothing)
    is taken as the quality line -/
theorem fastq_rejects_length_mismatch_at_eof (cfg : Cfg) (pend : Bytes) (b0 b1 b2 b3 : List Bytes) (h s p : Bytes)
    (hb0 : ∀ l ∈ b0, trimSpace l = []) (hb1 : ∀ l ∈ b1, trimSpace l = [])
    (hb2 : ∀ l ∈ b2, trimSpace l = []) (hb3 : ∀ l ∈ b3, trimSpace l = [])
    (hh : maybeID1 (trimSpace h) = true)
    (hs : trimSpace s ≠ []) (hs2 : maybeID2 (trimSpace s) = false)
    (hletters : (trimSpace s).filter (fun b => !isSpace b) ≠ [])
    (hp : maybeID2 (trimSpace p) = true)
    (hsame : (trimSpace p).length = 1 ∨ (trimSpace h).drop 1 = (trimSpace p).drop 1)
    (hlen : (removeSpaces pend).length ≠ ((trimSpace s).filter (fun b => !isSpace b)).length) :
    read cfg (b0 ++ h :: (b1 ++ s :: (b2 ++ p :: b3))) pend
      = .ok (⟨none, some .lengthMismatch⟩, [], []) := by
  unfold Fastq.read
  obtain ⟨t, ht⟩ := loop_to_id2 cfg pend b0 b1 h s (b2 ++ p :: b3) hb0 hb1 hh hs hs2
  have e3 : b3 = b3 ++ [] := (List.append_nil b3).symm
  rw [ht, loop_skip_blanks cfg pend b2 _ (sI t _ _) rfl (by intro h; cases h) hb2,
    loop_cont (step_plus cfg t _ (maybeID_ne_nil (.inl hh)) ⟨hp, hsame⟩), e3,
    loop_skip_blanks cfg pend b3 _ (sQ t _ _) rfl (fun _ => hletters) hb3, loop_nil]
  simp [sQ, sL, finish, hlen, pure, Except.pure]

/-- **rejects a `+` line that repeats another header** (FASTQ) -/
theorem fastq_rejects_quality_header_mismatch (cfg : Cfg) (pend : Bytes) (b0 b1 b2 : List Bytes) (h s p : Bytes)
    (rest : List Bytes)
    (hb0 : ∀ l ∈ b0, trimSpace l = []) (hb1 : ∀ l ∈ b1, trimSpace l = []) (hb2 : ∀ l ∈ b2, trimSpace l = [])
    (hh : maybeID1 (trimSpace h) = true)
    (hs : trimSpace s ≠ []) (hs2 : maybeID2 (trimSpace s) = false)
    (hp : maybeID2 (trimSpace p) = true) (hp1 : (trimSpace p).length ≠ 1)
    (hdiff : (trimSpace h).drop 1 ≠ (trimSpace p).drop 1) :
    read cfg (b0 ++ h :: (b1 ++ s :: (b2 ++ p :: rest))) pend
      = .ok (⟨none, some .qualHeader⟩, rest, pend) := by
  unfold Fastq.read
  obtain ⟨t, ht⟩ := loop_to_id2 cfg pend b0 b1 h s (b2 ++ p :: rest) hb0 hb1 hh hs hs2
  rw [ht, loop_skip_blanks cfg pend b2 _ (sI t _ _) rfl (by intro h; cases h) hb2]
  exact loop_ret (step_plus_mismatch cfg t _ (maybeID_ne_nil (.inl hh)) hp hp1 hdiff) pend rest

-- non-vacuity: `@a / ac / + / I` is such a record, and the rejection is what the model computes
example : readAll ⟨.qseq .sanger, ⟨id, id⟩⟩ false [64, 97, 10, 97, 99, 10, 43, 10, 73, 10] =
    [.ret ⟨none, some .lengthMismatch⟩, .ret ⟨none, some .eof⟩] := by decide +kernel
example : readAll ⟨.seq, ⟨id, id⟩⟩ false [64, 97, 10, 97, 99, 10, 43, 98, 10, 73, 73, 10] =
    [.ret ⟨none, some .qualHeader⟩, .ret ⟨none, some .eof⟩] := by decide +kernel

end fastq

end Biogo.Properties.C03_seq
