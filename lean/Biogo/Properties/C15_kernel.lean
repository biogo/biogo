/-
C15 — the contract of the banded x-drop kernel (`dp.traceForward` / `dp.traceReverse`), and what
it implies for every hit `alignRecursion` reports.

`Biogo.Spec.PalsKernel` states, as Lean predicates, what `alignRecursion` may assume of the two
trace functions (`FwdOK`, `RevOK`) and what a reported hit must then satisfy (`HitOK`); the
executable model of the kernel (`Biogo.PalsKernel`, compared hit by hit with the implementation)
is proved to keep that contract (`kernel_model_*`, below).  Proved here: the hit assembled from two
traces under contract is under contract; a hit under contract passes the executable conditions `consistent` that the
driver evaluates on every hit of every run (so a `fail` of that check refutes the contract); its
score is bounded by the proved oracle (the per-run validation `Score ≤ palsGlobal`), and the
reported `Error` lies between `indel/blen` and `(blen + indel)/(RMatchCost·blen)`.
-/
import Biogo.Proofs.PalsKernel
import Biogo.Proofs.PalsKernelSound
import Biogo.Properties.C15
import Biogo.Proofs.PalsSuppress

namespace Biogo.Properties.C15_kernel
open Biogo.Spec.Alignment Biogo.PalsOracle Biogo.Spec.PalsKernel Biogo.Proofs.PalsKernel
open Biogo.Generated.Pals Biogo.Properties.C15

/-- **`hit_of_traces_under_contract`** — `alignRecursion` takes the end of the hit from
    `traceForward` and start, score and diagonals from `traceReverse` (called at the forward end);
    if both calls keep their contract, the hit does. -/
theorem hit_of_traces_under_contract (target query : List Nat) (mid low high : Int) (f : Fwd) (r : Rev)
    (hf : FwdOK palsMatrix DiffCost MaxIGap target query mid low high f)
    (hr : RevOK palsMatrix target query f.bepos f.aepos r) : HitOK palsMatrix target query (assemble f r) :=
  assemble_ok palsMatrix DiffCost MaxIGap target query mid low high f r hf hr

/-- **`hit_under_contract_consistent`** — a reported hit under contract (non-empty query region)
    passes the per-hit conditions the driver evaluates: `0 ≤ Score ≤ SameCost·min(alen, blen) −
    DiffCost·indel`; `SameCost·(alen + blen) − 2·Score = 7g + 8x` for some number `g ≥ indel`,
    `g ≡ indel (mod 2)`, of gap letters and `x ≥ 0` of mismatches; both ends of the hit lie on
    diagonals within `[LowDiagonal, HighDiagonal]`. -/
theorem hit_under_contract_consistent (target query : List Nat) (k : KHit)
    (ok : HitOK palsMatrix target query k) (hb : k.h.bbpos < k.h.bepos) :
    consistent SameCost DiffCost k = true :=
  consistent_of_hitOK target query k ok hb

/-- **`hit_under_contract_below_oracle`** — the score of a hit under contract does not exceed
    the optimal global alignment score of its two regions (the oracle of `palsGlobal_opt`): the
    per-run validation `Score ≤ palsGlobal` is a consequence of the contract. -/
theorem hit_under_contract_below_oracle (target query : List Nat) (k : KHit)
    (ok : HitOK palsMatrix target query k) (hb : k.h.bbpos < k.h.bepos) :
    k.h.score ≤ palsGlobal (slice target k.h.abpos k.h.aepos) (slice query k.h.bbpos k.h.bepos) := by
  obtain ⟨aln, hg, hs⟩ := ok.path hb
  rw [← hs]
  exact (palsGlobal_opt _ _).1 aln hg

/-- **`consistent_bounds_error`** — for a hit that passes the conditions, the numerator of the
    reported error `Error = errNum / (RMatchCost·blen)` satisfies
    `RMatchCost·indel ≤ errNum ≤ blen + indel`: the reported error is at least `indel/blen` and,
    the score being non-negative, at most `(blen + indel)/(RMatchCost·blen)`. -/
theorem consistent_bounds_error (k : KHit) (h : consistent SameCost DiffCost k = true) :
    RMatchCost * k.h.indel ≤ k.h.errNum ∧ k.h.errNum ≤ k.h.blen + k.h.indel := by
  unfold consistent at h
  simp only [Bool.and_eq_true, decide_eq_true_eq] at h
  obtain ⟨⟨⟨⟨⟨⟨h0, h1⟩, _⟩, _⟩, _⟩, _⟩, _⟩ := h
  simp only [Hit.errNum, SameCost, DiffCost, RMatchCost] at *
  omega

/-- `acgtacgt` against `acgaacgt`: one mismatch, score `7 − 3 = 4` -/
example : HitOK palsMatrix [97, 99, 103, 116, 97, 99, 103, 116] [97, 99, 103, 97, 97, 99, 103, 116]
    ⟨⟨0, 0, 8, 8, 4⟩, 0, 0⟩ where
  aRegion := by decide
  bRegion := by decide
  nonneg := by decide
  path := fun _ => ⟨[.m 97 97, .m 99 99, .m 103 103, .m 116 97, .m 97 97, .m 99 99, .m 103 103, .m 116 116],
    by unfold IsGlobal; decide, by decide⟩
  diagStart := by decide
  diagEnd := by decide

example : consistent SameCost DiffCost ⟨⟨0, 0, 8, 8, 4⟩, 0, 0⟩ = true := by decide
-- a score one too low (or too high) is not the score of any alignment of regions of these lengths
example : consistent SameCost DiffCost ⟨⟨0, 0, 8, 8, 3⟩, 0, 0⟩ = false := by decide
example : consistent SameCost DiffCost ⟨⟨0, 0, 8, 8, 5⟩, 0, 0⟩ = false := by decide

/-! ### the kernel model keeps the contract

`Biogo.PalsKernel` (`traceCore`, `traceForward`, `traceReverse`, `alignRecursion`, `AlignTraps`' loop)
is the model the driver runs on the trapezoids the implementation's aligner was given and compares
hit by hit with `dp.AlignTraps`.  The theorems below are about that model, with the cost record
`palsCosts` the driver uses. -/


open Biogo.Proofs.PalsKernelSound in
theorem palsCosts_ok : CostsOK palsCosts := ⟨by decide, by decide, by decide⟩

open Biogo.Proofs.PalsKernelSound in
/-- **`kernel_model_trace_sound`** — the cell the trace program reports is a cell of the table with
    a non-negative score which, unless nothing was found, is the score of a path of kernel moves
    (diagonal step with or without match, step down, step right) from the zero basis
    `(mid, [low, high])`; the reported cell and the basis lie within the recorded diagonal range.
    For every view, every `mid`, every basis, every x-drop schedule with non-negative allowances. -/
theorem kernel_model_trace_sound (c : Biogo.PalsKernel.Costs) (v : Biogo.PalsKernel.View) (mid low high : Int)
    (h : low ≤ high) (hh : high ≤ v.tlen) (hq : mid ≤ v.qlen) (hg : 0 ≤ c.maxIGap) (hx : ∀ i, 0 ≤ v.xf i) :
    let o := Biogo.PalsKernel.traceCore c v mid low high
    (mid ≤ o.maxI ∧ o.maxI ≤ v.qlen ∧ low ≤ o.maxJ ∧ o.maxJ ≤ v.tlen ∧ 0 ≤ o.maxScore) ∧
    ((o.maxI = mid ∧ o.maxScore = 0 ∧ (v.bestAtExtended = false → o.maxJ = low)) ∨
      Reach c v mid low high o.maxI o.maxJ o.maxScore) ∧
    (o.maxLeft ≤ o.maxI - o.maxJ ∧ o.maxI - o.maxJ ≤ o.maxRight) ∧
    (∀ j0, low ≤ j0 → j0 ≤ high → o.maxLeft ≤ mid - j0 ∧ mid - j0 ≤ o.maxRight) :=
  traceCore_sound c v mid low high h hh hq hg hx

open Biogo.Proofs.PalsKernelSound in
/-- **`kernel_model_forward_keeps_contract`** — `traceForward` of the model, seeded on a row of the
    query, satisfies `FwdOK` (scoring `kS`). -/
theorem kernel_model_forward_keeps_contract (s : Biogo.PalsKernel.Seqs) (mid low high : Int)
    (hm : 0 ≤ mid ∧ mid ≤ s.qlen) :
    let o := Biogo.PalsKernel.traceForward palsCosts s mid low high
    FwdOK (kS palsCosts) palsCosts.diffCost palsCosts.maxIGap s.target.toList s.query.toList mid low high
      ⟨o.maxJ, o.maxI, o.maxScore⟩ :=
  traceForward_ok palsCosts s mid low high hm.1 hm.2 palsCosts_ok.gap palsCosts_ok.block

open Biogo.Proofs.PalsKernelSound in
/-- **`kernel_model_reverse_keeps_contract`** — `traceReverse` of the model, called at a cell
    `(top, a)` of the table, satisfies `RevOK` (scoring: `+1` for two equal valid letters, `−3`
    otherwise — `kS`): in particular its score is that of a global alignment of
    `target[Abpos, a)` with `query[Bbpos, top)` whenever `Bbpos < top`. -/
theorem kernel_model_reverse_keeps_contract (s : Biogo.PalsKernel.Seqs) (top a bottom xfactor : Int)
    (ha : 0 ≤ a ∧ a ≤ s.tlen) (ht : 0 ≤ top ∧ top ≤ s.qlen) (hx : 0 ≤ xfactor) :
    let r := Biogo.PalsKernel.traceReverse palsCosts s top a a bottom xfactor
    RevOK (kS palsCosts) s.target.toList s.query.toList top a ⟨r.maxJ, r.maxI, r.maxScore, r.maxLeft, r.maxRight⟩ :=
  traceReverse_ok palsCosts s top a bottom xfactor ha ht palsCosts_ok.gap palsCosts_ok.block hx

open Biogo.Proofs.PalsKernelSound in
/-- **`kernel_model_split_hits_under_contract`** — for sequences of valid letters (a, c, g, t in
    either case) and trapezoids within the query rows, every hit the kernel model emits — whatever
    the trapezoids' diagonals, the word size, the thresholds (`minLen ≥ 0`) — satisfies `HitOK` under the PALS
    matrix: both regions inside the sequences, a non-negative score that is the score of some
    global alignment of the two regions, both ends on diagonals within
    `[LowDiagonal, HighDiagonal]`; hence it passes `consistent` and respects the oracle.  This holds
    for the recursion of the source (`split = false`, `emitted`) and for the one that also splits a
    trapezoid by diagonals (`emittedWith true`: after an alignment it recurses into the diagonals to
    the left and right of the alignment's band as well — the candidate repair of finding K6, which
    the driver's K6 recogniser runs).  So the recogniser never credits the repaired recursion with a
    hit that is not a real alignment. -/
theorem kernel_model_split_hits_under_contract (split : Bool) (s : Biogo.PalsKernel.Seqs)
    (hvt : ∀ x ∈ s.target.toList, Biogo.PalsKernel.validLetter x = true)
    (hvq : ∀ x ∈ s.query.toList, Biogo.PalsKernel.validLetter x = true)
    (traps : List Biogo.PalsMerge.Trap) (k minLen num den : Int) (hml : 0 ≤ minLen)
    (htr : TrapsIn s.qlen traps.toArray) :
    ∀ kh ∈ Biogo.PalsKernel.emittedWith split palsCosts s traps k minLen num den,
      HitOK palsMatrix s.target.toList s.query.toList ⟨kh.h, kh.lowDiagonal, kh.highDiagonal⟩ ∧
      (kh.h.bbpos < kh.h.bepos →
        consistent SameCost DiffCost ⟨kh.h, kh.lowDiagonal, kh.highDiagonal⟩ = true ∧
        kh.h.score ≤ palsGlobal (slice s.target.toList kh.h.abpos kh.h.aepos) (slice s.query.toList kh.h.bbpos kh.h.bepos)) := by
  -- `hvt` is not used: a match is a letter of the target equal to a valid letter of the query
  intro kh hk
  have ok : HitOK palsMatrix s.target.toList s.query.toList ⟨kh.h, kh.lowDiagonal, kh.highDiagonal⟩ :=
    emittedWith_hitOK split palsCosts palsCosts_ok s hvq traps k minLen num den hml htr kh hk
  -- the hit is named: left to unification it is found only after `palsGlobal` has been unfolded
  exact ⟨ok, fun hb => ⟨hit_under_contract_consistent _ _ _ ok hb,
    hit_under_contract_below_oracle _ _ ⟨kh.h, kh.lowDiagonal, kh.highDiagonal⟩ ok hb⟩⟩

open Biogo.Proofs.PalsKernelSound in
/-- **`kernel_model_hits_under_contract`** — the recursion of the source (`emitted`) -/
theorem kernel_model_hits_under_contract (s : Biogo.PalsKernel.Seqs)
    (hvt : ∀ x ∈ s.target.toList, Biogo.PalsKernel.validLetter x = true)
    (hvq : ∀ x ∈ s.query.toList, Biogo.PalsKernel.validLetter x = true)
    (traps : List Biogo.PalsMerge.Trap) (k minLen num den : Int) (hml : 0 ≤ minLen)
    (htr : TrapsIn s.qlen traps.toArray) :
    ∀ kh ∈ Biogo.PalsKernel.emitted palsCosts s traps k minLen num den,
      HitOK palsMatrix s.target.toList s.query.toList ⟨kh.h, kh.lowDiagonal, kh.highDiagonal⟩ :=
  fun kh hk => (kernel_model_split_hits_under_contract false s hvt hvq traps k minLen num den hml htr kh hk).1

open Biogo.Proofs.PalsKernelSound in
/-- and therefore passes the driver's per-hit conditions and respects the oracle -/
theorem kernel_model_hits_consistent (s : Biogo.PalsKernel.Seqs)
    (hvt : ∀ x ∈ s.target.toList, Biogo.PalsKernel.validLetter x = true)
    (hvq : ∀ x ∈ s.query.toList, Biogo.PalsKernel.validLetter x = true)
    (traps : List Biogo.PalsMerge.Trap) (k minLen num den : Int) (hml : 0 ≤ minLen)
    (htr : TrapsIn s.qlen traps.toArray) :
    ∀ kh ∈ Biogo.PalsKernel.emitted palsCosts s traps k minLen num den, kh.h.bbpos < kh.h.bepos →
      consistent SameCost DiffCost ⟨kh.h, kh.lowDiagonal, kh.highDiagonal⟩ = true ∧
      kh.h.score ≤ palsGlobal (slice s.target.toList kh.h.abpos kh.h.aepos) (slice s.query.toList kh.h.bbpos kh.h.bepos) :=
  fun kh hk => (kernel_model_split_hits_under_contract false s hvt hvq traps k minLen num den hml htr kh hk).2

/-- **`suppression_leaves_one_per_point`** — the suppression of `AlignTraps` after the seventh
    repair, for *any* two sorts that return a permutation ordered by `(Abpos, Bbpos)`, resp.
    `(Aepos, Bepos)` (whatever they do with equal keys — `sort.Sort` is not stable): no two returned
    hits begin at the same point and no two end at the same point.  With `Less` on `Abpos` / `Aepos`
    alone (the code before the repair) this fails: a hit with the same `Abpos` and another `Bbpos`
    may sort between two hits with the same start (seventh defect, `corpus/C15.txt`). -/
theorem suppression_leaves_one_per_point (sortStart sortEnd : List Biogo.PalsOracle.Hit → List Biogo.PalsOracle.Hit)
    (p2 : ∀ l, (sortEnd l).Perm l)
    (s1 : ∀ l, (sortStart l).Pairwise (fun a b => keyLe (a.abpos, a.bbpos) (b.abpos, b.bbpos)))
    (s2 : ∀ l, (sortEnd l).Pairwise (fun a b => keyLe (a.aepos, a.bepos) (b.aepos, b.bepos)))
    (segs : List Biogo.PalsOracle.Hit) :
    (suppress sortStart sortEnd segs).Pairwise
      (fun a b => (a.abpos, a.bbpos) ≠ (b.abpos, b.bbpos) ∧ (a.aepos, a.bepos) ≠ (b.aepos, b.bepos)) :=
  suppress_distinct sortStart sortEnd p2 s1 s2 segs

/-- the seventh defect in the suppression model: the emission order `1, 2, 1` of the witness in
    `corpus/C15.txt` is sorted by `Abpos` and by `Aepos` (both constant), so sorts that compare one
    coordinate only may leave it as it is, and the hit `300..500 × 200..400` is returned twice;
    a sort on both coordinates makes the copies neighbours -/
example : suppress id id [⟨300, 200, 500, 400, 200⟩, ⟨300, 650, 500, 850, 200⟩, ⟨300, 200, 500, 400, 200⟩] =
    [⟨300, 200, 500, 400, 200⟩, ⟨300, 650, 500, 850, 200⟩, ⟨300, 200, 500, 400, 200⟩] := by decide

-- ordered by both coordinates the two copies are neighbours and one is removed
example : suppress id id [⟨300, 200, 500, 400, 200⟩, ⟨300, 200, 500, 400, 200⟩, ⟨300, 650, 500, 850, 200⟩] =
    [⟨300, 200, 500, 400, 200⟩, ⟨300, 650, 500, 850, 200⟩] := by decide

theorem startLe_iff (a b : Biogo.PalsOracle.Hit) :
    Biogo.PalsKernel.startLe a b = true ↔ keyLe (a.abpos, a.bbpos) (b.abpos, b.bbpos) := by
  unfold Biogo.PalsKernel.startLe keyLe
  split <;> simp only [decide_eq_true_eq] <;> omega

theorem endLe_iff (a b : Biogo.PalsOracle.Hit) :
    Biogo.PalsKernel.endLe a b = true ↔ keyLe (a.aepos, a.bepos) (b.aepos, b.bepos) := by
  unfold Biogo.PalsKernel.endLe keyLe
  split <;> simp only [decide_eq_true_eq] <;> omega

theorem pairwise_mergeSort_keyLe {le : Biogo.PalsOracle.Hit → Biogo.PalsOracle.Hit → Bool}
    {key : Biogo.PalsOracle.Hit → Int × Int} (h : ∀ a b, le a b = true ↔ keyLe (key a) (key b))
    (l : List Biogo.PalsOracle.Hit) : (l.mergeSort le).Pairwise (fun a b => keyLe (key a) (key b)) :=
  (List.pairwise_mergeSort (fun a b c h1 h2 => (h a c).2 (keyLe_trans ((h a b).1 h1) ((h b c).1 h2)))
    (fun a b => by rw [Bool.or_eq_true, h, h]; exact keyLe_total _ _) l).imp (fun hab => (h _ _).1 hab)

open Biogo.Proofs.PalsKernelSound in
/-- **`alignTraps_sound`** — one statement about the whole of `AlignTraps` (the model the driver
    runs and compares hit by hit with `dp.AlignTraps`: kernel on every trapezoid, acceptance test,
    coverage marks, the two suppression passes), for sequences of valid letters, trapezoids within
    the query rows, a positive minimum length.  Every **reported** hit
    * is one of the hits the kernel emitted, unchanged;
    * lies inside both sequences and its score is that of some global alignment of its two
      regions (`HitOK`), so it passes the per-hit conditions the driver evaluates (`consistent`)
      and `Score ≤ palsGlobal(regions)`;
    * meets the thresholds: both lengths `≥ minLen`, `errNum·den ≤ num·RMatchCost·blen`
      (`Error ≤ 1 − minId`);
    and **no two reported hits begin at the same point, and no two end at the same point**. -/
theorem alignTraps_sound (s : Biogo.PalsKernel.Seqs)
    (hvt : ∀ x ∈ s.target.toList, Biogo.PalsKernel.validLetter x = true)
    (hvq : ∀ x ∈ s.query.toList, Biogo.PalsKernel.validLetter x = true)
    (traps : List Biogo.PalsMerge.Trap) (k minLen num den : Int) (hml : 0 < minLen)
    (htr : TrapsIn s.qlen traps.toArray) :
    (∀ h ∈ Biogo.PalsKernel.alignTraps palsCosts s traps k minLen num den,
      ∃ kh ∈ Biogo.PalsKernel.emitted palsCosts s traps k minLen num den, kh.h = h ∧
        HitOK palsMatrix s.target.toList s.query.toList ⟨h, kh.lowDiagonal, kh.highDiagonal⟩ ∧
        consistent SameCost DiffCost ⟨h, kh.lowDiagonal, kh.highDiagonal⟩ = true ∧
        h.score ≤ palsGlobal (slice s.target.toList h.abpos h.aepos) (slice s.query.toList h.bbpos h.bepos) ∧
        h.alen ≥ minLen ∧ h.blen ≥ minLen ∧ h.errNum * den ≤ num * (RMatchCost * h.blen)) ∧
    (Biogo.PalsKernel.alignTraps palsCosts s traps k minLen num den).Pairwise
      (fun a b => (a.abpos, a.bbpos) ≠ (b.abpos, b.bbpos) ∧ (a.aepos, a.bepos) ≠ (b.aepos, b.bepos)) := by
  constructor
  · intro h hh
    unfold Biogo.PalsKernel.alignTraps Biogo.PalsKernel.suppressed at hh
    have hin := (suppression_returns_emitted_hits _ _
      (fun l x => List.mem_mergeSort) (fun l x => List.mem_mergeSort) _ h hh).1
    obtain ⟨kh, hk, rfl⟩ := List.mem_map.mp hin
    obtain ⟨ok, chk⟩ := kernel_model_split_hits_under_contract false s hvt hvq traps k minLen num den
      (Int.le_of_lt hml) htr kh hk
    have acc := (emittedWith_okQ false palsCosts palsCosts_ok s traps k minLen num den (Int.le_of_lt hml) htr kh hk).2.1
    have thr := accepted_hit_meets_thresholds minLen num den kh.h acc
    have hb : kh.h.bbpos < kh.h.bepos := by
      have := thr.2.1
      simp only [Biogo.PalsOracle.Hit.blen] at this
      omega
    exact ⟨kh, hk, rfl, ok, (chk hb).1, (chk hb).2, thr⟩
  · exact suppression_leaves_one_per_point _ _ (fun l => List.mergeSort_perm l _)
      (pairwise_mergeSort_keyLe startLe_iff) (pairwise_mergeSort_keyLe endLe_iff) _

/-! non-vacuity: a 16-letter target repeated inside a 20-letter query, one trapezoid around the
diagonal `q − t = 2`; the model emits one hit, the hypotheses of `kernel_model_hits_under_contract`
hold and so does its conclusion -/

def exTarget : Array Nat := #[97, 99, 103, 116, 116, 103, 99, 97, 97, 99, 103, 116, 99, 99, 103, 97]
def exQuery : Array Nat := #[116, 116, 97, 99, 103, 116, 116, 103, 99, 97, 97, 99, 103, 116, 99, 99, 103, 97, 103, 103]

theorem exEmitted : Biogo.PalsKernel.emitted palsCosts ⟨exTarget, exQuery⟩ [⟨20, 0, 1, 3⟩] 4 10 100 1000 =
    [⟨⟨0, 2, 16, 18, 16⟩, -9, 2, 0⟩] := by decide +kernel

example : Biogo.PalsKernel.emitted palsCosts ⟨exTarget, exQuery⟩ [⟨20, 0, 1, 3⟩] 4 10 100 1000 =
    [⟨⟨0, 2, 16, 18, 16⟩, -9, 2, 0⟩] := exEmitted

open Biogo.Proofs.PalsKernelSound in
example : HitOK palsMatrix exTarget.toList exQuery.toList ⟨⟨0, 2, 16, 18, 16⟩, -9, 2⟩ := by
  have h := kernel_model_hits_under_contract ⟨exTarget, exQuery⟩ (by decide) (by decide) [⟨20, 0, 1, 3⟩] 4 10 100 1000
    (by decide) (by intro t ht; simp at ht; subst ht; decide)
    ⟨⟨0, 2, 16, 18, 16⟩, -9, 2, 0⟩ (exEmitted ▸ List.mem_singleton_self _)
  exact h

/-- a 16-letter segment twice in the target (at 0 and at 24), once in the query: two alignments over
    the same query rows on the diagonals 0 and 24 -/
def k6Target : Array Nat := exTarget ++ #[116, 116, 116, 116, 103, 103, 103, 103] ++ exTarget
def k6Query : Array Nat := exTarget

/-- **`k6_in_the_model`** — finding K6 on 40 letters: one trapezoid over all query rows and both
    diagonals (`q − t ∈ [−26, 2]`).  The recursion of the source (`emittedWith false`, what the
    correspondence compares with `dp.AlignTraps`) aligns through the middle row once, finds the
    copy at 24 and has no rows left; the recursion that also splits by diagonals (`emittedWith true`,
    the candidate repair the K6 recogniser runs) finds the copy at 0 as well.  Both hits are real
    (`kernel_model_split_hits_under_contract`). -/
theorem k6_in_the_model :
    Biogo.PalsKernel.emittedWith false palsCosts ⟨k6Target, k6Query⟩ [⟨16, 0, -26, 2⟩] 4 10 100 1000 =
      [⟨⟨24, 0, 40, 16, 16⟩, 17, 27, 0⟩] ∧
    Biogo.PalsKernel.emittedWith true palsCosts ⟨k6Target, k6Query⟩ [⟨16, 0, -26, 2⟩] 4 10 100 1000 =
      [⟨⟨24, 0, 40, 16, 16⟩, 17, 27, 0⟩, ⟨⟨0, 0, 16, 16, 16⟩, -7, 3, 0⟩] := by
  -- one evaluation of the conjunction: the traces of the first alignment are common to both recursions
  decide +kernel

open Biogo.Proofs.PalsKernelSound in
/-- the hypotheses of `alignTraps_sound` hold on the example of `kernel_model_hits_under_contract`
    (and on the K6 pair); its conclusion is the statement about `AlignTraps` as a whole -/
example := alignTraps_sound ⟨exTarget, exQuery⟩ (by decide) (by decide) [⟨20, 0, 1, 3⟩] 4 10 100 1000
  (by decide) (by intro t ht; simp at ht; subst ht; decide)

end Biogo.Properties.C15_kernel
