/-
C19 — Workers deliver each result once and stop cleanly; promises settle once.

The theorems are about the labelled transition systems `Biogo.Processor.sys` and
`Biogo.Promise.sys`.  The driver (Biogo/Drive/C19.lean) executes the first, and a refinement of
the second (`Biogo.PromiseCond.fsys`, Properties/C19_cond.lean), under the forced schedules it
shares with the implementation, and every state it reaches is reachable (section `driver`).
`Reach` quantifies over every finite schedule of the goroutines (every interleaving of the atomic
blocks between two hook points), for any number of workers, buffer sizes, operations, fulfillers,
failers and waiters.
`c.fixed = true` selects the protocol after the two `fix:` commits; the protocol as found is
refuted at the end of the file (`double_close`, `send_on_closed`, `borrow_race`).
-/
import Biogo.Proofs.Processor
import Biogo.Proofs.MapChunks
import Biogo.Proofs.PromiseAll
import Biogo.Drive.C19

namespace Biogo.Properties.C19
open Biogo.LTS

section processor
open Biogo.Processor

variable {c : Cfg} {s : St}

/-- "without panic": no schedule makes a worker close `out` twice or send on the closed `out`
    (any number of producers and collectors, with or without `Stop`). -/
theorem no_panic (hfix : c.fixed = true) (ht : 0 < c.threads) (hr : Reach (sys c) s) :
    s.crashed = none :=
  (inv_reach hfix ht s hr).a.nocrash

/-- "the result channel is closed exactly once": never more than once, and it is closed exactly
    when every worker has exited (so also: not while a worker can still send). -/
theorem out_closed_exactly_once (hfix : c.fixed = true) (ht : 0 < c.threads) (hr : Reach (sys c) s) :
    s.closes ≤ 1 ∧ (s.closes = 1 ↔ allDone s = true) := by
  have hI := inv_reach hfix ht s hr
  refine ⟨?_, closes_one_iff hI⟩
  rw [hI.a.closes_eq]; split <;> omega

/-- "every operation submitted produces exactly one result carrying that operation's value or
    error", as an invariant of every reachable state, for any number of producers and
    collectors: the results that exist anywhere (held by a worker, in `out`, being handed over to
    a waiting collector, received by some collector) are, as a multiset, exactly the results of
    the operations taken from the queue so far; the queue is FIFO (`taken ++ queued` is the
    sequence of submissions); every producer's operations were submitted in its own order
    (`submitted by p ++ not yet submitted by p = prods[p]`); and nothing is lost or invented
    (`taken ++ queued ++ not yet submitted` is a permutation of all operations).  Holds also with
    `Stop` and with panicking operations (a recovered panic yields exactly one error result). -/
theorem each_op_one_result (hfix : c.fixed = true) (ht : 0 < c.threads) (hr : Reach (sys c) s) :
    (results s).Perm (s.taken.map eval) ∧
    s.taken ++ s.inq = s.subm.map Prod.snd ∧
    (∀ p : Nat, submittedBy s p ++ s.todo.getD p [] = c.prods.getD p []) ∧
    (s.taken ++ s.inq ++ s.todo.flatten).Perm c.ops := by
  have hI := inv_reach hfix ht s hr
  exact ⟨List.perm_iff_count.2 hI.b.counts, hI.b.fifo, hI.b.perprod, List.perm_iff_count.2 hI.b.mset⟩

/-- the same with one producer: the operations taken are a prefix of those submitted,
    `ops = taken ++ queued ++ not yet submitted`, in order. -/
theorem each_op_one_result_one_producer {ops : List Op} (hp : c.prods = [ops])
    (hfix : c.fixed = true) (ht : 0 < c.threads) (hr : Reach (sys c) s) :
    (results s).Perm (s.taken.map eval) ∧ s.taken ++ s.inq ++ s.todo.getD 0 [] = ops := by
  have hI := inv_reach hfix ht s hr
  refine ⟨List.perm_iff_count.2 hI.b.counts, ?_⟩
  have h0 := hI.b.perprod 0
  rw [hp] at h0
  have hall : s.subm.filter (·.1 == 0) = s.subm := by
    rw [List.filter_eq_self]
    intro e he
    have := hI.b.subm_ids e he
    rw [hp] at this
    simp at this; simp [this]
  simp only [submittedBy, hall] at h0
  rw [hI.b.fifo]; simpa using h0

/-- The final form: once every collector has seen `out` closed (at least one collector, no
    `Stop`, no panicking operation), what the collectors received is, together, exactly one
    result per submitted operation; the queue is drained and every producer has submitted
    everything. -/
theorem each_op_one_result_final (hfix : c.fixed = true) (ht : 0 < c.threads) (hn : 0 < c.ncoll)
    (hr : Reach (sys c) s)
    (hseen : allSeen s = true) (hstop : s.stop = false)
    (hnopan : c.ops.any Op.isPan = false) :
    (allDelivered s).Perm (c.ops.map eval) ∧ s.inq = [] ∧ s.todo.flatten = [] := by
  have hI := inv_reach hfix ht s hr
  -- collector 0 has seen `out` closed: the buffer is empty and every worker has exited
  have hlt : 0 < s.cpcs.length := hI.c'.clen ▸ hn
  have hs0 : s.cpcs[0] = .closedSeen := by
    simpa using List.all_eq_true.1 hseen _ (List.getElem_mem hlt)
  obtain ⟨hq, hcl⟩ := hI.c'.seen_coh 0 (hs0 ▸ List.getElem?_eq_getElem hlt)
  have hall := (closes_one_iff hI).1 hcl
  -- a worker has left its loop, and the only possible reason is: queue closed and drained
  have hnopan' : s.taken.any Op.isPan = false :=
    Bool.eq_false_iff.2 fun hany => by
      obtain ⟨op, hop, hpan⟩ := List.any_eq_true.1 hany
      rw [List.any_eq_true.2 ⟨op, hI.b.taken_sub hop, hpan⟩] at hnopan; cases hnopan
  rcases hI.a.exit_why (nEx_pos_of_allDone hI ht hall) with h | ⟨hclosed, hinq⟩ | h
  · rw [hstop] at h; cases h
  · have htodo : s.todo.flatten = [] :=
      List.flatten_eq_nil_iff.2 fun l hl => by
        simpa using List.all_eq_true.1 (hI.b.closedTodo hclosed) l hl
    refine ⟨?_, hinq, htodo⟩
    have hperm : (results s).Perm (s.taken.map eval) := List.perm_iff_count.2 hI.b.counts
    simp only [results, held_nil_of_allDone hall, hq, handed_nil_of_allSeen hI.c' hseen, List.nil_append,
      List.append_nil] at hperm
    have hops : s.taken.Perm c.ops :=
      List.perm_iff_count.2 fun x => by simpa [hinq, htodo] using hI.b.mset x
    exact hperm.trans (hops.map eval)
  · rw [hnopan'] at h; cases h

/-- "after the queue is closed all workers exit, Wait returns", progress half: every schedule is
    finite — each step of any actor strictly decreases the variant `mu`, so no run from the
    initial state has more than `mu c (init c)` steps
    (= 5·|ops| + 3·threads + 2·collectors + 2 + [close requested]). -/
theorem shutdown_terminates (hfix : c.fixed = true) (ht : 0 < c.threads)
    {sched : List Actor} (h : run (sys c) (init c) sched = some s) :
    sched.length + mu c s ≤ mu c (init c) :=
  run_length_le_of (S := sys c) (mu c) (Inv c)
    (fun _ _ _ hI hs => inv_step hfix hI hs)
    (fun _ _ _ hI hs => mu_step hfix hI hs)
    (inv_init c ht) h

/-- "after the queue is closed all workers exit, Wait returns and the result channel is closed",
    safety half: once `in` is closed, a state in which no worker and no collector can move (there
    is at least one collector) is the clean final state — every worker has exited, `out` has been
    closed (once) and seen closed by every collector, the wait group is released and `Wait` has
    returned or can return.  Together with `shutdown_terminates`: every schedule that keeps
    running enabled actors ends there; there is no deadlock and no livelock. -/
theorem shutdown_clean (hfix : c.fixed = true) (ht : 0 < c.threads) (hn : 0 < c.ncoll)
    (hr : Reach (sys c) s) (hclosed : s.inClosed = true)
    (hw : ∀ i, step c s (.worker i) = none) (hc : ∀ k, step c s (.collector k) = none) :
    allDone s = true ∧ s.closes = 1 ∧ s.crashed = none ∧ allSeen s = true ∧
    (s.waitReturned = true ∨ (step c s .waiter).isSome = true) := by
  have hI := inv_reach hfix ht s hr
  obtain ⟨h1, h2, h3, h4⟩ := stuck_final hn hI hclosed hw hc
  refine ⟨h1, h2, hI.a.nocrash, h4, ?_⟩
  cases hwr : s.waitReturned
  · right; simp [step, hI.a.nocrash, hwr, h3]
  · left; rfl

/-- "Map returns one result per chunk with the chunks partitioning the input", the chunking:
    for every input, thread count ≥ 1 and maximum chunk size ≥ 1 the chunks produced by Map's
    producer loop are non-empty, lie inside the input, follow one another without gap or
    overlap, and their concatenation is the input. -/
theorem map_partition {α : Type} (xs : List α) (threads maxChunk : Nat)
    (ht : 0 < threads) (hm : 0 < maxChunk) :
    let cs := chunks xs.length (chunkSize xs.length threads maxChunk)
    cs.flatMap (slice xs) = xs ∧ tiles xs.length 0 cs = true ∧
    ∀ p ∈ cs, p.1 < p.2 ∧ p.2 ≤ xs.length := by
  intro cs
  have htiles : tiles xs.length 0 cs = true := by
    cases hn : xs.length with
    | zero => simp [cs, hn, chunks_zero, tiles]
    | succ n =>
      have := tiles_chunks xs.length _ (chunkSize_pos xs.length threads maxChunk (by omega) ht hm)
      simpa [cs, hn] using this
  refine ⟨by simpa using tiles_join xs cs 0 htiles, htiles, ?_⟩
  intro p hp
  have := tiles_bounds xs.length cs 0 htiles p hp
  omega

/-- Map's workers: with the chunk operations as the one producer's input (any evaluation `f` of
    a chunk), the results that exist are one per chunk taken, for every schedule. -/
theorem map_one_result_per_chunk (n threads maxChunk : Nat) (f : Nat × Nat → Op)
    (hc : c.prods = [(chunks n (chunkSize n threads maxChunk)).map f])
    (hfix : c.fixed = true) (ht : 0 < c.threads) (hr : Reach (sys c) s) :
    (results s).Perm (s.taken.map eval) ∧
    s.taken ++ s.inq ++ s.todo.getD 0 [] = (chunks n (chunkSize n threads maxChunk)).map f :=
  each_op_one_result_one_producer hc hfix ht hr

/-- Quirk recorded in notes/C19.md (outside C19's statement, whose shutdown clause starts "after
    the queue is closed"): `Map` never closes its private queue.  A Processor whose queue is never
    closed keeps it open for ever, and its workers leave their loop only through `Stop` (which a
    worker notices after finishing an operation, not while it waits for one) or a panicking
    operation — so the workers that are idle when Map returns stay parked in their receive. -/
theorem unclosed_queue_workers_stay (hfix : c.fixed = true) (ht : 0 < c.threads)
    (hwc : c.wantClose = false) (hr : Reach (sys c) s) :
    s.inClosed = false ∧ (0 < nEx s.ws → s.stop = true ∨ s.taken.any Op.isPan = true) := by
  have hcl : s.inClosed = false := by
    induction hr with
    | init => rfl
    | step hr' hs ih =>
      have hA := (inv_reach hfix ht _ hr').a
      have hs' : step c _ _ = some _ := hs
      cases shape_of_step hfix hA hs' with
      | p_close p hall hncl hwc' => rw [hwc] at hwc'; cases hwc'
      | _ => exact ih
  refine ⟨hcl, ?_⟩
  intro hpos
  rcases (inv_reach hfix ht s hr).a.exit_why hpos with h | h | h
  · exact Or.inl h
  · rw [hcl] at h; cases h.1
  · exact Or.inr h

open Biogo.Processor in
/-- … the state Map leaves behind, in the model: both operations processed and collected, `Stop`
    called, the queue still open: nobody can move, both workers are parked in `recv`, `out` is
    not closed. -/
example :
    let c : Processor.Cfg := Processor.Cfg.single 2 0 1 [.val 1, .val 2] false true
    let s := runSkip (Processor.sys c) (Processor.init c)
      ((List.replicate 6 [Actor.producer 0, .worker 0, .worker 1, .collector 0]).flatten ++ [.stopper])
    (allDelivered s).length = 2 ∧ s.stop = true ∧ s.ws = [.recv, .recv] ∧ s.closes = 0 ∧
    (∀ a ∈ [Actor.worker 0, .worker 1, .producer 0, .collector 0, .stopper], Processor.step c s a = none) := by
  decide

end processor

section promise
open Biogo.Promise

variable {c : Promise.Cfg} {s : Promise.St}

/-- "An immutable Promise takes the value of exactly one successful Fulfill": under every
    schedule at most one Fulfill/Fail reports success, exactly one once the promise holds
    anything, and a Fulfill that reported success has its value in the promise in every later
    state.  Any values: `Fulfill(nil)` is a legal call and the message `{nil, nil}` counts as
    set. -/
theorem promise_single_assignment (hS : Scope c) (hr : Reach (Promise.sys c) s) :
    s.pcs.countP APc.isWin ≤ 1 ∧
    (cur s ≠ none → s.pcs.countP APc.isWin = 1) ∧
    ∀ (i : Nat) (v : Option Nat), c.calls[i]? = some (.fulfill v) → s.pcs[i]? = some (.done (.ferr none)) →
      ∀ s', ReachFrom (Promise.sys c) s s' → cur s' = some ⟨v, none⟩ := by
  have hW : s.pcs.countP APc.isWin = if cur s = none then 0 else 1 :=
    wins_reach hS.fixed hS.immutable hS.noReset s hr
  refine ⟨by rw [hW]; split <;> omega, fun hne => by rw [hW, if_neg hne], fun i v hcall hpc s' hrf => ?_⟩
  obtain ⟨r', hc', he'⟩ := obs_stable hS.fixed hS.immutable hS.noReset hr hcall hpc rfl rfl hrf
  rw [hc', Ext.eq_of_norelay hS.norelay he']

/-- "every other Fulfill returns an error and leaves it unchanged": a Fulfill that runs when the
    promise already holds something returns an error, and the promise's content is the same
    afterwards. -/
theorem other_fulfills_error_and_unchanged (hS : Scope c) (hr : Reach (Promise.sys c) s)
    {i : Nat} {v : Option Nat} {r0 : Res} {s' : Promise.St}
    (hcall : c.calls[i]? = some (.fulfill v)) (hcur : cur s = some r0)
    (hstep : Promise.step c s i = some s') :
    (∃ e, s'.pcs[i]? = some (.done (.ferr (some e)))) ∧ cur s' = some r0 := by
  cases cur_step hS.fixed (Promise.inv_reach hS s hr).mutex hstep with
  | atomic call b ret hcall' hnw hpc heq hcur' hpcs =>
    rw [hcall] at hcall'; cases hcall'
    obtain ⟨e, he⟩ := fulfill_settled c.flags hS.immutable hS.norelay r0 v
    rw [hcur] at heq
    simp only [atomicCall, he] at heq
    cases heq
    exact ⟨⟨e, by rw [hpcs]; exact List.getElem?_set_self (lt_of_getElem? hpc)⟩, hcur'⟩
  | wait r pc pc' hcall' _ _ _ _ _ => rw [hcall] at hcall'; cases hcall'

/-- "every Wait, started before or after fulfilment, returns that value (or the failure's
    error)": a Wait that has returned delivered the promise's settled content, which is the
    content in every later state too; hence all Waits deliver the same Result. -/
theorem waits_return_value (hS : Scope c) (hr : Reach (Promise.sys c) s)
    {i : Nat} {r : Res} (hcall : c.calls[i]? = some .wait) (hpc : s.pcs[i]? = some (.done (.res r))) :
    (∀ s', ReachFrom (Promise.sys c) s s' → cur s' = some r) ∧
    ∀ (j : Nat) (r' : Res), c.calls[j]? = some .wait → s.pcs[j]? = some (.done (.res r')) → r' = r := by
  refine ⟨fun s' hrf => ?_, fun _ _ hcj hpj =>
    ((obs_reach hS.fixed hS.immutable hS.noReset s hr).waits_agree hcall hpc hcj hpj).2 hS.norelay⟩
  obtain ⟨r1, h1, e1⟩ := obs_stable hS.fixed hS.immutable hS.noReset hr hcall hpc rfl rfl hrf
  rw [h1, Ext.eq_of_norelay hS.norelay e1]

/-- "without blocking forever / without deadlock": as long as some call has not returned and at
    least one of the calls is a Fulfill or Fail, some goroutine can take a step. -/
theorem no_deadlock (hS : Scope c) (hr : Reach (Promise.sys c) s)
    (hsetter : ∃ (k : Nat) (call : Call), c.calls[k]? = some call ∧ call.isSetter = true)
    (hnd : Promise.allDone s = false) : ∃ i, (Promise.step c s i).isSome = true := by
  refine can_move hS.fixed hS.noReset hr ?_ hnd
  obtain ⟨k, call, hcall, hset⟩ := hsetter
  have := hS.calls call (List.mem_of_getElem? hcall)
  cases call with
  | fulfill v => exact ⟨k, _, hcall, rfl⟩
  | fail v e => exact ⟨k, _, hcall, rfl⟩
  | wait => cases hset
  | recover v => cases this
  | brk => cases this

/-- … and every schedule is finite: a run has at most two steps per call (holds for every flag
    combination, every kind of call, and both protocols). -/
theorem promise_terminates {sched : List Nat} (h : run (Promise.sys c) (Promise.init c) sched = some s) :
    sched.length + pmu s ≤ 2 * c.calls.length := by
  have := run_length_le (S := Promise.sys c) pmu (fun _ _ _ hs => pmu_step hs) h
  have h0 : pmu (Promise.init c) = 2 * c.calls.length := by
    simp only [pmu, Promise.init, List.map_replicate, List.sum_replicate_nat, prank, Nat.mul_comm]
  omega

/-- the first Fulfill of an unset promise succeeds and stores the value -/
theorem seq_fulfill_unset (f : Flags) (v : Option Nat) :
    fulfill f none v = (some ⟨v, none⟩, none) := fulfill_unset f v

/-- Fulfill of a fulfilled promise: mutable → value replaced, no error; immutable → error,
    value kept, and the error is relayed into the promise iff `relay` -/
theorem seq_fulfill_fulfilled (f : Flags) (v0 v : Option Nat) :
    fulfill f (some ⟨v0, none⟩) v =
      if f.mutable then (some ⟨v, none⟩, none)
      else if f.relay then (some ⟨v0, some .alreadySet⟩, some .alreadySet)
      else (some ⟨v0, none⟩, some .alreadySet) := by
  rw [fulfill_fulfilled]; cases f.mutable <;> cases f.relay <;> rfl

/-- Fulfill of a failed promise always fails and changes nothing -/
theorem seq_fulfill_failed (f : Flags) (v0 v : Option Nat) (e : ErrV) :
    fulfill f (some ⟨v0, some e⟩) v =
      (some ⟨v0, some e⟩, some (if f.relay then .cannotRelay else .failedPromise)) :=
  fulfill_failed f v0 v e

/-- Fail of an unset promise succeeds; Fail of a promise that holds a Result — whatever it is,
    `Result{nil, nil}` after `Fulfill(nil)` included (fix 0095d35) — reports false and changes
    nothing -/
theorem seq_fail (v : Option Nat) (e : Option ErrV) :
    Promise.fail none v e = (some ⟨v, e⟩, true) ∧
    ∀ r0 : Res, Promise.fail (some r0) v e = (some r0, false) :=
  ⟨fail_unset v e, fun r0 => fail_set r0 v e⟩

/-- Recover: a recoverable promise is reset to the given value (or emptied when the value is
    nil); on a non-recoverable promise it reports false and leaves the promise as it is
    (fix 5f9d169; as found the refused call dropped the message) -/
theorem seq_recover (f : Flags) (box : Option Res) (v : Nat) :
    Promise.recover f box (some v) = (if f.recoverable then (some ⟨some v, none⟩, true) else (box, false)) ∧
    Promise.recover f box none = (if f.recoverable then none else box, f.recoverable) := by
  cases f with | mk m r l => cases m <;> cases r <;> cases l <;> exact ⟨rfl, rfl⟩

/-- the laws above as one decidable table over all 8 flag combinations and a small value domain -/
theorem seq_laws_table :
    ∀ m ∈ [true, false], ∀ r ∈ [true, false], ∀ l ∈ [true, false],
      let f : Flags := ⟨m, r, l⟩
      (fulfill f none (some 1)).2 = none ∧
      ((fulfill f (some ⟨some 1, none⟩) (some 2)).2 = none ↔ m = true) ∧
      ((fulfill f (some ⟨some 1, none⟩) (some 2)).1 = some ⟨some 2, none⟩ ↔ m = true) ∧
      (fulfill f (some ⟨none, some (.user 7)⟩) (some 2)).2 ≠ none ∧
      (Promise.fail (some ⟨some 1, none⟩) (some 2) (some (.user 7))).2 = false ∧
      ((Promise.recover f (some ⟨none, some (.user 7)⟩) (some 3)).2 = true ↔ r = true) := by
  decide

end promise

section driver
open Biogo.Drive.C19

variable {σ ι : Type} [BEq σ]

theorem settle_reach (M : Macro σ ι) : ∀ (fuel : Nat) (m : MSt σ),
    Reach M.sys m.st → Reach M.sys (settle M fuel m).st := by
  intro fuel
  induction fuel with
  | zero => intro m h; exact h
  | succ fuel ih =>
    intro m h
    simp only [settle]
    split
    · exact h
    · split
      · rename_i s' hs
        exact ih _ (Reach.step h hs)
      · exact h

theorem release_reach (M : Macro σ ι) (m : MSt σ) (k : Nat) (h : Reach M.sys m.st) :
    Reach M.sys (release M m k).st := by
  simp only [release]
  split
  · exact h
  · exact settle_reach M _ _ h

theorem drain_reach (M : Macro σ ι) (order : List Nat) : ∀ (fuel : Nat) (m : MSt σ),
    Reach M.sys m.st → Reach M.sys (drain M order fuel m).st := by
  intro fuel
  induction fuel with
  | zero => intro m h; exact h
  | succ fuel ih =>
    intro m h
    simp only [drain]
    split
    · exact h
    · split
      · exact ih _ (release_reach M m _ h)
      · exact h

/-- Every state the driver reaches when it replays a controller schedule on the model
    (`runMacro`, the function that produces the model side of each forced-schedule case) is a
    reachable state of the transition system — so the theorems of this file apply to it. -/
theorem runMacro_reach (M : Macro σ ι) (sched order : List Nat) :
    Reach M.sys (runMacro M sched order).st := by
  simp only [runMacro]
  apply drain_reach
  have : ∀ (l : List Nat) (m : MSt σ), Reach M.sys m.st → Reach M.sys (l.foldl (release M) m).st := by
    intro l
    induction l with
    | nil => intro m h; exact h
    | cons k rest ih => intro m h; exact ih _ (release_reach M m k h)
  exact this _ _ Reach.init

/-- instance: the Processor and Promise runs of the driver (the promise runs are runs of the
    protocol with the condition variable spelled out, `Biogo.PromiseCond.fsys`; with the sleep
    forgotten they are runs of `Biogo.Promise.sys`: `driver_promise_runs_refine` in
    Properties/C19_cond.lean) -/
theorem driver_runs_are_reachable (pc : Processor.Cfg) (qc : PromiseCond.FCfg) (sched order : List Nat) :
    Reach (Processor.sys pc) (runMacro (procMacro pc) sched order).st ∧
    Reach (PromiseCond.fsys qc) (runMacro (promMacro qc) sched order).st :=
  ⟨runMacro_reach (procMacro pc) sched order, runMacro_reach (promMacro qc) sched order⟩

end driver

section refutations

open Biogo.Processor in
/-- F18, first scenario: two workers, no operations, the queue is closed; worker 0 exits
    completely while worker 1 has not yet taken its token — both see all tokens back. -/
theorem double_close :
    ∃ sched : List Processor.Actor,
      (run (Processor.sys (Processor.Cfg.single 2 0 1 [] true false))
          (Processor.init (Processor.Cfg.single 2 0 1 [] true false))
          sched).map (·.crashed) = some (some .doubleClose) :=
  ⟨[.producer 0, .worker 0, .worker 0, .worker 0, .worker 1, .worker 1, .worker 1], by decide⟩

open Biogo.Processor in
/-- F18, second scenario (hook a): both workers have returned their tokens before either tests
    the count. -/
theorem double_close_both_at_hook :
    ∃ sched : List Processor.Actor,
      (run (Processor.sys (Processor.Cfg.single 2 0 1 [] true false))
          (Processor.init (Processor.Cfg.single 2 0 1 [] true false))
          sched).map (·.crashed) = some (some .doubleClose) :=
  ⟨[.producer 0, .worker 0, .worker 0, .worker 1, .worker 1, .worker 0, .worker 1], by decide⟩

open Biogo.Processor in
/-- the same root cause with `Stop`: a worker that starts late sends on the closed channel -/
theorem send_on_closed :
    ∃ sched : List Processor.Actor,
      (run (Processor.sys (Processor.Cfg.single 2 1 2 [.val 1, .val 2] false false))
          (Processor.init (Processor.Cfg.single 2 1 2 [.val 1, .val 2] false false))
          sched).map (·.crashed) = some (some .sendOnClosed) :=
  ⟨[.producer 0, .producer 0, .stopper, .worker 0, .worker 0, .worker 0, .worker 0, .collector 0,
    .worker 1, .worker 1, .worker 1], by decide⟩

open Biogo.Promise in
/-- F19: immutable promise, Fulfill(1); a Wait takes the message (hook b); Fulfill(2) finds the
    mailbox empty and succeeds — two successful Fulfills — and the waiter can never put the
    message back: it is blocked although nobody holds anything it waits for. -/
theorem borrow_race :
    ∃ sched : List Nat, ∃ s,
      run (Promise.sys { flags := ⟨false, false, false⟩, calls := [.fulfill (some 1), .wait, .fulfill (some 2)], fixed := false })
          (Promise.init { flags := ⟨false, false, false⟩, calls := [.fulfill (some 1), .wait, .fulfill (some 2)], fixed := false })
          sched = some s ∧
      s.pcs.countP APc.isWin = 2 ∧ Promise.allDone s = false ∧
      ∀ i ∈ [0, 1, 2], Promise.step { flags := ⟨false, false, false⟩, calls := [.fulfill (some 1), .wait, .fulfill (some 2)], fixed := false } s i = none :=
  ⟨[0, 1, 2], _, rfl, by decide, by decide, by decide⟩

end refutations

/-! ## Non-vacuity: the hypotheses are satisfiable and the runs are not trivial -/
section examples

open Biogo.Processor in
/-- a complete run of the repaired Processor: 2 workers, 3 operations, unbuffered `out` -/
example :
    let c : Processor.Cfg := Processor.Cfg.single 2 0 1 [.val 1, .err 2, .val 3] true true
    let s := runSkip (Processor.sys c) (Processor.init c)
      ((List.replicate 12 [Actor.producer 0, .worker 0, .worker 1, .collector 0, .waiter]).flatten)
    allSeen s = true ∧ s.closes = 1 ∧ s.waitReturned = true ∧ (allDelivered s).length = 3 ∧ s.crashed = none := by
  decide

open Biogo.Processor in
/-- … and one with two producers and two collectors: every operation is delivered to one of the
    collectors, both see `out` closed -/
example :
    let c : Processor.Cfg := { threads := 2, outCap := 0, inCap := 1, prods := [[.val 1, .err 2], [.val 3, .pan 4]],
                               ncoll := 2, wantClose := true, fixed := true }
    let s := runSkip (Processor.sys c) (Processor.init c)
      ((List.replicate 14 [Actor.producer 1, .producer 0, .worker 0, .worker 1, .collector 0, .collector 1, .waiter]).flatten)
    allSeen s = true ∧ s.closes = 1 ∧ s.waitReturned = true ∧ (allDelivered s).length = 4 ∧
    s.crashed = none ∧ s.delivered.all (fun l => !l.isEmpty) = true := by
  decide

open Biogo.Promise in
/-- the schedule of `borrow_race` on the repaired protocol: the second Fulfill is blocked while
    the waiter holds the message, then fails; everything returns -/
example :
    let c : Promise.Cfg := { flags := ⟨false, false, false⟩, calls := [.fulfill (some 1), .wait, .fulfill (some 2)], fixed := true }
    Promise.step c (runSkip (Promise.sys c) (Promise.init c) [0, 1]) 2 = none ∧
    (runSkip (Promise.sys c) (Promise.init c) [0, 1, 2, 1, 2]).pcs =
      [.done (.ferr none), .done (.res ⟨some 1, none⟩), .done (.ferr (some .alreadySet))] := by
  decide

open Biogo.Promise in
example : Scope { flags := ⟨false, true, false⟩, calls := [.fulfill (some 1), .wait, .fail none (some (.user 7))], fixed := true } :=
  ⟨rfl, rfl, rfl, by decide⟩

open Biogo.Promise in
/-- nil values are inside the scope: Fulfill(nil), Fail(nil, nil) -/
example : Scope { flags := ⟨false, false, false⟩, calls := [.fulfill none, .wait, .fail none none, .fulfill (some 1)], fixed := true } :=
  ⟨rfl, rfl, rfl, by decide⟩

open Biogo.Processor in
example : chunks 10 (chunkSize 10 3 100) = [(0, 4), (4, 8), (8, 10)] := by decide

end examples

end Biogo.Properties.C19
