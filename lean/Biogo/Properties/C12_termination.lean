/-
C12, termination — every schedule of the concurrent sorter model terminates, for every finite
caller program (well-formed or not), with or without an injected fault, in both modes: a
measure on states (`Biogo.MorassConc.mu`, `Proofs/MorassTermination.lean`) is strictly decreased
by every atomic block of every actor.  Together with `no_deadlock` (Properties/C12.lean): every
maximal run ends with the caller having returned from the last call of its program.
-/
import Biogo.Model.MorassConc
import Biogo.Proofs.MorassConc
import Biogo.Proofs.MorassTermination
import Biogo.Properties.C12

namespace Biogo.Properties.C12_termination
open Biogo.Morass Biogo.MorassConc Biogo.Interleave

variable {conc : Bool} {c : Nat} {ac acl : Bool} {prog : List Op} {flt : Fault}

/-- **The measure.**  Every atomic block of the caller or of a `write()` activation strictly
    decreases `mu` (cost of the calls still to make + blocks every activation still has to run +
    elements waiting in `writable`, in a writer's hands or in the caller's chunk) — in every
    state, reachable or not. -/
theorem step_decreases {s t : CState} {i : Nat} (h : MorassConc.step s i = some t) : mu t < mu s :=
  mu_step h

/-- a strict schedule of length `n` lowers the measure by at least `n` -/
theorem schedule_bounded (S : Sys CState Nat) (hS : S.step = MorassConc.step) :
    ∀ (sched : List Nat) (s t : CState), runFrom S s sched = some t → sched.length + mu t ≤ mu s :=
  fun sched s _ h => LTS.run_length_le (S := S.toLTS) mu
    (fun s i _ (hs : S.step s i = some _) => mu_step (hS ▸ hs)) ((runFrom_eq S s sched).symm.trans h)

/-- **Every schedule terminates.**  For every caller program, chunk size, mode, AutoClear /
    AutoClean setting and fault: a schedule that the system can follow (every scheduled actor
    enabled when its turn comes) has at most `10 · |program|` entries — whatever the
    interleaving, the caller and the chunk writers together run at most that many atomic
    blocks.  There is no infinite run, no livelock. -/
theorem every_schedule_terminates (conc : Bool) (c : Nat) (ac acl : Bool) (prog : List Op) (flt : Fault)
    (sched : List Nat) (t : CState) (h : run (sys conc c ac acl prog flt) sched = some t) :
    sched.length ≤ 10 * prog.length := by
  have := schedule_bounded (sys conc c ac acl prog flt) rfl sched _ t h
  have e : mu (sys conc c ac acl prog flt).init = progCost prog := mu_init conc c ac acl prog flt
  have := progCost_le prog
  omega

/-- there is no infinite run (from any state) -/
theorem no_infinite_run (f : Nat → CState) (g : Nat → Nat)
    (h : ∀ n, MorassConc.step (f n) (g n) = some (f (n + 1))) : False := by
  have key : ∀ n, mu (f n) + n ≤ mu (f 0) := by
    intro n
    induction n with
    | zero => simp
    | succ n ih => have := mu_step (h n); omega
  have := key (mu (f 0) + 1)
  omega

/-- **Every maximal run ends with the caller's program completed**: a state reached by some
    schedule in which no actor can move is one in which the caller has returned from the last
    call of its program (`no_deadlock`), and such a state is reached after at most
    `10 · |program|` blocks whatever the schedule (`every_schedule_terminates`). -/
theorem maximal_run_finished {s : CState} (hr : Reach (sys conc c ac acl prog flt) s)
    (hstuck : ∀ i, MorassConc.step s i = none) : finished s = true := by
  cases hf : finished s with
  | true => rfl
  | false =>
    obtain ⟨i, hi⟩ := Biogo.Properties.C12.no_deadlock hr hf
    rw [hstuck i] at hi; cases hi

/-- non-vacuity: the bound is met within a factor — the 16-block schedule of `finalise_waits`'
    example (3 calls) is admissible -/
example : (run (sys true 1 false false [.push ⟨2, 0⟩, .push ⟨1, 0⟩, .finalise] [])
    [0, 0, 0, 0, 1, 1, 1, 1, 1, 0, 0, 0, 0, 0, 0, 0]).isSome = true := by decide +kernel

end Biogo.Properties.C12_termination
