/-
C13 — "After CleanUp … the sorter's temporary directory no longer exists", when the
caller abandons the sort with `CleanUp` while chunk writers are still in flight.

`Model/MorassAbandon.lean`: the system `sysA` = `sys` plus (1) the caller's final `CleanUp`
(`os.RemoveAll(m.dir)`, made as soon as the caller has returned from its last call — the end of
its program, or the call that returned the error after which it gives up — without waiting for
the `write()` activations), and (2) `ioutil.TempFile` failing in a directory that no longer
exists (the failure is recorded with `setErr`, the activation returns its buffer and ends).
-/
import Biogo.Model.MorassAbandon
import Biogo.Proofs.MorassStep
import Biogo.Proofs.MorassNoFault

namespace Biogo.Properties.C13_abandon
open Biogo.Morass Biogo.MorassConc Biogo.Interleave

/-- what a block of `write()` (with `TempFile` failing in a removed directory) does to the part of
    the state the statement is about: the caller's control state is untouched, the directory is
    neither created nor removed, and once it is gone no file appears in it -/
theorem wstepD_dir {s s' : CState} {w w' : Writer} (h : wstepD s w = some (w', s')) :
    s'.prog = s.prog ∧ s'.pc = s.pc ∧ s'.dirExists = s.dirExists ∧ (s.dirExists = false → s'.onDisk = s.onDisk) := by
  unfold wstepD at h
  split at h
  · rename_i hc
    cases hr : s.writable.recv with
    | none => simp [hr] at h
    | some p =>
      obtain ⟨r, ch⟩ := p
      simp only [hr, Option.some.injEq, Prod.mk.injEq] at h
      obtain ⟨_, rfl⟩ := h
      exact ⟨rfl, rfl, rfl, fun _ => rfl⟩
  · rename_i hc
    have fr := wstep_frame h
    -- not the block that creates the file: that one is `wstepD`'s own when the directory is gone
    exact ⟨fr.prog, fr.pc, (wstep_dir h).1, fun hd => fr.disk (fun hwpc => hc ⟨hwpc, hd⟩)⟩

/-- the invariant: once the caller has made its `CleanUp` it has returned from every call, the
    directory does not exist and nothing is in it -/
def Abandoned (a : AState) : Prop :=
  a.cleaned = true → finished a.s = true ∧ a.s.dirExists = false ∧ a.s.onDisk = 0

theorem Abandoned_step {a b : AState} {i : Nat} (h : Abandoned a) (hst : stepA a i = some b) : Abandoned b := by
  cases i with
  | zero =>
    simp only [stepA] at hst
    split at hst
    · rename_i hfin
      split at hst
      · simp only [Option.some.injEq] at hst; subst hst
        intro _
        exact ⟨hfin, rfl, rfl⟩
      · cases hst
    · rename_i hnf
      cases hc : cstepD a.s with
      | none => simp [hc] at hst
      | some s' =>
        simp only [hc, Option.map_some, Option.some.injEq] at hst; subst hst
        intro hcl
        exact absurd (h hcl).1 hnf
  | succ k =>
    simp only [stepA] at hst
    cases hk : a.s.writers[k]? with
    | none => simp [hk] at hst
    | some w =>
      simp only [hk] at hst
      cases hw : wstepD a.s w with
      | none => simp [hw] at hst
      | some p =>
        obtain ⟨w', s'⟩ := p
        simp only [hw, Option.some.injEq] at hst; subst hst
        intro hcl
        obtain ⟨hfin, hdir, hdisk⟩ := h hcl
        obtain ⟨e1, e2, e3, e4⟩ := wstepD_dir hw
        rw [finished_iff] at hfin ⊢
        exact ⟨⟨e1.trans hfin.1, e2.trans hfin.2⟩, e3.trans hdir, (e4 hdir).trans hdisk⟩

/-- **An abandoned sorter leaves nothing behind.**  Either mode, every chunk size, every program
    (in particular: some pushes and no `Finalise`), every list of faults, every schedule: once the
    caller has made its final `CleanUp` — while any number of `write()` activations are anywhere
    in their code, before or after creating their temporary file — the temporary directory does
    not exist and holds no file, in that state and in every later one (so also when every writer
    has ended).  A writer that creates its file before `CleanUp` loses it to `RemoveAll`; one that
    comes after fails in `TempFile` and records the error. -/
theorem abandon_leaves_nothing (conc : Bool) (c : Nat) (ac acl reuse : Bool) (prog : List Op) (flt : Fault)
    {a : AState} (hr : Reach (sysA conc c ac acl prog flt reuse true) a) (hcl : a.cleaned = true) :
    a.s.dirExists = false ∧ a.s.onDisk = 0 := by
  have : Abandoned a :=
    inv_of_reach _ Abandoned (fun h => by simp [sysA] at h) (fun _ _ _ hs hst => Abandoned_step hs hst) a hr
  exact (this hcl).2

/-- `sysA` is `sys` as long as the temporary directory exists: the blocks of the writers and of the
    caller (its final `CleanUp` apart) are those of the system the other theorems are about -/
theorem sysA_agrees_while_dir_exists (a : AState) (hd : a.s.dirExists = true) :
    (∀ k, stepA a (k + 1) = (MorassConc.step a.s (k + 1)).map (fun s' => { a with s := s' }))
    ∧ (finished a.s = false → stepA a 0 = (MorassConc.step a.s 0).map (fun s' => { a with s := s' })) := by
  have hw : ∀ w, wstepD a.s w = wstep a.s w := by
    intro w; unfold wstepD; simp [hd]
  refine ⟨?_, ?_⟩
  · intro k
    simp only [stepA, MorassConc.step]
    cases hk : a.s.writers[k]? with
    | none => rfl
    | some w =>
      simp only [hw]
      cases wstep a.s w with
      | none => rfl
      | some p => rfl
  · intro hnf
    simp only [stepA, hnf, Bool.false_eq_true, if_false, MorassConc.step]
    congr 1
    unfold cstepD
    split
    · rename_i hpc
      simp only [hw, cstep, hpc]
      rfl
    · rfl

/-- chunk 1, concurrent mode, push 2 1 and abandon -/
abbrev exS : Sys AState Nat := sysA true 1 false false [.push ⟨2, 0⟩, .push ⟨1, 0⟩] [] false true

/-- non-vacuity, and the shape of the seeded change C13-m6: chunk 1, concurrent mode, push 2 1 and
    abandon.  The second `Push` hands `[2]` to writer 1; the schedule holds writer 1 before
    `write.recv` (before it creates its temporary file) while the caller finishes the `Push` and
    calls `CleanUp`; then writer 1 runs: its `TempFile` fails in the removed directory, the error is
    recorded, it ends.  One writer was in flight at `CleanUp`; at the end the directory does not
    exist.  (With `os.MkdirAll(m.dir)` before `TempFile` the code re-creates the directory.) -/
example :
    (runFrom exS exS.init [0, 0, 0, 0, 0, 1, 1]).map
        (fun a => a.cleaned && a.inflight == 1 && !a.s.dirExists && a.s.onDisk == 0 && a.s.m.err == some .ioerr
                  && a.s.writers.map (·.pc) == [.done])
      = some true := by
  decide +kernel

/-- the other ordering: the writer creates its file first (one run file on disk), `CleanUp` removes
    the directory with it, the writer goes on encoding into the unlinked file and ends -/
example :
    (runFrom exS exS.init [0, 0, 0, 1]).map (fun a => a.s.onDisk) = some 1
    ∧ (runFrom exS exS.init [0, 0, 0, 1, 0, 0, 1, 1, 1, 1]).map
        (fun a => a.cleaned && a.inflight == 1 && !a.s.dirExists && a.s.onDisk == 0 && a.s.m.err == none
                  && a.s.writers.map (·.pc) == [.done])
      = some true := by
  decide +kernel

end Biogo.Properties.C13_abandon
