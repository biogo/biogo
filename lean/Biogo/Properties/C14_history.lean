/-
C14 — usage histories.  PALS scans both strands (and callers scan many queries) with ONE
`*filter.Filter`; the property is per scan.  `Biogo.Filter.filterFrom` is `Filter` as a function of
the state the previous call left in the `*Filter` (`FState`: the tube list `f.tubes`; every other
field a scan reads is constant since `New` or assigned at the head of `Filter` — regenerated fact
`perCallFields`).  For the code as it is (`f.tubes` re-made before every scan and reset to nil
after it: `Rule.remakeTubes`, regenerated from the source) the result of a scan does not depend on
the history, so `filter_complete` holds of every scan of every history.
-/
import Biogo.Properties.C14

namespace Biogo.Properties.C14_history
open Biogo.Filter Biogo.Spec.Filter Biogo.Spec.Kmer Biogo.Proofs.Kmer Biogo.Proofs.FilterComplete
open Biogo.Properties.C14 (rule_tie dna filter_dna scanFrom_dna)

/-- the source re-makes the tube list at the start of every scan and resets it at the end
    (`f.tubes = make([]tubeState, maxActiveTubes)` before the scan, `f.tubes = nil` after the flush),
    and the per-call fields are the ones the model treats as per-call — regenerated from
    `align/pals/filter/filter.go` on every run; fails to build otherwise -/
theorem history_source_facts :
    Biogo.Generated.FilterFacts.rule.remakeTubes = true ∧
    Biogo.Generated.FilterFacts.perCallFields =
      ["selfAlign", "complement", "morass", "k", "minKmersPerHit", "maxKmerDist"] ∧
    Biogo.Generated.FilterFacts.otherFieldWrites = ["tubes", "tubes"] := by
  decide

/-- **a scan does not see the previous one**: with the tube list re-made on every call, `Filter` on
    a `*Filter` in any state `prev` returns what `Filter` returns on a new one (`filter`, the function
    of `filter_complete`), errors included -/
theorem scan_independent_of_state (rule : Rule) (h : rule.remakeTubes = true) (lk : Lookup)
    (ix : Biogo.Kmer.Index) (p : Params) (prev : FState) (q : List UInt8) (selfAlign complement : Bool) :
    (filterFrom rule lk ix p prev q selfAlign complement).1 = filter rule lk ix p q selfAlign complement := by
  unfold filterFrom filter
  by_cases h1 : p.tubeOffset < p.maxError
  · rw [if_pos h1, if_pos h1]
  · rw [if_neg h1, if_neg h1]
    by_cases h2 : p.tubeOffset = 0
    · rw [if_pos h2, if_pos h2]
    · rw [if_neg h2, if_neg h2]
      simp only [h, if_true]
      cases (scanFrom rule lk ix p q selfAlign complement
        (Array.replicate (mkCfg rule ix.k ix.seq.length p selfAlign complement).cap default)).1 <;> rfl

/-- a scan that returns its hits leaves `f.tubes = nil`: the state of a new `*Filter` -/
theorem scan_resets_state (rule : Rule) (h : rule.remakeTubes = true) (lk : Lookup)
    (ix : Biogo.Kmer.Index) (p : Params) (prev : FState) (q : List UInt8) (selfAlign complement : Bool)
    (hits : List Biogo.Filter.Hit) (hok : (filterFrom rule lk ix p prev q selfAlign complement).1 = .ok hits) :
    (filterFrom rule lk ix p prev q selfAlign complement).2.tubes = #[] := by
  unfold filterFrom at hok ⊢
  by_cases h1 : p.tubeOffset < p.maxError
  · rw [if_pos h1] at hok; cases hok
  · rw [if_neg h1] at hok ⊢
    by_cases h2 : p.tubeOffset = 0
    · rw [if_pos h2] at hok; cases hok
    · rw [if_neg h2] at hok ⊢
      simp only [h, if_true] at hok ⊢
      cases hr : (scanFrom rule lk ix p q selfAlign complement
        (Array.replicate (mkCfg rule ix.k ix.seq.length p selfAlign complement).cap default)).1 with
      | error e => rw [hr] at hok; cases hok
      | ok hs => rfl

/-- **every scan of every history**: after any list of earlier calls (any queries, any flags,
    failed or not) on one `*Filter`, the next call returns what a new `*Filter` returns -/
theorem scan_independent_of_history (rule : Rule) (h : rule.remakeTubes = true) (lk : Lookup)
    (ix : Biogo.Kmer.Index) (p : Params) (calls : List (List UInt8 × Bool × Bool)) (q : List UInt8)
    (selfAlign complement : Bool) :
    (filterFrom rule lk ix p (afterHistory rule lk ix p calls) q selfAlign complement).1 =
      filter rule lk ix p q selfAlign complement :=
  scan_independent_of_state rule h lk ix p _ q selfAlign complement

/-- **C14 for every scan of every usage history** (the model of the code as it is, rule regenerated
    from the source): whatever was scanned before with the same `*Filter`, whenever a scan returns
    its hits, every ε-match required on its strand is covered — `filter_complete` /
    `filter_complete_complement` transported along `scan_independent_of_history`. -/
theorem filter_complete_history {lk : Lookup} (hlk : FourLetter lk) (t : List UInt8) (k n e off : Nat)
    (hk : Biogo.Kmer.minKmerLen ≤ k) (hk' : k ≤ Biogo.Kmer.maxKmerLen) (ht : k + 1 ≤ t.length)
    (hthr : 0 < minWordsPerFilterHit n k e) (he : e ≤ off) (hoff : 1 ≤ off)
    (calls : List (List UInt8 × Bool × Bool)) (q : List UInt8) (selfAlign complement : Bool) :
    ∀ hits, (filterFrom Biogo.Generated.FilterFacts.rule lk (builtIndex lk k t)
        { minMatch := n, maxError := e, tubeOffset := off }
        (afterHistory Biogo.Generated.FilterFacts.rule lk (builtIndex lk k t)
          { minMatch := n, maxError := e, tubeOffset := off } calls) q selfAlign complement).1 = .ok hits →
      ∀ a b, EpsMatch lk t q n e a b → requiredC selfAlign complement t.length a b = true →
        Covered (hits.map toSpec) (off + e) n a b := by
  intro hits hf
  rw [scan_independent_of_history _ history_source_facts.1] at hf
  exact Biogo.Properties.C14.filter_complete_strand hlk t q k n e off selfAlign complement hk hk' ht hthr he hoff hits hf

/-- the repaired rule, but the tube list allocated once and kept between scans -/
def keepTubes : Rule :=
  { retireSubMaxError := true, flushFromLastTick := true, tickByPosition := true, remakeTubes := false }

/-- does the scan of `q` that follows a scan of `w` on the same `*Filter` leave the match at `(a, b)`
    uncovered? -/
def missesAfter (rule : Rule) (k n e off : Nat) (t w q : List UInt8) (a b : Nat) : Bool :=
  let ix := builtIndex dna k t
  let p : Params := { minMatch := n, maxError := e, tubeOffset := off }
  match (filterFrom rule dna ix p (filterFrom rule dna ix p FState.new w false false).2 q false false).1 with
  | .ok hits => !(hits.any fun h => covers (off + e) n (toSpec h) a b)
  | .error _ => false

/-- `history_dependent_if_tubes_kept`: with the tube list kept between scans the second scan
    depends on the first — `k=4 n=5 e=0 off=2`, target `caccac`; after a scan of `caaccacacc` the scan
    of `accaccaaac` no longer covers the exact match at `a=1 b=0` (a sub-threshold run left in the
    slot by the first scan is extended: the hit gets a stale `From`); on a new `*Filter`, and under the
    rule of the source after the same first scan, it is covered. -/
theorem history_dependent_if_tubes_kept :
    EpsMatch dna [99, 97, 99, 99, 97, 99] [97, 99, 99, 97, 99, 99, 97, 97, 97, 99] 5 0 1 0 ∧
    missesAfter keepTubes 4 5 0 2 [99, 97, 99, 99, 97, 99] [99, 97, 97, 99, 99, 97, 99, 97, 99, 99]
      [97, 99, 99, 97, 99, 99, 97, 97, 97, 99] 1 0 = true ∧
    missesAfter repaired 4 5 0 2 [99, 97, 99, 99, 97, 99] [99, 97, 97, 99, 99, 97, 99, 97, 99, 99]
      [97, 99, 99, 97, 99, 99, 97, 97, 97, 99] 1 0 = false ∧
    Biogo.Properties.C14.misses keepTubes 4 5 0 2 [99, 97, 99, 99, 97, 99] [97, 99, 99, 97, 99, 99, 97, 97, 97, 99] 1 0 = false := by
  rw [missesAfter, missesAfter, Biogo.Properties.C14.misses, filter_dna _ (by decide),
    filterFrom, filterFrom, filterFrom, filterFrom]
  simp only []
  rw [scanFrom_dna _ (by decide), scanFrom_dna _ (by decide), scanFrom_dna _ (by decide), scanFrom_dna _ (by decide)]
  decide +kernel

end Biogo.Properties.C14_history
