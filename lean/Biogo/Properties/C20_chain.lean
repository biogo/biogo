/-
C20 — the location chain changes between two queries.

`UTR5` / `UTR3` (and the shorthands `UTR5start` …) ask `feat.BaseOrientationOf(t)` on every call, and
`BasePositionOf` / `PositionWithin` / `OrientationWithin` walk the chain on every call: nothing is
remembered.  So when a caller gives the gene, a contig or the transcript itself another orientation
(or another start) between two queries, the second query answers for the chain *as it is now*.
The histories of the driver (`tx`: `O<k>=<o>`, `M<k>=<s>`; `ch`: the same between queries) carry the
current chain (`Gene.TcState`, `Feat.chainApply`), and the theorems below say what the model — the
definitions the driver runs — answers after such a change.  (Seeded change C20-m5 memoises the base
orientation in the transcript and refreshes it only when `t.Loc` / `t.Orient` change: it falsifies
`utr_layout_follows_current_orientation` after a flip above the transcript.)

Where a property theorem is an instance of a statement about arbitrary states or chains (`layout_congr`,
`baseOrientationOf_flip`), that statement stands in front of it; what assignments do to the closed forms
is in `Biogo/Proofs/FeatChain.lean`.
-/
import Biogo.Properties.C20
import Biogo.Proofs.FeatChain
import Biogo.Proofs.ExceptEq

namespace Biogo.Properties.C20_chain
open Biogo.Gene Biogo.Feat Biogo.Spec.Gene Biogo.Proofs.Feat Biogo.Proofs.FeatChain Biogo.Properties.C20
open Biogo.Proofs.Gene (utr5_eq utr3_eq utr_swap)

/-- `UTR5`, `CDS` and `UTR3` are functions of the chain as it is and of the transcript's length -/
theorem layout_congr (cdsStart cdsEnd : Int) (st st' : TcState)
    (hc : st.node :: st.loc = st'.node :: st'.loc)
    (hl : endOf (read st.h st.t.exons) = endOf (read st'.h st'.t.exons)) :
    layout st cdsStart cdsEnd = layout st' cdsStart cdsEnd := by
  simp only [List.cons.injEq] at hc
  simp only [layout, TcState.coding, hc.1, hc.2, hl]

/-- **The layout keeps no memory of earlier orientations.**  Take any two histories — any initial
    chains, any sequences of `SetExons` / `Add` / re-sliced `Add` operations and of assignments to the
    orientation or start of the transcript or of any feature above it, at any nesting level, to any
    value.  If the chains they end with are the same (and the transcript is as long), `UTR5`, `CDS`
    and `UTR3` answer the same in both: what the chain *was* when an earlier query was made does not
    matter. -/
theorem utr_layout_depends_on_current_orientation (cdsStart cdsEnd : Int)
    (id id' : Nat) (n0 n0' : Node) (l0 l0' : Chain) (ops ops' : List TcOp) :
    let st := tcRun (tcInit id n0 l0) ops
    let st' := tcRun (tcInit id' n0' l0') ops'
    st.node :: st.loc = st'.node :: st'.loc →
    endOf (read st.h st.t.exons) = endOf (read st'.h st'.t.exons) →
    layout st cdsStart cdsEnd = layout st' cdsStart cdsEnd := by
  intro st st'
  exact layout_congr cdsStart cdsEnd st st'

/-- a change of the chain is not an update of the exon set: heap and exon slice are untouched, it is
    never rejected (what the driver demands after `O` / `M`: the exons shown are still the previous
    ones), and the chain afterwards is the assignment applied to the chain before -/
theorem chain_change_keeps_exons (st : TcState) (op : ChainOp) :
    (tcApply st (.chain op)).1.node :: (tcApply st (.chain op)).1.loc = chainApply (st.node :: st.loc) op ∧
    read (tcApply st (.chain op)).1.h (tcApply st (.chain op)).1.t.exons = read st.h st.t.exons ∧
    (tcApply st (.chain op)).2 = none :=
  ⟨chainApply_cons st.node st.loc op, rfl, rfl⟩

/-- **"the 5'UTR, CDS and 3'UTR tile it in the order dictated by its orientation" — the orientation
    it has now.**  In every state — in particular the state after any history of exon updates and
    orientation changes — in which the transcript is oriented (chain within the depth limit,
    orientations among forward / reverse / not oriented): with `o` the product of the orientations
    along the orientable run of the *current* chain, `o` is `1` or `-1`; for `o = 1` the three
    queries answer `UTR5 = [0, CDSstart)`, `CDS`, `UTR3 = [CDSend, Len)`, for `o = -1`
    `UTR5 = [CDSend, Len)`, `CDS`, `UTR3 = [0, CDSstart)`; and the three abut from 0 to `Len` in the
    order 5'–CDS–3' resp. 3'–CDS–5'. -/
theorem utr_layout_follows_current_orientation (st : TcState) (cdsStart cdsEnd : Int)
    (ht : st.node.oriented = true) (hlen : (st.node :: st.loc).length ≤ limit)
    (hv : ValidOrients (st.node :: st.loc)) :
    let o := orientProduct (st.node :: st.loc)
    let len := endOf (read st.h st.t.exons)
    (o = 1 ∨ o = -1) ∧
    layout st cdsStart cdsEnd =
      (if o = 1 then (.ok (0, cdsStart), (cdsStart, cdsEnd - cdsStart), .ok (cdsEnd, len - cdsEnd))
       else (.ok (cdsEnd, len - cdsEnd), (cdsStart, cdsEnd - cdsStart), .ok (0, cdsStart))) ∧
    ∃ u5 u3, utr5 (st.coding cdsStart cdsEnd) = .ok u5 ∧ utr3 (st.coding cdsStart cdsEnd) = .ok u3 ∧
      abuts 0 len (utrOrder o (pieceOf u5) (pieceOf (cds (st.coding cdsStart cdsEnd))) (pieceOf u3)) = true := by
  intro o len
  have ho : o = 1 ∨ o = -1 := orientProduct_pm_one _ hv
  have hbo : baseOrientationOf ((st.coding cdsStart cdsEnd).node :: (st.coding cdsStart cdsEnd).loc)
      = .ok (o, runRef st.node st.loc) := utr_orientation (st.coding cdsStart cdsEnd) ht hlen
  obtain ⟨u5, u3, h5, h3, hab, _, _⟩ := utr_cds_tile (st.coding cdsStart cdsEnd) o _ hbo ho
  refine ⟨ho, ?_, u5, u3, h5, h3, hab⟩
  show (utr5 _, cds _, utr3 _) = _
  rw [utr5_eq _ hbo, utr3_eq _ hbo]
  rcases ho with h1 | h1 <;> rw [h1] <;> rfl

/-- flipping a feature `x` of the orientable run, at any nesting level, negates `BaseOrientationOf`
    and leaves its reference where it was -/
theorem baseOrientationOf_flip (pre : List Node) (x : Node) (rest : Chain)
    (hpre : ∀ y ∈ pre, y.oriented = true) (hx : x.oriented = true)
    (hlen : (pre ++ x :: rest).length ≤ limit) :
    ∃ r, baseOrientationOf (pre ++ x :: rest) = .ok (orientProduct (pre ++ x :: rest), r) ∧
      baseOrientationOf (pre ++ x.setOrient (-x.ori) :: rest) =
        .ok (-orientProduct (pre ++ x :: rest), r) := by
  obtain ⟨r, h1, h2⟩ := baseOrientSpec_flip pre x rest hpre hx
  exact ⟨r, baseOrientationOf_of_spec h1 hlen,
    baseOrientationOf_of_spec h2 (length_replace pre x _ rest ▸ hlen)⟩

/-- **Flipping a feature of the orientable run, at any nesting level, swaps the two UTRs.**  Let the
    current chain be `pre ++ x :: rest` with every feature of `pre` and `x` itself oriented (`pre = []`:
    `x` is the transcript, `t.Orient`; otherwise `x` is a location above it — the gene, a contig …).
    After `x.Orient = -x.Orient`, whatever was queried before, `UTR5` answers what `UTR3` answered
    before and vice versa (both are defined), and the exon set is untouched. -/
theorem orientation_flip_swaps_utrs (st : TcState) (cdsStart cdsEnd : Int)
    (pre : List Node) (x : Node) (rest : Chain) (hc : st.node :: st.loc = pre ++ x :: rest)
    (hpre : ∀ y ∈ pre, y.oriented = true) (hx : x.oriented = true)
    (hlen : (st.node :: st.loc).length ≤ limit) (hv : ValidOrients (st.node :: st.loc)) :
    let st' := (tcApply st (.chain (.orient pre.length (-x.ori)))).1
    orientProduct (st'.node :: st'.loc) = -orientProduct (st.node :: st.loc) ∧
    (∃ u5 u3, utr5 (st.coding cdsStart cdsEnd) = .ok u5 ∧ utr3 (st.coding cdsStart cdsEnd) = .ok u3 ∧
      utr5 (st'.coding cdsStart cdsEnd) = .ok u3 ∧ utr3 (st'.coding cdsStart cdsEnd) = .ok u5) ∧
    read st'.h st'.t.exons = read st.h st.t.exons := by
  intro st'
  obtain ⟨hch, hread, _⟩ := chain_change_keeps_exons st (.orient pre.length (-x.ori))
  have hc' : st'.node :: st'.loc = pre ++ x.setOrient (-x.ori) :: rest := by
    show (tcApply st (.chain (.orient pre.length (-x.ori)))).1.node :: _ = _
    rw [hch, hc]
    exact modifyAt_split _ pre x rest
  obtain ⟨r, h1, h2⟩ := baseOrientationOf_flip pre x rest hpre hx (hc ▸ hlen)
  rw [← hc'] at h2
  rw [← hc] at h1 h2
  have ho := orientProduct_pm_one _ hv
  obtain ⟨u5, u3, h5, h3, _⟩ := utr_cds_tile (st.coding cdsStart cdsEnd) _ _ h1 ho
  obtain ⟨s5, s3⟩ := utr_swap (st.coding cdsStart cdsEnd) (st'.coding cdsStart cdsEnd) h1 h2 rfl ho
    rfl rfl (congrArg endOf hread)
  refine ⟨?_, ⟨u5, u3, h5, h3, s5.trans h3, s3.trans h5⟩, hread⟩
  rw [hc', hc]; exact orientProduct_flip pre x rest hpre hx

/-- the reference of the base orientation does not move when a feature of the run is flipped, and
    `BaseOrientationOf` itself is negated — the orientation composes multiplicatively in the chain as
    it is now -/
theorem baseOrientation_follows_flip (pre : List Node) (x : Node) (rest : Chain) (f : Node) (tl : Chain)
    (hc : pre ++ x :: rest = f :: tl) (hpre : ∀ y ∈ pre, y.oriented = true) (hx : x.oriented = true)
    (hlen : (f :: tl).length ≤ limit) :
    ∃ o r, baseOrientationOf (pre ++ x :: rest) = .ok (o, r) ∧
      baseOrientationOf (chainApply (pre ++ x :: rest) (.orient pre.length (-x.ori))) = .ok (-o, r) := by
  obtain ⟨r, h1, h2⟩ := baseOrientationOf_flip pre x rest hpre hx (hc ▸ hlen)
  refine ⟨_, r, h1, ?_⟩
  rw [← h2]
  exact congrArg baseOrientationOf (modifyAt_split _ pre x rest)

-- non-vacuity, decided: a forward transcript (CDS [5, 40) of 109 bases) on a forward gene on a
-- forward contig on a chromosome.  Queried, then the *gene* is flipped: the two UTRs swap; then the
-- contig is flipped as well: they swap back; then the gene becomes not oriented: the run ends below
-- it and the transcript's own orientation decides.  A second history that starts with the gene
-- reversed and never changes anything ends with the same chain as the first after its first flip,
-- and has the same layout.
example :
    let t : Node := ⟨1, 20, some 1⟩
    let chain : Chain := [⟨10, 100, some 1⟩, ⟨11, 5, some 1⟩, ⟨12, 0, none⟩]
    let exons : List Exon := [⟨1, 0, 15, 1⟩, ⟨1, 15, 50, 2⟩, ⟨1, 94, 15, 3⟩]
    let s0 := tcRun (tcInit 1 t chain) [.tx (.set exons)]
    let s1 := tcRun s0 [.chain (.orient 1 (-1))]
    let s2 := tcRun s1 [.chain (.orient 2 (-1))]
    let s3 := tcRun s2 [.chain (.orient 1 0)]
    layout s0 5 40 = (.ok (0, 5), (5, 35), .ok (40, 69)) ∧
    layout s1 5 40 = (.ok (40, 69), (5, 35), .ok (0, 5)) ∧
    layout s2 5 40 = (.ok (0, 5), (5, 35), .ok (40, 69)) ∧
    layout s3 5 40 = (.ok (0, 5), (5, 35), .ok (40, 69)) := by
  decide +kernel

example :
    let t : Node := ⟨1, 20, some 1⟩
    let chain : Chain := [⟨10, 100, some 1⟩, ⟨11, 5, some 1⟩, ⟨12, 0, none⟩]
    let exons : List Exon := [⟨1, 0, 15, 1⟩, ⟨1, 15, 50, 2⟩, ⟨1, 94, 15, 3⟩]
    let s1 := tcRun (tcInit 1 t chain) [.tx (.set exons), .chain (.orient 1 (-1))]
    let s2 := tcRun s1 [.chain (.orient 2 (-1))]
    let s1' := tcRun (tcInit 1 t [⟨10, 100, some (-1)⟩, ⟨11, 5, some 1⟩, ⟨12, 0, none⟩]) [.tx (.set exons)]
    orientProduct (s1.node :: s1.loc) = -1 ∧ orientProduct (s2.node :: s2.loc) = 1 ∧
    s1.node :: s1.loc = s1'.node :: s1'.loc ∧ layout s1' 5 40 = layout s1 5 40 ∧
    read s1.h s1.t.exons = exons := by
  decide +kernel

/-- Refutation witness for seeded change C20-m5: with the base orientation memoised in the
    transcript and refreshed only when `t.Loc` / `t.Orient` change (`utr5Memo`), the forward
    transcript on a forward gene answers `UTR5 = [0, 5)`; the gene is flipped — `t.Loc` is the same
    gene, `t.Orient` the same — and the second query still answers `[0, 5)`, while the chain as it is
    now dictates `[40, 109)` (`utr5`, the model the driver runs): the statement of
    `utr_layout_follows_current_orientation` is false of the memoised variant. -/
theorem memoised_orientation_goes_stale :
    let t : Node := ⟨1, 20, some 1⟩
    let s0 := tcRun (tcInit 1 t [⟨10, 100, some 1⟩, ⟨12, 0, none⟩]) [.tx (.set [⟨1, 0, 15, 1⟩, ⟨1, 15, 50, 2⟩, ⟨1, 94, 15, 3⟩])]
    let q0 := utr5Memo OriMemo.empty (s0.coding 5 40)
    let s1 := tcRun s0 [.chain (.orient 1 (-1))]
    let q1 := utr5Memo q0.1 (s1.coding 5 40)
    q0.2 = .ok (0, 5) ∧ utr5 (s0.coding 5 40) = .ok (0, 5) ∧
    q1.2 = .ok (0, 5) ∧ utr5 (s1.coding 5 40) = .ok (40, 69) ∧
    orientProduct (s1.node :: s1.loc) = -1 := by
  decide +kernel

/-- **`BasePositionOf` follows a move.**  When the `k`-th feature `x` of the chain (the feature itself,
    its location, the gene, …) is given the start `s` between two queries, the base position of every
    `p` shifts by exactly `s - x.Start()` and the reference stays the same feature: nested positions
    compose additively in the chain as it is now. -/
theorem basePosition_follows_move (pre : List Node) (x : Node) (rest : Chain) (s p : Int)
    (hlen : (pre ++ x :: rest).length ≤ limit) :
    ∃ q r, basePositionOf (pre ++ x :: rest) p = .ok (q, r) ∧
      basePositionOf (chainApply (pre ++ x :: rest) (.move pre.length s)) p = .ok (q + (s - x.start), r) := by
  have happ : chainApply (pre ++ x :: rest) (.move pre.length s) = pre ++ x.setStart s :: rest :=
    modifyAt_split _ pre x rest
  have hlen' := length_replace pre x (x.setStart s) rest ▸ hlen
  refine ⟨_, _, basePositionOf_append pre x rest p hlen, ?_⟩
  -- the moved feature keeps its identity, so the last feature is the same; the sum of starts shifts
  rw [happ, basePositionOf_append pre _ rest p hlen', startSum_setStart, Int.add_assoc,
    lastId_head x (x.setStart s) rest rfl]

/-- **`PositionWithin` follows a move below the reference.**  `m` encloses the moved feature `x`
    (`x` is the feature itself or lies between it and `m`): after the move the position within `m`
    is the sum of the starts as they are now — shifted by `s - x.Start()`. -/
theorem positionWithin_follows_move (pre : List Node) (x : Node) (mid : List Node) (m : Node) (rest : Chain)
    (s p : Int) (hne : ∀ y ∈ pre ++ x :: mid, y.id ≠ m.id) (hlen : (pre ++ x :: mid).length < limit) :
    positionWithin (pre ++ x :: mid ++ m :: rest) (some m.id) p = .ok (p + startSum (pre ++ x :: mid), true) ∧
    positionWithin (chainApply (pre ++ x :: mid ++ m :: rest) (.move pre.length s)) (some m.id) p
      = .ok (p + startSum (pre ++ x :: mid) + (s - x.start), true) := by
  constructor
  · exact positionWithin_eq (pre ++ x :: mid) m rest p hne hlen
  · have happ : chainApply (pre ++ x :: mid ++ m :: rest) (.move pre.length s)
        = (pre ++ x.setStart s :: mid) ++ m :: rest := by
      rw [List.append_assoc, List.cons_append, List.append_assoc, List.cons_append]
      exact modifyAt_split (·.setStart s) pre x (mid ++ m :: rest)
    rw [happ]
    -- the moved feature keeps its identity
    have hne' : ∀ y ∈ pre ++ x.setStart s :: mid, y.id ≠ m.id := by
      simp only [List.forall_mem_append, List.forall_mem_cons] at hne ⊢
      exact hne
    have hlen' := length_replace pre x (x.setStart s) mid ▸ hlen
    rw [positionWithin_eq (pre ++ x.setStart s :: mid) m rest p hne' hlen', startSum_setStart,
      Int.add_assoc]

/-- **… and ignores a move at or above the reference**: whatever is assigned to `m` itself (its start,
    its orientation) or to anything above it, the position of the feature within `m` is what it was. -/
theorem positionWithin_ignores_move_above (pre : List Node) (m m' : Node) (rest rest' : Chain) (p : Int)
    (hid : m'.id = m.id) (hne : ∀ y ∈ pre, y.id ≠ m.id) (hlen : pre.length < limit) :
    positionWithin (pre ++ m' :: rest') (some m.id) p = positionWithin (pre ++ m :: rest) (some m.id) p := by
  rw [positionWithin_eq pre m rest p hne hlen, ← hid,
    positionWithin_eq pre m' rest' p (by rw [hid]; exact hne) hlen]

-- non-vacuity: exon (start 20) in transcript (100) in gene (1000) on a chromosome; the gene is moved
-- to 1500 between two queries: the base position follows, the position within the transcript does not
example :
    let c : Chain := [⟨1, 20, some 1⟩, ⟨2, 100, some (-1)⟩, ⟨3, 1000, some 1⟩, ⟨4, 0, none⟩]
    let c' := chainApply c (.move 2 1500)
    basePositionOf c 5 = .ok (1125, 4) ∧ basePositionOf c' 5 = .ok (1625, 4) ∧
    positionWithin c (some 4) 5 = .ok (1125, true) ∧ positionWithin c' (some 4) 5 = .ok (1625, true) ∧
    positionWithin c (some 2) 5 = .ok (25, true) ∧ positionWithin c' (some 2) 5 = .ok (25, true) := by
  refine ⟨rfl, rfl, rfl, rfl, rfl, rfl⟩

end Biogo.Properties.C20_chain
