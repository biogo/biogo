/-
C05 — Reverse-complement, reverse and clone obey their algebra on all sequence types.
Property theorems only; the lemmas are in the `Biogo.Proofs.Cont*` modules.  The theorems are about
the definitions the driver executes (`Biogo.Containers.Lin.revComp`, `Multi.revComp`, … in
Biogo/Model/Containers.lean, interpreted by `Biogo.Containers.apply`).

Hypotheses: `Lin.Valid h l` (the sequence's slice lies in an allocated backing array) and
`RowsWF h rows` (the rows of a multi own pairwise different, allocated arrays) hold of every state a
history reaches: such a world is well formed (`reach_wf`, Proofs/ContSepWorld.lean) and
`C07.wellformed_gives_hypotheses` reads them off a well-formed world; `Separated`, the hypothesis of the
frame theorems, holds of every reachable row-stored world (`reach_separated`).  `Multi.InRange` (at least
one row, coordinates representable as Go ints) is the only condition on inputs.
-/
import Biogo.Model.Alphabet
import Biogo.Generated.Alphabets
import Biogo.Model.ContWorld
import Biogo.Proofs.Containers
import Biogo.Proofs.ContFrame
import Biogo.Proofs.ContAln
import Biogo.Proofs.ContSepWorld
import Biogo.Proofs.ContRow
import Biogo.Proofs.ContModelObs
import Biogo.Proofs.ContModelObs05
import Biogo.Proofs.AlphabetBuild
import Biogo.Properties.C17

namespace Biogo.Properties.C05
open Biogo.Alphabet Biogo.Containers Biogo.Go

def pairedInvolutiveAt (d : Def) (l : UInt8) : Bool :=
  match ctxOfDef d with
  | some (cx, pairs) => !pairs l || (pairs (cx.comp l) && cx.comp (cx.comp l) == l)
  | none => false

/-- for every built-in alphabet and every letter `l` it pairs, the complement table maps `l`
    to a paired letter and back to `l` (regenerated definitions, all 256 letters). -/
theorem builtin_complement_involutive (d : Def) (hd : d ∈ Biogo.Generated.builtins) (l : UInt8) :
    pairedInvolutiveAt d l = true := by
  -- that the constructors accept the built-in definitions is C17's `builtins_accepted`; the rest
  -- holds of every pairing `NewPairing` accepts
  have hacc := Biogo.Properties.C17.builtins_accepted.2 d hd
  cases hb : d.build with
  | error e => rw [hb] at hacc; cases hacc
  | ok r =>
    obtain ⟨A, p⟩ := r
    cases p with
    | none => simp only [pairedInvolutiveAt, ctxOfDef, hb]; rfl
    | some q =>
      obtain ⟨s, c, hq⟩ := (Def.build_ok hb).2 q rfl
      simp only [pairedInvolutiveAt, ctxOfDef, hb]
      cases hl : q.ok l with
      | false => rfl
      | true =>
        obtain ⟨h1, h2⟩ := newPairing_complements hq l hl
        simp only [h1, h2, beq_self_eq_true, Bool.and_self, Bool.or_true]

/-- **loop = list specification.** The in-place loop
    `i, j := 0, len-1; for i < j { l[i], l[j] = f l[j], f l[i]; i++; j-- }; if i == j { l[i] = f l[i] }`
    computes `map f (reverse l)`, for every length (odd: the middle element is mapped once;
    even: no middle element). -/
theorem two_pointer_loop_eq_list_spec {α : Type} (f : α → α) (l : List α) :
    twoPtr f true (loopFuel l.length) 0 l.length l = l.reverse.map f :=
  twoPtr_spec f l

/-- the loop of `Reverse` (no middle step) computes `reverse l` -/
theorem reverse_loop_eq_list_spec {α : Type} (l : List α) :
    twoPtr id false (loopFuel l.length) 0 l.length l = l.reverse :=
  twoPtr_reverse l

-- non-vacuity: odd and even lengths, the middle element is complemented exactly once
example : twoPtr (· + 10) true (loopFuel 5) 0 5 [1, 2, 3, 4, 5] = [15, 14, 13, 12, 11] := by decide
example : twoPtr (· + 10) true (loopFuel 4) 0 4 [1, 2, 3, 4] = [14, 13, 12, 11] := by decide
example : twoPtr (· + 10) true (loopFuel 0) 0 0 ([] : List Nat) = [] := by decide

/-- the same loop run on a slice of the heap is, seen through that slice, the list loop, and
    no other backing array changes -/
theorem heap_loop_refines_list_loop {α : Type} (f : α → α) (mid : Bool) (s : Slice) (fuel i j1 : Nat)
    (h : Heap α) (hs : s.arr < h.arrays.length) :
    (hTwoPtr f mid s fuel i j1 h).read s = twoPtr f mid fuel i j1 (h.read s)
    ∧ ∀ b, s.arr ≠ b → (hTwoPtr f mid s fuel i j1 h).arr b = h.arr b :=
  ⟨read_hTwoPtr f mid s fuel i j1 h hs, fun b hb => arr_hTwoPtr f mid s b hb fuel i j1 h⟩

/-- **revcomp_spec (linear.Seq, linear.QSeq).** "RevComp equals reversal followed by letterwise
    complement, with qualities travelling with their letters, strand negated": the letters `At`
    reports over `[Start,End)` after `RevComp` are `map complement (reverse before)`, each with
    the quality of the letter it came from; `Strand` is negated; `Start`/`End` are unchanged. -/
theorem revcomp_spec_linear (cx : Ctx) (h : Cells) (l : Lin) (hv : l.Valid h) :
    (l.revComp cx h).2.letters (l.revComp cx h).1 = (l.letters h).reverse.map (compQL cx.comp)
    ∧ (l.revComp cx h).2.strand = -l.strand
    ∧ (l.revComp cx h).2.start = l.start ∧ (l.revComp cx h).2.«end» = l.«end» :=
  Lin.revComp_spec cx h l hv

/-- **revcomp_involutive (linear).** "applying it twice restores the original letters,
    qualities, strand and coordinates" — for letters on which the complement is an involution,
    which `builtin_complement_involutive` shows to be every letter a built-in alphabet pairs. -/
theorem revcomp_involutive_linear (cx : Ctx) (h : Cells) (l : Lin) (hv : l.Valid h)
    (hinv : ∀ c ∈ l.letters h, cx.comp (cx.comp c.L) = c.L) :
    let r1 := l.revComp cx h
    let r2 := r1.2.revComp cx r1.1
    r2.2.letters r2.1 = l.letters h ∧ r2.2.strand = l.strand ∧ r2.2.start = l.start ∧ r2.2.«end» = l.«end» :=
  Lin.revComp_twice cx h l hv hinv

/-- **reverse_involutive (linear).** "Reverse applied twice is the identity on letters" -/
theorem reverse_involutive_linear (h : Cells) (l : Lin) (hv : l.Valid h) :
    let r1 := l.reverse h
    let r2 := r1.2.reverse r1.1
    r2.2.letters r2.1 = l.letters h ∧ r2.2.start = l.start ∧ r2.2.«end» = l.«end» :=
  Lin.reverse_twice h l hv

/-- **revcomp_spec (multi.Multi) and multi_revcomp_mirror.** For a multiple alignment whose
    span is `[S,E)`: every row of `RevComp`'s result holds the reverse complement of the
    corresponding row (qualities travelling, strand negated) and occupies
    `[S+E-end_i, S+E-start_i)` — "every row of a multiple alignment mirrored about the
    alignment's span". -/
theorem revcomp_spec_multi (cx : Ctx) (h : Cells) (m : Multi) (hwf : RowsWF h m.rows) :
    All2 (fun r r' =>
        r'.letters (m.revComp cx h).1 = (r.letters h).reverse.map (compQL cx.comp)
        ∧ r'.strand = -r.strand
        ∧ r'.start = m.start + m.«end» - r.«end» ∧ r'.«end» = m.start + m.«end» - r.start
        ∧ r'.q = r.q ∧ r'.name = r.name)
      m.rows (m.revComp cx h).2.rows :=
  (Multi.revComp_rows cx h m hwf).1

/-- the mirrored alignment has the same span -/
theorem multi_revcomp_mirror_span (cx : Ctx) (h : Cells) (m : Multi) (hwf : RowsWF h m.rows)
    (hr : m.InRange) :
    (m.revComp cx h).2.start = m.start ∧ (m.revComp cx h).2.«end» = m.«end» := by
  obtain ⟨a1, _⟩ := Multi.revComp_rows cx h m hwf
  obtain ⟨s1, e1, _⟩ := Multi.span_mirror m (m.revComp cx h).2 hr
    (a1.imp fun a b hab => ⟨hab.2.2.1, hab.2.2.2.1⟩)
  exact ⟨s1, e1⟩

/-- **revcomp_involutive (multi.Multi).** Letters, qualities, strand and the coordinates of every
    row, and the span, are restored by a second `RevComp`. -/
theorem revcomp_involutive_multi (cx : Ctx) (h : Cells) (m : Multi) (hwf : RowsWF h m.rows)
    (hr : m.InRange) (hinv : ∀ r ∈ m.rows, ∀ c ∈ r.letters h, cx.comp (cx.comp c.L) = c.L) :
    let m1 := m.revComp cx h
    let m2 := m1.2.revComp cx m1.1
    All2 (fun r r2 => r2.letters m2.1 = r.letters h ∧ r2.strand = r.strand ∧ r2.start = r.start ∧
        r2.«end» = r.«end» ∧ r2.q = r.q ∧ r2.name = r.name) m.rows m2.2.rows
    ∧ m2.2.start = m.start ∧ m2.2.«end» = m.«end» :=
  Multi.revComp_twice cx h m hwf hr hinv

/-- **reverse_involutive (multi.Multi).** -/
theorem reverse_involutive_multi (h : Cells) (m : Multi) (hwf : RowsWF h m.rows) (hr : m.InRange) :
    let m1 := m.reverse h
    let m2 := m1.2.reverse m1.1
    All2 (fun r r2 => r2.letters m2.1 = r.letters h ∧ r2.start = r.start ∧ r2.«end» = r.«end»)
      m.rows m2.2.rows :=
  Multi.reverse_twice h m hwf hr

/-- every history starts separated: the rows of the initial object own pairwise different
    backing arrays (the constructors copy the caller's letters) -/
theorem initial_object_separated (cx : Ctx) (kind : String) (strand : Int) (rows : List SeqSpec)
    (hkind : kind = "multi" ∨ kind = "set" ∨ ((kind = "lin" ∨ kind = "qlin") ∧ rows ≠ [])) :
    Separated (initWorld cx kind strand rows) := by
  refine (initWorld_wf cx kind strand rows).separated fun i o hi => ?_
  -- the world has one object, of the kind asked for
  rcases hkind with rfl | rfl | ⟨hk, hne⟩
  · obtain ⟨_, rfl⟩ := LTS.getElem?_singleton_some hi; rfl
  · obtain ⟨_, rfl⟩ := LTS.getElem?_singleton_some hi; rfl
  · obtain ⟨sp, rest, rfl⟩ := List.exists_cons_of_ne_nil hne
    rcases hk with rfl | rfl <;> (obtain ⟨_, rfl⟩ := LTS.getElem?_singleton_some hi; rfl)

/-- **frame**: in a world of linear sequences, multis and sets, whatever operations of C05
    (`RevComp`, `Reverse`, `Clone`, `Set`, row `RevComp`/`Reverse`) are applied to *other*
    objects, an object stays the same and is observed the same: `At(i)` over every row's
    `[Start,End)`, `Start`, `End`, strand of every row. -/
theorem untouched_object_unchanged (cx : Ctx) (w : World) (hs : Separated w) (ops : List Op)
    (hops : ∀ op ∈ ops, op.isC05 = true) (j : Nat) (oj : Obj) (hj : w.objs[j]? = some oj)
    (hnot : ∀ op ∈ ops, op.target ≠ some j) :
    (runOps cx w ops).objs[j]? = some oj ∧ oj.rowsV (runOps cx w ops).cells = oj.rowsV w.cells :=
  -- only ownership is used of `Separated`; on a C05 operation `target` is `written`
  have r := untouched_c05 cx ops hops w hs.owned j oj hj fun op ho =>
    Op.written_of_isC05 (hops op ho) ▸ hnot op ho
  ⟨r.1, rowsV_eq_of_view cx rfl r.2⟩

/-- **clone_deep.** "Clone returns an independent deep copy: no later mutation of either copy
    is visible through the other."  Let object `k` be cloned (the copy is object
    `n = w.objs.length`).  (a) The copy is observed equal to the original.  (b) After any
    sequence of C05 operations none of which is applied to the original, the original is
    observed as before — in particular whatever is written through the copy.  (c) After any
    sequence none of which is applied to the copy, the copy is observed as the original was
    when it was cloned — whatever is written through the original. -/
theorem clone_deep (cx : Ctx) (w : World) (hs : Separated w) (k : Nat) (o : Obj)
    (hk : w.objs[k]? = some o) (hclonable : ∀ m, o ≠ .set m)
    (ops : List Op) (hops : ∀ op ∈ ops, op.isC05 = true) :
    let w1 := (apply cx w (.clone k)).1
    ∃ c, w1.objs[w.objs.length]? = some c ∧ c.rowsV w1.cells = o.rowsV w.cells ∧
      ((∀ op ∈ ops, op.target ≠ some k) →
        (runOps cx w1 ops).objs[k]? = some o ∧ o.rowsV (runOps cx w1 ops).cells = o.rowsV w.cells) ∧
      ((∀ op ∈ ops, op.target ≠ some w.objs.length) →
        (runOps cx w1 ops).objs[w.objs.length]? = some c ∧
        c.rowsV (runOps cx w1 ops).cells = o.rowsV w.cells) := by
  obtain ⟨hrow, hwf⟩ := hs.wf k o hk
  obtain ⟨c, h1, hkind, h2, h3, h4⟩ := clone_deep_of cx w hs.owned k o hk hclonable hwf.1
    (fun a e => by rw [e] at hrow; cases hrow) ops fun op hop w ho =>
      step_c05 cx w ho op (hop.elim (fun e => e ▸ rfl) (hops op))
  have hwr : ∀ j, (∀ op ∈ ops, op.target ≠ some j) → ∀ op ∈ ops, op.written ≠ some j := fun j hnot op ho =>
    Op.written_of_isC05 (hops op ho) ▸ hnot op ho
  refine ⟨c, h1, rowsV_eq_of_view cx hkind h2, fun hnot => ?_, fun hnot => ?_⟩
  · exact ⟨(h3 (hwr k hnot)).1, rowsV_eq_of_view cx rfl (h3 (hwr k hnot)).2⟩
  · exact ⟨(h4 (hwr _ hnot)).1, rowsV_eq_of_view cx hkind (h4 (hwr _ hnot)).2⟩

-- non-vacuity: a ragged two-row multi (rows [0,5) ACGTA and [2,8) GGTTCC) is separated, can be
-- cloned, and RevComp of the clone (object 1) mirrors its rows while the original keeps its own
example :
    let cx : Ctx := { comp := fun l => l, gap := 45, amb := 110,
                      alpha := ⟨[], 0, fun _ => false, fun _ => -1, 45, 110, false⟩, grow := growExact }
    let rows : List SeqSpec := [⟨false, 0, 1, 0, [⟨65, 0⟩, ⟨67, 0⟩, ⟨71, 0⟩, ⟨84, 0⟩, ⟨65, 0⟩]⟩,
                               ⟨false, 2, 1, 1, [⟨71, 0⟩, ⟨71, 0⟩, ⟨84, 0⟩, ⟨84, 0⟩, ⟨67, 0⟩, ⟨67, 0⟩]⟩]
    let w := runOps cx (initWorld cx "multi" 1 rows) [.clone 0, .revComp 1]
    ((w.objs.map fun o => (o.rowsV w.cells).map fun r => (r.start, r.«end»))
      = [[(0, 5), (2, 8)], [(3, 8), (0, 6)]]) := by decide +kernel

/-- **revcomp_spec (alignment.Seq, alignment.QSeq).** For an alignment whose columns are
    well formed (`ColsWF`: every column an allocated slice of `n` cells, pairwise different
    arrays): after `RevComp` the list of columns is the reversed list with every letter
    complemented and every quality travelling with its letter; so every row `r < n` reads
    (`Row(r).At` over the span) as the reverse complement of what it read; the alignment's
    strand is negated; `Start`/`End` and the row annotations are unchanged. -/
theorem revcomp_spec_alignment (cx : Ctx) (h : Cells) (a : Aln) (n : Nat) (hw : ColsWF h n a.cols) :
    (a.revComp cx h).2.cols.map (a.revComp cx h).1.read
        = (a.cols.map h.read).reverse.map (List.map (compQL cx.comp)) ∧
    (∀ r, r < n → (a.revComp cx h).2.rowLetters (a.revComp cx h).1 r
        = (a.rowLetters h r).reverse.map (compQL cx.comp)) ∧
    (a.revComp cx h).2.strand = -a.strand ∧ (a.revComp cx h).2.start = a.start ∧
    (a.revComp cx h).2.«end» = a.«end» ∧ (a.revComp cx h).2.subs = a.subs :=
  let r := Aln.revComp_spec cx h a n hw
  ⟨r.1, r.2.1, r.2.2.1, r.2.2.2.1, r.2.2.2.2.1, r.2.2.2.2.2.1⟩

/-- **revcomp_involutive (alignment.Seq, alignment.QSeq).** -/
theorem revcomp_involutive_alignment (cx : Ctx) (h : Cells) (a : Aln) (n : Nat) (hw : ColsWF h n a.cols)
    (hinv : ∀ c ∈ a.cols, ∀ x ∈ h.read c, cx.comp (cx.comp x.L) = x.L) :
    let r1 := a.revComp cx h
    let r2 := r1.2.revComp cx r1.1
    (∀ r, r2.2.rowLetters r2.1 r = a.rowLetters h r) ∧
    r2.2.strand = a.strand ∧ r2.2.start = a.start ∧ r2.2.«end» = a.«end» :=
  let r := Aln.revComp_twice cx h a n hw hinv
  ⟨r.2.1, r.2.2⟩

/-- `alignment.Seq.Reverse` reverses the list of columns; twice is the identity -/
theorem reverse_involutive_alignment (a : Aln) :
    a.reverse.cols = a.cols.reverse ∧ a.reverse.reverse.cols = a.cols := by
  refine ⟨Aln.reverse_cols a, ?_⟩
  rw [Aln.reverse_cols, Aln.reverse_cols, List.reverse_reverse]

-- non-vacuity: the alignment the constructor builds from two rows of three letters is well formed
example :
    let cx : Ctx := { comp := fun l => l, gap := 45, amb := 110,
                      alpha := ⟨[], 0, fun _ => false, fun _ => -1, 45, 110, false⟩, grow := growExact }
    let w := initWorld cx "qaln" 1 [⟨true, 0, 1, 0, [⟨65, 30⟩, ⟨67, 31⟩, ⟨71, 32⟩]⟩,
                                   ⟨true, 0, 1, 1, [⟨71, 20⟩, ⟨71, 21⟩, ⟨84, 22⟩]⟩]
    (match w.objs with
     | [.aln a] => a.cols.length = 3 ∧ ColsWF w.cells 2 a.cols
     | _ => False) := by
  simp only [initWorld]
  refine ⟨by decide +kernel, ⟨?_, by decide +kernel⟩⟩
  intro c hc
  simp only [ColValid]
  revert c
  decide +kernel

/-- **clone_deep (alignment.Seq, alignment.QSeq), one step.** `Clone` of a well-formed
    alignment gives an alignment whose columns read exactly as the original's, all in backing
    arrays that did not exist before (pairwise different), with its own copy of the row
    annotations (after fix F6; `SubAnnotations` are values in the model); no array of the
    original is changed.  Hence a write through a column of either alignment is not seen
    through any column of the other. -/
theorem clone_deep_alignment (cx : Ctx) (h : Cells) (a : Aln) (n : Nat) (hw : ColsWF h n a.cols) :
    All2 (fun c c' => (a.clone cx h).1.read c' = h.read c ∧ h.arrays.length ≤ c'.arr)
      a.cols (a.clone cx h).2.cols ∧
    ColsWF (a.clone cx h).1 n (a.clone cx h).2.cols ∧
    (∀ c ∈ a.cols, (a.clone cx h).1.read c = h.read c) ∧
    (a.clone cx h).2.subs = a.subs ∧ (a.clone cx h).2.strand = a.strand ∧
    -- writes through the copy are invisible through the original, and vice versa
    (∀ c ∈ a.cols, ∀ c' ∈ (a.clone cx h).2.cols, ∀ (i : Nat) (v : QL),
        ((a.clone cx h).1.set c' i v).read c = (a.clone cx h).1.read c ∧
        ((a.clone cx h).1.set c i v).read c' = (a.clone cx h).1.read c') := by
  obtain ⟨hall, hpw, hext⟩ := cloneCols_spec cx a.cols h
  rw [Aln.clone_thread]
  refine ⟨hall.imp_mem fun c c' hc hcc => ⟨(hcc.2.2 n (hw.1 c hc)).1, hcc.2.1⟩, ⟨fun c' hc' => ?_, hpw⟩,
          fun c hc => read_congr_arr _ _ _ (hext.old _ (hw.1 c hc).1), rfl, rfl, ?_⟩
  · obtain ⟨c, hc, hv, _, hl⟩ := hall.exists_left c' hc'
    exact ⟨hv.1, Nat.le_trans (Nat.add_le_add_left hv.2.1 _) hv.2.2, (hl n (hw.1 c hc)).2⟩
  · intro c hc c' hc' i v
    obtain ⟨c0, _, hr⟩ := hall.exists_left c' hc'
    have hne : c'.arr ≠ c.arr := by have := hr.2.1; have := (hw.1 c hc).1; omega
    exact ⟨Heap.read_set_other _ _ _ _ _ hne, Heap.read_set_other _ _ _ _ _ hne.symm⟩

/-- the function the driver executes (`runHistory`) reports, as its last observation, the
    observation of exactly the world that `runOps` — the function `clone_deep` and
    `untouched_object_unchanged` speak about — reaches -/
theorem history_observes_runOps (cx : Ctx) (w : World) (ops : List Op) :
    ∃ res, (runHistory cx w ops).getLast? = some (res, (runOps cx w ops).view cx) :=
  runHistory_last cx w ops

/-! ### Clone is deep — every container kind, every operation of the C05 and C07 histories

`WorldWF w`: every object of the world is well formed (its slices lie with their capacity inside
allocated backing arrays; the rows of a multi / the columns of a column-stored alignment are in
pairwise different arrays; all columns of an alignment have `Rows()` entries), different objects
own different backing arrays, and no caller-owned buffer lies in an array an object owns.
`Op.written op` is the object `op` is applied to (`none` for `Clone`, `Subseq`, and the
operations on caller buffers).  `viewObj` is the complete observation the driver compares:
per row `Start`, `End`, strand, name, kind and `At` over the span; `Column(p, true)`,
`ColumnQL(p, true)`, `Column(p, false)` for every position of the span; the consensus letters. -/

/-- the initial object of **every** history (linear, column-stored alignment, multi, set) is
    well formed -/
theorem initial_object_wellformed (cx : Ctx) (kind : String) (strand : Int) (rows : List SeqSpec) :
    WorldWF (initWorld cx kind strand rows) :=
  initWorld_wf cx kind strand rows

/-- one operation of the histories — any of `RevComp`, `Reverse`, `Clone`, `Set`, row
    `RevComp`/`Reverse`, `AppendColumns`, `AppendEach`, `Add`, `Delete`, `Flush`, `Truncate`,
    `Subseq`, creation and mutation of a caller buffer — on any kind of object keeps the world
    well formed and leaves every object it is not applied to, and its complete observation,
    unchanged -/
theorem operation_is_local (cx : Ctx) (w : World) (hw : WorldWF w) (op : Op) :
    WorldWF (apply cx w op).1 ∧
    ∀ (j : Nat) (oj : Obj), op.written ≠ some j → w.objs[j]? = some oj →
      (apply cx w op).1.objs[j]? = some oj ∧
      viewObj cx (apply cx w op).1.cells oj = viewObj cx w.cells oj :=
  step_all cx w hw op

/-- **frame, all container kinds**: in a well-formed world — column-stored `alignment.Seq/QSeq`
    included, and with caller-owned buffers — whatever sequence of operations of the C05 and C07
    histories is applied to *other* objects or to caller buffers, an object stays the same and
    its complete observation stays the same. -/
theorem untouched_object_unchanged_all (cx : Ctx) (w : World) (hw : WorldWF w) (ops : List Op)
    (j : Nat) (oj : Obj) (hj : w.objs[j]? = some oj) (hnot : ∀ op ∈ ops, op.written ≠ some j) :
    (runOps cx w ops).objs[j]? = some oj ∧
    viewObj cx (runOps cx w ops).cells oj = viewObj cx w.cells oj :=
  untouched_all cx ops w hw j oj hj hnot

/-- **clone_deep, all container kinds, all histories.**  Let object `k` — a `linear.Seq/QSeq`, a
    `multi.Multi` or a column-stored `alignment.Seq/QSeq` — be cloned in a well-formed world (the
    copy is object `n = w.objs.length`).  (a) The complete observation of the copy equals that of
    the original.  (b) After any sequence of operations of the C05 and C07 histories none of
    which is applied to the original, the original is observed exactly as before — whatever is
    written through the copy, through other objects or through caller buffers.  (c) After any
    sequence none of which is applied to the copy, the copy is observed as the original was when
    it was cloned.  (The hypothesis `WorldWF` holds of every reachable state:
    `initial_object_wellformed`, `operation_is_local`.) -/
theorem clone_deep_all (cx : Ctx) (w : World) (hw : WorldWF w) (k : Nat) (o : Obj)
    (hk : w.objs[k]? = some o) (hclonable : ∀ m, o ≠ .set m) (ops : List Op) :
    let w1 := (apply cx w (.clone k)).1
    ∃ c, w1.objs[w.objs.length]? = some c ∧ viewObj cx w1.cells c = viewObj cx w.cells o ∧
      ((∀ op ∈ ops, op.written ≠ some k) →
        (runOps cx w1 ops).objs[k]? = some o ∧
        viewObj cx (runOps cx w1 ops).cells o = viewObj cx w.cells o) ∧
      ((∀ op ∈ ops, op.written ≠ some w.objs.length) →
        (runOps cx w1 ops).objs[w.objs.length]? = some c ∧
        viewObj cx (runOps cx w1 ops).cells c = viewObj cx w.cells o) :=
  clone_deep_view cx w hw k o hk hclonable ops

-- non-vacuity: a quality alignment of two rows and three columns is cloned; the copy's row 0 is
-- reverse-complemented, a row is deleted from it and a column appended to it from a caller
-- buffer that is mutated afterwards; the original is observed exactly as at the start
example :
    let cx : Ctx := { comp := fun l => l, gap := 45, amb := 110,
                      alpha := ⟨[], 0, fun _ => false, fun _ => -1, 45, 110, false⟩, grow := growExact }
    let w0 := initWorld cx "qaln" 1 [⟨true, 0, 1, 0, [⟨65, 30⟩, ⟨67, 31⟩, ⟨71, 32⟩]⟩,
                                    ⟨true, 0, 1, 1, [⟨71, 20⟩, ⟨71, 21⟩, ⟨84, 22⟩]⟩]
    let w := runOps cx w0 [.clone 0, .rowRevComp 1 0, .delete 1 1, .mkbuf [⟨84, 9⟩] 0, .appendCols 1 [0],
                           .mutbuf 0 0 ⟨67, 1⟩]
    ((w.objs.map fun o => (viewObj cx w.cells o).rows.map fun r => (r.strand, r.cells.map (·.L)))
        = [[(1, [65, 67, 71]), (1, [71, 71, 84])], [(-1, [71, 67, 65, 84])]]) ∧
    (w0.objs.map (viewObj cx w0.cells)) = (w.objs.take 1).map (viewObj cx w.cells) := by decide +kernel

/-- **revcomp_spec (alignment.Row, alignment.QRow).** For a well-formed alignment of `n` rows and
    `r < n`: after `Row(r).RevComp()` row `r` reads (`At` over the span) as the reverse of what it
    read with every letter complemented, each quality travelling with its letter; every other
    row reads exactly as before; only the strand of row `r`'s annotation is negated (every other
    row annotation, and name and offset of row `r`, are untouched); the alignment's own strand,
    coordinates and columns are unchanged, and no backing array outside the alignment's columns
    is written. -/
theorem row_revcomp_spec_alignment (cx : Ctx) (h : Cells) (a : Aln) (n : Nat) (hw : ColsWF h n a.cols)
    (r : Nat) (hr : r < n) :
    (a.rowRevComp cx h r).2.rowLetters (a.rowRevComp cx h r).1 r
        = (a.rowLetters h r).reverse.map (compQL cx.comp) ∧
    (∀ r', r' ≠ r → (a.rowRevComp cx h r).2.rowLetters (a.rowRevComp cx h r).1 r' = a.rowLetters h r') ∧
    (∀ i : Nat, (a.rowRevComp cx h r).2.subs[i]? =
      if r = i then (a.subs[i]?).map (fun s => { s with strand := -s.strand }) else a.subs[i]?) ∧
    (a.rowRevComp cx h r).2.strand = a.strand ∧ (a.rowRevComp cx h r).2.start = a.start ∧
    (a.rowRevComp cx h r).2.«end» = a.«end» ∧ (a.rowRevComp cx h r).2.cols = a.cols ∧
    ColsWF (a.rowRevComp cx h r).1 n (a.rowRevComp cx h r).2.cols ∧
    (∀ b, b ∉ a.cols.map (·.arr) → (a.rowRevComp cx h r).1.arr b = h.arr b) := by
  obtain ⟨s1, s2, s3, s4⟩ := Aln.rowRevComp_spec cx h a n hw r hr
  exact ⟨s1, s2, fun i => LTS.getElem?_modify_if a.subs r i _, rfl, rfl, rfl, rfl, s3, s4⟩

/-- **Row.Reverse / QRow.Reverse**: row `r` reads reversed (qualities travelling), every other row
    as before; the strand of row `r`'s annotation becomes `seq.None`. -/
theorem row_reverse_spec_alignment (h : Cells) (a : Aln) (n : Nat) (hw : ColsWF h n a.cols)
    (r : Nat) (hr : r < n) :
    (a.rowReverse h r).2.rowLetters (a.rowReverse h r).1 r = (a.rowLetters h r).reverse ∧
    (∀ r', r' ≠ r → (a.rowReverse h r).2.rowLetters (a.rowReverse h r).1 r' = a.rowLetters h r') ∧
    (∀ i : Nat, (a.rowReverse h r).2.subs[i]? =
      if r = i then (a.subs[i]?).map (fun s => { s with strand := 0 }) else a.subs[i]?) ∧
    (a.rowReverse h r).2.strand = a.strand ∧ (a.rowReverse h r).2.cols = a.cols ∧
    ColsWF (a.rowReverse h r).1 n (a.rowReverse h r).2.cols := by
  obtain ⟨s1, s2, s3, _⟩ := Aln.rowReverse_spec h a n hw r hr
  exact ⟨s1, s2, fun i => LTS.getElem?_modify_if a.subs r i _, rfl, rfl, s3⟩

/-- **revcomp_involutive / reverse_involutive (alignment.Row, alignment.QRow).** `Row(r).RevComp()`
    twice restores the letters and qualities of every row, every row annotation (the strand of
    row `r` included) and the alignment's strand; `Row(r).Reverse()` twice restores the letters
    and qualities of every row. -/
theorem row_revcomp_involutive_alignment (cx : Ctx) (h : Cells) (a : Aln) (n : Nat) (hw : ColsWF h n a.cols)
    (r : Nat) (hr : r < n) (hinv : ∀ c ∈ a.rowLetters h r, cx.comp (cx.comp c.L) = c.L) :
    let r1 := a.rowRevComp cx h r
    let r2 := r1.2.rowRevComp cx r1.1 r
    let v1 := a.rowReverse h r
    let v2 := v1.2.rowReverse v1.1 r
    (∀ r', r2.2.rowLetters r2.1 r' = a.rowLetters h r') ∧ r2.2.subs = a.subs ∧ r2.2.strand = a.strand ∧
    (∀ r', v2.2.rowLetters v2.1 r' = a.rowLetters h r') := by
  intro r1 r2 v1 v2
  obtain ⟨a1, a2, a3, _⟩ := Aln.rowRevComp_spec cx h a n hw r hr
  obtain ⟨b1, b2, _, _⟩ := Aln.rowRevComp_spec cx r1.1 r1.2 n a3 r hr
  obtain ⟨c1, c2, c3, _⟩ := Aln.rowReverse_spec h a n hw r hr
  obtain ⟨d1, d2, _, _⟩ := Aln.rowReverse_spec v1.1 v1.2 n c3 r hr
  refine ⟨?_, ?_, rfl, ?_⟩
  · intro r'
    by_cases e : r' = r
    · subst e; rw [b1, a1]; exact map_comp_twice cx.comp _ hinv
    · rw [b2 r' e, a2 r' e]
  · show Aln.modSub (Aln.modSub a.subs r _) r _ = a.subs
    apply List.ext_getElem?
    intro i
    simp only [Aln.modSub]
    rw [LTS.getElem?_modify_if, LTS.getElem?_modify_if]
    by_cases e : r = i
    · simp only [e, if_true]
      cases a.subs[i]? with
      | none => rfl
      | some s => simp only [Option.map_some, Int.neg_neg]
    · simp only [e, if_false]
  · intro r'
    by_cases e : r' = r
    · subst e; rw [d1, c1, List.reverse_reverse]
    · rw [d2 r' e, c2 r' e]

-- non-vacuity: Row(0).RevComp() of the 2 x 3 quality alignment above (identity complement)
example :
    let cx : Ctx := { comp := fun l => l, gap := 45, amb := 110,
                      alpha := ⟨[], 0, fun _ => false, fun _ => -1, 45, 110, false⟩, grow := growExact }
    let w := runOps cx (initWorld cx "qaln" 1 [⟨true, 0, 1, 0, [⟨65, 30⟩, ⟨67, 31⟩, ⟨71, 32⟩]⟩,
                                                ⟨true, 0, 1, 1, [⟨71, 20⟩, ⟨71, 21⟩, ⟨84, 22⟩]⟩]) [.rowRevComp 0 0]
    (w.objs.map fun o => (viewObj cx w.cells o).rows.map fun r => (r.strand, r.cells))
      = [[(-1, [⟨71, 32⟩, ⟨67, 31⟩, ⟨65, 30⟩]), (1, [⟨71, 20⟩, ⟨71, 21⟩, ⟨84, 22⟩])]] := by decide +kernel

/-- **revcomp_spec (multi.Set).** `Set.RevComp` reverse-complements every row in place: letters
    reversed and complemented (qualities travelling), strand negated, and — a set has no common
    coordinate system — every row keeps its own coordinates; the rows stay well formed. -/
theorem revcomp_spec_set (cx : Ctx) (h : Cells) (m : Multi) (hwf : RowsWF h m.rows) :
    All2 (fun r r' =>
        r'.letters (m.setRevComp cx h).1 = (r.letters h).reverse.map (compQL cx.comp)
        ∧ r'.strand = -r.strand ∧ r'.start = r.start ∧ r'.«end» = r.«end» ∧ r'.q = r.q ∧ r'.name = r.name)
      m.rows (m.setRevComp cx h).2.rows ∧
    RowsWF (m.setRevComp cx h).1 (m.setRevComp cx h).2.rows :=
  Multi.setRevComp_rows cx h m hwf

/-- **revcomp_involutive (multi.Set).** -/
theorem revcomp_involutive_set (cx : Ctx) (h : Cells) (m : Multi) (hwf : RowsWF h m.rows)
    (hinv : ∀ r ∈ m.rows, ∀ c ∈ r.letters h, cx.comp (cx.comp c.L) = c.L) :
    let m1 := m.setRevComp cx h
    let m2 := m1.2.setRevComp cx m1.1
    All2 (fun r r2 => r2.letters m2.1 = r.letters h ∧ r2.strand = r.strand ∧ r2.start = r.start ∧
        r2.«end» = r.«end» ∧ r2.q = r.q ∧ r2.name = r.name) m.rows m2.2.rows := by
  intro m1 m2
  obtain ⟨a1, wf1⟩ := revcomp_spec_set cx h m hwf
  obtain ⟨a2, _⟩ := revcomp_spec_set cx m1.1 m1.2 wf1
  refine (a1.trans a2).imp_mem fun r r2 hrm ⟨r1', hab, hbc⟩ => ?_
  obtain ⟨l1, s1, b1, c1, q1, n1⟩ := hab
  obtain ⟨l2, s2, b2, c2, q2, n2⟩ := hbc
  refine ⟨?_, by omega, by rw [b2, b1], by rw [c2, c1], by rw [q2, q1], by rw [n2, n1]⟩
  rw [l2, l1]; exact map_comp_twice cx.comp _ (hinv r hrm)

/-- **alignment.Seq/QSeq.Reverse, row view**: every row reads reversed (qualities travelling);
    the strand becomes `seq.None`; nothing is written to the heap (the column headers are swapped) -/
theorem reverse_spec_alignment (h : Cells) (a : Aln) (r : Nat) :
    a.reverse.rowLetters h r = (a.rowLetters h r).reverse ∧ a.reverse.strand = 0 ∧
    a.reverse.subs = a.subs ∧ a.reverse.start = a.start ∧ a.reverse.«end» = a.«end» := by
  have h1 := Aln.reverse_cols a
  refine ⟨?_, rfl, rfl, rfl, ?_⟩
  · have hq : a.reverse.q = a.q := rfl
    simp only [Aln.rowLetters, h1, hq, List.map_reverse]
  · simp only [Aln.«end», h1, List.length_reverse]; rfl

/-! ### the model satisfies the declarative statements the executable laws stand for

`Laws.RevCompSpec`, `Laws.RowRevCompSpec`, `Laws.FrameSpec` (Proofs/ContLawsSound.lean) are what
`lawRevComp`, `lawRowRevComp`, `lawFrame` are proved to imply of the implementation's
observations (`C05_laws.c05_verdict_sound`).  Here they are proved of the model's own
observations: one proposition, a theorem on the model's side and a sound executable check on
the implementation's side. -/

/-- **revcomp_spec and multi_revcomp_mirror, observation level**: in a well-formed world, for an
    object of any kind (linear, column-stored alignment, multi, set), the observation after
    `RevComp` is related to the observation before by `RevCompSpec`: every row reads as the
    reverse complement with qualities travelling and its name kept; strands negated; a
    column-stored alignment keeps its coordinates, the rows of a multi are mirrored about its
    span which is kept, the rows of the other kinds keep their coordinates. -/
theorem revcomp_on_observations (cx : Ctx) (w : World) (hw : WorldWF w) (k : Nat) (o : Obj)
    (hk : w.objs[k]? = some o) (hrange : ∀ m, o = .multi m → m.InRange) :
    ∃ b a, (w.view cx)[k]? = some b ∧ ((apply cx w (.revComp k)).1.view cx)[k]? = some a ∧
      Laws.RevCompSpec cx.comp b a :=
  model_revcomp cx w hw k o hk hrange

/-- `Row(r).RevComp()` of a well-formed column-stored alignment, observation level -/
theorem row_revcomp_on_observations (cx : Ctx) (h : Cells) (a : Aln) (n : Nat) (hc : ColsCapWF h n a.cols)
    (r : Nat) (hr : r < a.rows) :
    Laws.RowRevCompSpec cx.comp (viewObj cx h (.aln a))
      (viewObj cx (a.rowRevComp cx h r).1 (.aln (a.rowRevComp cx h r).2)) r :=
  model_rowRevComp_aln cx h a n hc r hr

/-- **clone_deep as a frame statement, observation level** -/
theorem frame_on_observations (cx : Ctx) (w : World) (hw : WorldWF w) (op : Op) :
    Laws.FrameSpec (w.view cx) ((apply cx w op).1.view cx) op.written :=
  model_frame cx w hw op

end Biogo.Properties.C05
