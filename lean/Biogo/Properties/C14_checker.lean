/-
C14 — the executable statement the driver evaluates on the implementation's hits
(`Spec.Filter.uncovered`: all ε-matches by prefix mismatch counts along every diagonal, hits
bucketed by diagonal) is sound and complete for the declarative statement of `filter_complete`
(`EpsMatch`, `required`, `Covered`).
-/
import Biogo.Spec.Filter
import Biogo.Model.Filter
import Biogo.Proofs.Filter

namespace Biogo.Properties.C14_checker
open Biogo.Spec.Filter
open Biogo.Spec.Kmer (Lookup)

theorem codes_size (lk : Lookup) (s : List UInt8) : (codes lk s).size = s.length := by
  simp [codes]

theorem codes_get (lk : Lookup) (s : List UInt8) (i : Nat) (h : i < s.length) :
    (codes lk s)[i]! = code lk s[i] := by
  simp [codes, h]

theorem mismC_code (lk : Lookup) (x y : UInt8) :
    mismC (code lk x) (code lk y) =
      (match lk x, lk y with
       | some dx, some dy => dx != dy
       | _, _ => true) := by
  unfold mismC code
  cases lk x <;> cases lk y <;> simp

theorem mismC_codes (lk : Lookup) (t q : List UInt8) (a b : Nat) (ha : a < t.length) (hb : b < q.length) :
    mismC (codes lk t)[a]! (codes lk q)[b]! = mismatchAt lk t q a b := by
  rw [codes_get lk t a ha, codes_get lk q b hb, mismC_code]
  unfold mismatchAt
  simp only [List.getElem?_eq_getElem ha, List.getElem?_eq_getElem hb]
  cases lk t[a] <;> cases lk q[b] <;> rfl

/-- the loop extends the list of prefix counts `M 0 … M i` to `M 0 … M (i + len)` -/
theorem prefixLoop_spec (lk : Lookup) (t q : List UInt8) (a0 b0 : Nat) : ∀ (len i : Nat) (acc : Array Nat),
    a0 + i + len ≤ t.length → b0 + i + len ≤ q.length →
    acc.toList = (List.range (i + 1)).map (mismatches lk t q a0 b0) →
    (prefixLoop (codes lk t) (codes lk q) len (a0 + i) (b0 + i) (mismatches lk t q a0 b0 i) acc).toList
      = (List.range (i + len + 1)).map (mismatches lk t q a0 b0) := by
  intro len
  induction len with
  | zero => intro i acc _ _ h; simpa [prefixLoop] using h
  | succ len ih =>
    intro i acc ht hq hacc
    simp only [prefixLoop]
    rw [mismC_codes lk t q (a0 + i) (b0 + i) (by omega) (by omega)]
    have hM : (if mismatchAt lk t q (a0 + i) (b0 + i) = true then mismatches lk t q a0 b0 i + 1
        else mismatches lk t q a0 b0 i) = mismatches lk t q a0 b0 (i + 1) := by
      rw [Biogo.Proofs.Filter.mismatches_succ]; split <;> simp
    rw [hM]
    have h1 : a0 + i + 1 = a0 + (i + 1) := by omega
    have h2 : b0 + i + 1 = b0 + (i + 1) := by omega
    have h3 : i + (len + 1) + 1 = (i + 1) + len + 1 := by omega
    rw [h1, h2, h3]
    apply ih (i + 1) _ (by omega) (by omega)
    rw [Array.toList_push, hacc, List.range_succ (n := i + 1), List.map_append]
    rfl

theorem prefix_get (lk : Lookup) (t q : List UInt8) (a0 b0 len : Nat)
    (ht : a0 + len ≤ t.length) (hq : b0 + len ≤ q.length) (j : Nat) (hj : j ≤ len) :
    (prefixLoop (codes lk t) (codes lk q) len a0 b0 0 #[0])[j]! = mismatches lk t q a0 b0 j := by
  have h := prefixLoop_spec lk t q a0 b0 len 0 #[0] (by omega) (by omega)
    (by simp [mismatches, flagsFrom])
  simp only [Nat.add_zero, Nat.zero_add] at h
  have h0 : mismatches lk t q a0 b0 0 = 0 := by simp [mismatches, flagsFrom]
  rw [h0] at h
  generalize prefixLoop (codes lk t) (codes lk q) len a0 b0 0 #[0] = pm at h
  have hs : pm.size = len + 1 := by
    have := congrArg List.length h
    simpa using this
  rw [getElem!_pos pm j (by omega)]
  have : pm[j]'(by omega) = pm.toList[j]'(by simp; omega) := by simp
  rw [this]
  simp [h]

theorem windowsLoop_spec (pm : Array Nat) (n e : Nat) : ∀ (m i : Nat) (acc : List Nat),
    windowsLoop pm n e m i acc
      = acc.reverse ++ (List.range' i m).filter (fun j => decide (pm[j + n]! - pm[j]! ≤ e)) := by
  intro m
  induction m with
  | zero => intro i acc; simp [windowsLoop]
  | succ m ih =>
    intro i acc
    simp only [windowsLoop]
    rw [ih, List.range'_succ, List.filter_cons]
    by_cases h : pm[i + n]! - pm[i]! ≤ e <;> simp [h]

theorem mem_matchesOnDiagonal (lk : Lookup) (t q : List UInt8) (n e a0 b0 : Nat)
    (ha0 : a0 ≤ t.length) (hb0 : b0 ≤ q.length) (a b : Nat) :
    (a, b) ∈ matchesOnDiagonal (codes lk t) (codes lk q) n e a0 b0 ↔
      ∃ i, a = a0 + i ∧ b = b0 + i ∧ EpsMatch lk t q n e a b := by
  unfold matchesOnDiagonal
  simp only [codes_size]
  -- `len` columns of the diagonal lie inside both sequences
  have hmin : ∀ x, x ≤ min (t.length - a0) (q.length - b0) ↔ a0 + x ≤ t.length ∧ b0 + x ≤ q.length :=
    fun x => by omega
  generalize min (t.length - a0) (q.length - b0) = len at hmin ⊢
  split
  · rename_i hlen
    simp only [List.not_mem_nil, false_iff]
    rintro ⟨i, rfl, rfl, h1, h2, _⟩
    have := (hmin (i + n)).mpr ⟨by omega, by omega⟩
    omega
  · rename_i hlen
    have hl := (hmin len).mp (Nat.le_refl _)
    -- a window is accepted iff it has at most `e` mismatches
    generalize hpm : prefixLoop (codes lk t) (codes lk q) _ a0 b0 0 #[0] = pm
    have hwin : ∀ i, i + n ≤ len → (pm[i + n]! - pm[i]! ≤ e ↔ mismatches lk t q (a0 + i) (b0 + i) n ≤ e) := by
      intro i hi
      rw [← hpm, prefix_get lk t q a0 b0 _ hl.1 hl.2 (i + n) hi,
        prefix_get lk t q a0 b0 _ hl.1 hl.2 i (by omega), Biogo.Proofs.Filter.mismatches_add]
      omega
    rw [windowsLoop_spec]
    simp only [List.reverse_nil, List.nil_append, List.mem_map, List.mem_filter, List.mem_range',
      Prod.mk.injEq, decide_eq_true_eq]
    constructor
    · rintro ⟨i, ⟨⟨k, hk, hik⟩, hw⟩, rfl, rfl⟩
      have hi : i + n ≤ len := by omega
      have := (hmin _).mp hi
      exact ⟨i, rfl, rfl, by omega, by omega, (hwin i hi).mp hw⟩
    · rintro ⟨i, rfl, rfl, h1, h2, h3⟩
      have hi : i + n ≤ len := (hmin _).mpr ⟨by omega, by omega⟩
      exact ⟨i, ⟨⟨i, by omega, by omega⟩, (hwin i hi).mpr h3⟩, rfl, rfl⟩

theorem diagonalStarts_bounds (tlen qlen : Nat) (s : Nat × Nat) (h : s ∈ diagonalStarts tlen qlen) :
    s.1 ≤ tlen ∧ s.2 ≤ qlen := by
  unfold diagonalStarts at h
  rw [List.mem_append] at h
  rcases h with h | h
  · simp only [List.mem_map, List.mem_reverse, List.mem_range] at h
    obtain ⟨x, hx, rfl⟩ := h
    exact ⟨by simp; omega, by simp⟩
  · simp only [List.mem_map] at h
    obtain ⟨x, hx, rfl⟩ := h
    have := List.mem_range.mp (List.mem_of_mem_tail hx)
    exact ⟨by simp, by simp; omega⟩

/-- every cell that can start a window of `n ≥ 1` columns lies on one of the diagonals -/
theorem diagonalStarts_complete (tlen qlen a b : Nat) (ha : a < tlen) (hb : b < qlen) :
    ∃ s ∈ diagonalStarts tlen qlen, ∃ i, a = s.1 + i ∧ b = s.2 + i := by
  unfold diagonalStarts
  by_cases h : b ≤ a
  · refine ⟨(a - b, 0), ?_, b, by simp; omega, by simp⟩
    rw [List.mem_append]; left
    simp only [List.mem_map, List.mem_reverse, List.mem_range]
    exact ⟨a - b, by omega, rfl⟩
  · refine ⟨(0, b - a), ?_, a, by simp, by simp; omega⟩
    rw [List.mem_append]; right
    simp only [List.mem_map]
    refine ⟨b - a, ?_, rfl⟩
    have : b - a = (b - a - 1) + 1 := by omega
    rw [this, List.range_eq_range', List.tail_range']
    simp only [List.mem_range'_1]
    omega

theorem epsMatch_mem_diagonal (lk : Lookup) (t q : List UInt8) (n e : Nat) (hn : 1 ≤ n) {a b : Nat}
    (hm : EpsMatch lk t q n e a b) :
    ∃ s ∈ diagonalStarts t.length q.length, (a, b) ∈ matchesOnDiagonal (codes lk t) (codes lk q) n e s.1 s.2 := by
  obtain ⟨s, hs, i, hai, hbi⟩ := diagonalStarts_complete t.length q.length a b
    (by have := hm.1; omega) (by have := hm.2.1; omega)
  have hb := diagonalStarts_bounds _ _ s hs
  exact ⟨s, hs, (mem_matchesOnDiagonal lk t q n e s.1 s.2 hb.1 hb.2 a b).mpr ⟨i, hai, hbi, hm⟩⟩

theorem epsMatch_of_mem_diagonal (lk : Lookup) (t q : List UInt8) (n e : Nat) {s : Nat × Nat}
    (hs : s ∈ diagonalStarts t.length q.length) {a b : Nat}
    (h : (a, b) ∈ matchesOnDiagonal (codes lk t) (codes lk q) n e s.1 s.2) :
    (a : Int) - b = (s.1 : Int) - s.2 ∧ EpsMatch lk t q n e a b := by
  have hb := diagonalStarts_bounds _ _ s hs
  obtain ⟨i, hai, hbi, hm⟩ := (mem_matchesOnDiagonal lk t q n e s.1 s.2 hb.1 hb.2 a b).mp h
  exact ⟨by omega, hm⟩

def bucketStep (m : Std.HashMap Int (List Hit)) (h : Hit) : Std.HashMap Int (List Hit) :=
  m.insert h.diagonal (h :: m.getD h.diagonal [])

theorem mem_buckets (hits : List Hit) : ∀ (m : Std.HashMap Int (List Hit)) (d : Int) (h : Hit),
    h ∈ (hits.foldl bucketStep m).getD d [] ↔ h ∈ m.getD d [] ∨ (h ∈ hits ∧ h.diagonal = d) := by
  induction hits with
  | nil => intro m d h; simp
  | cons x xs ih =>
    intro m d h
    rw [List.foldl_cons, ih]
    unfold bucketStep
    rw [Std.HashMap.getD_insert]
    by_cases hx : x.diagonal = d
    · subst hx
      by_cases h1 : h = x <;> simp [h1]
    · by_cases h1 : h = x
      · subst h1; simp [hx]
      · simp [hx, h1]

/-- looking only into the buckets `d … d + tubeWidth - 1` loses no covering hit of a match on
    diagonal `d` -/
theorem any_buckets (hits : List Hit) (tubeWidth n a b : Nat) (d : Int) (hd : d = (a : Int) - b) :
    (((List.range tubeWidth).flatMap fun (j : Nat) =>
        (hits.foldl bucketStep ({} : Std.HashMap Int (List Hit))).getD (d + j) []).any
      fun h => covers tubeWidth n h a b) = true ↔ Covered hits tubeWidth n a b := by
  unfold Covered
  simp only [List.any_eq_true, List.mem_flatMap, List.mem_range, mem_buckets,
    Std.HashMap.getD_empty, List.not_mem_nil, false_or]
  constructor
  · rintro ⟨h, ⟨_, _, hh, _⟩, hc⟩
    exact ⟨h, hh, hc⟩
  · rintro ⟨h, hh, hc⟩
    refine ⟨h, ⟨(h.diagonal - d).toNat, ?_, hh, ?_⟩, hc⟩
    · simp only [covers, Bool.and_eq_true, decide_eq_true_eq] at hc
      omega
    · simp only [covers, Bool.and_eq_true, decide_eq_true_eq] at hc
      omega

/-- the required matches the checker finds on the diagonal through `s` -/
def reqOn (lk : Lookup) (t q : List UInt8) (n e : Nat) (req : Nat → Nat → Bool) (s : Nat × Nat) : List (Nat × Nat) :=
  (matchesOnDiagonal (codes lk t) (codes lk q) n e s.1 s.2).filter fun m => req m.1 m.2

/-- the uncovered required matches the checker finds on the diagonal through `s` -/
def uncOn (lk : Lookup) (t q : List UInt8) (n e tubeWidth : Nat) (req : Nat → Nat → Bool) (hits : List Hit)
    (s : Nat × Nat) : List (Nat × Nat) :=
  let d : Int := (s.1 : Int) - s.2
  let hs := (List.range tubeWidth).flatMap fun (j : Nat) =>
    (hits.foldl bucketStep ({} : Std.HashMap Int (List Hit))).getD (d + j) []
  (reqOn lk t q n e req s).filter fun m => !(hs.any fun h => covers tubeWidth n h m.1 m.2)

theorem mem_uncOn (lk : Lookup) (t q : List UInt8) (n e tubeWidth : Nat) (req : Nat → Nat → Bool)
    (hits : List Hit) (s : Nat × Nat) (hs : s ∈ diagonalStarts t.length q.length) (a b : Nat) :
    (a, b) ∈ uncOn lk t q n e tubeWidth req hits s ↔
      (a, b) ∈ matchesOnDiagonal (codes lk t) (codes lk q) n e s.1 s.2 ∧ req a b = true ∧
        ¬ Covered hits tubeWidth n a b := by
  unfold uncOn reqOn
  simp only [List.mem_filter, Bool.not_eq_true', and_assoc]
  refine and_congr_right fun hmem => and_congr_right fun _ => ?_
  rw [← any_buckets hits tubeWidth n a b _ (epsMatch_of_mem_diagonal lk t q n e hs hmem).1.symm, Bool.not_eq_true]

/-- the fold of the checker: it skips the diagonals that contribute nothing, which changes neither
    the count nor the concatenation -/
theorem foldl_diagonals {α : Type} (r u : α → List (Nat × Nat)) (hu : ∀ s, r s = [] → u s = []) :
    ∀ (l : List α) (acc : Nat × List (List (Nat × Nat))),
      let out := l.foldl (fun acc s =>
        if (r s).isEmpty then acc
        else (acc.1 + (r s).length, if (u s).isEmpty then acc.2 else u s :: acc.2)) acc
      (out.1, out.2.reverse.flatten) =
        (acc.1 + (l.map fun s => (r s).length).sum, acc.2.reverse.flatten ++ l.flatMap u) := by
  intro l
  induction l with
  | nil => intro acc; simp
  | cons y ys ih =>
    intro acc
    simp only [List.foldl_cons] at ih ⊢
    rw [ih]
    by_cases hr : r y = []
    · simp [hr, hu y hr]
    · have hr' : (r y).isEmpty = false := by simpa using hr
      by_cases hy : u y = []
      · simp [hr', hy, Nat.add_assoc]
      · have hy' : (u y).isEmpty = false := by simpa using hy
        simp [hr', hy', Nat.add_assoc]

theorem uncoveredBy_eq (lk : Lookup) (t q : List UInt8) (n e tubeWidth : Nat) (req : Nat → Nat → Bool)
    (hits : List Hit) :
    uncoveredBy lk t q n e tubeWidth req hits =
      (((diagonalStarts t.length q.length).map fun s => (reqOn lk t q n e req s).length).sum,
        (diagonalStarts t.length q.length).flatMap (uncOn lk t q n e tubeWidth req hits)) := by
  have h := foldl_diagonals (reqOn lk t q n e req) (uncOn lk t q n e tubeWidth req hits)
    (fun s hs => by unfold uncOn; simp only [hs, List.filter_nil])
    (diagonalStarts t.length q.length) (0, [])
  simp only [Nat.zero_add, List.reverse_nil, List.flatten_nil, List.nil_append] at h
  unfold uncoveredBy
  simp only [codes_size]
  exact h

theorem nreqBy_zero_iff (lk : Lookup) (t q : List UInt8) (n e tubeWidth : Nat) (req : Nat → Nat → Bool)
    (hits : List Hit) (hn : 1 ≤ n) :
    (uncoveredBy lk t q n e tubeWidth req hits).1 = 0 ↔
      ∀ a b, EpsMatch lk t q n e a b → req a b = false := by
  rw [uncoveredBy_eq, List.sum_eq_zero_iff_forall_eq_nat]
  simp only [List.mem_map, forall_exists_index, and_imp, forall_apply_eq_imp_iff₂,
    List.length_eq_zero_iff, reqOn, List.filter_eq_nil_iff]
  constructor
  · intro h a b hm
    obtain ⟨s, hs, hmem⟩ := epsMatch_mem_diagonal lk t q n e hn hm
    simpa using h s hs (a, b) hmem
  · rintro h s hs ⟨a, b⟩ hab
    simp [h a b (epsMatch_of_mem_diagonal lk t q n e hs hab).2]

theorem mem_uncoveredBy (lk : Lookup) (t q : List UInt8) (n e tubeWidth : Nat) (req : Nat → Nat → Bool)
    (hits : List Hit) (a b : Nat) (h : (a, b) ∈ (uncoveredBy lk t q n e tubeWidth req hits).2) :
    EpsMatch lk t q n e a b ∧ req a b = true ∧ ¬ Covered hits tubeWidth n a b := by
  rw [uncoveredBy_eq] at h
  obtain ⟨s, hs, hx⟩ := List.mem_flatMap.mp h
  obtain ⟨hmem, hr, hc⟩ := (mem_uncOn lk t q n e tubeWidth req hits s hs a b).mp hx
  exact ⟨(epsMatch_of_mem_diagonal lk t q n e hs hmem).2, hr, hc⟩

theorem mem_uncoveredBy_exact (lk : Lookup) (t q : List UInt8) (n e tubeWidth : Nat) (req : Nat → Nat → Bool)
    (hits : List Hit) (hn : 1 ≤ n) (a b : Nat) :
    (a, b) ∈ (uncoveredBy lk t q n e tubeWidth req hits).2 ↔
      EpsMatch lk t q n e a b ∧ req a b = true ∧ ¬ Covered hits tubeWidth n a b := by
  refine ⟨mem_uncoveredBy lk t q n e tubeWidth req hits a b, fun ⟨hm, hr, hc⟩ => ?_⟩
  obtain ⟨s, hs, hmem⟩ := epsMatch_mem_diagonal lk t q n e hn hm
  rw [uncoveredBy_eq]
  exact List.mem_flatMap.mpr ⟨s, hs, (mem_uncOn lk t q n e tubeWidth req hits s hs a b).mpr ⟨hmem, hr, hc⟩⟩

theorem checkerBy_iff (lk : Lookup) (t q : List UInt8) (n e tubeWidth : Nat) (req : Nat → Nat → Bool)
    (hits : List Hit) (hn : 1 ≤ n) :
    (uncoveredBy lk t q n e tubeWidth req hits).2 = [] ↔
      ∀ a b, EpsMatch lk t q n e a b → req a b = true → Covered hits tubeWidth n a b := by
  rw [List.eq_nil_iff_forall_not_mem]
  constructor
  · intro h a b hm hr
    exact Classical.byContradiction fun hc =>
      h (a, b) ((mem_uncoveredBy_exact lk t q n e tubeWidth req hits hn a b).mpr ⟨hm, hr, hc⟩)
  · rintro h ⟨a, b⟩ hab
    obtain ⟨hm, hr, hc⟩ := mem_uncoveredBy lk t q n e tubeWidth req hits a b hab
    exact hc (h a b hm hr)

/-- **the count behind the `nt` tag**: the number the checker reports is 0 exactly when the pair
    has no required ε-match at all (for `n ≥ 1`), so a case tagged `no-match` demands nothing and a
    case tagged `nt` demands something -/
theorem nreq_zero_iff (lk : Lookup) (t q : List UInt8) (n e tubeWidth : Nat) (selfAlign : Bool)
    (hits : List Hit) (hn : 1 ≤ n) :
    (uncovered lk t q n e tubeWidth selfAlign hits).1 = 0 ↔
      ∀ a b, EpsMatch lk t q n e a b → required selfAlign a b = false :=
  nreqBy_zero_iff lk t q n e tubeWidth (required selfAlign) hits hn

/-- **soundness and completeness of the C14 checker**: for window length `n ≥ 1` (implied by a
    positive q-gram threshold with `k ≥ 1`) the list of uncovered matches the driver computes from
    the implementation's hits is empty exactly when every required ε-match (every match; in
    self-comparison every match strictly above the main diagonal) is `Covered` by a hit — the
    conclusion of `filter_complete`, with the implementation's hits in place of the model's. -/
theorem checker_iff (lk : Lookup) (t q : List UInt8) (n e tubeWidth : Nat) (selfAlign : Bool)
    (hits : List Hit) (hn : 1 ≤ n) :
    (uncovered lk t q n e tubeWidth selfAlign hits).2 = [] ↔
      ∀ a b, EpsMatch lk t q n e a b → required selfAlign a b = true → Covered hits tubeWidth n a b :=
  checkerBy_iff lk t q n e tubeWidth (required selfAlign) hits hn

/-- soundness alone, in the form the driver uses it: an empty list of uncovered matches (verdict
    `ok`/`diff`) means the implementation's hits satisfy the conclusion of `filter_complete` -/
theorem checker_sound (lk : Lookup) (t q : List UInt8) (n e tubeWidth : Nat) (selfAlign : Bool)
    (hits : List Hit) (hn : 1 ≤ n) (h : (uncovered lk t q n e tubeWidth selfAlign hits).2 = []) :
    ∀ a b, EpsMatch lk t q n e a b → required selfAlign a b = true → Covered hits tubeWidth n a b :=
  (checker_iff lk t q n e tubeWidth selfAlign hits hn).mp h

/-- what the checker reports is genuine: a pair that is listed is a required ε-match that no hit
    covers (so a `fail` verdict names a genuine counterexample, and `isK4` is asked about genuine
    ones only); the converse, for `1 ≤ n`, is `mem_uncoveredBy_exact` -/
theorem mem_uncovered (lk : Lookup) (t q : List UInt8) (n e tubeWidth : Nat) (selfAlign : Bool)
    (hits : List Hit) (a b : Nat) (h : (a, b) ∈ (uncovered lk t q n e tubeWidth selfAlign hits).2) :
    EpsMatch lk t q n e a b ∧ required selfAlign a b = true ∧ ¬ Covered hits tubeWidth n a b :=
  mem_uncoveredBy lk t q n e tubeWidth (required selfAlign) hits a b h

/-- the hypothesis `1 ≤ n` of `checker_iff` holds wherever the driver evaluates the statement (and
    wherever `filter_complete` speaks): a positive q-gram threshold `n + 1 - k(e+1)` with a word
    size `k ≥ 1` forces `n ≥ 1`.  So in the driver's scope: no uncovered match listed iff the
    conclusion of `filter_complete` holds of the implementation's hits. -/
theorem checker_iff_in_scope (lk : Lookup) (t q : List UInt8) (k n e tubeWidth : Nat) (selfAlign : Bool)
    (hits : List Hit) (hk : 1 ≤ k) (hthr : 0 < Biogo.Filter.minWordsPerFilterHit n k e) :
    (uncovered lk t q n e tubeWidth selfAlign hits).2 = [] ↔
      ∀ a b, EpsMatch lk t q n e a b → required selfAlign a b = true → Covered hits tubeWidth n a b :=
  checker_iff lk t q n e tubeWidth selfAlign hits
    (Nat.le_trans (Nat.mul_pos hk (Nat.succ_pos e)) ((Biogo.Proofs.Filter.thr_pos_iff n k e).mp hthr))

/-- on the forward strand the driver's checker is the checker of `checker_iff` -/
theorem uncoveredC_forward (lk : Lookup) (t q : List UInt8) (n e tubeWidth : Nat) (selfAlign : Bool)
    (hits : List Hit) :
    uncoveredC lk t q n e tubeWidth selfAlign false hits = uncovered lk t q n e tubeWidth selfAlign hits := rfl

/-- **`checker_iff` for either strand** — the executable statement the driver evaluates
    (`uncoveredC`, with the `complement` flag of the case) lists nothing exactly when every ε-match
    that is required on that strand (`requiredC`: forward `a < b`, complement strand of a self
    comparison `Tlen ≤ a + b`, everything otherwise) is `Covered` — the conclusion of
    `filter_complete` / `filter_complete_complement` with the implementation's hits. -/
theorem checker_iff_strand (lk : Lookup) (t q : List UInt8) (n e tubeWidth : Nat) (selfAlign complement : Bool)
    (hits : List Hit) (hn : 1 ≤ n) :
    (uncoveredC lk t q n e tubeWidth selfAlign complement hits).2 = [] ↔
      ∀ a b, EpsMatch lk t q n e a b → requiredC selfAlign complement t.length a b = true →
        Covered hits tubeWidth n a b :=
  checkerBy_iff lk t q n e tubeWidth (requiredC selfAlign complement t.length) hits hn

/-- every pair the driver's checker lists is an ε-match required on that strand that no hit covers -/
theorem mem_uncoveredC (lk : Lookup) (t q : List UInt8) (n e tubeWidth : Nat) (selfAlign complement : Bool)
    (hits : List Hit) (a b : Nat) (h : (a, b) ∈ (uncoveredC lk t q n e tubeWidth selfAlign complement hits).2) :
    EpsMatch lk t q n e a b ∧ requiredC selfAlign complement t.length a b = true ∧ ¬ Covered hits tubeWidth n a b :=
  mem_uncoveredBy lk t q n e tubeWidth (requiredC selfAlign complement t.length) hits a b h

/-- the count behind the `nt` tag, either strand -/
theorem nreqC_zero_iff (lk : Lookup) (t q : List UInt8) (n e tubeWidth : Nat) (selfAlign complement : Bool)
    (hits : List Hit) (hn : 1 ≤ n) :
    (uncoveredC lk t q n e tubeWidth selfAlign complement hits).1 = 0 ↔
      ∀ a b, EpsMatch lk t q n e a b → requiredC selfAlign complement t.length a b = false :=
  nreqBy_zero_iff lk t q n e tubeWidth (requiredC selfAlign complement t.length) hits hn

/-- **the complement requirement finds every inverted repeat with disjoint arms exactly once**: in
    a self comparison of a sequence of length `L` the window pair `(a, b)` of the complement strand
    and its mirror image `(L-b-n, L-a-n)` are the same pair of regions (`n ≥ 1`); if the regions are disjoint
    (`a + n ≤ L - b - n` or `L - b ≤ a`) exactly one of the two images is required. -/
theorem requiredC_mirror (L n a b : Nat) (hn : 1 ≤ n) (ha : a + n ≤ L) (hb : b + n ≤ L)
    (hdisj : a + n ≤ L - b - n ∨ L - b ≤ a) :
    (requiredC true true L a b = true ∧ requiredC true true L (L - b - n) (L - a - n) = false) ∨
    (requiredC true true L a b = false ∧ requiredC true true L (L - b - n) (L - a - n) = true) := by
  unfold requiredC
  simp only [Bool.not_true, Bool.false_or, if_true, decide_eq_true_eq, decide_eq_false_iff_not]
  omega

/-- lower-case DNA lookup -/
def dna : Lookup := fun b =>
  if b = 97 then some 0 else if b = 99 then some 1 else if b = 103 then some 2 else if b = 116 then some 3 else none

-- non-vacuity: "acgtacgtac" vs "acgtaagtac", n = 10, e = 1 has the required match (0, 0): with no
-- hit the checker must list something; with the hit [0, 10) on diagonal 2 (band 0 … 2) nothing
example : (uncovered dna [97, 99, 103, 116, 97, 99, 103, 116, 97, 99] [97, 99, 103, 116, 97, 97, 103, 116, 97, 99]
    10 1 3 false []).2 ≠ [] := by
  intro h
  obtain ⟨x, hx, _⟩ := (checker_iff _ _ _ _ _ _ _ _ (by decide)).mp h 0 0 (by decide) (by decide)
  cases hx

example : (uncovered dna [97, 99, 103, 116, 97, 99, 103, 116, 97, 99] [97, 99, 103, 116, 97, 97, 103, 116, 97, 99]
    10 1 3 false [{ from_ := 0, to := 10, diagonal := 2 }]).2 = [] := by
  apply (checker_iff _ _ _ _ _ _ _ _ (by decide)).mpr
  intro a b hm _
  have ha : a = 0 := by have := hm.1; simp at this; omega
  have hb : b = 0 := by have := hm.2.1; simp at this; omega
  subst ha hb
  exact ⟨_, List.mem_singleton.mpr rfl, by decide⟩

end Biogo.Properties.C14_checker
