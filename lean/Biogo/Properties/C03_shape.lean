/-
C03 — **source-shape facts** of the four readers (advisory; not obligations of the property).

The two theorems below pin the *text* of the functions the reader models transcribe: which
index / slice / division / type-assertion expressions they contain (`panic_sites_modelled`) and
which length guards and constant field indices (`source_guards_as_modelled`).  No model definition
and no property theorem depends on them: the models are tied to the code by the differential
correspondence, which is aimed at exactly these guards.  They are not obligations of C03:
a behaviour-preserving rewrite (renamed locals, `append` instead of an index fill, a helper
extracted, a `range` value instead of `line[i]`) makes them fail on code for which the property
holds, and a defect in one of these guards is found by the correspondence with a concrete failing
input.  They are *advisory* facts (`advisory_targets` in
`propcfg/C03.*.json`): when one of them no longer checks, `check` widens the generation, runs the
deep search, and records the change in the evidence; it reports a violation only if a failing
input or a model/implementation disagreement is found.
-/
import Biogo.Generated.Seqio
import Biogo.Generated.FeatIO

namespace Biogo.Properties.C03_shape

/-- **The model makes every panic site of the code explicit.**  The list — regenerated from the
    source on every run — of all index, slice, division/remainder and single-valued type-assertion
    expressions in the modelled functions is exactly the one the models were written against:

    * `fasta.Reader.Read`: `line[len(r.SeqPrefix):]` — `sliceFrom` in `Fasta.read`;
    * `fasta.Reader.header` / `fastq.Reader.readHeader`: the three slices — `slice`/`sliceFrom` in
      `header` / `readHeader` (in `header`, since fix `501e905`, the prefix is cut off first and the
      separator is looked for in the rest); `r.t.Clone().(seqio.SequenceAppender)` — assumption: the template
      is a `linear.Seq`/`linear.QSeq`, whose `Clone` returns the same type;
    * `fasta.Writer.Write`: `i % w.Width` — `.divideByZero` in `writeLoop`;
    * `fastq.Reader.Read`: `label[1:]`, `line[1:]` (twice each) — `sameLabel`; `seqBuff[i]`,
      `seqBuff[:i]` in the fill loop (`i` counts the non-blank bytes of `line`, `seqBuff` has
      `len(line)` elements) — modelled as `filter`; `line[:0]` — always in range; `seqBuff[i]`,
      `line[i]` in the decode loop, after the check `len(line) == len(seqBuff)` — modelled as
      `map`; the call on the possibly-nil `t` is `.nilDeref` in `finish`;
    * `maybeID1` / `maybeID2`: `l[0]` behind `len(l) > 0 &&` — a pattern match.

    A new or changed expression of these kinds in the source breaks this theorem, and the
    check then searches for a failing input. -/
theorem panic_sites_modelled :
    Biogo.Generated.Seqio.panicSites = [
      ("fasta.Reader.Read", ["line[len(r.SeqPrefix):]"]),
      ("fasta.Reader.header", ["r.t.Clone().(seqio.SequenceAppender)", "line[len(r.IDPrefix):]",
        "line[:fieldMark]", "line[fieldMark+1:]"]),
      ("fasta.Writer.Write", ["i % w.Width"]),
      ("fastq.Reader.Read", ["label[1:]", "line[1:]", "label[1:]", "line[1:]", "seqBuff[i]", "seqBuff[:i]",
        "line[:0]", "seqBuff[i]", "line[i]"]),
      ("fastq.Reader.readHeader", ["r.t.Clone().(seqio.SequenceAppender)", "line[1:]", "line[1:fieldMark]",
        "line[fieldMark+1:]"]),
      ("fastq.Writer.Write", []),
      ("fastq.Writer.writeHeader", []),
      ("fastq.maybeID1", ["l[0]"]),
      ("fastq.maybeID2", ["l[0]"])] := rfl

/-! ## the guards of the source, regenerated on every run

The models index `fields[k]` exactly where the code does and guard exactly as the code does;
these are the length guards and constant index expressions found in the reader functions of the
working tree (`harness gen`, go/ast).  A guard that disappears, weakens or moves, or a field
constant that changes position, makes this theorem fail before any input is run (advisory, see
the header of this file). -/

open Biogo.Generated.FeatIO in
theorem source_guards_as_modelled :
    gffFields = ["nameField", "sourceField", "featureField", "startField", "endField", "scoreField",
                 "strandField", "frameField", "attributeField", "commentField", "lastField"] ∧
    bedFields = ["chromField", "startField", "endField", "nameField", "scoreField", "strandField",
                 "thickStartField", "thickEndField", "rgbField", "blockCountField", "blockSizesField",
                 "blockStartsField"] ∧
    gffVersion = "2" ∧
    gff_Read =
      ["guard len(line) == 0", "guard len(line) == 0", "index line[0]",
       "guard len(fields) <= frameField",
       "index fields[nameField]", "index fields[sourceField]", "index fields[featureField]",
       "index fields[startField] via mustAtoPos", "index fields[endField] via mustAtoi",
       "index fields[scoreField] via mustAtofPtr", "index fields[strandField] via mustAtos",
       "index fields[frameField] via mustAtoFr",
       "guard len(fields) <= attributeField", "index fields[attributeField] via mustAtoa",
       "guard len(fields) <= commentField", "index fields[commentField]"] ∧
    gff_commentMetaline =
      ["guard len(fields) < 1", "index fields[0]",
       "guard len(fields) <= 1", "index fields[1] via mustAtoi",
       "guard len(fields) <= 1",
       "guard len(fields) <= 1", "guard len(r.TimeFormat) > 0",
       "guard len(fields) <= 1", "index fields[1]", "guard len(fields) > 2", "index fields[2]",
       "guard len(fields) <= 3", "index fields[1]", "index fields[2] via mustAtoPos", "index fields[3] via mustAtoi",
       "guard len(fields) <= 1", "index fields[0]", "index fields[1]"] ∧
    gff_metaSeq = ["guard len(line) == 0", "guard len(line) == 0", "guard len(line) < 2"] ∧
    gff_mustAtoa = ["guard len(f) == 0", "guard len(tag) == 0"] ∧
    gff_mustAtos = ["guard len(f[index]) != 1", "index f[index][0]"] ∧
    gff_mustAtofPtr = ["guard len(f[index]) == 1", "index f[index][0]"] ∧
    gff_mustAtoFr = ["guard len(f[index]) == 1", "index f[index][0]"] ∧
    bed_parseBed3 = ["guard len(f) < n", "index f[chromField]", "index f[startField]", "index f[endField]"] ∧
    bed_parseBed4 = ["guard len(f) < n", "index f[chromField]", "index f[startField]", "index f[endField]",
                     "index f[nameField]"] ∧
    bed_parseBed5 = ["guard len(f) < n", "index f[chromField]", "index f[startField]", "index f[endField]",
                     "index f[nameField]", "index f[scoreField]"] ∧
    bed_parseBed6 = ["guard len(f) < n", "index f[chromField]", "index f[startField]", "index f[endField]",
                     "index f[nameField]", "index f[scoreField]", "index f[strandField]"] ∧
    bed_parseBed12 = ["guard len(f) < n", "index f[chromField]", "index f[startField]", "index f[endField]",
                      "index f[nameField]", "index f[scoreField]", "index f[strandField]", "index f[thickStartField]",
                      "index f[thickEndField]", "index f[rgbField]", "index f[blockCountField]",
                      "index f[blockSizesField]", "index f[blockStartsField]"] ∧
    bed_mustAtoRgb = ["guard l == 0", "guard l == 1", "index c[0]", "guard l < 3", "index c[0]", "index c[1]",
                      "index c[2]"] ∧
    bed_mustAtos = ["guard len(f) != 1", "index f[0]"] ∧
    bed_mustAtoa = ["guard len(f) == 0"] ∧
    bed_Read = ["guard len(line) == 0"] :=
  ⟨rfl, rfl, rfl, rfl, rfl, rfl, rfl, rfl, rfl, rfl, rfl, rfl, rfl, rfl, rfl, rfl, rfl, rfl, rfl⟩

end Biogo.Properties.C03_shape
