/-
C13, lists of faults: a failure after a recovery is not hidden either.

The fault oracle of `Model/MorassConc.lean` is a *list* of faults armed one after the other.
`history_fault_surfaces` (`Properties/C13_history.lean`) holds for every such list, but once a
call has returned an I/O error its conclusion is satisfied whatever happens later.  The caller
of sequential mode recovers from a reported error with `Clear` and goes on using the sorter;
the theorems here say that the recovered sorter is as good as a new one, so the statement of
`history_fault_surfaces` holds *again* for the rest of the program with the rest of the fault
list — and again after the next recovery, for any number of faults.
-/
import Biogo.Model.MorassConc
import Biogo.Spec.Morass
import Biogo.Proofs.MorassConc
import Biogo.Proofs.MorassCycle
import Biogo.Proofs.MorassHistory
import Biogo.Proofs.MorassSeq
import Biogo.Properties.C13_history
import Biogo.Drive.C13

namespace Biogo.Properties.C13_recovery
open Biogo.Morass Biogo.MorassConc Biogo.Interleave

/-- **Sequential mode: between two calls no chunk writer is alive and exactly one chunk buffer is
    with the caller** (in `m.chunk` or in `pool`) — for every program, every list of faults and
    every schedule.  This is what a `Clear` finds, in particular the `Clear` with which the caller
    recovers from a reported error. -/
theorem sequential_between_calls (c : Nat) (ac acl reuse : Bool) (prog : List Op) (flt : Fault) {s : CState}
    (hr : Reach (sys false c ac acl prog flt reuse) s) (hpc : s.pc = .idle) :
    (∀ w ∈ s.writers, w.pc = .done) ∧ s.writable.buf = [] ∧ s.wg = 0
      ∧ s.m.pool + (if s.m.chunk.isSome then 1 else 0) = 1 := by
  have hi := reach_SeqInv (c := c) (ac := ac) hr
  have hq := hi.quiet (Or.inl hpc)
  have hs := Str_of_Str1 hi.str1
  have hne : s.pc ≠ .finWrite := by rw [hpc]; simp
  refine ⟨hq, wb_nil_of_done hs hne hq, ?_, ?_⟩
  · rw [hs.wg, cnt_zero_of_done live (fun _ h => (done_false h).1) hne hq]
  · have hcap : tokens s ≤ 1 := hi.str1.cap
    have hlow : 1 ≤ tokens s := hi.low
    rw [tokens_quiet hs hpc hq] at hcap hlow
    simp only [mtok, b2n] at hcap hlow
    omega

/-- **A buffer is never lost entirely** (both modes, every program, fault list and schedule):
    `pool`, the writers that hold a buffer, the hand-over channel and the caller's chunk together
    hold at least one — so `Clear` always finds a chunk to go on with. -/
theorem a_buffer_remains (conc : Bool) (c : Nat) (ac acl reuse : Bool) (prog : List Op) (flt : Fault) {s : CState}
    (hr : Reach (sys conc c ac acl prog flt reuse) s) :
    1 ≤ s.m.pool + cnt holding s + s.writable.buf.length + chunkTok s :=
  reach_Low hr

theorem take_of_reverse_eq {α} {l pre Y : List α} (h : l.reverse = pre ++ Y) :
    l.take (l.length - pre.length) = Y.reverse := by
  have : l = Y.reverse ++ pre.reverse := by rw [← List.reverse_reverse l, h, List.reverse_append]
  rw [this]; simp

/-- **A failure after a recovery is not hidden** — general form, either mode.  Chunk size ≥ 1,
    *any* program, *any* list of faults, any schedule so far: let the caller be about to call
    `Clear` (state `sp`) at a moment when no `write()` activation is alive, and let that `Clear`
    succeed.  If the rest of its program is a well-formed history `h`, then for every continuation
    (`0 :: sched`: the `Clear`, then any schedule), when the caller has returned from its last call:
    among the calls *after that `Clear`* some call returned an I/O error, or their outputs satisfy
    `HistorySpec ac h`.  (In sequential mode the hypothesis about the writers always holds:
    `recovery_surfaces`.  In concurrent mode it is what the caller must make sure of before it
    re-uses a sorter after an error — the code's `Clear` does not wait for the writers.) -/
theorem recovery_surfaces_of_quiet (conc : Bool) (c : Nat) (hc : 1 ≤ c) (ac acl reuse : Bool) (prog : List Op) (flt : Fault)
    {sp : CState} (hr : Reach (sys conc c ac acl prog flt reuse) sp)
    (hpc : sp.pc = .idle) (hq : ∀ w ∈ sp.writers, w.pc = .done)
    (h : List Cycle) (hclr : sp.prog = Op.clear :: histOps h)
    (hok : (clearF sp).2 = .ok) (hwf : wellFormed ac h = true)
    (sched : List Nat) {s : CState}
    (hrun : runFrom (sys conc c ac acl prog flt reuse) sp (0 :: sched) = some s) (hfin : finished s = true) :
    (∃ o ∈ s.outs.take (s.outs.length - (sp.outs.length + 1)), o.res = .ioerr)
    ∨ HistorySpec ac h (s.outs.take (s.outs.length - (sp.outs.length + 1))).reverse := by
  -- the `Clear`: a fresh sorter, no live writer, the rest of the program is `histOps h`
  have hstep0 : MorassConc.step sp 0 = some (finishOp (clearF sp).1 .ok none) :=
    hok ▸ cstep_of_CStep (.clear _ hpc hclr)
  simp only [runFrom] at hrun
  rw [show (sys conc c ac acl prog flt reuse).step sp 0 = some (finishOp (clearF sp).1 .ok none) from hstep0] at hrun
  simp only at hrun
  obtain ⟨hfr, hq0⟩ := clear_restores_of_quiet (c := c) (ac := ac) (reach_Str hr) (reach_Low hr) (reach_Consts hr) hpc hq hok
  have hfrm := clearF_frame sp
  have hprog0 : (finishOp (clearF sp).1 .ok none).prog = histOps h := by
    show (clearF sp).1.prog.tail = _
    rw [hfrm.prog, hclr]; rfl
  -- the outputs after that `Clear` are what the history invariant, started there, speaks of
  have hlen : (finishOp (clearF sp).1 .ok none).outs.reverse.length = sp.outs.length + 1 := by
    rw [List.length_reverse]; show (clearF sp).1.outs.length + 1 = _; rw [hfrm.outs]
  rcases fresh_history hc (Str_step (reach_Str hr) hstep0) rfl hq0 hfr hwf hprog0 _ rfl hrun hfin
    with ⟨X, hX, o, ho, hio⟩ | ⟨Y, hY, hspec⟩
  · exact Or.inl ⟨o, by rw [← hlen, take_of_reverse_eq hX]; exact List.mem_reverse.mpr ho, hio⟩
  · exact Or.inr (by rw [← hlen, take_of_reverse_eq hY, List.reverse_reverse]; exact hspec)

/-- **A failure after a recovery is not hidden.**  Sequential mode, chunk size ≥ 1, *any* program,
    *any* list of faults, any schedule so far: let the caller be about to call `Clear` (state `sp`)
    — typically the `Clear` with which it recovers from an I/O error that some call reported, after
    however many faults, reported errors and cycles given up half-way — and let that `Clear` succeed.
    If the rest of its program is a well-formed history `h`, then for every continuation
    (`0 :: sched`: the `Clear`, then any schedule), when the caller has returned from its last call:
    among the calls *after that `Clear`* some call returned an I/O error, or their outputs satisfy
    `HistorySpec ac h` — every cycle's pulls deliver a non-decreasing permutation of the values
    pushed in that cycle, then io.EOF.  So with the fault list `[f₁, f₂, …]` the failure `f₂` that
    fires after the recovery from `f₁` is reported by a call after the recovery, or did no harm. -/
theorem recovery_surfaces (c : Nat) (hc : 1 ≤ c) (ac acl reuse : Bool) (prog : List Op) (flt : Fault)
    {sp : CState} (hr : Reach (sys false c ac acl prog flt reuse) sp)
    (hpc : sp.pc = .idle) (h : List Cycle) (hclr : sp.prog = Op.clear :: histOps h)
    (hok : (clearF sp).2 = .ok) (hwf : wellFormed ac h = true)
    (sched : List Nat) {s : CState}
    (hrun : runFrom (sys false c ac acl prog flt reuse) sp (0 :: sched) = some s) (hfin : finished s = true) :
    (∃ o ∈ s.outs.take (s.outs.length - (sp.outs.length + 1)), o.res = .ioerr)
    ∨ HistorySpec ac h (s.outs.take (s.outs.length - (sp.outs.length + 1))).reverse :=
  recovery_surfaces_of_quiet false c hc ac acl reuse prog flt hr hpc
    (sequential_between_calls c ac acl reuse prog flt hr hpc).1 h hclr hok hwf sched hrun hfin

/-- non-vacuity, and the shape of the seeded change C13-m5: chunk 1, sequential mode, the fault
    list `[tempfile:0, tempfile:0]`; cycle 1 pushes 2 1 — the first temp-file creation fails, the
    second `Push` reports it, the caller recovers with the cycle's `Clear`; cycle 2 pushes 4 3 — the
    first temp-file creation *after the first fault fired* fails, and the second `Push` of cycle 2
    reports it.  (With `setErr` behind a `sync.Once` that `Clear` does not re-arm, the code's
    second cycle would report success throughout and deliver `3` only.) -/
example :
    let S := sys false 1 false false
      (histOps [⟨[⟨2, 0⟩, ⟨1, 0⟩], 3, true⟩, ⟨[⟨4, 0⟩, ⟨3, 0⟩], 3, false⟩]) [(.tempfile, 0), (.tempfile, 0)]
    ((finish S actors 200 S.init).outs.reverse.map (·.res)) = [.ok, .ioerr, .ok, .ok, .ioerr]
    ∧ finished (finish S actors 200 S.init) = true := by
  decide +kernel

/-- the same in concurrent mode with a caller that recovers (`reuse`), under the fixed policy
    "writers first" — every writer has ended when the caller calls `Clear` -/
example :
    let S := sys true 1 false false
      (histOps [⟨[⟨2, 0⟩, ⟨1, 0⟩], 3, true⟩, ⟨[⟨4, 0⟩, ⟨3, 0⟩], 3, false⟩]) [(.tempfile, 0), (.tempfile, 0)] true
    ((finish S actors 200 S.init).outs.reverse.map (·.res)) = [.ok, .ioerr, .ok, .ok, .ioerr]
    ∧ finished (finish S actors 200 S.init) = true := by
  decide +kernel

/-- what `recoveryStatement` establishes: after every recovery (`afterRecovery`: the first call
    that did not succeed returned an I/O error, the caller made no call until its next `Clear`,
    which succeeded) the rest of the program, if it is a well-formed history `h'`, satisfies the
    conclusion of `surfaceStatement_sound` on the outputs that follow — and so on after the next
    recovery (`n` = fuel: the number of outputs is enough) -/
def RecoveredSegments (ac : Bool) : Nat → List Op → List Out → Prop
  | 0, _, _ => True
  | n + 1, ops, outs =>
    ∀ ops' outs', Biogo.Drive.C13.afterRecovery ops outs = some (ops', outs') →
      ∀ h', historyOf ac (dropRejects ops') = some h' →
        ((∃ o ∈ outs', o.res = .ioerr ∨ o.res = .finalised)
          ∨ (HistorySpec ac h' (dropRejOuts outs') ∧ outs' = weave ops' (dropRejOuts outs') 0 0))
        ∧ RecoveredSegments ac n ops' outs'

/-- **The executable statement `recoveryStatement` of the C13 driver is sound**: if it accepts the
    implementation's outputs, then after every recovery some later call returned an error or the
    outputs of the calls after the recovery satisfy `HistorySpec` for the rest of the history. -/
theorem recoveryStatement_sound (ac : Bool) : ∀ (n : Nat) (ops : List Op) (outs : List Out),
    Biogo.Drive.C13.recoveryStatement ac n ops outs = none → RecoveredSegments ac n ops outs := by
  intro n
  induction n with
  | zero => intro ops outs _; trivial
  | succ n ih =>
    intro ops outs hs ops' outs' ha h' hh
    unfold Biogo.Drive.C13.recoveryStatement at hs
    simp only [ha, hh] at hs
    cases hsurf : Biogo.Drive.C13.surfaceStatement ac h' ops' outs' with
    | some why => simp [hsurf] at hs
    | none =>
      simp only [hsurf] at hs
      exact ⟨Biogo.Properties.C13_history.surfaceStatement_sound ac ops' h' outs' hh hsurf, ih ops' outs' hs⟩

/-- reading of `afterRecovery`: the outputs up to position `i` succeeded, the `i`-th call returned
    an I/O error, the next call the caller made was the first `Clear` after it in the program, it
    returned success, and `ops'` / `outs'` are what follows -/
theorem afterRecovery_spec {ops ops' : List Op} {outs outs' : List Out}
    (h : Biogo.Drive.C13.afterRecovery ops outs = some (ops', outs')) :
    ∃ i oc, (∀ o ∈ outs.take i, o.res = .ok ∨ o.res = .eof ∨ o.res = .rejected)
      ∧ (outs[i]?.map (·.res)) = some .ioerr
      ∧ (ops.drop (i + 1)).dropWhile (· != Op.clear) = Op.clear :: ops'
      ∧ outs.drop (i + 1) = oc :: outs' ∧ oc.res = .ok := by
  unfold Biogo.Drive.C13.afterRecovery at h
  cases hf : outs.findIdx? Biogo.Drive.C13.notOk with
  | none => simp [hf] at h
  | some i =>
    simp only [hf] at h
    split at h
    · cases h
    · rename_i hio
      have hio' : (outs[i]?.map (·.res)) = some .ioerr := by simpa using hio
      split at h
      · rename_i ops2 oc outs2 hops houts
        split at h
        · rename_i hoc
          simp only [Option.some.injEq, Prod.mk.injEq] at h
          obtain ⟨rfl, rfl⟩ := h
          refine ⟨i, oc, ?_, hio', hops, houts, by simpa using hoc⟩
          intro o ho
          -- `i` is the first output that is not a success
          have hb : Biogo.Drive.C13.notOk o = false :=
            List.findIdx?_eq_none_iff.mp (by rw [List.findIdx?_take, hf]; simp [Option.guard]) o ho
          simp only [Biogo.Drive.C13.notOk, Bool.and_eq_false_iff, bne_eq_false_iff_eq] at hb
          rcases hb with (hb | hb) | hb
          · exact Or.inl hb
          · exact Or.inr (Or.inl hb)
          · exact Or.inr (Or.inr hb)
        · cases h
      · cases h

end Biogo.Properties.C13_recovery
