/-
C18 — Quality scores encode, decode and convert consistently.
Property theorems only.  `source` (case lists and literals of the four switch statements) and
`tables` (the four lookup tables, float entries as exact dyadic rationals) are regenerated
from the repository on every check (`Biogo.Generated.QualTables`); every theorem below is a
statement over a whole 8-bit domain.  Those about the tables and the Solexa encoding are decided
by the kernel on the regenerated facts, with the model functions the driver runs
(`Biogo.Model.Quality`) and the executable statements it evaluates on the implementation's output
(`Biogo.Spec.Quality`); those about the Phred-offset encodings follow from the shape of their
clauses in `source` (`Biogo.Quality.phred_offset`).
-/
import Biogo.Model.Quality
import Biogo.Spec.Quality
import Biogo.Generated.QualTables
import Biogo.Proofs.Quality

namespace Biogo.Properties.C18
open Biogo.Quality Biogo.Quality.Spec
open Biogo.Generated.Qual (source tables)

/-- the Solexa score stored at table index `n`: `n - 128` -/
abbrev sc (n : Nat) : Int := (n : Int) - 128

/-- The encoding constants of the source have the codes the specification names. -/
theorem encoding_codes :
    Biogo.Generated.Qual.encodingCodes =
      [("None", codeNone), ("Sanger", codeSanger), ("Solexa", codeSolexa),
       ("Illumina1_3", codeIllumina1_3), ("Illumina1_5", codeIllumina1_5),
       ("Illumina1_8", codeIllumina1_8), ("Illumina1_9", codeIllumina1_9)] := by decide +kernel

/-- The table dumper's dyadic rationals are the IEEE-754 values of the dumped bits
    (`Prob.ofBits` is the decoder the driver applies to the implementation's output). -/
theorem tables_are_the_dumped_floats :
    (∀ r ∈ Biogo.Generated.Qual.phredERaw, Prob.ofBits r.1 = r.2) ∧
    (∀ r ∈ Biogo.Generated.Qual.solexaERaw, Prob.ofBits r.1 = r.2) ∧
    tables.phredE.length = 256 ∧ tables.solexaE.length = 256 ∧
    tables.phredSolexa.length = 256 ∧ tables.solexaPhred.length = 256 := by decide +kernel

theorem table_lengths : tables.phredE.length = 256 ∧ tables.solexaE.length = 256 ∧
    tables.phredSolexa.length = 256 ∧ tables.solexaPhred.length = 256 :=
  tables_are_the_dumped_floats.2.2

/-- the clauses of the Phred-offset encodings in `source` are plain offset clauses, whose
    thresholds and floors leave the printable scores alone -/
theorem phred_offset_clauses : ∀ e ∈ phredOffsetEncodings, phredOffsetOK source e = true := by
  decide +kernel

/-- "For every Phred score under each Phred-offset encoding … decoding the encoded byte
    returns the score whenever it lies in that encoding's printable range."
    (Sanger, Illumina 1.8, 1.9: scores 0…93; Illumina 1.3: 0…62; Illumina 1.5: 2…62.) -/
theorem decode_encode_phred :
    ∀ e ∈ phredOffsetEncodings, ∀ q < 256, printablePhred e q = true →
      decodePhred source tables e (encodePhred source tables e (UInt8.ofNat q)) = some (UInt8.ofNat q) :=
  fun e he q hq hp => by
  obtain ⟨h1, h2⟩ := phred_offset (phred_offset_clauses e he) tables hq hp
  rw [h1, h2]

/-- "… and every Solexa score under the Solexa encoding" (scores -31 … 62, bytes 33 … 126). -/
theorem decode_encode_solexa :
    ∀ n < 256, printableSolexa (sc n) = true →
      decodeSolexa source tables codeSolexa (encodeSolexa source tables codeSolexa (Int8.ofInt (sc n)))
        = some (Int8.ofInt (sc n)) := by
  decide +kernel

/-- The byte is the documented one: score + offset, inside '!' … '~'. -/
theorem encode_phred_is_offset :
    ∀ e ∈ phredOffsetEncodings, ∀ q < 256, printablePhred e q = true →
      (encodePhred source tables e (UInt8.ofNat q)).toNat = q + docOffset e :=
  fun e he q hq hp => by
  rw [(phred_offset (phred_offset_clauses e he) tables hq hp).1, UInt8.toNat_ofNat_of_lt']
  simp only [printablePhred, Bool.and_eq_true, decide_eq_true_eq] at hp
  exact Nat.lt_of_le_of_lt hp.2 (by decide)

theorem encode_solexa_is_offset :
    ∀ n < 256, printableSolexa (sc n) = true →
      ((encodeSolexa source tables codeSolexa (Int8.ofInt (sc n))).toNat : Int) = sc n + 64 := by
  decide +kernel

-- non-vacuity: the printable ranges are the documented ones
example : (List.range 256).filter (printablePhred codeSanger) = List.range 94 ∧
    (List.range 256).filter (printablePhred codeIllumina1_5) = (List.range 63).drop 2 ∧
    ((List.range 256).filter fun n => printableSolexa (sc n)).length = 94 := by decide +kernel

/-- "the error probability of Phred score q is 10^(-q/10)": for q < 254 the table entry
    T = m/2^k satisfies `(T(1-δ))^10 ≤ 10^-q ≤ (T(1+δ))^10` with δ = 2^-47, i.e.
    |T - 10^(-q/10)| ≤ 2^-47·T. -/
theorem phredE_close :
    ∀ q < 254, ∃ m k, tables.probPhred (UInt8.ofNat q) = .val m k ∧
      (m * (2 ^ 47 - 1)) ^ 10 * 10 ^ q ≤ 2 ^ (10 * (k + 47)) ∧
      2 ^ (10 * (k + 47)) ≤ (m * (2 ^ 47 + 1)) ^ 10 * 10 ^ q := by
  intro q hq
  have := forall_probPhred table_lengths.1 (P := fun q p => q < 254 → phredProbClose q p = true)
    (by decide +kernel) (q := q) (by omega) hq
  generalize tables.probPhred (UInt8.ofNat q) = p at this
  cases p with
  | val m k => exact ⟨m, k, rfl, by simpa [phredProbClose] using this⟩
  | nan => simp [phredProbClose] at this
  | bad => simp [phredProbClose] at this

/-- Phred 254 is probability 0 and 255 is NaN. -/
theorem phredE_special :
    (tables.probPhred 254).isZero = true ∧ tables.probPhred 255 = .nan := by decide +kernel

/-- "a larger score never means a larger probability" (scores 0 … 254; 255 is NaN).
    Adjacent entries are compared by the kernel; the order on exact values is transitive. -/
theorem phredE_antitone (q₁ q₂ : Nat) (h : q₁ < q₂) (h₂ : q₂ ≤ 254) :
    Prob.le (tables.probPhred (UInt8.ofNat q₂)) (tables.probPhred (UInt8.ofNat q₁)) = true := by
  refine Prob.antitone_of_adjacent (f := fun n => tables.probPhred (UInt8.ofNat n)) (lo := 0)
    (fun n _ hn => ?_) (Nat.zero_le _) h h₂
  have := forall_getD_of_zipIdx₂ (l₁ := tables.phredE) (l₂ := tables.phredE.drop 1)
    (P := fun n a b => n < 254 → Prob.le b a = true) (by decide +kernel) (n := n)
    (by rw [table_lengths.1]; omega) (by rw [List.length_drop, table_lengths.1]; omega) .bad .bad hn
  rw [getD_drop', Nat.add_comm] at this
  simpa only [Tables.probPhred, phred_index n (by omega), phred_index (n + 1) (by omega)] using this

/-- "converting a probability back yields the nearest score so that
    score-to-probability-to-score is the identity": for q < 254,
    `10^-(2q+1) < T[q]^20 ≤ 10^-(2q-1)`, i.e. q - 1/2 ≤ -10·log10 T[q] < q + 1/2
    (and 0 ↦ 254, NaN ↦ 255). -/
theorem ephred_nearest_spec :
    ∀ q < 256, phredNearest (tables.probPhred (UInt8.ofNat q)) q = true := fun _ hq =>
  forall_probPhred table_lengths.1 (P := fun q p => phredNearest p q = true) (by decide +kernel) hq

/-- Solexa: "probability 1/(1+10^(q/10))" to relative accuracy 2^-47, qs = -127 … 126
    (index n = qs + 128). -/
theorem solexaE_close :
    ∀ n < 255, 1 ≤ n →
      solexaProbClose (sc n) (tables.probSolexa (Int8.ofInt (sc n))) = true := fun _ hn h1 =>
  forall_probSolexa table_lengths.2.1 (P := fun n p => n < 255 → 1 ≤ n → solexaProbClose (sc n) p = true)
    (by decide +kernel) (by omega) hn h1

theorem solexaE_special :
    (tables.probSolexa 127).isZero = true ∧ tables.probSolexa (-128) = .nan := by decide +kernel

/-- Solexa scores -127 … 127 (table index n = qs + 128 from 1 to 255; -128 is NaN) -/
theorem solexaE_antitone (n₁ n₂ : Nat) (h₁ : 1 ≤ n₁) (h : n₁ < n₂) (h₂ : n₂ < 256) :
    Prob.le (tables.probSolexa (Int8.ofInt (sc n₂))) (tables.probSolexa (Int8.ofInt (sc n₁))) = true := by
  refine Prob.antitone_of_adjacent (f := fun n => tables.probSolexa (Int8.ofInt (sc n))) (lo := 1) (hi := 255)
    (fun n h1 hn => ?_) h₁ h (by omega)
  have := forall_getD_of_zipIdx₂ (l₁ := tables.solexaE) (l₂ := tables.solexaE.drop 1)
    (P := fun n a b => 1 ≤ n → n < 255 → Prob.le b a = true) (by decide +kernel) (n := n)
    (by rw [table_lengths.2.1]; omega) (by rw [List.length_drop, table_lengths.2.1]; omega) .bad .bad h1 hn
  rw [getD_drop', Nat.add_comm] at this
  simpa only [Tables.probSolexa, sc, solexa_index n (by omega), solexa_index (n + 1) (by omega)] using this

theorem esolexa_nearest_spec :
    ∀ n < 256, solexaNearest (tables.probSolexa (Int8.ofInt (sc n))) (sc n) = true := fun _ hn =>
  forall_probSolexa table_lengths.2.1 (P := fun n p => solexaNearest p (sc n) = true) (by decide +kernel) hn

/-- the rational enclosure of 10^(1/20) used below is one: `tLo^20 < 10·tDen^20 < tHi^20` -/
theorem enclosure_ok : tLo ^ 20 < 10 * tDen ^ 20 ∧ 10 * tDen ^ 20 < tHi ^ 20 := by decide +kernel

/-- "Phred-to-Solexa … equal the analytically converted value rounded to the nearest integer
    wherever that value is finite and representable": for 1 ≤ q ≤ 127 the table entry qs
    satisfies `t^(2qs-1) + 1 ≤ t^(2q) ≤ t^(2qs+1) + 1` for every t in the enclosure, i.e.
    |10·log10(10^(q/10) - 1) - qs| ≤ 1/2.  (q = 0: the value is -∞.) -/
theorem phredSolexa_nearest :
    ∀ q < 128, 1 ≤ q → phredToSolexaNearest q (tables.toSolexa (UInt8.ofNat q)).toInt = true :=
  fun _ hq h1 =>
  forall_toSolexa table_lengths.2.2.1 (P := fun q v => q < 128 → 1 ≤ q → phredToSolexaNearest q v.toInt = true)
    (by decide +kernel) (by omega) hq h1

/-- above 127 the value is not representable and the table saturates; 254 (p = 0) ↦ 127,
    255 (NaN) ↦ -128 -/
theorem phredSolexa_saturates :
    (∀ q < 255, 128 ≤ q → (tables.toSolexa (UInt8.ofNat q)).toInt = 127) ∧
    (tables.toSolexa 255).toInt = -128 :=
  ⟨fun _ hq h1 =>
    forall_toSolexa table_lengths.2.2.1 (P := fun q v => q < 255 → 128 ≤ q → v.toInt = 127)
      (by decide +kernel) (by omega) hq h1,
   by decide +kernel⟩

/-- "Solexa-to-Phred …": for -127 ≤ qs ≤ 126 the table entry q satisfies
    `t^(2q-1) ≤ t^(2qs) + 1 ≤ t^(2q+1)`, i.e. |10·log10(10^(qs/10) + 1) - q| ≤ 1/2. -/
theorem solexaPhred_nearest :
    ∀ n < 255, 1 ≤ n →
      solexaToPhredNearest (sc n) (tables.toPhred (Int8.ofInt (sc n))).toNat = true := fun _ hn h1 =>
  forall_toPhred table_lengths.2.2.2 (P := fun n v => n < 255 → 1 ≤ n → solexaToPhredNearest (sc n) v.toNat = true)
    (by decide +kernel) (by omega) hn h1

/-- from 10 to 126 the Phred-to-Solexa table is the identity … -/
theorem toSolexa_id (q : Nat) (hq : q < 127) (h10 : 10 ≤ q) :
    tables.toSolexa (UInt8.ofNat q) = Int8.ofInt q :=
  forall_toSolexa table_lengths.2.2.1 (P := fun q v => q < 127 → 10 ≤ q → v = Int8.ofInt q)
    (by decide +kernel) (by omega) hq h10

/-- … and so is the Solexa-to-Phred table -/
theorem toPhred_id (q : Nat) (hq : q < 127) (h10 : 10 ≤ q) :
    tables.toPhred (Int8.ofInt q) = UInt8.ofNat q := by
  have := forall_toPhred table_lengths.2.2.2
    (P := fun n v => n < 255 → 138 ≤ n → v = UInt8.ofNat (n - 128))
    (by decide +kernel) (n := q + 128) (by omega) (by omega) (by omega)
  simpa using this

/-- "… and are mutually inverse from Q=10 upwards" (up to 126, the largest finite score both
    types hold) -/
theorem mutual_inverse_from_10 :
    ∀ q < 127, 10 ≤ q →
      tables.toPhred (tables.toSolexa (UInt8.ofNat q)) = UInt8.ofNat q ∧
      tables.toSolexa (tables.toPhred (Int8.ofInt q)) = Int8.ofInt q := fun q hq h10 =>
  ⟨by rw [toSolexa_id q hq h10, toPhred_id q hq h10], by rw [toPhred_id q hq h10, toSolexa_id q hq h10]⟩

/-- entry `q` of the Phred and entry `128 + q` of the Solexa probability table, as the two
    accessors read them -/
theorem prob_at (q : Nat) (hq : q < 128) :
    tables.probPhred (UInt8.ofNat q) = tables.phredE.getD q .bad ∧
    tables.probSolexa (Int8.ofInt q) = (tables.solexaE.drop 128).getD q .bad := by
  have e := solexa_index (128 + q) (by omega)
  rw [show ((128 + q : Nat) : Int) - 128 = q by omega] at e
  simp only [Tables.probPhred, Tables.probSolexa, phred_index q (by omega), e, getD_drop', and_self]

/-- "so they agree with each other's error probabilities": for 1 ≤ q ≤ 126 the error
    probability of the converted Solexa score has odds within a factor 10^(1/20) (half a score)
    of the odds of the Phred score's probability … -/
theorem conversion_probabilities_agree_phred :
    ∀ q < 127, 1 ≤ q →
      oddsAgree (tables.probSolexa (tables.toSolexa (UInt8.ofNat q))) (tables.probPhred (UInt8.ofNat q)) = true :=
  by
  intro q hq h1
  by_cases h10 : 10 ≤ q
  · -- the converted score is `q` itself: the two probability tables are compared entry by entry
    rw [toSolexa_id q hq h10, (prob_at q (by omega)).1, (prob_at q (by omega)).2]
    exact forall_getD_of_zipIdx₂ (l₁ := tables.solexaE.drop 128) (l₂ := tables.phredE)
      (P := fun q s p => q < 127 → 10 ≤ q → oddsAgree s p = true)
      (by decide +kernel) (by rw [List.length_drop, table_lengths.2.1]; omega)
      (by rw [table_lengths.1]; omega) .bad .bad hq h10
  · have : ∀ q < 10, 1 ≤ q → oddsAgree (tables.probSolexa (tables.toSolexa (UInt8.ofNat q)))
        (tables.probPhred (UInt8.ofNat q)) = true := by decide +kernel
    exact this q (by omega) h1

/-- … and for -127 ≤ qs ≤ 126 the probability of the converted Phred score is within a factor
    10^(1/20) of the Solexa score's probability. -/
theorem conversion_probabilities_agree_solexa :
    ∀ n < 255, 1 ≤ n →
      probsAgree (tables.probPhred (tables.toPhred (Int8.ofInt (sc n)))) (tables.probSolexa (Int8.ofInt (sc n))) = true :=
  by
  intro n hn h1
  by_cases h10 : 138 ≤ n
  · obtain ⟨q, rfl⟩ : ∃ q, n = 128 + q := ⟨n - 128, by omega⟩
    rw [show sc (128 + q) = q by simp only [sc]; omega, toPhred_id q (by omega) (by omega),
      (prob_at q (by omega)).1, (prob_at q (by omega)).2]
    exact forall_getD_of_zipIdx₂ (l₁ := tables.phredE) (l₂ := tables.solexaE.drop 128)
      (P := fun q p s => q < 127 → 10 ≤ q → probsAgree p s = true)
      (by decide +kernel) (by rw [table_lengths.1]; omega)
      (by rw [List.length_drop, table_lengths.2.1]; omega) .bad .bad (by omega) (by omega)
  · have := forall_getD_of_zipIdx₂ (l₁ := tables.solexaPhred) (l₂ := tables.solexaE)
      (P := fun n q p => n < 138 → 1 ≤ n → probsAgree (tables.probPhred (UInt8.ofNat q)) p = true)
      (by decide +kernel) (n := n) (by rw [table_lengths.2.2.2]; omega) (by rw [table_lengths.2.1]; omega) 0 .bad
      (by omega) h1
    simpa only [Tables.toPhred, Tables.probSolexa, sc, solexa_index n (by omega)] using this

end Biogo.Properties.C18
