/-
C19 — **source-shape facts** of package concurrent (advisory; not an obligation of the property).

The theorem pins where the hook points sit and how the worker's exit sequence, the setters and
`Wait` are written.  No model definition and no property theorem depends on it; the protocol
models are tied to the code by forced-schedule correspondence through the hooks (every ordering
for small configurations), free-running runs and unforced workloads under the race detector.  It
is advisory because a behaviour-preserving refactoring (the worker closure of `NewProcessor` split
into two methods, `fail`'s flag computed as `failed = !set`) makes it fail on code for which the
property holds, while every seeded defect of C19 is found by the correspondence or the race phase.
As an `advisory_targets` module: when it no longer checks, `check` widens the generation, runs the
deep search and records the change in the evidence.
-/
import Biogo.Generated.Concurrent

namespace Biogo.Properties.C19_source

/-- The facts regenerated from concurrent/processor.go and concurrent/promise.go on every check
    run are those of the protocol variant (`fixed = true`) that the C19 theorems are about:
    the hook points sit where the model's atomic blocks end; the worker returns its token,
    passes hook (a), then closes `out` iff it is the `threads`-th to count itself out, then
    releases the wait group; every setter runs under the mutex; Wait sleeps on the condition
    variable while the mailbox is empty and takes / puts the message back with the mutex held,
    hook (b) in between; `fail` decides from the `set` flag of `messageState` (not from the
    message's content); `Recover` takes the message only inside `if p.recoverable`; `fulfill` and `fail` each put a
    message once and `Broadcast` on the condition variable directly afterwards. -/
theorem model_is_of_this_source :
    Biogo.Generated.Concurrent.hookPoints =
      [("NewProcessor", "worker.start"), ("NewProcessor", "worker.token_returned"),
       ("NewProcessor", "worker.result"), ("Wait", "promise.wait.borrowed")] ∧
    Biogo.Generated.Concurrent.closeRule = "exit-counter" ∧
    Biogo.Generated.Concurrent.tokenReturnedBeforeHook = true ∧
    Biogo.Generated.Concurrent.wgDoneAfterClose = true ∧
    Biogo.Generated.Concurrent.settersLocked =
      [("Fulfill", true), ("Fail", true), ("Recover", true), ("Break", true)] ∧
    Biogo.Generated.Concurrent.waitTakesUnderMutex = true ∧
    Biogo.Generated.Concurrent.waitSleepsOnCond = true ∧
    Biogo.Generated.Concurrent.failCond = "!set" ∧
    Biogo.Generated.Concurrent.recoverTakesMessage = "when-recoverable" ∧
    Biogo.Generated.Concurrent.putsThenBroadcast = [("fulfill", 1, 1), ("fail", 1, 1)] := by
  decide

end Biogo.Properties.C19_source
