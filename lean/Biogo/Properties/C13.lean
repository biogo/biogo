/-
C13 — External sort never hides I/O failures and leaves no temporary files behind.

Theorems about `Biogo.MorassConc.sys` with its fault oracle: the n-th execution of one kind of
file-system / gob operation (temporary file creation, Encode, Sync, Seek, Decode in Finalise,
Decode in Pull, Close, Remove) fails, for a list of such faults armed one after the other
(`flt : Fault` below is any such list; `[]` = no fault); `Reach` quantifies over every
interleaving; `conc` selects the sequential or the concurrent mode.
-/
import Biogo.Model.MorassConc
import Biogo.Proofs.MorassConc
import Biogo.Proofs.MorassCycle
import Biogo.Proofs.MorassNoFault
import Biogo.Proofs.MorassSeq
import Biogo.Proofs.MorassHistory

namespace Biogo.Properties.C13
open Biogo.Morass Biogo.MorassConc Biogo.Interleave

/-- **An I/O failure is never hidden.**  One use cycle on a fresh sorter (chunk size ≥ 1, either
    mode, AutoClear/AutoClean on or off), any list of faults (or none), any schedule: once the
    caller has returned from its last call, either some call returned an I/O error, or every
    call succeeded *and* the outputs are those the property demands — the pulls delivered a
    non-decreasing permutation of the pushed values, then io.EOF.  The sorter never reports
    success throughout while delivering fewer or different values than were pushed. -/
theorem fault_surfaces (c : Nat) (hc : 1 ≤ c) (conc ac acl : Bool) (cy : Cycle) (flt : Fault) {s : CState}
    (hr : Reach (sys conc c ac acl cy.ops flt) s) (hfin : finished s = true) :
    (∃ o ∈ s.outs, o.res = .ioerr) ∨ (∃ ys, SortedPermOf ys cy.pushes ∧ s.outs.reverse = specCycle ac ys cy) :=
  finished_cycle c ac hc cy hr hfin

/-- non-vacuity: chunk 2, push 2 1 4 3 5, concurrent mode; the writer of [1 2] fails on its second
    element (`encode:1`) and is held before returning its buffer until the writer of [3 4] has synced
    (the schedule on which a `Sync` that stores nil would erase the error: DESIGN.md, F15).  The model
    reports the error from `Push`. -/
example : ∃ s, Reach (sys true 2 false false
      (Cycle.ops ⟨[⟨2, 0⟩, ⟨1, 0⟩, ⟨4, 0⟩, ⟨3, 0⟩, ⟨5, 0⟩], 6, false⟩) [(.encode, 1)]) s
    ∧ finished s = true ∧ (s.outs.map (·.res)).contains .ioerr = true :=
  exists_reach_of_run _ [0, 0, 0, 0, 0, 0, 0, 1, 0, 1, 1, 1, 2, 2, 2, 2, 2, 2, 0] (by decide)

/-- a fault that is injected does fire and is reported: every single temp-file creation of a
    three-run workload in sequential mode (decided by evaluation of the model) -/
example : ∀ k ∈ [0, 1, 2],
    ((finish (sys false 2 false false (Cycle.ops ⟨[⟨2, 0⟩, ⟨1, 0⟩, ⟨4, 0⟩, ⟨3, 0⟩, ⟨5, 0⟩], 6, true⟩) [(.tempfile, k)])
        actors 400 (initState false 2 false false (Cycle.ops ⟨[⟨2, 0⟩, ⟨1, 0⟩, ⟨4, 0⟩, ⟨3, 0⟩, ⟨5, 0⟩], 6, true⟩)
          [(.tempfile, k)])).outs.map (·.res)).contains .ioerr = true := by
  decide

/-- **CleanUp** removes the temporary directory (`os.RemoveAll`, by contract). -/
theorem cleanup_removes_dir (s : CState) : (cleanUp s).dirExists = false ∧ (cleanUp s).onDisk = 0 :=
  ⟨rfl, rfl⟩

/-- **Draining a sorter that has AutoClean set removes its temporary directory**: a fault-free
    cycle pulled to io.EOF (`pulls > pushes`), memory-only or spilled, either mode, any schedule. -/
theorem autoclean_drain_removes_dir (c : Nat) (hc : 1 ≤ c) (conc ac : Bool) (cy : Cycle)
    (hdrain : cy.pushes.length < cy.pulls) {s : CState}
    (hr : Reach (sys conc c ac true cy.ops []) s) (hfin : finished s = true) :
    s.dirExists = false := by
  have hops : histOps [cy] = cy.ops := by simp [histOps]
  exact (reach_EofDir hr).of_spec (autoClean_const hr)
    ((finished_history c ac hc (h := [cy]) rfl (hops ▸ hr) hfin).resolve_left (reach_not_reported hr))
    (List.mem_singleton.mpr rfl) hdrain

/-- **Draining with AutoClear set leaves no run files** in the temporary directory: a
    fault-free cycle pulled to io.EOF, either mode, any schedule (AutoClean not set — with
    AutoClean the directory itself is gone, `autoclean_drain_removes_dir`). -/
theorem autoclear_drain_no_runs (c : Nat) (hc : 1 ≤ c) (conc : Bool) (cy : Cycle)
    (hdrain : cy.pushes.length < cy.pulls) {s : CState}
    (hr : Reach (sys conc c true false cy.ops []) s) (hfin : finished s = true) :
    s.onDisk = 0 := by
  have hops : histOps ([] ++ [cy]) = cy.ops := by simp [histOps]
  obtain ⟨hfiles, hq⟩ := finished_no_files c true hc (done := []) rfl hdrain (hops ▸ hr) hfin (reach_not_reported hr)
  exact (reach_DiskInv hr).idle_quiet (finished_iff.mp hfin).2 hfiles hq

/-- non-vacuity of the residue theorems: run files do exist on the way (one after the first
    writer has created its temporary file) -/
example : ((runSkipFrom (sys false 2 true false (Cycle.ops ⟨[⟨2, 0⟩, ⟨1, 0⟩, ⟨4, 0⟩, ⟨3, 0⟩, ⟨5, 0⟩], 6, false⟩) [])
      (initState false 2 true false (Cycle.ops ⟨[⟨2, 0⟩, ⟨1, 0⟩, ⟨4, 0⟩, ⟨3, 0⟩, ⟨5, 0⟩], 6, false⟩) [])
      [0, 0, 0, 0, 1]).1.onDisk = 1) := by
  decide

end Biogo.Properties.C13
