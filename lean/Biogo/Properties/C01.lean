/-
C01 — FASTA and FASTQ write-then-read reproduces every record.  Property theorems only.

The models are `Biogo.Model.Fasta` / `Biogo.Model.Fastq` (the definitions the driver runs);
the domain of the property is `Biogo.Spec.Seqio` (`wfFasta`, `wfFastq`, `wfFastqPlain`).
A call history `[.ret ⟨some r₁, none⟩, …, .ret ⟨some rₙ, none⟩, .ret ⟨none, some .eof⟩]`
says: the successive calls of `Read` returned `r₁ … rₙ` with a nil error and then `io.EOF`.
-/
import Biogo.Proofs.Fasta
import Biogo.Proofs.Fastq
import Biogo.Proofs.SeqFormat
import Biogo.Generated.Seqio
import Biogo.Generated.Alphabets

namespace Biogo.Properties.C01
open Biogo.Go.Bytes Biogo.Spec.Seqio

/-- The constants the models are stated for are the ones in the source: the default FASTA
    prefixes, `seq.DefaultQphred`, `seq.DefaultEncoding = alphabet.Sanger`, and the numeric
    values of the encodings (regenerated from /repo on every run). -/
theorem source_constants :
    Biogo.Generated.Seqio.fastaIDPrefix = ({} : Biogo.Fasta.Cfg).idPrefix ∧
    Biogo.Generated.Seqio.fastaSeqPrefix = ({} : Biogo.Fasta.Cfg).seqPrefix ∧
    Biogo.Generated.Seqio.defaultQphred = 40 ∧
    Biogo.Generated.Seqio.defaultEncoding = 0 ∧
    Biogo.Generated.Seqio.encodingValues = [-1, 0, 1, 2, 3, 4, 5] := by
  decide

/-- "letters drawn from a nucleotide or protein alphabet": every letter (in either case) of
    every built-in alphabet, as regenerated from the source, is a legal FASTA letter
    (visible ASCII, not `>`) and a legal FASTQ letter (not `+`, so in particular a legal
    first letter). -/
theorem alphabet_letters_ok :
    ∀ d ∈ Biogo.Generated.builtins, ∀ l ∈ d.letters,
      (visible l && l != 62 && l != 43 &&
       visible (Biogo.Alphabet.toUpper l) && Biogo.Alphabet.toUpper l != 62 && Biogo.Alphabet.toUpper l != 43) = true := by
  decide +kernel

section fasta
open Biogo.Fasta

/-- **FASTA write-then-read.**  Any list of well-formed records, written by `Writer.Write` at
    any positive width, is read back by `Reader.Read` as the same records in the same order
    (identical name, description and letters), followed by `io.EOF`.  The writer does not
    panic, and `ns` are the counts it returned. -/
theorem fasta_roundtrip (recs : List Rec) (w : Nat) (hw : 1 ≤ w) (hwf : ∀ r ∈ recs, wfFasta r = true) :
    ∃ sink ns, writeAll { width := w } {} recs = .ok (sink, ns) ∧
      readAll {} sink.bytes
        = recs.map (fun r => Call.ret ⟨some r, none⟩) ++ [Call.ret ⟨none, some .eof⟩] := by
  obtain ⟨sink, h1, h2⟩ := writeAll_spec w (by omega) {} recs
  refine ⟨sink, _, h1, ?_⟩
  have hb : sink.bytes = recs.flatMap (render w) := by simpa [Sink.bytes] using h2
  rw [hb]
  exact renders_read recs _ hwf (renders_writer w recs hwf)

/-- **Byte count (FASTA).**  Whenever `Write` returns, the `n` it returns is the number of bytes
    it put on the writer — for every record (well-formed or not), width and pair of prefixes. -/
theorem fasta_write_count (wr : Writer) (sink sink' : Sink) (r : Rec) (n : Nat)
    (h : write wr sink r = .ok (sink', n)) : sink'.out.size = sink.out.size + n :=
  write_count wr sink sink' r n h

/-- **The writer with user-set `IDPrefix` / `SeqPrefix`** (exported fields; `gff.Writer` sets them to
    `##DNA ` / `##` for inline sequences): at any width ≥ 1 and for any record — no
    well-formedness needed — `Write` emits `IDPrefix name [" " desc]`, then before every
    `width`-th letter `"\n" SeqPrefix`, a final `"\n"`, and returns the number of these bytes. -/
theorem fasta_write_layout_prefixes (cfg : Cfg) (w : Nat) (hw : w ≠ 0) (sink : Sink) (r : Rec) :
    ∃ sink', write { cfg := cfg, width := w } sink r = .ok (sink', (renderCfg cfg w r).length) ∧
      sink'.bytes = sink.bytes ++ renderCfg cfg w r := write_spec_cfg cfg w hw sink r

-- with the default prefixes this is the layout of `fasta_roundtrip`
example (w : Nat) (r : Rec) : renderCfg {} w r = render w r := renderCfg_default w r

/-- the stronger statement behind the round trip (shared with C04): any layout of the
    records reads back as the records -/
theorem fasta_renders_read (recs : List Rec) (bs : Bytes) (hwf : ∀ r ∈ recs, wfFasta r = true)
    (h : FastaRenders recs bs) :
    readAll {} bs = recs.map (fun r => Call.ret ⟨some r, none⟩) ++ [Call.ret ⟨none, some .eof⟩] :=
  renders_read recs bs hwf h

-- non-vacuity: well-formed records exist (an empty sequence, names made of `>` `@` `+`,
-- a description with inner double blank), and the statement computes on them
example : wfFasta ⟨[62, 64, 43], [97, 32, 32, 98], []⟩ = true ∧ wfFasta ⟨[], [], [97, 45, 42]⟩ = true := by decide +kernel
example :
    (match writeAll { width := 2 } {} [⟨[62, 64, 43], [97, 32, 32, 98], [97, 99, 103]⟩, ⟨[], [], []⟩] with
     | .ok (sink, ns) => (ns, readAll {} sink.bytes)
     | .error _ => ([], []))
    = ([15, 2], [.ret ⟨some ⟨[62, 64, 43], [97, 32, 32, 98], [97, 99, 103]⟩, none⟩,
                 .ret ⟨some ⟨[], [], []⟩, none⟩, .ret ⟨none, some .eof⟩]) := by decide +kernel

end fasta

section fastq
open Biogo.Fastq

/-- **FASTQ write-then-read** (`linear.QSeq`).  Any list of well-formed records with scores
    inside the printable range of the Phred-offset encoding `enc` (Sanger, Illumina 1.3, 1.5,
    1.8, 1.9 — `wfFastq` is false for the others), written by `Writer.Write` with or without
    the identifier on the `+` line (`qid`), is read back by a reader whose template has the
    same encoding as the same records in the same order — identical name, description,
    letters and scores — followed by `io.EOF`; for either behaviour of the underlying
    `io.Reader` at the end of the input, and whatever the two conversion tables are. -/
theorem fastq_roundtrip (tabs : QTables) (enc : Encoding) (qid eofWithData : Bool) (recs : List QRec)
    (hwf : ∀ r ∈ recs, wfFastq enc r = true) :
    readAll ⟨.qseq enc, tabs⟩ eofWithData (writeAll tabs qid enc {} recs).1.bytes
      = recs.map (fun r => Call.ret ⟨some r, none⟩) ++ [Call.ret ⟨none, some .eof⟩] := by
  have hb : (writeAll tabs qid enc {} recs).1.bytes = recs.flatMap (renderQ tabs qid enc) := by
    simpa [Sink.bytes] using (writeAll_spec tabs qid enc {} recs).1
  rw [hb]
  exact renders_read_qseq tabs enc eofWithData recs _ hwf
    (renders_writer tabs qid enc recs (fun r hr => (recOK_of_wf tabs enc r (hwf r hr)).1))

/-- **FASTQ write-then-read** (plain `linear.Seq`): the writer sees every score as
    `seq.DefaultQphred` in the Sanger encoding (`ofPlain`); a reader with a `linear.Seq`
    template returns the same names, descriptions and letters. -/
theorem fastq_roundtrip_plain (tabs : QTables) (qid eofWithData : Bool) (recs : List QRec)
    (hwf : ∀ r ∈ recs, wfFastqPlain r = true) :
    readAll ⟨.seq, tabs⟩ eofWithData (writeAll tabs qid .sanger {} (recs.map ofPlain)).1.bytes
      = recs.map (fun r => Call.ret ⟨some r, none⟩) ++ [Call.ret ⟨none, some .eof⟩] := by
  have hb : (writeAll tabs qid .sanger {} (recs.map ofPlain)).1.bytes
      = (recs.map ofPlain).flatMap (renderQ tabs qid .sanger) := by
    simpa [Sink.bytes] using (writeAll_spec tabs qid .sanger {} (recs.map ofPlain)).1
  have hok : ∀ r ∈ recs.map ofPlain, RecOK (qlineOf tabs .sanger) r := by
    intro r hr
    obtain ⟨r0, h0, rfl⟩ := List.mem_map.mp hr
    exact recOK_of_wfPlain tabs r0 (hwf r0 h0)
  rw [hb, renders_read ⟨.seq, tabs⟩ eofWithData (qlineOf tabs .sanger) _ _ hok
    (renders_writer tabs qid .sanger _ hok), List.map_map]
  congr 1
  apply List.map_congr_left
  intro r hr
  simp only [Function.comp, retOK]
  rw [built_seq tabs r (hwf r hr)]

/-- **Byte count (FASTQ).**  The `n` returned by `Write` is the number of bytes it put on the
    writer — for every record, encoding and `+`-line style. -/
theorem fastq_write_count (tabs : QTables) (qid : Bool) (enc : Encoding) (sink : Sink) (r : QRec) :
    (write tabs qid enc sink r).1.out.size = sink.out.size + (write tabs qid enc sink r).2 :=
  write_count tabs qid enc sink r

/-- scores at both ends of each printable range survive the trip through their byte -/
theorem fastq_score_range (tabs : QTables) (enc : Encoding) (lo hi off : UInt8)
    (h : phredRange enc = some (lo, hi, off)) (q : UInt8) (h1 : lo ≤ q) (h2 : q ≤ hi) :
    decode tabs enc (encode tabs enc q) = q :=
  decode_encode tabs enc lo hi off h q h1 h2

-- non-vacuity: a well-formed record whose quality string starts with `@` (Q = 31) and one
-- that starts with `+` (Q = 10), an empty record, scores at both ends of the range
example : wfFastq .sanger ⟨[64, 43], [100], [97, 99], [31, 10]⟩ = true ∧
    wfFastq .sanger ⟨[120], [], [], []⟩ = true ∧ wfFastq .illumina1_5 ⟨[120], [], [97, 99], [2, 62]⟩ = true ∧
    wfFastq .sanger ⟨[120], [], [97, 99], [0, 93]⟩ = true := by decide +kernel

-- the statement computes on them (both `+`-line styles; `@+` is the quality string of the first record)
example :
    readAll ⟨.qseq .sanger, ⟨id, id⟩⟩ false
      (writeAll ⟨id, id⟩ true .sanger {} [⟨[64, 43], [100], [97, 99], [31, 10]⟩, ⟨[120], [], [], []⟩]).1.bytes
    = [.ret ⟨some ⟨[64, 43], [100], [97, 99], [31, 10]⟩, none⟩, .ret ⟨some ⟨[120], [], [], []⟩, none⟩,
       .ret ⟨none, some .eof⟩] ∧
    (writeAll ⟨id, id⟩ false .sanger {} [⟨[64, 43], [100], [97, 99], [31, 10]⟩]).1.bytes
    = [64, 64, 43, 32, 100, 10, 97, 99, 10, 43, 10, 64, 43, 10] := by decide +kernel

end fastq

/-! ### the `%a` / `%q` verbs of `linear.Seq` / `linear.QSeq` (corollaries)

The statement of C01 names the two writers; the `Format` verbs are a second writer anchored by
the property.  They print every letter of a `QSeq` through its `QFilter` (a score below
`Threshold` replaces the letter by the ambiguous letter), so the round trip is about the
sequence *as printed*: `r.letters` below are the letters after the filter (all of them, when
every score is at least the threshold). -/

section format
open Biogo.SeqFormat

/-- `fmt.Sprintf("%<w>a", s)` (any width other than 0, or no width) is read back by the FASTA
    reader as the sequence — although the output has no final newline. -/
theorem format_a_roundtrip (w : Option Nat) (hw : w ≠ some 0) (r : Biogo.Fasta.Rec) (hwf : wfFasta r = true) :
    ∃ bytes, formatA w none r.name r.desc r.letters = .ok bytes ∧
      Biogo.Fasta.readAll {} bytes = [.ret ⟨some r, none⟩, .ret ⟨none, some .eof⟩] := by
  obtain ⟨bytes, h1, _, h3⟩ := formatA_roundtrip w hw r hwf
  exact ⟨bytes, h1, h3⟩

/-- `fmt.Sprintf("%q", s)` / `"%+q"` of a `QSeq` with scores in the printable range is read
    back by the FASTQ reader as the sequence. -/
theorem format_q_roundtrip (tabs : Biogo.Fastq.QTables) (enc : Biogo.Fastq.Encoding) (plus eofWithData : Bool)
    (r : Biogo.Fastq.QRec) (hwf : wfFastq enc r = true) :
    Biogo.Fastq.readAll ⟨.qseq enc, tabs⟩ eofWithData
      (formatQ plus none r.name r.desc r.letters (r.quals.map (Biogo.Fastq.encode tabs enc)))
      = [.ret ⟨some r, none⟩, .ret ⟨none, some .eof⟩] :=
  (formatQ_roundtrip tabs enc plus eofWithData r hwf).2

end format

end Biogo.Properties.C01
