/-
C12, whole histories — the concurrent-mode sorter under every schedule, for every well-formed
history of use cycles on one sorter (push*, Finalise, pull*, Clear — `Clear` in concurrent mode
as the code does it: close/remove every run file, reset the error slot, take a buffer from
`pool` if one is there).  Same labelled transition system as `Properties/C12.lean`
(`Biogo.MorassConc.sys`, the system the driver runs); the caller's program is `histOps h`.
-/
import Biogo.Model.MorassConc
import Biogo.Spec.Morass
import Biogo.Proofs.MorassConc
import Biogo.Proofs.MorassCycle
import Biogo.Proofs.MorassNoFault
import Biogo.Proofs.MorassHistory
import Biogo.Proofs.MorassReject
import Biogo.Properties.C11

namespace Biogo.Properties.C12_history
open Biogo.Morass Biogo.MorassConc Biogo.Interleave

/-- **Every cycle's pulls are the sorted multiset of that cycle's pushes, whatever the
    interleaving — for whole histories.**  For every chunk size ≥ 1, background writing on or
    off, AutoClear/AutoClean on or off, every well-formed history `h` of use cycles on one
    sorter (a cycle may stay in memory or spill, be drained partially, exactly, or beyond
    io.EOF; every cycle but the last ends with `Clear` or is closed by AutoClear) and every
    schedule of the caller against the background chunk writers (`Reach`): in every state in
    which the caller has returned from its last call, the outputs of all its calls satisfy
    `HistorySpec` — cycle by cycle there is a non-decreasing permutation `ys` of the values
    pushed in that cycle such that every `Push`, `Finalise` and `Clear` succeeded, the j-th
    `Pull` delivered `ys[j]`, then `io.EOF`; `Len`/`Pos` as the property states.  Writers spawned
    by an earlier cycle never leak a value into a later one.

    (AutoClean: the model records the removal of the temporary directory when a `Pull` reports
    io.EOF but does not make a *later* temporary-file creation fail in the removed directory, as
    the operating system does; the correspondence therefore generates AutoClean only for
    histories in which no cycle but the last is drained, and for `acl = true` the theorem is
    tied to the code on those.) -/
theorem conc_history_sorted_multiset (c : Nat) (hc : 1 ≤ c) (conc ac acl : Bool) (h : List Cycle)
    (hwf : wellFormed ac h = true) {s : CState}
    (hr : Reach (sys conc c ac acl (histOps h) []) s) (hfin : finished s = true) :
    HistorySpec ac h s.outs.reverse :=
  (finished_history c ac hc hwf hr hfin).resolve_left (reach_not_reported hr)

/-- reading of `conc_history_sorted_multiset` at the level the driver compares: result kinds,
    pulled keys, `Len`, `Pos` of every call of the history are a function of the history alone
    (the j-th pull of a cycle delivers the j-th smallest key pushed in that cycle), hence the
    same for every schedule and the same as in the sequential mode -/
theorem conc_history_schedule_independent (c : Nat) (hc : 1 ≤ c) (ac acl : Bool) (h : List Cycle)
    (hwf : wellFormed ac h = true) {conc₁ conc₂ : Bool} {s₁ s₂ : CState}
    (hr₁ : Reach (sys conc₁ c ac acl (histOps h) []) s₁) (hfin₁ : finished s₁ = true)
    (hr₂ : Reach (sys conc₂ c ac acl (histOps h) []) s₂) (hfin₂ : finished s₂ = true) :
    s₁.outs.reverse.map Out.keyed = s₂.outs.reverse.map Out.keyed := by
  have keyed := @Biogo.Properties.C11.historySpec_keyed ac
  rw [keyed h _ (conc_history_sorted_multiset c hc conc₁ ac acl h hwf hr₁ hfin₁),
      keyed h _ (conc_history_sorted_multiset c hc conc₂ ac acl h hwf hr₂ hfin₂)]

/-- **A rejected Push is a no-op of the history, whatever the interleaving** (no fault; with a
    fault: `C13_history.history_rejected_push_noop`).  A program whose accepted calls are the
    well-formed history `h`, with `Push` calls of values of another type inserted anywhere — when
    the chunk is exactly full, right before `Finalise`, between the pulls: no rejected call spawns
    a writer or hands a chunk over (`reach_erase`: after erasing the rejected calls and their
    outputs every reachable state is one of the program without them), and when the caller has
    returned from its last call the outputs of the accepted calls satisfy `HistorySpec ac h`. -/
theorem conc_history_rejected_push_noop (c : Nat) (hc : 1 ≤ c) (conc ac acl : Bool) (h : List Cycle)
    (hwf : wellFormed ac h = true) (ops : List Op) (hops : dropRejects ops = histOps h)
    {s : CState} (hr : Reach (sys conc c ac acl ops []) s) (hfin : finished s = true) :
    HistorySpec ac h (dropRejOuts s.outs.reverse) :=
  (finished_history_erase hc hwf hops hr hfin).resolve_left (reach_not_reported hr)

/-- non-vacuity: a two-cycle history (chunk 1; cycle 1 pushes 2 1, pulls one value, clears;
    cycle 2 pushes 4 3 and drains) under a schedule that interleaves the background writer of
    each cycle with the caller reaches a finished state; the second cycle delivers 3 4, not the
    2 left over from the first -/
example : ∃ s, Reach (sys true 1 false false
      (histOps [⟨[⟨2, 0⟩, ⟨1, 0⟩], 1, true⟩, ⟨[⟨4, 0⟩, ⟨3, 0⟩], 3, false⟩]) []) s
    ∧ finished s = true ∧ s.writers.length = 2
    ∧ s.outs.reverse.filterMap (·.val) = [⟨1, 0⟩, ⟨3, 0⟩, ⟨4, 0⟩] :=
  exists_reach_of_run _
    [0, 0, 0, 1, 0, 1, 0, 1, 0, 1, 0, 1, 0, 0, 0, 0, 0, 0, 0, 0, 0, 0, 0, 2, 0, 2, 0, 2, 0, 2, 0, 2, 0, 0, 0, 0, 0, 0, 0]
    (by decide +kernel)

end Biogo.Properties.C12_history
