/-
C18 over the real numbers.  `Biogo.Properties.C18` proves integer inequalities (10th / 20th
powers, a rational enclosure of 10^(1/20)) about the regenerated tables;
`Biogo.Properties.C18_checker` says what those inequalities mean for real powers and
logarithms, whatever value they are applied to.  Here the two are put together: the statements
the property makes about the tables, over the reals.
Imports Mathlib: nothing the driver imports may import this file.
-/
import Biogo.Properties.C18_checker

open Biogo.Quality Biogo.Quality.Spec
open Biogo.Generated.Qual (source tables)

namespace Biogo.Properties.C18Real
open Biogo.Properties.C18_checker

/-- "the error probability of Phred score q is 10^(-q/10)", over the reals: every entry of
    `phredETable` below 254 is within relative 2^-47 of the real power. -/
theorem phredE_close_real :
    ∀ q < 254, ∃ m k, tables.probPhred (UInt8.ofNat q) = .val m k ∧
      |(m : ℝ) / 2 ^ k - (10 : ℝ) ^ (-(q : ℝ) / 10)| ≤ (1 / (2 : ℝ) ^ 47) * ((m : ℝ) / 2 ^ k) := by
  intro q hq
  obtain ⟨m, k, hmk, h1, h2⟩ := Biogo.Properties.C18.phredE_close q hq
  exact ⟨m, k, hmk, phredProbClose_real q m k (by simp [phredProbClose, h1, h2])⟩

/-- "Phred-to-Solexa … equal the analytically converted value rounded to the nearest integer":
    |10·log10(10^(q/10) − 1) − qs| ≤ 1/2 for every table entry with 1 ≤ q ≤ 127. -/
theorem phredSolexa_nearest_real (q : ℕ) (h1 : 1 ≤ q) (h2 : q < 128) :
    |10 * Real.logb 10 ((10 : ℝ) ^ ((q : ℝ) / 10) - 1) - ((tables.toSolexa (UInt8.ofNat q)).toInt : ℝ)| ≤ 1 / 2 :=
  phredToSolexaNearest_real q _ (Biogo.Properties.C18.phredSolexa_nearest q h2 h1)

/-- "Solexa-to-Phred …": |10·log10(10^(qs/10) + 1) − q| ≤ 1/2 for −127 ≤ qs ≤ 126 (table index
    n = qs + 128). -/
theorem solexaPhred_nearest_real (n : ℕ) (h1 : 1 ≤ n) (h2 : n < 255) :
    |10 * Real.logb 10 ((10 : ℝ) ^ ((((n : ℤ) - 128 : ℤ) : ℝ) / 10) + 1) -
        (((tables.toPhred (Int8.ofInt ((n : ℤ) - 128))).toNat : ℤ) : ℝ)| ≤ 1 / 2 :=
  solexaToPhredNearest_real _ _ (Biogo.Properties.C18.solexaPhred_nearest n h2 h1)

/-- "converting a probability back yields the nearest score so that
    score-to-probability-to-score is the identity", over the reals: every table probability
    T[q], q < 254, has −10·log10 T[q] within 1/2 of q. -/
theorem ephred_nearest_real (q : ℕ) (hq : q < 254) :
    ∃ m k, tables.probPhred (UInt8.ofNat q) = .val m k ∧
      |10 * Real.logb 10 ((m : ℝ) / 2 ^ k) + q| ≤ 1 / 2 := by
  obtain ⟨m, k, hmk, -⟩ := Biogo.Properties.C18.phredE_close q hq
  have hn := Biogo.Properties.C18.ephred_nearest_spec q (by omega)
  rw [hmk] at hn
  have hm : m ≠ 0 := by
    rintro rfl
    simp only [phredNearest, beq_iff_eq] at hn
    omega
  exact ⟨m, k, hmk, phredNearest_real m k q hm hq hn⟩

/-- Solexa: "probability 1/(1+10^(q/10))", over the reals: every entry of `solexaETable` for
    qs = −127 … 126 (table index n = qs + 128) is within relative 2^-47 of it. -/
theorem solexaE_close_real (n : ℕ) (h1 : 1 ≤ n) (h2 : n < 255) :
    ∃ m k, tables.probSolexa (Int8.ofInt ((n : ℤ) - 128)) = .val m k ∧
      |(m : ℝ) / 2 ^ k - 1 / (1 + (10 : ℝ) ^ ((((n : ℤ) - 128 : ℤ) : ℝ) / 10))| ≤
        (1 / (2 : ℝ) ^ 47) * ((m : ℝ) / 2 ^ k) :=
  solexaProbClose_real _ _ (Biogo.Properties.C18.solexaE_close n h2 h1)

/-- Solexa: "converting a probability back yields the nearest score": every table probability
    S[qs], −126 ≤ qs ≤ 126, has −10·log10 (S/(1−S)) within 1/2 of qs. -/
theorem esolexa_nearest_real (n : ℕ) (h1 : 2 ≤ n) (h2 : n < 255) :
    ∃ m k, tables.probSolexa (Int8.ofInt ((n : ℤ) - 128)) = .val m k ∧ m < 2 ^ k ∧
      |10 * Real.logb 10 ((m : ℝ) / ((2 ^ k - m : ℕ) : ℝ)) + (((n : ℤ) - 128 : ℤ) : ℝ)| ≤ 1 / 2 := by
  have h := Biogo.Properties.C18.esolexa_nearest_spec n (by omega)
  simp only [Biogo.Properties.C18.sc] at h
  -- inside the range the special values (NaN ↦ -128, 0 ↦ 127) do not occur
  cases hp : tables.probSolexa (Int8.ofInt ((n : ℤ) - 128)) with
  | nan => rw [hp] at h; simp only [solexaNearest, beq_iff_eq] at h; omega
  | bad => rw [hp] at h; simp [solexaNearest] at h
  | val m k =>
    rw [hp] at h
    have hm : m ≠ 0 := by
      rintro rfl
      simp only [solexaNearest, beq_iff_eq] at h
      omega
    exact ⟨m, k, rfl, solexaNearest_real m k _ hm (by omega) (by omega) h⟩

end Biogo.Properties.C18Real
