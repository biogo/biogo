/-
C08, part `aff`: optimality of the affine aligners — the property theorems and the witnesses on the legacy
aligners that their refutations evaluate (`k3M`, `k3_legacy`, `k1M`).

The property: "the total score of the alignment returned by the Needleman-Wunsch aligners
equals the maximum over all global alignments … under the … affine gap model; … the
Smith-Waterman aligners … maximum over all local alignments (zero if none is positive); the
fitted aligners return an alignment that consumes the whole query and is optimal among all such
alignments that end at the same reference position".

Since the repairs of K1 (the three-layer recurrences had no transition between the two gap
layers) and K3 (FittedAffine took its end from the match layer only) the full statements hold
of the model of the code: `nwAffine_opt`, `swAffine_opt`, `fittedAffine_opt`.

The theorems about the aligners *before* the repairs are kept, restated about the legacy
variants of the model (`nwAlignNoCross`, `swAlignNoCross`, `fitAlignLegacy`, `fitTable false`):
what held (`…_opt_partial`, `fittedAffine_opt_restricted`, `…_of_side_condition`), the
refutations of the full statements (`nwAffine_not_opt`, `fittedAffine_not_opt`) and the
yardstick of the K3 recogniser (`fittedRestricted_yardstick`), so that the recognisers of the
driver keep their meaning and a regression is reported by name.
-/
import Biogo.Proofs.NWAffine
import Biogo.Proofs.SWAffine
import Biogo.Proofs.FittedAffine
import Biogo.Proofs.FittedFull
import Biogo.Proofs.NoAdjSuffices
import Biogo.Proofs.FittedClass
import Biogo.Proofs.TraceWF

namespace Biogo.Properties.C08_aff
open Biogo.Spec.Alignment Biogo.AlignAff Biogo.Spec.AffineOpt
open Biogo.Proofs.AffineOpt Biogo.Proofs.NWAffine Biogo.Proofs.NoAdjSuffices

/-- The yardstick of the check is what it claims to be: `globalOpt true` is the maximum of
    the affine score over all global alignments (`none` never arises for an existing
    alignment), `globalOpt false` the maximum over those without adjacent opposite gaps. -/
theorem globalOpt_optimal (cross : Bool) (S : Matrix) (gapOpen : Int) (r q : List Nat) :
    (∀ a, IsGlobal a r q → (cross = true ∨ NoAdj a) →
        ∃ x, globalOpt cross S gapOpen r q = some x ∧ scoreAff S gapOpen a ≤ x) ∧
    (∀ x, globalOpt cross S gapOpen r q = some x →
        ∃ a, IsGlobal a r q ∧ (cross = true ∨ NoAdj a) ∧ scoreAff S gapOpen a = x) :=
  isOpt_and (globalOpt_isOpt cross S gapOpen r q)

/-- the yardstick for the local aligners: `localOpt cross` is the maximum of the affine score
    over all local alignments (`cross`) / those without adjacent opposite gaps, the empty
    alignment (score 0) included -/
theorem localOpt_optimal (cross : Bool) (S : Matrix) (gapOpen : Int) (r q : List Nat) :
    (∀ a, IsLocal a r q → (cross = true ∨ NoAdj a) →
        ∃ x, localOpt cross S gapOpen r q = some x ∧ scoreAff S gapOpen a ≤ x) ∧
    (∀ x, localOpt cross S gapOpen r q = some x →
        ∃ a, IsLocal a r q ∧ (cross = true ∨ NoAdj a) ∧ scoreAff S gapOpen a = x) :=
  isOpt_and (localOpt_isOpt cross S gapOpen r q)

/-- the yardstick for the fitted aligners: `fittedOpt cross … e` is the maximum of the affine
    score over the alignments of the whole query with a reference segment ending at `e` -/
theorem fittedOpt_optimal (cross : Bool) (S : Matrix) (gapOpen : Int) (r q : List Nat) (e : Nat)
    (he : e ≤ r.length) :
    (∀ a, IsFitted a r q e → (cross = true ∨ NoAdj a) →
        ∃ x, fittedOpt cross S gapOpen r q e = some x ∧ scoreAff S gapOpen a ≤ x) ∧
    (∀ x, fittedOpt cross S gapOpen r q e = some x →
        ∃ a, IsFitted a r q e ∧ (cross = true ∨ NoAdj a) ∧ scoreAff S gapOpen a = x) :=
  isOpt_and (fittedOpt_isOpt cross S gapOpen r q e he)

/-- **C08, NWAffine**: "the total score of the alignment returned by the Needleman-Wunsch
    aligners equals the maximum over all global alignments … under the … affine gap model".
    For all matrices, gap-open values and non-empty sequences the model of `NWAffine` (the
    fill with all nine transitions between the three layers, layer-aware traceback) returns
    pairs whose total is an upper bound for the affine score of *every* global alignment and is
    attained by one. -/
theorem nwAffine_opt (S : Matrix) (gapOpen : Int) (r q : List Nat) (hr : r ≠ []) (hq : q ≠ []) :
    ∃ ps, nwAlign S gapOpen r q = .ok ps ∧
      (∀ a, IsGlobal a r q → scoreAff S gapOpen a ≤ total ps) ∧
      (∃ a, IsGlobal a r q ∧ scoreAff S gapOpen a = total ps) := by
  obtain ⟨ps, hps, h⟩ := nwAlignT_total true S gapOpen r q hr hq
  obtain ⟨hub, a, ha, e⟩ := isOpt_some.mp h
  exact ⟨ps, hps, fun b hb => hub b ⟨hb, Or.inl rfl⟩, a, ha.1, e⟩

/-- non-vacuity: the K1 witness (`S[a][c] = −10`, gap scores −2/0, gap-open −2, `a` vs `c`),
    on which the aligner returned −10 before the repair, now gives `-a` / `c-` with total −6 -/
example : nwAlign (sc [[0, 0, 0], [-2, 1, -10], [-2, -10, 1]]) (-2) [1] [2] =
    .ok [⟨0, 0, 0, 1, -2⟩, ⟨0, 1, 1, 1, -4⟩] := by
  decide +kernel

/-- **C08, SWAffine**: "… the Smith-Waterman aligners equals the maximum over all local
    alignments (zero if none is positive)".  For all matrices with non-positive gap scores,
    every gap-open ≤ 0 and all sequences the model of `SWAffine` returns pairs whose total
    bounds the affine score of *every* local alignment and is attained by one (the empty
    alignment scores 0). -/
theorem swAffine_opt (S : Matrix) (gapOpen : Int) (ho : gapOpen ≤ 0)
    (hg : ∀ x, S x 0 ≤ 0 ∧ S 0 x ≤ 0) (r q : List Nat) :
    ∃ ps, swAlign S gapOpen r q = .ok ps ∧
      (∀ a, IsLocal a r q → scoreAff S gapOpen a ≤ total ps) ∧
      (∃ a, IsLocal a r q ∧ scoreAff S gapOpen a = total ps) := by
  obtain ⟨ps, hps, h⟩ := Biogo.Proofs.SWAffine.swAlignT_total true S gapOpen ho hg r q
  obtain ⟨hub, a, ha, e⟩ := isOpt_some.mp h
  exact ⟨ps, hps, fun b hb => hub b ⟨hb, Or.inl rfl⟩, a, ha.1, e⟩

/-- non-vacuity: the F11 witness (`aa` / `aca`, match 7, gap-vs-c 0, gap-open −2) gives 12;
    and a local alignment through two adjacent opposite gaps (mismatch −10, gaps 0, open −1,
    `aca` / `aga`: `ac-a` / `a-ga` scores 5 + (−1) + (−1) + 5 = 8 > 5) -/
example : swAlign (sc [[0, -1, 0], [-1, 7, -3], [-1, -3, 7]]) (-2) [1, 1] [1, 2, 1] =
    .ok [⟨0, 1, 0, 1, 7⟩, ⟨1, 1, 1, 2, -2⟩, ⟨1, 2, 2, 3, 7⟩] := by
  decide +kernel
example : swAlign (sc [[0, 0, 0, 0], [0, 5, -10, -10], [0, -10, 5, -10], [0, -10, -10, 5]]) (-1)
    [1, 2, 1] [1, 3, 1] = .ok [⟨0, 1, 0, 1, 5⟩, ⟨1, 1, 1, 2, -1⟩, ⟨1, 2, 2, 2, -1⟩, ⟨2, 3, 2, 3, 5⟩] := by
  decide +kernel

/-- **C08, FittedAffine**: "the fitted aligners return an alignment that consumes the whole
    query and is optimal among all such alignments that end at the same reference position".
    For all matrices in which a reference letter against a gap never scores more than 0, every
    gap-open ≤ 0 and all non-empty sequences the model of `FittedAffine` returns pairs that
    start at query position 0, end at `|q|` and at a reference position `1 ≤ e ≤ |r|`, and
    whose total bounds the affine score of *every* alignment of the whole query with a
    reference segment ending at `e` and is attained by one.
    (The sign hypothesis is where the free reference prefix of column 0 is used: skipping
    reference letters is never worse than aligning them with gaps.) -/
theorem fittedAffine_opt (S : Matrix) (gapOpen : Int) (ho : gapOpen ≤ 0) (hg : ∀ x, S x 0 ≤ 0)
    (r q : List Nat) (hr : r ≠ []) (hq : q ≠ []) :
    ∃ ps, fitAlign S gapOpen r q = .ok ps ∧
      (Biogo.Spec.AffPairs.firstStart ps).2 = 0 ∧ (Biogo.Spec.AffPairs.lastEnd ps).2 = q.length ∧
      1 ≤ (Biogo.Spec.AffPairs.lastEnd ps).1 ∧ (Biogo.Spec.AffPairs.lastEnd ps).1 ≤ r.length ∧
      (∀ a, IsFitted a r q (Biogo.Spec.AffPairs.lastEnd ps).1 → scoreAff S gapOpen a ≤ total ps) ∧
      (∃ a, IsFitted a r q (Biogo.Spec.AffPairs.lastEnd ps).1 ∧ scoreAff S gapOpen a = total ps) := by
  obtain ⟨ps, hps, he1, heR, h⟩ := Biogo.Proofs.FittedFull.fitAlign_total S gapOpen ho hg r q hr hq
  obtain ⟨t, ht⟩ := Biogo.Proofs.TraceWF.map_fst_ok hps
  obtain ⟨_, _, h0, hC⟩ := Biogo.Proofs.FittedAffine.fitAlignT_wf true true true S gapOpen r q ps t ht
  obtain ⟨hub, a, ha, e⟩ := isOpt_some.mp h
  exact ⟨ps, hps, h0, hC, he1, heR, fun b hb => hub b ⟨hb, Or.inl rfl⟩, a, ha.1, e⟩

/-- non-vacuity: the two K3 witnesses.  Unit costs, gap-open 0, `a` / `aac`: −3 before the
    repairs, now `a--` / `aac` with −1 (the alignment ends with a gap in the reference);
    gap-open −3, `aa` / `cca`: −6 before, now `--a` / `cca` with −4 (a query gap opened after
    the skipped reference prefix) -/
example : fitAlign (sc [[0, -1, -1], [-1, 1, -1], [-1, -1, 1]]) 0 [1] [1, 1, 2] =
    .ok [⟨0, 1, 0, 1, 1⟩, ⟨1, 1, 1, 3, -2⟩] := by
  decide +kernel
example : fitAlign (sc [[0, -1, -1], [-1, 1, -1], [-1, -1, 1]]) (-3) [1, 1] [2, 2, 1] =
    .ok [⟨1, 1, 0, 2, -5⟩, ⟨1, 2, 2, 3, 1⟩] := by
  decide +kernel

/-- **The repair of K1 is conservative for the totals** (NWAffine): the repaired aligner never
    reports less than the aligner before the repair did, and reports the same total whenever
    the optimum can be reached without a gap directly next to a gap in the other sequence
    (`globalOpt false = globalOpt true`). -/
theorem k1_repair_conservative_nw (S : Matrix) (gapOpen : Int) (r q : List Nat) (hr : r ≠ []) (hq : q ≠ []) :
    ∃ ps ps', nwAlignNoCross S gapOpen r q = .ok ps ∧ nwAlign S gapOpen r q = .ok ps' ∧
      total ps ≤ total ps' ∧
      (globalOpt false S gapOpen r q = globalOpt true S gapOpen r q → total ps = total ps') := by
  obtain ⟨ps, hps, h⟩ := nwAlignT_total false S gapOpen r q hr hq
  obtain ⟨ps', hps', h'⟩ := nwAlignT_total true S gapOpen r q hr hq
  exact ⟨ps, ps', hps, hps', isOpt_sub h h' (fun a ha => ⟨ha.1, Or.inl rfl⟩) (globalOpt_isOpt false S gapOpen r q)
    (globalOpt_isOpt true S gapOpen r q)⟩

/-- the same for `SWAffine` (gap scores and gap-open ≤ 0) -/
theorem k1_repair_conservative_sw (S : Matrix) (gapOpen : Int) (ho : gapOpen ≤ 0)
    (hg : ∀ x, S x 0 ≤ 0 ∧ S 0 x ≤ 0) (r q : List Nat) :
    ∃ ps ps', swAlignNoCross S gapOpen r q = .ok ps ∧ swAlign S gapOpen r q = .ok ps' ∧
      total ps ≤ total ps' ∧
      (localOpt false S gapOpen r q = localOpt true S gapOpen r q → total ps = total ps') := by
  obtain ⟨ps, hps, h⟩ := Biogo.Proofs.SWAffine.swAlignT_total false S gapOpen ho hg r q
  obtain ⟨ps', hps', h'⟩ := Biogo.Proofs.SWAffine.swAlignT_total true S gapOpen ho hg r q
  exact ⟨ps, ps', hps, hps', isOpt_sub h h' (fun a ha => ⟨ha.1, Or.inl rfl⟩) (localOpt_isOpt false S gapOpen r q)
    (localOpt_isOpt true S gapOpen r q)⟩

/-- **C08, NWAffine before the repair of K1, the part that held** (`_partial`: the maximum is
    over the global alignments without adjacent opposite gaps, not over all of them — finding
    K1).  For all matrices, gap-open values and non-empty sequences the model of `NWAffine`
    without the `up ↔ left` transitions (`nwAlignNoCross`) returns pairs whose total is an upper
    bound for every such alignment and is attained by one. -/
theorem nwAffine_opt_partial (S : Matrix) (gapOpen : Int) (r q : List Nat) (hr : r ≠ []) (hq : q ≠ []) :
    ∃ ps, nwAlignNoCross S gapOpen r q = .ok ps ∧
      (∀ a, IsGlobal a r q → NoAdj a → scoreAff S gapOpen a ≤ total ps) ∧
      (∃ a, IsGlobal a r q ∧ NoAdj a ∧ scoreAff S gapOpen a = total ps) := by
  obtain ⟨ps, hps, h⟩ := nwAlignT_total false S gapOpen r q hr hq
  obtain ⟨hub, a, ha, e⟩ := isOpt_some.mp h
  exact ⟨ps, hps, fun b hb hn => hub b ⟨hb, Or.inr hn⟩, a, ha.1, ha.2.resolve_left Bool.false_ne_true, e⟩

/-- **C08, SWAffine before the repair of K1, the part that held** (`_partial`: maximum over the
    local alignments without adjacent opposite gaps — K1 — "zero if none is positive" being the
    empty alignment).  For all matrices with non-positive gap scores, every gap-open ≤ 0 and all
    sequences the model of `SWAffine` without the `up ↔ left` transitions (`swAlignNoCross`,
    after fix F11) returns pairs whose total bounds every such alignment and is attained by one. -/
theorem swAffine_opt_partial (S : Matrix) (gapOpen : Int) (ho : gapOpen ≤ 0)
    (hg : ∀ x, S x 0 ≤ 0 ∧ S 0 x ≤ 0) (r q : List Nat) :
    ∃ ps, swAlignNoCross S gapOpen r q = .ok ps ∧
      (∀ a, IsLocal a r q → NoAdj a → scoreAff S gapOpen a ≤ total ps) ∧
      (∃ a, IsLocal a r q ∧ NoAdj a ∧ scoreAff S gapOpen a = total ps) := by
  obtain ⟨ps, hps, h⟩ := Biogo.Proofs.SWAffine.swAlignT_total false S gapOpen ho hg r q
  obtain ⟨hub, a, ha, e⟩ := isOpt_some.mp h
  exact ⟨ps, hps, fun b hb hn => hub b ⟨hb, Or.inr hn⟩, a, ha.1, ha.2.resolve_left Bool.false_ne_true, e⟩

/-- non-vacuity: the F11 witness (`aa` / `aca`, match 7, gap-vs-c 0, gap-open −2) gives 12 -/
example : swAlignNoCross (sc [[0, -1, 0], [-1, 7, -3], [-1, -3, 7]]) (-2) [1, 1] [1, 2, 1] =
    .ok [⟨0, 1, 0, 1, 7⟩, ⟨1, 1, 1, 2, -2⟩, ⟨1, 2, 2, 3, 7⟩] := by
  decide +kernel

/-- **C08, FittedAffine before the repairs of K1 and K3, as far as it held** (`_partial`; the
    model is `fitAlignLegacy`).  The property: "the fitted aligners
    return an alignment that consumes the whole query and is optimal among all such alignments
    that end at the same reference position".  Full statement:

        ∃ ps, fitAlignLegacy S open r q = .ok ps ∧ consumes the query ∧
          (∀ a, IsFitted a r q (lastEnd ps).1 → scoreAff S open a ≤ total ps) ∧
          (∃ a, IsFitted a r q (lastEnd ps).1 ∧ scoreAff S open a = total ps)

    The upper bound was false of that code even over `NoAdj` alignments (`fittedAffine_not_opt`,
    finding K3).  What held for all matrices, gap-open values and non-empty sequences: the
    result consumes the whole query (after fix K2b), ends inside the reference, and its total
    is the affine score of a genuine alignment of the whole query with a reference segment
    ending at the reported end, without adjacent opposite gaps — so the total never exceeds
    the optimum for that end (`fittedOpt_optimal`). -/
theorem fittedAffine_opt_partial (S : Matrix) (gapOpen : Int) (r q : List Nat) (hr : r ≠ []) (hq : q ≠ []) :
    ∃ ps, fitAlignLegacy S gapOpen r q = .ok ps ∧
      (Biogo.Spec.AffPairs.firstStart ps).2 = 0 ∧ (Biogo.Spec.AffPairs.lastEnd ps).2 = q.length ∧
      (Biogo.Spec.AffPairs.lastEnd ps).1 ≤ r.length ∧
      ∃ a, IsFitted a r q (Biogo.Spec.AffPairs.lastEnd ps).1 ∧ NoAdj a ∧ scoreAff S gapOpen a = total ps := by
  -- the attaining alignment of the class the legacy fill explored is in particular a fitted one
  obtain ⟨ps, hps, _, a, ⟨hfit, hna, _⟩, hsc⟩ := Biogo.Proofs.FittedClass.fitAlign_restricted_opt S gapOpen r q hr hq
  obtain ⟨t, ht⟩ := Biogo.Proofs.TraceWF.map_fst_ok hps
  obtain ⟨_, _, h0, hC⟩ := Biogo.Proofs.FittedAffine.fitAlignT_wf true false false S gapOpen r q ps t ht
  exact ⟨ps, hps, h0, hC, hfit.elim fun _ h => h.2.1, a, hfit, hna, hsc⟩

/-- the K3 witness: unit costs, gap-open 0, `r = a`, `q = aac`; what the aligner before the
    repairs returned on it -/
def k3M : List (List Int) := [[0, -1, -1], [-1, 1, -1], [-1, -1, 1]]

theorem k3_legacy : fitAlignLegacy (sc k3M) 0 [1] [1, 1, 2] = .ok [⟨0, 0, 0, 2, -2⟩, ⟨0, 1, 2, 3, -1⟩] := by
  decide +kernel

/-- Refutation of the full statement for `FittedAffine` before the repairs (finding K3): unit
    costs, gap-open 0, `r = a`, `q = aac`: the aligner reported `--a` / `aac` with total −3 for end 1, while
    `a--` / `aac` also ends at 1, consumes the query, has no adjacent opposite gaps and scores −1
    (only match-layer ends were considered).  The repaired aligner returns that alignment
    (example after `fittedAffine_opt`). -/
theorem fittedAffine_not_opt :
    ∃ (M : List (List Int)) (gapOpen : Int) (r q : List Nat) (ps : List Pair) (a : Aln),
      gapOpen ≤ 0 ∧ (∀ x, x < 3 → sc M x 0 ≤ 0 ∧ sc M 0 x ≤ 0) ∧
      fitAlignLegacy (sc M) gapOpen r q = .ok ps ∧
      IsFitted a r q (Biogo.Spec.AffPairs.lastEnd ps).1 ∧ NoAdj a ∧ total ps < scoreAff (sc M) gapOpen a :=
  ⟨k3M, 0, [1], [1, 1, 2], _, [.m 1 1, .l 1, .l 2],
    by decide, by decide, k3_legacy, ⟨0, by decide, by decide, by decide, by decide⟩,
    (by show noAdj _ = true; decide), by decide⟩

/-- **C08, FittedAffine before the repairs: optimal over the class it explored** (finding K3
    was exactly the difference between this class and all fitted alignments).  For all matrices,
    gap-open values and non-empty sequences the model `fitAlignLegacy` returns pairs whose total
    is the maximum of the affine score over the alignments of the whole query with a reference
    segment ending at the reported end that
      * have no gap directly next to a gap in the other sequence (K1),
      * end with a letter pair (the end value was read from the match layer only),
      * start with a letter pair — or, when the segment starts at reference position 0, with a
        gap in the reference (the free reference prefix sits in the `up` layer of column 0 and,
        without the `up → left` transition, fed only the match layer of column 1)
    (`Spec.FittedRestricted.IsFittedRestricted`): upper bound and attainment. -/
theorem fittedAffine_opt_restricted (S : Matrix) (gapOpen : Int) (r q : List Nat) (hr : r ≠ []) (hq : q ≠ []) :
    ∃ ps, fitAlignLegacy S gapOpen r q = .ok ps ∧
      (∀ a, Biogo.Spec.FittedRestricted.IsFittedRestricted a r q (Biogo.Spec.AffPairs.lastEnd ps).1 →
        scoreAff S gapOpen a ≤ total ps) ∧
      (∃ a, Biogo.Spec.FittedRestricted.IsFittedRestricted a r q (Biogo.Spec.AffPairs.lastEnd ps).1 ∧
        scoreAff S gapOpen a = total ps) :=
  Biogo.Proofs.FittedClass.fitAlign_restricted_opt S gapOpen r q hr hq

/-- the yardstick of the K3 recogniser is what it claims to be: for every row `e` the
    match-layer value of the last column of the fitted table of the fill before the repair of K1
    (`fitTable false`) is the maximum of the affine score over the restricted class for end `e`
    (`none` iff the class is empty) -/
theorem fittedRestricted_yardstick (S : Matrix) (gapOpen : Int) (r q : List Nat) (hq : q ≠ []) (e : Nat)
    (he : e ≤ r.length) :
    (∀ a, Biogo.Spec.FittedRestricted.IsFittedRestricted a r q e →
        ∃ x, ((fitTable false S gapOpen r q).at e q.length).d = some x ∧ scoreAff S gapOpen a ≤ x) ∧
    (∀ x, ((fitTable false S gapOpen r q).at e q.length).d = some x →
        ∃ a, Biogo.Spec.FittedRestricted.IsFittedRestricted a r q e ∧ scoreAff S gapOpen a = x) :=
  Biogo.Proofs.FittedClass.fitTable_restricted_opt S gapOpen r q hq e he

/-- non-vacuity: the class is inhabited (`ac` against `ac`, two letter pairs) -/
example : Biogo.Spec.FittedRestricted.IsFittedRestricted [.m 1 1, .m 2 2] [3, 1, 2] [1, 2] 3 :=
  ⟨⟨1, by decide, by decide, by decide, by decide⟩, (by show noAdj _ = true; decide), by decide,
    Or.inl (by decide)⟩

/-- The classical side condition did not rescue `FittedAffine` before the repairs (there is
    no analogue of `nwAffine_opt_of_side_condition`): unit costs satisfy `S x 0 + S 0 y ≤ S x y`, gap-open 0,
    and the K3 witness (`r = a`, `q = aac`: −3 reported for end 1, `a--` / `aac` scores −1)
    stands.  The alignment that wins ends with a gap in the reference, which the match-layer
    end cannot represent, whatever the matrix. -/
theorem fittedAffine_side_condition_insufficient :
    ∃ (M : List (List Int)) (gapOpen : Int) (r q : List Nat) (ps : List Pair) (a : Aln),
      gapOpen ≤ 0 ∧ (∀ x, x < 3 → sc M x 0 ≤ 0 ∧ sc M 0 x ≤ 0) ∧
      (∀ x, x < 3 → ∀ y, y < 3 → sc M x 0 + sc M 0 y ≤ sc M x y) ∧
      fitAlignLegacy (sc M) gapOpen r q = .ok ps ∧
      IsFitted a r q (Biogo.Spec.AffPairs.lastEnd ps).1 ∧ NoAdj a ∧ total ps < scoreAff (sc M) gapOpen a :=
  ⟨k3M, 0, [1], [1, 1, 2], _, [.m 1 1, .l 1, .l 2],
    by decide, by decide, by decide, k3_legacy, ⟨0, by decide, by decide, by decide, by decide⟩,
    (by show noAdj _ = true; decide), by decide⟩

/-- non-vacuity: the K1 witness itself -/
example : nwAlignNoCross (sc [[0, 0, 0], [-2, 1, -10], [-2, -10, 1]]) (-2) [1] [2] = .ok [⟨0, 1, 0, 1, -10⟩] := by
  decide +kernel

/-- the K1 witness: `S[a][c] = −10`, gap scores `−2` (gap in the query) and `0` (gap in the
    reference), gap-open `−2`; letters `a = 1`, `c = 2` of `-acgt` -/
def k1M : List (List Int) :=
  [[0, 0, 0, 0, 0], [-2, 1, -10, -10, -10], [-2, -10, 1, -10, -10], [-2, -10, -10, 1, -10], [-2, -10, -10, -10, 1]]

/-- Refutation of the full-strength statement of C08 for `NWAffine` before the repair of K1
    ("the total equals the maximum over all global alignments under the affine gap model"):
    for `r = a`, `q = c` the aligner reported −10 while the global alignment `a-` / `-c`
    scores −6 — and the repaired aligner (`nwAlign`) reports −6 on the same input. -/
theorem nwAffine_not_opt :
    ∃ (M : List (List Int)) (gapOpen : Int) (r q : List Nat) (ps ps' : List Pair) (a : Aln),
      gapOpen ≤ 0 ∧ (∀ x, x < 5 → sc M x 0 ≤ 0 ∧ sc M 0 x ≤ 0) ∧
      nwAlignNoCross (sc M) gapOpen r q = .ok ps ∧ IsGlobal a r q ∧ total ps < scoreAff (sc M) gapOpen a ∧
      nwAlign (sc M) gapOpen r q = .ok ps' ∧ total ps' = scoreAff (sc M) gapOpen a :=
  ⟨k1M, -2, [1], [2], [⟨0, 1, 0, 1, -10⟩], [⟨0, 0, 0, 1, -2⟩, ⟨0, 1, 1, 1, -4⟩], [.u 1, .l 2],
    by decide, by decide, by decide +kernel, ⟨by decide, by decide⟩, by decide, by decide +kernel, by decide⟩

/-- **The classical side condition.**  If a letter pair never scores less than its two
    letters against gaps and opening a gap costs, every global alignment is matched or beaten
    by one without adjacent opposite gaps, so the maximum over the restricted class is the
    maximum over all global alignments.
    (DESIGN.md states the condition as `S r q ≥ (open + S r 0) + (open + S 0 q)`; that is not
    sufficient, see `design_side_condition_insufficient`.) -/
theorem noAdj_suffices (S : Matrix) (gapOpen : Int) (ho : gapOpen ≤ 0)
    (H : ∀ x y, S x 0 + S 0 y ≤ S x y) (r q : List Nat) (a : Aln) (h : IsGlobal a r q) :
    ∃ a', IsGlobal a' r q ∧ NoAdj a' ∧ scoreAff S gapOpen a ≤ scoreAff S gapOpen a' :=
  exists_noAdj_ge S gapOpen ho H r q a h

/-- non-vacuity of the side condition: unit costs satisfy it -/
example : ∀ x, x < 3 → ∀ y, y < 3 →
    sc [[0, -1, -1], [-1, 1, -1], [-1, -1, 1]] x 0 + sc [[0, -1, -1], [-1, 1, -1], [-1, -1, 1]] 0 y
      ≤ sc [[0, -1, -1], [-1, 1, -1], [-1, -1, 1]] x y := by decide

/-- **C08 for NWAffine before the repair of K1, at full strength under the side condition**:
    the total equals the maximum over *all* global alignments. -/
theorem nwAffine_opt_of_side_condition (S : Matrix) (gapOpen : Int) (ho : gapOpen ≤ 0)
    (H : ∀ x y, S x 0 + S 0 y ≤ S x y) (r q : List Nat) (hr : r ≠ []) (hq : q ≠ []) :
    ∃ ps, nwAlignNoCross S gapOpen r q = .ok ps ∧
      (∀ a, IsGlobal a r q → scoreAff S gapOpen a ≤ total ps) ∧
      (∃ a, IsGlobal a r q ∧ scoreAff S gapOpen a = total ps) := by
  obtain ⟨ps, hps, h⟩ := nwAlignT_total false S gapOpen r q hr hq
  exact ⟨ps, hps, isOpt_some.mp (isOpt_of_dominated (Q := fun a => IsGlobal a r q) (fun _ h => h.1)
    (fun a ha => let ⟨a', hg', hn', hle⟩ := noAdj_suffices S gapOpen ho H r q a ha;
      ⟨a', ⟨hg', Or.inr hn'⟩, hle⟩) h)⟩

/-- **C08 for SWAffine before the repair of K1, at full strength under the side condition**:
    the total equals the maximum over *all* local alignments (zero if none is positive). -/
theorem swAffine_opt_of_side_condition (S : Matrix) (gapOpen : Int) (ho : gapOpen ≤ 0)
    (hg : ∀ x, S x 0 ≤ 0 ∧ S 0 x ≤ 0) (H : ∀ x y, S x 0 + S 0 y ≤ S x y) (r q : List Nat) :
    ∃ ps, swAlignNoCross S gapOpen r q = .ok ps ∧
      (∀ a, IsLocal a r q → scoreAff S gapOpen a ≤ total ps) ∧
      (∃ a, IsLocal a r q ∧ scoreAff S gapOpen a = total ps) := by
  obtain ⟨ps, hps, h⟩ := Biogo.Proofs.SWAffine.swAlignT_total false S gapOpen ho hg r q
  exact ⟨ps, hps, isOpt_some.mp (isOpt_of_dominated (Q := fun a => IsLocal a r q) (fun _ h => h.1)
    (fun a ha => let ⟨a', hl', hn', hle⟩ := exists_noAdj_ge_local S gapOpen ho H r q a ha;
      ⟨a', ⟨hl', Or.inr hn'⟩, hle⟩) h)⟩

/-- The side condition as DESIGN.md words it, `S r q ≥ (open + S r 0) + (open + S 0 q)`, does
    not make the restricted optimum the optimum: all letter pairs −10, gap letters −1,
    gap-open −4, `r = aa`, `q = cc`: the condition holds (−10 ≥ −10), `NWAffine` before the repair
    of K1 returned −20, the alignment `aa--` / `--cc` scores −12. -/
theorem design_side_condition_insufficient :
    ∃ (M : List (List Int)) (gapOpen : Int) (r q : List Nat) (ps : List Pair) (a : Aln),
      gapOpen ≤ 0 ∧
      (∀ x, x < 5 → ∀ y, y < 5 → 0 < x → 0 < y →
        (gapOpen + sc M x 0) + (gapOpen + sc M 0 y) ≤ sc M x y) ∧
      nwAlignNoCross (sc M) gapOpen r q = .ok ps ∧ IsGlobal a r q ∧ total ps < scoreAff (sc M) gapOpen a :=
  ⟨[[0, -1, -1, -1, -1], [-1, -10, -10, -10, -10], [-1, -10, -10, -10, -10], [-1, -10, -10, -10, -10],
     [-1, -10, -10, -10, -10]], -4, [1, 1], [2, 2],
    [⟨0, 2, 0, 2, -20⟩], [.u 1, .u 1, .l 2, .l 2],
    by decide, by decide, by decide +kernel, ⟨by decide, by decide⟩, by decide⟩

end Biogo.Properties.C08_aff
