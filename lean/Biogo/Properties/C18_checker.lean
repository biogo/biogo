/-
C18 — the integer predicates of `Spec/Quality.lean` that the driver evaluates on the
implementation's *own* outputs (`phredProbClose`, `solexaProbClose`, `Prob.le`, `phredNearest`,
`solexaNearest`, `phredToSolexaNearest`, `solexaToPhredNearest`) imply the statements the
property makes about real powers and logarithms (Mathlib's `Real.rpow`, `Real.logb`), for every
value they are applied to; `Properties/C18_real.lean` applies them to the regenerated tables.
No table is looked at here.  Imports Mathlib: nothing the driver imports may import this file.
-/
import Mathlib.Analysis.SpecialFunctions.Pow.Real
import Mathlib.Analysis.SpecialFunctions.Log.Base
import Biogo.Properties.C18

open Biogo.Quality Biogo.Quality.Spec

namespace Biogo.Properties.C18_checker

/-- the real number an exact value stands for -/
noncomputable def toReal (m k : ℕ) : ℝ := (m : ℝ) / 2 ^ k

theorem root10_pow (e : ℤ) : ((10 : ℝ) ^ ((e : ℝ) / 10)) ^ 10 = (10 : ℝ) ^ e := by
  rw [← Real.rpow_natCast, ← Real.rpow_mul (by norm_num)]
  have : (e : ℝ) / 10 * ((10 : ℕ) : ℝ) = (e : ℝ) := by push_cast; ring
  rw [this, Real.rpow_intCast]

theorem pow10_root (q : ℕ) : ((10 : ℝ) ^ (-(q : ℝ) / 10)) ^ 10 = 1 / (10 : ℝ) ^ q := by
  simpa [zpow_neg, one_div] using root10_pow (-(q : ℤ))

/-- integer 10th-power inequalities ⇒ bounds on the real 10th root of 10^-q -/
theorem root_bounds (lo hi den q : ℕ) (hden : 0 < den)
    (h1 : lo ^ 10 * 10 ^ q ≤ den ^ 10) (h2 : den ^ 10 ≤ hi ^ 10 * 10 ^ q) :
    (lo : ℝ) / den ≤ (10 : ℝ) ^ (-(q : ℝ) / 10) ∧ (10 : ℝ) ^ (-(q : ℝ) / 10) ≤ (hi : ℝ) / den := by
  have hd : (0 : ℝ) < den := by exact_mod_cast hden
  have hxpos : 0 < (10 : ℝ) ^ (-(q : ℝ) / 10) := Real.rpow_pos_of_pos (by norm_num) _
  have h1R : (lo : ℝ) ^ 10 * 10 ^ q ≤ (den : ℝ) ^ 10 := by exact_mod_cast h1
  have h2R : (den : ℝ) ^ 10 ≤ (hi : ℝ) ^ 10 * 10 ^ q := by exact_mod_cast h2
  constructor
  · apply le_of_pow_le_pow_left₀ (n := 10) (by norm_num) hxpos.le
    rw [pow10_root, div_pow, div_le_div_iff₀ (by positivity) (by positivity), one_mul]
    exact h1R
  · apply le_of_pow_le_pow_left₀ (n := 10) (by norm_num) (by positivity)
    rw [pow10_root, div_pow, div_le_div_iff₀ (by positivity) (by positivity), one_mul]
    exact h2R

/-- relative form: `T(1-1/d) ≤ x ≤ T(1+1/d)` ⇒ `|T - x| ≤ T/d` -/
theorem abs_of_bounds (m k d : ℕ) (hd : 0 < d) (x : ℝ)
    (hlo : ((m * (d - 1) : ℕ) : ℝ) / ((2 ^ k * d : ℕ) : ℝ) ≤ x)
    (hhi : x ≤ ((m * (d + 1) : ℕ) : ℝ) / ((2 ^ k * d : ℕ) : ℝ)) :
    |(m : ℝ) / 2 ^ k - x| ≤ (1 / (d : ℝ)) * ((m : ℝ) / 2 ^ k) := by
  have hdR : (d : ℝ) ≠ 0 := by exact_mod_cast hd.ne'
  rw [Nat.cast_mul, Nat.cast_mul, Nat.cast_pow, Nat.cast_ofNat, mul_div_mul_comm] at hlo hhi
  rw [Nat.cast_sub hd, Nat.cast_one, sub_div, div_self hdR] at hlo
  rw [Nat.cast_add, Nat.cast_one, add_div, div_self hdR] at hhi
  rw [abs_le]; constructor <;> linarith

/-- `pq`: a probability accepted as "`ProbE(q)` is `10^(-q/10)`" is within relative `2^-47` of
    the real power -/
theorem phredProbClose_real (q m k : ℕ) (h : phredProbClose q (.val m k) = true) :
    |toReal m k - (10 : ℝ) ^ (-(q : ℝ) / 10)| ≤ (1 / (2 : ℝ) ^ 47) * toReal m k := by
  unfold toReal
  simp only [phredProbClose, Bool.and_eq_true, decide_eq_true_eq] at h
  obtain ⟨h1, h2⟩ := h
  have hden : (2 : ℕ) ^ (10 * (k + 47)) = (2 ^ k * 2 ^ 47) ^ 10 := by
    rw [← pow_add, ← pow_mul, Nat.mul_comm]
  rw [hden] at h1 h2
  have hb := root_bounds (m * (2 ^ 47 - 1)) (m * (2 ^ 47 + 1)) (2 ^ k * 2 ^ 47) q (by positivity) h1 h2
  have := abs_of_bounds m k (2 ^ 47) (by positivity) _ hb.1 hb.2
  rwa [Nat.cast_pow, Nat.cast_ofNat] at this

/-- only exact values are accepted -/
theorem phredProbClose_val (q : ℕ) (p : Prob) (h : phredProbClose q p = true) : ∃ m k, p = .val m k := by
  cases p with
  | val m k => exact ⟨m, k, rfl⟩
  | nan => simp [phredProbClose] at h
  | bad => simp [phredProbClose] at h

theorem pow10Lt_real {e : ℤ} {a b : ℕ} (hb : (0 : ℝ) < b) (h : pow10Lt e a b = true) :
    (10 : ℝ) ^ e < (a : ℝ) / b := by
  cases e with
  | ofNat k =>
    simp [pow10Lt] at h
    rw [Int.ofNat_eq_natCast, zpow_natCast, lt_div_iff₀ hb]; exact_mod_cast h
  | negSucc k =>
    simp [pow10Lt] at h
    rw [zpow_negSucc, inv_eq_one_div, div_lt_div_iff₀ (by positivity) hb, one_mul]; exact_mod_cast h

theorem pow10Le_real {e : ℤ} {a b : ℕ} (hb : (0 : ℝ) < b) (h : pow10Le e a b = true) :
    (10 : ℝ) ^ e ≤ (a : ℝ) / b := by
  cases e with
  | ofNat k =>
    simp [pow10Le] at h
    rw [Int.ofNat_eq_natCast, zpow_natCast, le_div_iff₀ hb]; exact_mod_cast h
  | negSucc k =>
    simp [pow10Le] at h
    rw [zpow_negSucc, inv_eq_one_div, div_le_div_iff₀ (by positivity) hb, one_mul]; exact_mod_cast h

theorem lePow10_real {e : ℤ} {a b : ℕ} (hb : (0 : ℝ) < b) (h : lePow10 a b e = true) :
    (a : ℝ) / b ≤ (10 : ℝ) ^ e := by
  cases e with
  | ofNat k =>
    simp [lePow10] at h
    rw [Int.ofNat_eq_natCast, zpow_natCast, div_le_iff₀ hb]; exact_mod_cast h
  | negSucc k =>
    simp [lePow10] at h
    rw [zpow_negSucc, inv_eq_one_div, div_le_div_iff₀ hb (by positivity), one_mul]; exact_mod_cast h

/-- the fraction `solexaProbClose` compares with `10^qs` is the 10th power of the odds `(A-B)/B` -/
theorem cast_odds_pow {A B : ℕ} (h : B ≤ A) :
    (((A - B) ^ 10 : ℕ) : ℝ) / ((B ^ 10 : ℕ) : ℝ) = (((A : ℝ) - B) / B) ^ 10 := by
  rw [Nat.cast_pow, Nat.cast_pow, Nat.cast_sub h, div_pow]

/-- a probability `B/A` is at most `1/(1+x)` exactly when its odds against, `(A-B)/B`, are at least `x` -/
theorem le_odds_iff {A B x : ℝ} (hA : 0 < A) (hB : 0 < B) (hx : 0 < x) :
    x ≤ (A - B) / B ↔ B / A ≤ 1 / (1 + x) := by
  rw [le_div_iff₀ hB, div_le_div_iff₀ hA (by positivity), one_mul]
  constructor <;> intro h <;> linarith

theorem odds_le_iff {A B x : ℝ} (hA : 0 < A) (hB : 0 < B) (hx : 0 < x) :
    (A - B) / B ≤ x ↔ 1 / (1 + x) ≤ B / A := by
  rw [div_le_iff₀ hB, div_le_div_iff₀ (by positivity) hA, one_mul]
  constructor <;> intro h <;> linarith

/-- the integer inequalities of `solexaProbClose` bound `1/(1+10^(qs/10))` -/
theorem solexa_bridge (A Bp Bm : ℕ) (qs : ℤ) (hBm : 0 < Bm) (hlt : Bm < A) (hBp : 0 < Bp)
    (h1 : A ≤ Bp ∨ lePow10 ((A - Bp) ^ 10) (Bp ^ 10) qs = true)
    (h2 : pow10Le qs ((A - Bm) ^ 10) (Bm ^ 10) = true) :
    (Bm : ℝ) / A ≤ 1 / (1 + (10 : ℝ) ^ ((qs : ℝ) / 10)) ∧
    1 / (1 + (10 : ℝ) ^ ((qs : ℝ) / 10)) ≤ (Bp : ℝ) / A := by
  have hxpos : 0 < (10 : ℝ) ^ ((qs : ℝ) / 10) := Real.rpow_pos_of_pos (by norm_num) _
  have hBmR : (0 : ℝ) < Bm := by exact_mod_cast hBm
  have hBpR : (0 : ℝ) < Bp := by exact_mod_cast hBp
  have hAR : (0 : ℝ) < A := by exact_mod_cast (lt_trans hBm hlt)
  constructor
  · have h := pow10Le_real (by positivity) h2
    rw [cast_odds_pow hlt.le, ← root10_pow] at h
    have hnn : 0 ≤ ((A : ℝ) - Bm) / Bm :=
      div_nonneg (sub_nonneg.mpr (by exact_mod_cast hlt.le)) hBmR.le
    exact (le_odds_iff hAR hBmR hxpos).mp (le_of_pow_le_pow_left₀ (by norm_num) hnn h)
  · by_cases hAB : A ≤ Bp
    · -- the upper bound `Bp/A` is at least 1
      have : (A : ℝ) ≤ Bp := by exact_mod_cast hAB
      calc 1 / (1 + (10 : ℝ) ^ ((qs : ℝ) / 10)) ≤ 1 := by rw [div_le_one (by positivity)]; linarith
        _ ≤ (Bp : ℝ) / A := by rw [le_div_iff₀ hAR]; linarith
    · have h := lePow10_real (by positivity) (h1.resolve_left hAB)
      rw [cast_odds_pow (Nat.le_of_not_le hAB), ← root10_pow] at h
      exact (odds_le_iff hAR hBpR hxpos).mp (le_of_pow_le_pow_left₀ (by norm_num) hxpos.le h)

/-- `sq`: a probability accepted as "`ProbE(qs)` is `1/(1+10^(qs/10))`" is an exact value within
    relative `2^-47` of it -/
theorem solexaProbClose_real (qs : ℤ) (p : Prob) (h : solexaProbClose qs p = true) :
    ∃ m k, p = .val m k ∧
      |toReal m k - 1 / (1 + (10 : ℝ) ^ ((qs : ℝ) / 10))| ≤ (1 / (2 : ℝ) ^ 47) * toReal m k := by
  unfold toReal
  cases p with
  | nan => simp [solexaProbClose] at h
  | bad => simp [solexaProbClose] at h
  | val m k =>
    refine ⟨m, k, rfl, ?_⟩
    simp only [solexaProbClose, pow_add, Bool.and_eq_true, Bool.or_eq_true, decide_eq_true_eq,
      ne_eq] at h
    obtain ⟨⟨⟨hm, hlt⟩, hlo⟩, hhi⟩ := h
    have hmpos : 0 < m := Nat.pos_of_ne_zero hm
    have hb := solexa_bridge (2 ^ k * 2 ^ 47) (m * (2 ^ 47 + 1)) (m * (2 ^ 47 - 1)) qs
      (Nat.mul_pos hmpos (by decide)) hlt (Nat.mul_pos hmpos (by decide)) hlo hhi
    have := abs_of_bounds m k (2 ^ 47) (by positivity) _ hb.1 hb.2
    rwa [Nat.cast_pow, Nat.cast_ofNat] at this

/-- the antitone clause: `Prob.le` is `≤` of the real values -/
theorem probLe_real (p₁ p₂ : Prob) (h : Prob.le p₁ p₂ = true) :
    ∃ m₁ k₁ m₂ k₂, p₁ = .val m₁ k₁ ∧ p₂ = .val m₂ k₂ ∧ toReal m₁ k₁ ≤ toReal m₂ k₂ := by
  cases p₁ <;> cases p₂ <;> simp only [Prob.le, decide_eq_true_eq, Bool.false_eq_true] at h
  rename_i m₁ k₁ m₂ k₂
  refine ⟨m₁, k₁, m₂, k₂, rfl, rfl, ?_⟩
  unfold toReal
  rw [div_le_div_iff₀ (by positivity) (by positivity)]
  exact_mod_cast h

noncomputable def t : ℝ := (10 : ℝ) ^ ((1 : ℝ) / 20)

theorem t_pos : 0 < t := Real.rpow_pos_of_pos (by norm_num) _

theorem t_pow20 : t ^ 20 = 10 := by
  unfold t
  rw [← Real.rpow_natCast, ← Real.rpow_mul (by norm_num)]
  norm_num

theorem t_zpow (n : ℤ) : t ^ n = (10 : ℝ) ^ ((n : ℝ) / 20) := by
  unfold t
  rw [← Real.rpow_intCast, ← Real.rpow_mul (by norm_num)]
  congr 1; ring

theorem t_zpow_two (n : ℤ) : t ^ (2 * n) = (10 : ℝ) ^ ((n : ℝ) / 10) := by
  rw [t_zpow]; congr 1; push_cast; ring

noncomputable def fr (x : ℕ × ℕ) : ℝ := (x.1 : ℝ) / (x.2 : ℝ)

theorem tDen_pos : (0 : ℝ) < (tDen : ℝ) := by norm_num [tDen]
theorem tLo_pos : (0 : ℝ) < (tLo : ℝ) := by norm_num [tLo]
theorem tHi_pos : (0 : ℝ) < (tHi : ℝ) := by norm_num [tHi]

theorem lo_lt_t : (tLo : ℝ) / tDen < t := by
  have h := Biogo.Properties.C18.enclosure_ok.1
  have := tDen_pos
  apply lt_of_pow_lt_pow_left₀ 20 t_pos.le
  rw [t_pow20, div_pow, div_lt_iff₀ (by positivity)]
  exact_mod_cast h

theorem t_lt_hi : t < (tHi : ℝ) / tDen := by
  have h := Biogo.Properties.C18.enclosure_ok.2
  have := tDen_pos
  apply lt_of_pow_lt_pow_left₀ 20 (by positivity)
  rw [t_pow20, div_pow, lt_div_iff₀ (by positivity)]
  exact_mod_cast h

/-- `tPowLo n` and `tPowHi n` enclose `t^n`: powers of the enclosure of `t` for `n ≥ 0`, of the
    inverted enclosure of `1/t` for `n < 0` -/
theorem tPow_bounds (n : ℤ) : fr (tPowLo n) ≤ t ^ n ∧ t ^ n ≤ fr (tPowHi n) := by
  have := tLo_pos; have := tHi_pos; have := tDen_pos; have := t_pos
  cases n with
  | ofNat k =>
    simp only [tPowLo, tPowHi, fr, Int.ofNat_eq_natCast, ge_iff_le, Int.natCast_nonneg, if_true,
      Int.toNat_natCast, Nat.cast_pow, zpow_natCast, ← div_pow]
    exact ⟨pow_le_pow_left₀ (by positivity) lo_lt_t.le k, pow_le_pow_left₀ t_pos.le t_lt_hi.le k⟩
  | negSucc k =>
    have hneg : ¬ Int.negSucc k ≥ 0 := by omega
    simp only [tPowLo, tPowHi, fr, hneg, if_false, Int.neg_negSucc, Int.toNat_natCast,
      Nat.cast_pow, zpow_negSucc, ← div_pow, ← inv_pow]
    refine ⟨pow_le_pow_left₀ (by positivity) ?_ _, pow_le_pow_left₀ (by positivity) ?_ _⟩
    · rw [← inv_div]; exact inv_anti₀ t_pos t_lt_hi.le
    · rw [← inv_div]; exact inv_anti₀ (by positivity) lo_lt_t.le

theorem tPowLo_den_pos (n : ℤ) : (0 : ℝ) < ((tPowLo n).2 : ℝ) := by
  unfold tPowLo; split <;> exact_mod_cast Nat.pow_pos (by decide)
theorem tPowHi_den_pos (n : ℤ) : (0 : ℝ) < ((tPowHi n).2 : ℝ) := by
  unfold tPowHi; split <;> exact_mod_cast Nat.pow_pos (by decide)

/-- `t^a + 1 ≤ t^b`, from the comparison of an upper bound of `t^a` with a lower bound of `t^b` -/
theorem tpow_succ_le {a b : ℤ} (h : fracSuccLe (tPowHi a) (tPowLo b) = true) : t ^ a + 1 ≤ t ^ b := by
  have hx := tPowHi_den_pos a
  have hy := tPowLo_den_pos b
  simp only [fracSuccLe, decide_eq_true_eq] at h
  have hR : (((tPowHi a).1 : ℝ) + (tPowHi a).2) * (tPowLo b).2 ≤ (tPowLo b).1 * (tPowHi a).2 := by
    exact_mod_cast h
  have : fr (tPowHi a) + 1 ≤ fr (tPowLo b) := by
    unfold fr; rw [div_add_one hx.ne', div_le_div_iff₀ hx hy]; exact hR
  linarith [(tPow_bounds a).2, (tPow_bounds b).1]

/-- `t^a ≤ t^b + 1`, likewise -/
theorem tpow_le_succ {a b : ℤ} (h : fracLeSucc (tPowHi a) (tPowLo b) = true) : t ^ a ≤ t ^ b + 1 := by
  have hx := tPowHi_den_pos a
  have hy := tPowLo_den_pos b
  simp only [fracLeSucc, decide_eq_true_eq] at h
  have hR : ((tPowHi a).1 : ℝ) * (tPowLo b).2 ≤ (((tPowLo b).1 : ℝ) + (tPowLo b).2) * (tPowHi a).2 := by
    exact_mod_cast h
  have : fr (tPowHi a) ≤ fr (tPowLo b) + 1 := by
    unfold fr; rw [div_add_one hy.ne', div_le_div_iff₀ hx hy]; exact hR
  linarith [(tPow_bounds a).2, (tPow_bounds b).1]

/-- `10^(a/20) ≤ v ≤ 10^(b/20)` puts `10·log10 v` between `a/2` and `b/2` -/
theorem logb_bounds {v : ℝ} {a b : ℤ} (h1 : (10 : ℝ) ^ ((a : ℝ) / 20) ≤ v)
    (h2 : v ≤ (10 : ℝ) ^ ((b : ℝ) / 20)) :
    (a : ℝ) / 2 ≤ 10 * Real.logb 10 v ∧ 10 * Real.logb 10 v ≤ (b : ℝ) / 2 := by
  have hp (e : ℝ) : (0 : ℝ) < (10 : ℝ) ^ e := Real.rpow_pos_of_pos (by norm_num) _
  have l1 := Real.logb_le_logb_of_le (b := 10) (by norm_num) (hp _) h1
  have l2 := Real.logb_le_logb_of_le (b := 10) (by norm_num) (lt_of_lt_of_le (hp _) h1) h2
  rw [Real.logb_rpow (by norm_num) (by norm_num)] at l1 l2
  constructor <;> linarith

/-- |10·log10 v − n| ≤ 1/2 from `10^((2n-1)/20) ≤ v ≤ 10^((2n+1)/20)` -/
theorem log_nearest {v : ℝ} {n : ℤ} (h1 : (10 : ℝ) ^ (((2 * n - 1 : ℤ) : ℝ) / 20) ≤ v)
    (h2 : v ≤ (10 : ℝ) ^ (((2 * n + 1 : ℤ) : ℝ) / 20)) :
    |10 * Real.logb 10 v - n| ≤ 1 / 2 := by
  obtain ⟨l1, l2⟩ := logb_bounds h1 h2
  push_cast at l1 l2
  rw [abs_le]; constructor <;> linarith

/-- `pq`: a Solexa score accepted as "the nearest to the analytic value of Phred `q`" is within
    1/2 of `10·log10(10^(q/10) − 1)` -/
theorem phredToSolexaNearest_real (q : ℕ) (qs : ℤ) (h : phredToSolexaNearest q qs = true) :
    |10 * Real.logb 10 ((10 : ℝ) ^ ((q : ℝ) / 10) - 1) - (qs : ℝ)| ≤ 1 / 2 := by
  simp only [phredToSolexaNearest, Bool.and_eq_true] at h
  have a := tpow_succ_le h.1
  have b := tpow_le_succ h.2
  rw [t_zpow_two, t_zpow, Int.cast_natCast] at a b
  apply log_nearest (n := qs) <;> linarith

/-- `sq`: a Phred score accepted as "the nearest to the analytic value of Solexa `qs`" is within
    1/2 of `10·log10(10^(qs/10) + 1)` -/
theorem solexaToPhredNearest_real (qs : ℤ) (q : ℕ) (h : solexaToPhredNearest qs q = true) :
    |10 * Real.logb 10 ((10 : ℝ) ^ ((qs : ℝ) / 10) + 1) - ((q : ℤ) : ℝ)| ≤ 1 / 2 := by
  simp only [solexaToPhredNearest, Bool.and_eq_true] at h
  have a := tpow_le_succ h.1
  have b := tpow_succ_le h.2
  rw [t_zpow_two, t_zpow] at a b
  apply log_nearest (n := (q : ℤ)) <;> linarith

theorem root20_pow (e : ℤ) : ((10 : ℝ) ^ ((e : ℝ) / 20)) ^ 20 = (10 : ℝ) ^ e := by
  rw [← t_zpow, ← zpow_natCast, ← zpow_mul, mul_comm, zpow_mul, zpow_natCast, t_pow20]

/-- `10^-(2q+1) ≤ T^20 ≤ 10^-(2q-1)` puts `−10·log10 T` within 1/2 of `q` -/
theorem logb_nearest {T : ℝ} {q : ℤ} (hT : 0 < T) (h1 : (10 : ℝ) ^ (-(2 * q + 1)) ≤ T ^ 20)
    (h2 : T ^ 20 ≤ (10 : ℝ) ^ (-(2 * q - 1))) : |10 * Real.logb 10 T + q| ≤ 1 / 2 := by
  rw [← root20_pow] at h1 h2
  obtain ⟨l1, l2⟩ := logb_bounds
    (le_of_pow_le_pow_left₀ (n := 20) (by norm_num) hT.le h1)
    (le_of_pow_le_pow_left₀ (n := 20) (by norm_num) (Real.rpow_pos_of_pos (by norm_num) _).le h2)
  push_cast at l1 l2
  rw [abs_le]; constructor <;> linarith

/-- `ep` (exact branch): a score below the cap accepted as "nearest" for a positive probability
    `p = m/2^k` has `−10·log10 p` within 1/2 of it; 0 goes to 254 and NaN to 255 -/
theorem phredNearest_real (m k q : ℕ) (hm : m ≠ 0) (hq : q < 254)
    (hn : phredNearest (.val m k) q = true) :
    |10 * Real.logb 10 (toReal m k) + q| ≤ 1 / 2 := by
  unfold toReal
  obtain ⟨m', rfl⟩ : ∃ m', m = m' + 1 := ⟨m - 1, by omega⟩
  simp only [phredNearest, Bool.and_eq_true, Bool.or_eq_true, decide_eq_true_eq, beq_iff_eq] at hn
  obtain ⟨⟨_, hlo⟩, hhi⟩ := hn
  have hlo := hlo.resolve_left (by omega)
  have hb : (0 : ℝ) < ((2 ^ (20 * k) : ℕ) : ℝ) := by positivity
  have hT : (0 : ℝ) < ((m' + 1 : ℕ) : ℝ) / 2 ^ k := by positivity
  have e20 : (((m' + 1) ^ 20 : ℕ) : ℝ) / ((2 ^ (20 * k) : ℕ) : ℝ) = (((m' + 1 : ℕ) : ℝ) / 2 ^ k) ^ 20 := by
    push_cast; rw [div_pow, ← pow_mul, mul_comm]
  have l1 := pow10Lt_real hb hlo
  have l2 := lePow10_real hb hhi
  rw [e20] at l1 l2
  exact_mod_cast logb_nearest hT l1.le l2

theorem phredNearest_special (q : ℕ) :
    (phredNearest .nan q = true ↔ q = 255) ∧ (∀ k, phredNearest (.val 0 k) q = true ↔ q = 254) ∧
    phredNearest .bad q = false := by
  simp [phredNearest]

/-- `es` (exact branch): a score strictly inside the range accepted as "nearest" for a probability
    `0 < p < 1` has `−10·log10 (p/(1−p))` within 1/2 of it -/
theorem solexaNearest_real (m k : ℕ) (qs : ℤ) (hm : m ≠ 0) (hq1 : -126 ≤ qs) (hq2 : qs ≤ 126)
    (h : solexaNearest (.val m k) qs = true) :
    m < 2 ^ k ∧ |10 * Real.logb 10 ((m : ℝ) / ((2 ^ k - m : ℕ) : ℝ)) + (qs : ℝ)| ≤ 1 / 2 := by
  obtain ⟨m', rfl⟩ : ∃ m', m = m' + 1 := ⟨m - 1, by omega⟩
  simp only [solexaNearest] at h
  split at h
  · simp only [beq_iff_eq] at h; omega
  · rename_i hlt
    have hlt : m' + 1 < 2 ^ k := Nat.lt_of_not_le hlt
    refine ⟨hlt, ?_⟩
    simp only [oddsNearest, Bool.and_eq_true, Bool.or_eq_true, decide_eq_true_eq, beq_iff_eq] at h
    obtain ⟨⟨_, hlo⟩, hhi⟩ := h
    have hlo := hlo.resolve_left (by omega)
    have hhi := hhi.resolve_left (by omega)
    generalize hb : 2 ^ k - (m' + 1) = b at hlo hhi ⊢
    have hbpos : 0 < b := by omega
    have hbR : (0 : ℝ) < ((b ^ 20 : ℕ) : ℝ) := by positivity
    have hr : (0 : ℝ) < ((m' + 1 : ℕ) : ℝ) / (b : ℝ) := by positivity
    have e20 : (((m' + 1) ^ 20 : ℕ) : ℝ) / ((b ^ 20 : ℕ) : ℝ) = (((m' + 1 : ℕ) : ℝ) / (b : ℝ)) ^ 20 := by
      push_cast; rw [div_pow]
    have l1 := pow10Le_real hbR hlo
    have l2 := lePow10_real hbR hhi
    rw [e20] at l1 l2
    exact logb_nearest hr l1 l2

/-- the tolerance the float function `Ephred` gets: the exact statement for `p`, or for `p` moved
    by the factor `1 ± 2^-40` (what `Prob.nudge` is, over the reals, `nudge_real`).  The tolerance
    of `Esolexa`, `solexaNearestTol`, moves the odds instead and has no theorem here. -/
theorem phredNearestTol_cases (p : Prob) (q : ℕ) (h : phredNearestTol p q = true) :
    phredNearest p q = true ∨ phredNearest (p.nudge true) q = true ∨ phredNearest (p.nudge false) q = true := by
  simpa [phredNearestTol, or_assoc] using h

theorem nudge_real (up : Bool) (m k : ℕ) :
    ∃ m' k', (Prob.val m k).nudge up = .val m' k' ∧
      toReal m' k' = toReal m k * (if up then 1 + 1 / (2 : ℝ) ^ 40 else 1 - 1 / (2 : ℝ) ^ 40) := by
  unfold toReal
  cases up
  · refine ⟨m * (2 ^ 40 - 1), k + 40, rfl, ?_⟩
    have : ((2 ^ 40 - 1 : ℕ) : ℝ) = (2 : ℝ) ^ 40 - 1 := by norm_num
    rw [Nat.cast_mul, this, pow_add]
    simp only [Bool.false_eq_true, if_false]
    field_simp
  · refine ⟨m * (2 ^ 40 + 1), k + 40, rfl, ?_⟩
    have : ((2 ^ 40 + 1 : ℕ) : ℝ) = (2 : ℝ) ^ 40 + 1 := by norm_num
    rw [Nat.cast_mul, this, pow_add]
    simp only [if_true]
    field_simp

end Biogo.Properties.C18_checker
