/-
C04 (part feat) — BED and GFF inputs yield the same features with CRLF or LF and whether or
not the last line ends in a newline, "so the final record of a file is never silently
dropped".  The theorems are about `Biogo.Bed.readAll` / `Biogo.Gff.readAll`,
the functions the driver runs, and hold for every byte string (valid file or not).
-/
import Biogo.Model.Bed
import Biogo.Model.Gff
import Biogo.Proofs.FeatTrim

namespace Biogo.Properties.C04_feat
open Biogo.BytesFeat

/-- BED, every column count: CRLF instead of LF terminators changes nothing. -/
theorem bed_read_crlf (n : Nat) (bs : Bytes) : Bed.readAll n (crlf bs) = Bed.readAll n bs := by
  unfold Bed.readAll Bed.trimmedLines
  rw [map_trimSpace_lines_crlf]

/-- BED, every column count: a file whose last line lacks the final newline reads exactly as
    the same file with the newline added — the last record is not dropped. -/
theorem bed_read_no_final_newline (n : Nat) (x : Bytes) (hx : x ≠ []) (hlast : x.getLast hx ≠ 10) :
    Bed.readAll n x = Bed.readAll n (x ++ [10]) := by
  unfold Bed.readAll Bed.trimmedLines
  rw [map_trimSpace_lines_append_nl x hx hlast]

/-- GFF (feature lines, metadata lines, inline sequences), any float/date parser: CRLF instead
    of LF terminators changes nothing — neither the calls nor the reader's metadata. -/
theorem gff_read_crlf (o : Gff.Oracles) (bs : Bytes) : Gff.readAll o (crlf bs) = Gff.readAll o bs := by
  unfold Gff.readAll Gff.trimmedLines
  rw [map_trimSpace_lines_crlf]

/-- GFF incl. inline sequences (`##DNA id … ##end-DNA`): a missing final newline changes nothing. -/
theorem gff_read_no_final_newline (o : Gff.Oracles) (x : Bytes) (hx : x ≠ []) (hlast : x.getLast hx ≠ 10) :
    Gff.readAll o x = Gff.readAll o (x ++ [10]) := by
  unfold Gff.readAll Gff.trimmedLines
  rw [map_trimSpace_lines_append_nl x hx hlast]

/-- both at once: CRLF terminators and no final terminator -/
theorem bed_read_crlf_no_final_newline (n : Nat) (x : Bytes) (hx : x ≠ []) (hlast : x.getLast hx ≠ 10) :
    Bed.readAll n (crlf x) = Bed.readAll n (x ++ [10]) := by
  rw [bed_read_crlf, bed_read_no_final_newline n x hx hlast]

theorem gff_read_crlf_no_final_newline (o : Gff.Oracles) (x : Bytes) (hx : x ≠ []) (hlast : x.getLast hx ≠ 10) :
    Gff.readAll o (crlf x) = Gff.readAll o (x ++ [10]) := by
  rw [gff_read_crlf, gff_read_no_final_newline o x hx hlast]

/-! non-vacuity and the witnesses of the defect repaired by F4: the unterminated last record is read -/

example : Bed.readAll 3 (ofString "chr1\t1\t10\nchr2\t5\t20") =
    [.record { width := 3, chrom := ofString "chr1", start := 1, stop := 10 },
     .record { width := 3, chrom := ofString "chr2", start := 5, stop := 20 }, .eof] := by decide +kernel

example : (Gff.readAll ⟨fun _ => none, fun _ => [], fun _ => false⟩ (ofString "##DNA x\n##acgt\n##end-DNA")).1 =
    [.item (.sequence (ofString "x") 0 (ofString "acgt")), .eof] := by decide +kernel

end Biogo.Properties.C04_feat
