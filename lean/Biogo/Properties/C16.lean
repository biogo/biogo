/-
C16 — Piles are exactly the overlap-connected components of the added features.

Property theorems about the piler model `Biogo.Model.Piler` (the definitions the driver runs),
for every Add history: no bound on the number of pairs, locations or coordinates.
Hypotheses: features are well formed (`start ≤ end`) and ids identify the `*Pair` objects.
`components_of_adds` asks only that entries with equal ids are equal; the other statements ask
for `Nodup` ids (every object added once; other entries may still carry the same keys, and are
refused).  Both are satisfiable (examples below).
-/
import Biogo.Proofs.PilesCheck
import Biogo.Drive.C16

namespace Biogo.Properties.C16
open Biogo.Piler Biogo.Spec.Piles Biogo.Proofs.Piler

/-- "merge: query, absorb all matches taking min start / max end, delete them, insert the union"
    preserves `Disjoint ∧ NonAbutting ∧ SortedByStart` (`Sep`: every stored interval ends strictly
    before the next one starts) together with the description of every stored interval by its
    members (`IvOK`: hull, end points attained, union of members, members chained). -/
theorem merge_preserves_invariant {fs fs' : Feats} {loc : Nat} {t : List Iv} {i : Nat} {k : Key}
    (wf' : WF fs') (sub : ∀ x ∈ fs, x ∈ fs') (hik : (i, k) ∈ fs') (hloc : k.loc = loc)
    (ht : (∀ a ∈ t, IvOK fs loc a) ∧ Sep t) :
    (∀ a ∈ mergeLoc t { s := k.s, e := k.e, imgs := [i] }, IvOK fs' loc a) ∧
      Sep (mergeLoc t { s := k.s, e := k.e, imgs := [i] }) :=
  mergeLoc_ok wf' (.single hik hloc) (TreeOK.mono sub ht)

def SamePair (y : PairIn) (a b : Key) : Prop := (y.a = a ∧ y.b = b) ∨ (y.a = b ∧ y.b = a)

/-- what the two lookups of `Piler.Add` in its `seen` map decide -/
def Seen (s : List (Key × Key)) (a b : Key) : Prop := (a, b) ∈ s ∨ (b, a) ∈ s

def featsOf (x : PairIn) : List (Nat × Key) := [(2 * x.id, x.a), (2 * x.id + 1, x.b)]

theorem mem_featsOf {x : PairIn} {i : Nat} {k : Key} :
    (i, k) ∈ featsOf x ↔ i = 2 * x.id ∧ k = x.a ∨ i = 2 * x.id + 1 ∧ k = x.b := by
  simp only [featsOf, List.mem_cons, Prod.mk.injEq, List.not_mem_nil, or_false]

theorem not_seen_nil {a b : Key} : ¬ Seen [] a b := by simp [Seen]

theorem Seen.symm {s : List (Key × Key)} {a b : Key} (h : Seen s a b) : Seen s b a := Or.symm h

theorem SamePair.seen {s : List (Key × Key)} {x : PairIn} {a b : Key} (h : SamePair x a b)
    (hs : Seen s x.a x.b) : Seen s a b := by
  rcases h with ⟨rfl, rfl⟩ | ⟨rfl, rfl⟩
  · exact hs
  · exact hs.symm

theorem SamePair.swap {x y : PairIn} (h : SamePair y x.a x.b) : SamePair x y.a y.b := by
  rcases h with ⟨c1, c2⟩ | ⟨c1, c2⟩
  · exact Or.inl ⟨c1.symm, c2.symm⟩
  · exact Or.inr ⟨c2.symm, c1.symm⟩

def NoDupPairs (xs : List PairIn) : Prop := xs.Pairwise fun x y => ¬ SamePair y x.a x.b

theorem seen_cons {s : List (Key × Key)} {x : PairIn} {a b : Key} :
    Seen ((x.a, x.b) :: s) a b ↔ SamePair x a b ∨ Seen s a b := by
  simp only [Seen, SamePair, List.mem_cons, Prod.mk.injEq, or_or_or_comm, @eq_comm _ a, @eq_comm _ b]

theorem seen_iff_contains {s : List (Key × Key)} {a b : Key} :
    Seen s a b ↔ (s.contains (a, b) || s.contains (b, a)) = true := by
  simp only [Seen, Bool.or_eq_true, List.contains_iff_mem]

theorem add_cases (p : Piler) (x : PairIn) :
    Seen p.seen x.a x.b ∧ p.add x = (p, false) ∨
    ¬ Seen p.seen x.a x.b ∧ (p.add x).2 = true ∧ (p.add x).1.seen = (x.a, x.b) :: p.seen ∧
      (p.add x).1.feats = p.feats ++ featsOf x := by
  rw [seen_iff_contains, Piler.add]
  split
  · exact Or.inl ⟨‹_›, rfl⟩
  · exact Or.inr ⟨‹_›, rfl, rfl, rfl⟩

theorem add_rejected_iff (p : Piler) (x : PairIn) : (p.add x).2 = false ↔ Seen p.seen x.a x.b := by
  rcases add_cases p x with ⟨h, e⟩ | ⟨h, e, _⟩ <;> simp [e, h]

theorem rejected_changes_nothing (p : Piler) (x : PairIn) (h : (p.add x).2 = false) :
    (p.add x).1 = p := by
  rcases add_cases p x with ⟨_, e⟩ | ⟨_, e, _⟩
  · rw [e]
  · rw [e] at h; cases h

theorem seen_add (p : Piler) (x : PairIn) (a b : Key) :
    Seen (p.add x).1.seen a b ↔ SamePair x a b ∨ Seen p.seen a b := by
  rcases add_cases p x with ⟨h, e⟩ | ⟨_, _, e, _⟩
  · rw [e]; exact ⟨Or.inr, fun h' => h'.elim (·.seen h) id⟩
  · rw [e, seen_cons]

theorem addAll_cons_fst (p : Piler) (x : PairIn) (xs : List PairIn) :
    (p.addAll (x :: xs)).1 = ((p.add x).1.addAll xs).1 := rfl

theorem addAll_cons_snd (p : Piler) (x : PairIn) (xs : List PairIn) :
    (p.addAll (x :: xs)).2 = (p.add x).2 :: ((p.add x).1.addAll xs).2 := rfl

theorem seen_addAll (p : Piler) (xs : List PairIn) (a b : Key) :
    Seen (p.addAll xs).1.seen a b ↔ Seen p.seen a b ∨ ∃ y ∈ xs, SamePair y a b := by
  induction xs generalizing p with
  | nil => simp [Piler.addAll]
  | cons x xs ih =>
    rw [addAll_cons_fst, ih, seen_add, or_assoc, or_left_comm]
    simp only [List.mem_cons, exists_eq_or_imp]

/-- **"Adding the same pair twice, in either orientation, is rejected"** — and nothing else is:
    after any history `pre`, `Add x` fails exactly when some earlier Add (accepted or not) had
    the same two keys in the same or the swapped order; a failed Add leaves the piler as it was
    (`rejected_changes_nothing`). -/
theorem duplicate_rejected (pre : List PairIn) (x : PairIn) :
    ((adds pre).add x).2 = false ↔ ∃ y ∈ pre, SamePair y x.a x.b := by
  rw [add_rejected_iff, adds, seen_addAll]
  exact or_iff_right not_seen_nil

example : ((adds [⟨0, ⟨0, 2, 4⟩, ⟨1, 7, 9⟩⟩]).add ⟨5, ⟨1, 7, 9⟩, ⟨0, 2, 4⟩⟩).2 = false := by decide

theorem addAll_feats (p : Piler) (xs : List PairIn) :
    ∃ acc : List PairIn, acc.Sublist xs ∧ NoDupPairs acc ∧ (∀ y ∈ acc, ¬ Seen p.seen y.a y.b) ∧
      (p.addAll xs).1.feats = p.feats ++ acc.flatMap featsOf := by
  induction xs generalizing p with
  | nil => exact ⟨[], .slnil, .nil, List.forall_mem_nil _, (List.append_nil _).symm⟩
  | cons x xs ih =>
    obtain ⟨acc, sub, nodup, fresh, e⟩ := ih (p.add x).1
    replace fresh : ∀ y ∈ acc, ¬ SamePair x y.a y.b ∧ ¬ Seen p.seen y.a y.b := fun y hy =>
      not_or.mp (mt (seen_add p x y.a y.b).mpr (fresh y hy))
    rw [addAll_cons_fst, e]
    rcases add_cases p x with ⟨_, h⟩ | ⟨hx, _, _, h⟩
    · exact ⟨acc, sub.cons x, nodup, fun y hy => (fresh y hy).2, by rw [h]⟩
    · exact ⟨x :: acc, sub.cons_cons x,
        List.pairwise_cons.mpr ⟨fun y hy c => (fresh y hy).1 c.swap, nodup⟩,
        List.forall_mem_cons.mpr ⟨hx, fun y hy => (fresh y hy).2⟩,
        by rw [h, List.flatMap_cons, List.append_assoc]⟩

theorem adds_feats (xs : List PairIn) :
    ∃ acc : List PairIn, acc.Sublist xs ∧ NoDupPairs acc ∧ (adds xs).feats = acc.flatMap featsOf :=
  let ⟨acc, sub, nodup, _, e⟩ := addAll_feats Piler.new xs
  ⟨acc, sub, nodup, e⟩

theorem featsOf_ids_nodup {l : List PairIn} (h : (l.map (·.id)).Nodup) :
    ((l.flatMap featsOf).map (·.1)).Nodup := by
  rw [List.map_flatMap]
  refine List.pairwise_flatMap.mpr ⟨fun x _ => ?_,
    (List.pairwise_map.mp h).imp fun {x y} hne a ha b hb => ?_⟩
  · simp [featsOf]
  · simp only [featsOf, List.map_cons, List.map_nil, List.mem_cons, List.not_mem_nil, or_false] at ha hb
    omega

/-- an object added again is refused, so the accepted entries are distinct objects -/
theorem feats_nodup_of_inj (xs : List PairIn) (inj : ∀ x ∈ xs, ∀ y ∈ xs, x.id = y.id → x = y) :
    ((adds xs).feats.map (·.1)).Nodup := by
  obtain ⟨acc, sub, nodup, e⟩ := adds_feats xs
  rw [e]
  refine featsOf_ids_nodup (List.pairwise_map.mpr (nodup.imp_of_mem fun hx hy h e => h ?_))
  rw [inj _ (sub.subset hx) _ (sub.subset hy) e]
  exact Or.inl ⟨rfl, rfl⟩

theorem feats_nodup (xs : List PairIn) (ndx : (xs.map (·.id)).Nodup) :
    ((adds xs).feats.map (·.1)).Nodup :=
  feats_nodup_of_inj xs fun _ hx _ hy => inj_of_nodup_map ndx hx hy

theorem piles_imgs (p : Piler) : (p.piles none).flatMap (·.imgs) = allImgs p := by
  simp only [Piler.piles, allImgs, List.flatMap_assoc, List.flatMap_map]

theorem components_of_inv {p : Piler} (inv : Inv p) (nd : (p.feats.map (·.1)).Nodup) :
    IsComponents p.feats (p.piles none) := by
  refine isComponents_of nd (piles_imgs p ▸ inv.imgs) ?_ fun q hq => ?_
  · refine List.pairwise_flatMap.mpr ⟨fun l _ => ?_, inv.nodup.imp ?_⟩
    · exact List.pairwise_map.mpr ((inv.trees l).2.imp fun h _ => Or.inl h)
    · intro l l' hne x hx y hy e
      obtain ⟨a, _, rfl⟩ := List.mem_map.mp hx
      obtain ⟨b, _, rfl⟩ := List.mem_map.mp hy
      exact absurd e hne
  · simp only [Piler.piles, List.mem_flatMap, List.mem_map] at hq
    obtain ⟨l, _, a, ha, rfl⟩ := hq
    exact (inv.trees l).1 a ha

/-- The component statement for every history in which the ids identify the `*Pair` objects:
    entries with the same id are the same entry, so one object may be added any number of times
    (every time but the first is refused and leaves the piler as it was). -/
theorem components_of_adds (xs : List PairIn) (wf : WFIn xs)
    (inj : ∀ x ∈ xs, ∀ y ∈ xs, x.id = y.id → x = y) :
    IsComponents (adds xs).feats ((adds xs).piles none) :=
  components_of_inv (addAll_inv new_inv xs wf) (feats_nodup_of_inj xs inj)

/-- **C16, main statement.**  For any history of Add calls (any order, any number of pairs and
    locations, duplicates included), the piles reported by `Piles(nil)` are pairwise disjoint
    per location, each pile's interval is the union of its members' intervals, two accepted
    features share a pile exactly when they are linked by a chain of overlapping or abutting
    features on the same location, and every accepted feature is in exactly one pile. -/
theorem piles_are_components (xs : List PairIn) (wf : WFIn xs) (nd : (xs.map (·.id)).Nodup) :
    IsComponents (adds xs).feats ((adds xs).piles none) :=
  components_of_adds xs wf fun _ hx _ hy => inj_of_nodup_map nd hx hy

/-- non-vacuity and a concrete instance: `[2,4)`, `[4,6)` abut and `[9,9)` stands alone -/
example : ((adds [⟨0, ⟨0, 2, 4⟩, ⟨0, 9, 9⟩⟩, ⟨1, ⟨0, 4, 6⟩, ⟨1, 0, 3⟩⟩]).piles none) =
    [⟨0, 2, 6, [2, 0]⟩, ⟨0, 9, 9, [1]⟩, ⟨1, 0, 3, [3]⟩] := by decide

/-- "every added feature appears in exactly one pile": the images of all piles, concatenated,
    are a duplicate-free rearrangement of the accepted feature ids -/
theorem every_feature_once (xs : List PairIn) (wf : WFIn xs) (nd : (xs.map (·.id)).Nodup) :
    (((adds xs).piles none).flatMap (·.imgs)).Perm ((adds xs).feats.map (·.1)) ∧
    (((adds xs).piles none).flatMap (·.imgs)).Nodup := by
  have h := (piles_are_components xs wf nd).once
  exact ⟨h, h.nodup_iff.mpr (feats_nodup xs nd)⟩

/-- the executable statement the driver evaluates on the implementation's piles is sound -/
theorem checker_sound {fs : Feats} {ps : List Pile} (h : checkPiles fs ps = true) :
    IsComponents fs ps := checkPiles_sound h

/-- "filters select images without changing pile intervals" -/
theorem filter_keeps_intervals (p : Piler) (f : Nat → Bool) :
    p.piles (some f) = (p.piles none).map fun q => { q with imgs := q.imgs.filter fun i => f (i / 2) } := by
  simp only [Piler.piles, List.map_flatMap, List.map_map]
  rfl

/-- "all pair filters on the Piles call", for a filter that inspects the piles its pair's images
    lie in (`p.A.Loc` / `p.B.Loc`): the result is `Piles(nil)` with an image kept iff the filter,
    evaluated on the FINAL piles (`locate` = the pile of `Piles(nil)` listing the image), accepts
    its pair; intervals unchanged.  The same on the first and on every later call (`pilesLoc` is
    a function of the state). -/
theorem loc_filter_on_final_piles (p : Piler) (g : LocFilter) :
    p.pilesLoc g = (p.piles none).map fun q =>
      { q with imgs := q.imgs.filter (fun i => g (i / 2) (p.locate (2 * (i / 2))) (p.locate (2 * (i / 2) + 1))) } := by
  unfold Piler.pilesLoc
  rw [filter_keeps_intervals]
  rfl

theorem feats_origin (xs : List PairIn) {y : Nat × Key} (h : y ∈ (adds xs).feats) :
    ∃ x ∈ xs, y ∈ featsOf x ∧ ∀ z ∈ featsOf x, z ∈ (adds xs).feats := by
  obtain ⟨acc, sub, _, e⟩ := adds_feats xs
  rw [e] at h ⊢
  obtain ⟨x, hx, hy⟩ := List.mem_flatMap.mp h
  exact ⟨x, sub.subset hx, hy, fun z hz => List.mem_flatMap.mpr ⟨x, hx, hz⟩⟩

/-- **"with its mate link intact"**: every feature in a pile belongs to an accepted pair whose
    other feature (id `2p` ↔ `2p+1`, the `Mate()`) is also an accepted feature, and both lie in
    a pile of the `Piles(nil)` result. -/
theorem mate_intact (xs : List PairIn) (wf : WFIn xs) (nd : (xs.map (·.id)).Nodup)
    (i : Nat) (k : Key) (h : (i, k) ∈ (adds xs).feats) :
    ∃ x ∈ xs, ((i = 2 * x.id ∧ k = x.a) ∨ (i = 2 * x.id + 1 ∧ k = x.b)) ∧
      (2 * x.id, x.a) ∈ (adds xs).feats ∧ (2 * x.id + 1, x.b) ∈ (adds xs).feats ∧
      (∃ q ∈ (adds xs).piles none, 2 * x.id ∈ q.imgs) ∧
      (∃ q ∈ (adds xs).piles none, 2 * x.id + 1 ∈ q.imgs) := by
  obtain ⟨x, hx, h1, h2⟩ := feats_origin xs h
  have once := (piles_are_components xs wf nd).once
  have ha := h2 _ (mem_featsOf.mpr (.inl ⟨rfl, rfl⟩))
  have hb := h2 _ (mem_featsOf.mpr (.inr ⟨rfl, rfl⟩))
  exact ⟨x, hx, mem_featsOf.mp h1, ha, hb, mem_pile_of_once once ha, mem_pile_of_once once hb⟩

theorem hull_sub {fs fs' : Feats} {ps ps' : List Pile} (h : IsComponents fs ps)
    (h' : IsComponents fs' ps') {p p' : Pile} (hp : p ∈ ps) (hp' : p' ∈ ps')
    (fwd : ∀ m km, m ∈ p.imgs → (m, km) ∈ fs → ∃ m', m' ∈ p'.imgs ∧ (m', km) ∈ fs') :
    p'.loc = p.loc ∧ p'.s ≤ p.s ∧ p.e ≤ p'.e := by
  obtain ⟨⟨i, k, hi, hk, ks⟩, ⟨j, kj, hj, hkj, ke⟩⟩ := h.ends p hp
  obtain ⟨i', hi', hk'⟩ := fwd i k hi hk
  obtain ⟨j', hj', hkj'⟩ := fwd j kj hj hkj
  have i1 := h.inside p hp i hi k hk
  have i2 := h'.inside p' hp' i' hi' k hk'
  have i3 := h'.inside p' hp' j' hj' kj hkj'
  exact ⟨i2.1.symm.trans i1.1, ks ▸ i2.2.1, ke ▸ i3.2.2⟩

theorem same_interval {fs fs' : Feats} {ps ps' : List Pile} (h : IsComponents fs ps)
    (h' : IsComponents fs' ps') {p p' : Pile} (hp : p ∈ ps) (hp' : p' ∈ ps')
    (fwd : ∀ m km, m ∈ p.imgs → (m, km) ∈ fs → ∃ m', m' ∈ p'.imgs ∧ (m', km) ∈ fs')
    (bwd : ∀ m km, m ∈ p'.imgs → (m, km) ∈ fs' → ∃ m', m' ∈ p.imgs ∧ (m', km) ∈ fs) :
    p'.loc = p.loc ∧ p'.s = p.s ∧ p'.e = p.e := by
  have a := hull_sub h h' hp hp' fwd
  have b := hull_sub h' h hp' hp bwd
  exact ⟨a.1, Int.le_antisymm a.2.1 b.2.1, Int.le_antisymm b.2.2 a.2.2⟩

theorem flatMap_unique {α β} {f : α → List β} {ps : List α} (h : (ps.flatMap f).Nodup) {p q : α}
    (hp : p ∈ ps) (hq : q ∈ ps) {i : β} (ip : i ∈ f p) (iq : i ∈ f q) : p = q := by
  rcases pairwise_trichotomy (List.pairwise_flatMap.mp h).2 hp hq with e | e | e
  · exact e
  · exact absurd rfl (e i ip i iq)
  · exact absurd rfl (e i iq i ip)

/-- chains carry over from `fs` to `fs'`, and a feature lies in one pile only -/
theorem members_transfer {fs fs' : Feats} {ps ps' : List Pile} (nd' : (fs'.map (·.1)).Nodup)
    (sub : ∀ y ∈ fs, y ∈ fs') (h : IsComponents fs ps) (h' : IsComponents fs' ps') {p p' : Pile}
    (hp : p ∈ ps) (hp' : p' ∈ ps') {i : Nat} (hi : i ∈ p.imgs) (hi' : i ∈ p'.imgs) {j : Nat}
    (hj : j ∈ p.imgs) : j ∈ p'.imgs := by
  obtain ⟨ki, hki⟩ := mem_feats_of_once h.once hp hi
  obtain ⟨kj, hkj⟩ := mem_feats_of_once h.once hp hj
  have l : Linked fs i j := (h.share_iff i j ki kj hki hkj).mp ⟨p, hp, hi, hj⟩
  obtain ⟨q, hq, a1, a2⟩ :=
    (h'.share_iff i j ki kj (sub _ hki) (sub _ hkj)).mpr (Linked.mono sub l)
  obtain rfl := flatMap_unique (h'.once.nodup_iff.mpr nd') hq hp' a1 hi'
  exact a2

/-- The statement determines the piles: two pile lists that both satisfy `IsComponents` for the
    same set of features have the same piles (location, interval, members). -/
theorem components_unique {fs fs' : Feats} {ps ps' : List Pile}
    (nd : (fs.map (·.1)).Nodup) (nd' : (fs'.map (·.1)).Nodup) (same : ∀ y, y ∈ fs ↔ y ∈ fs')
    (h : IsComponents fs ps) (h' : IsComponents fs' ps') :
    ∀ p ∈ ps, ∃ p' ∈ ps', p'.loc = p.loc ∧ p'.s = p.s ∧ p'.e = p.e ∧ p'.imgs.Perm p.imgs := by
  intro p hp
  obtain ⟨⟨i, k, hi, hk, _⟩, _⟩ := h.ends p hp
  obtain ⟨p', hp', hi'⟩ := mem_pile_of_once h'.once ((same _).mp hk)
  have fwd : ∀ j, j ∈ p.imgs → j ∈ p'.imgs := fun j =>
    members_transfer nd' (fun y => (same y).mp) h h' hp hp' hi hi'
  have bwd : ∀ j, j ∈ p'.imgs → j ∈ p.imgs := fun j =>
    members_transfer nd (fun y => (same y).mpr) h' h hp' hp hi' hi
  obtain ⟨e1, e2, e3⟩ := same_interval h h' hp hp'
    (fun m km hm hkm => ⟨m, fwd m hm, (same _).mp hkm⟩)
    (fun m km hm hkm => ⟨m, bwd m hm, (same _).mpr hkm⟩)
  refine ⟨p', hp', e1, e2, e3, ?_⟩
  exact (List.perm_ext_iff_of_nodup
    ((List.pairwise_flatMap.mp (h'.once.nodup_iff.mpr nd')).1 p' hp')
    ((List.pairwise_flatMap.mp (h.once.nodup_iff.mpr nd)).1 p hp)).mpr fun a => ⟨bwd a, fwd a⟩

theorem feats_all_accepted (p : Piler) (xs : List PairIn) (nodup : NoDupPairs xs)
    (fresh : ∀ x ∈ xs, ¬ Seen p.seen x.a x.b) :
    (p.addAll xs).1.feats = p.feats ++ xs.flatMap featsOf := by
  induction xs generalizing p with
  | nil => exact (List.append_nil _).symm
  | cons x xs ih =>
    have hp := List.pairwise_cons.mp nodup
    obtain ⟨_, _, _, ef⟩ := (add_cases p x).resolve_left fun c => fresh x (List.mem_cons_self ..) c.1
    rw [addAll_cons_fst, ih _ hp.2, ef, List.flatMap_cons, List.append_assoc]
    intro z hz
    rw [seen_add]
    rintro (c | c)
    · exact hp.1 z hz c.swap
    · exact fresh z (List.mem_cons_of_mem _ hz) c

theorem adds_all_accepted (xs : List PairIn) (nodup : NoDupPairs xs) :
    (adds xs).feats = xs.flatMap featsOf :=
  feats_all_accepted Piler.new xs nodup fun _ _ => not_seen_nil

/-- **Insertion order is irrelevant.**  Two histories that add the same set of pairs (no pair
    twice) in different orders report the same piles: for every pile of one there is a pile of
    the other on the same location with the same interval and the same members. -/
theorem insertion_order_irrelevant (xs ys : List PairIn) (perm : xs.Perm ys) (wf : WFIn xs)
    (nd : (xs.map (·.id)).Nodup) (nodup : NoDupPairs xs) :
    ∀ p ∈ (adds xs).piles none, ∃ p' ∈ (adds ys).piles none,
      p'.loc = p.loc ∧ p'.s = p.s ∧ p'.e = p.e ∧ p'.imgs.Perm p.imgs := by
  have wf' : WFIn ys := fun y hy => wf y (perm.mem_iff.mpr hy)
  have nd' : (ys.map (·.id)).Nodup := (perm.map _).nodup_iff.mp nd
  have nodup' : NoDupPairs ys := (List.Perm.pairwise_iff (fun h c => h c.swap) perm).mp nodup
  refine components_unique (feats_nodup xs nd) (feats_nodup ys nd') ?_
    (piles_are_components xs wf nd) (piles_are_components ys wf' nd')
  intro y
  rw [adds_all_accepted xs nodup, adds_all_accepted ys nodup']
  simp only [List.mem_flatMap, perm.mem_iff]

example : NoDupPairs [⟨0, ⟨0, 2, 4⟩, ⟨0, 9, 9⟩⟩, ⟨1, ⟨0, 4, 6⟩, ⟨1, 0, 3⟩⟩] ∧
    WFIn [⟨0, ⟨0, 2, 4⟩, ⟨0, 9, 9⟩⟩, ⟨1, ⟨0, 4, 6⟩, ⟨1, 0, 3⟩⟩] := by
  unfold NoDupPairs SamePair WFIn
  decide

def keysOf (fs : Feats) : Key → Prop := fun k => ∃ i, (i, k) ∈ fs

/-- a chain in `fs` is read as a chain of keys; two features of `fs'` with the same key touch -/
theorem Linked.transport {fs fs' : Feats} (uniq : Uniq fs) (wf' : WF fs')
    (sub : ∀ k, keysOf fs k → keysOf fs' k) {i j : Nat} (h : Linked fs i j) :
    ∀ ki kj i' j', (i, ki) ∈ fs → (j, kj) ∈ fs → (i', ki) ∈ fs' → (j', kj) ∈ fs' →
      Linked fs' i' j' := by
  induction h with
  | refl _ =>
    intro ki kj i' j' h1 h2 h1' h2'
    rw [uniq _ _ _ h2 h1] at h2'
    have w := wf' _ h1'
    exact Linked.of_touch ⟨_, _, h1', h2', touches_iff.mpr ⟨rfl, w, w⟩⟩
  | tail _ t ih =>
    intro ki kl i' l' h1 h2 h1' h2'
    obtain ⟨kj, kl', hj, hl, tt⟩ := t
    rw [uniq _ _ _ h2 hl] at h2'
    obtain ⟨j', hj'⟩ := sub kj ⟨_, hj⟩
    exact (ih ki kj i' j' h1 hj h1' hj').tail ⟨_, _, hj', h2', tt⟩

theorem keys_transfer {fs fs' : Feats} {ps ps' : List Pile} (nd : (fs.map (·.1)).Nodup)
    (nd' : (fs'.map (·.1)).Nodup) (wf' : WF fs') (sub : ∀ k, keysOf fs k → keysOf fs' k)
    (h : IsComponents fs ps) (h' : IsComponents fs' ps') {p p' : Pile} (hp : p ∈ ps)
    (hp' : p' ∈ ps') {i i' : Nat} {k : Key} (hi : i ∈ p.imgs) (hk : (i, k) ∈ fs)
    (hi' : i' ∈ p'.imgs) (hk' : (i', k) ∈ fs') (m : Nat) (km : Key) (hm : m ∈ p.imgs)
    (hkm : (m, km) ∈ fs) : ∃ m', m' ∈ p'.imgs ∧ (m', km) ∈ fs' := by
  have l : Linked fs i m := (h.share_iff i m k km hk hkm).mp ⟨p, hp, hi, hm⟩
  obtain ⟨m', hm'⟩ := sub km ⟨m, hkm⟩
  obtain ⟨q, hq, q1, q2⟩ := (h'.share_iff i' m' k km hk' hm').mpr
    (Linked.transport (uniq_of_nodup nd) wf' sub l k km i' m' hk hkm hk' hm')
  obtain rfl := flatMap_unique (h'.once.nodup_iff.mpr nd') hq hp' q1 hi'
  exact ⟨m', q2, hm'⟩

/-- Two pile lists satisfying the statement for feature tables with the same *keys* (ids and
    multiplicities may differ) have the same pile intervals. -/
theorem intervals_unique {fs fs' : Feats} {ps ps' : List Pile}
    (nd : (fs.map (·.1)).Nodup) (nd' : (fs'.map (·.1)).Nodup) (wf : WF fs) (wf' : WF fs')
    (same : ∀ k, keysOf fs k ↔ keysOf fs' k)
    (h : IsComponents fs ps) (h' : IsComponents fs' ps') :
    ∀ p ∈ ps, ∃ p' ∈ ps', p'.loc = p.loc ∧ p'.s = p.s ∧ p'.e = p.e := by
  intro p hp
  obtain ⟨⟨i, k, hi, hk, _⟩, _⟩ := h.ends p hp
  obtain ⟨i', hk'⟩ := (same k).mp ⟨i, hk⟩
  obtain ⟨p', hp', hi'⟩ := mem_pile_of_once h'.once hk'
  exact ⟨p', hp', same_interval h h' hp hp'
    (keys_transfer nd nd' wf' (fun k => (same k).mp) h h' hp hp' hi hk hi' hk')
    (keys_transfer nd' nd wf (fun k => (same k).mpr) h' h hp' hp hi' hk' hi hk)⟩

/-- both keys of every pair seen are keys of accepted features: of the first pair that
    carried them -/
theorem seen_keys (p : Piler) (xs : List PairIn)
    (h : ∀ a b, Seen p.seen a b → keysOf p.feats a ∧ keysOf p.feats b) :
    ∀ a b, Seen (p.addAll xs).1.seen a b →
      keysOf (p.addAll xs).1.feats a ∧ keysOf (p.addAll xs).1.feats b := by
  induction xs generalizing p with
  | nil => exact h
  | cons x xs ih =>
    rw [addAll_cons_fst]
    refine ih _ fun a b hab => ?_
    rcases add_cases p x with ⟨_, e⟩ | ⟨_, _, es, ef⟩
    · rw [e] at hab ⊢; exact h a b hab
    · rw [es, seen_cons] at hab
      rw [ef]
      have ka : keysOf (p.feats ++ featsOf x) x.a :=
        ⟨_, List.mem_append_right _ (mem_featsOf.mpr (.inl ⟨rfl, rfl⟩))⟩
      have kb : keysOf (p.feats ++ featsOf x) x.b :=
        ⟨_, List.mem_append_right _ (mem_featsOf.mpr (.inr ⟨rfl, rfl⟩))⟩
      rcases hab with (⟨rfl, rfl⟩ | ⟨rfl, rfl⟩) | hab
      · exact ⟨ka, kb⟩
      · exact ⟨kb, ka⟩
      · exact (h a b hab).imp (fun ⟨i, hi⟩ => ⟨i, List.mem_append_left _ hi⟩)
          (fun ⟨i, hi⟩ => ⟨i, List.mem_append_left _ hi⟩)

theorem keys_of_history (xs : List PairIn) (k : Key) :
    keysOf (adds xs).feats k ↔ ∃ x ∈ xs, k = x.a ∨ k = x.b := by
  constructor
  · rintro ⟨i, hi⟩
    obtain ⟨x, hx, h, _⟩ := feats_origin xs hi
    exact ⟨x, hx, (mem_featsOf.mp h).imp (·.2) (·.2)⟩
  · rintro ⟨x, hx, hk⟩
    have := seen_keys Piler.new xs (fun _ _ h => (not_seen_nil h).elim) x.a x.b
      ((seen_addAll ..).mpr (Or.inr ⟨x, hx, Or.inl ⟨rfl, rfl⟩⟩))
    rcases hk with rfl | rfl
    · exact this.1
    · exact this.2

/-- **Insertion order is irrelevant for the pile intervals even with duplicate pairs**: any two
    histories that are permutations of each other (duplicates, in either orientation, included)
    report the same pile intervals on every location. -/
theorem insertion_order_irrelevant_intervals (xs ys : List PairIn) (perm : xs.Perm ys) (wf : WFIn xs)
    (nd : (xs.map (·.id)).Nodup) :
    ∀ p ∈ (adds xs).piles none, ∃ p' ∈ (adds ys).piles none,
      p'.loc = p.loc ∧ p'.s = p.s ∧ p'.e = p.e := by
  have wf' : WFIn ys := fun y hy => wf y (perm.mem_iff.mpr hy)
  have nd' : (ys.map (·.id)).Nodup := (perm.map _).nodup_iff.mp nd
  refine intervals_unique (feats_nodup xs nd) (feats_nodup ys nd')
    (addAll_inv new_inv xs wf).wf (addAll_inv new_inv ys wf').wf ?_
    (piles_are_components xs wf nd) (piles_are_components ys wf' nd')
  intro k
  simp only [keys_of_history, perm.mem_iff]

open Biogo.Drive.C16 in
/-- `expectAdds` / `specFeats` (what the driver demands of the implementation's Add results and
    uses as the accepted features) are exactly the model's Add results and feature table;
    `earlier` lists every pair, `p.seen` the accepted ones only, and they decide alike. -/
theorem addAll_expect (p : Piler) (earlier : List (Key × Key)) (xs : List PairIn)
    (hinv : ∀ a b, Seen p.seen a b ↔ Seen earlier a b) :
    (p.addAll xs).2 = expectAdds xs earlier ∧
    (p.addAll xs).1.feats = p.feats ++ specFeats xs (expectAdds xs earlier) := by
  induction xs generalizing p earlier with
  | nil => exact ⟨rfl, (List.append_nil _).symm⟩
  | cons x xs ih =>
    obtain ⟨r1, r2⟩ := ih (p.add x).1 ((x.a, x.b) :: earlier) fun a b => by
      rw [seen_add, seen_cons, hinv]
    rw [addAll_cons_fst, addAll_cons_snd, r1, r2]
    simp only [expectAdds, specFeats, List.zip_cons_cons, List.flatMap_cons]
    rcases add_cases p x with ⟨h, e⟩ | ⟨h, ok, _, ef⟩
    · rw [e, seen_iff_contains.mp ((hinv ..).mp h)]
      exact ⟨rfl, rfl⟩
    · rw [ok, ef, (Bool.not_eq_true _).mp (mt (fun c => (hinv ..).mpr (seen_iff_contains.mpr c)) h),
        List.append_assoc]
      exact ⟨rfl, rfl⟩

open Biogo.Drive.C16 in
theorem adds_expect (xs : List PairIn) :
    (Piler.new.addAll xs).2 = expectAdds xs [] ∧ (adds xs).feats = specFeats xs (expectAdds xs []) := by
  simpa [adds, Piler.new] using addAll_expect Piler.new [] xs fun _ _ => Iff.rfl

end Biogo.Properties.C16
