/-
C15 — **source-shape facts** (advisory; not obligations of the property).

Fingerprints (sha256 of the printed AST) of the functions of `align/pals/dp` and
`align/pals/filter/merge.go`, `trapezoid.go` that the models `Biogo.PalsKernel`, `Biogo.PalsMerge`
and the acceptance / suppression logic transcribe.  A fingerprint changes with *any* edit of the
function, also one that changes nothing observable (a renamed local, an extracted helper, a
hoisted bound), and nothing in the models or the property theorems depends on it: the models are
tied to the code hit by hit and trapezoid by trapezoid by the correspondence.  Such
behaviour-preserving rewrites make them fail on code for which the property holds, so they are
`advisory_targets`, not obligations: when one does not check, `check` widens the generation, runs
the deep search and records the change in the evidence, and reports a violation only for a failing
input or a model/implementation disagreement.
-/
import Biogo.Generated.PalsConsts
import Biogo.Generated.PalsMergeFacts

namespace Biogo.Properties.C15_shape
open Biogo.Generated.Pals

/-- the functions modelled here (`alignRecursion`'s acceptance test, `AlignTraps`' suppression)
    are the ones the model was written against; a change to either function makes the check widen the
    generation and search for a failing input -/
theorem decision_logic_fingerprints :
    fpAlignRecursion = "d76e96b076003751" ∧ fpAlignTraps = "12866ecdea35edb5" := ⟨rfl, rfl⟩

/-- the functions the kernel model transcribes are the ones it was written against (since the
    seventh repair also the two `Less` methods of `dp/sort.go`: the model sorts by both coordinates) -/
theorem kernel_source_facts :
    fpTraceForward = "3242f214c997c8ca" ∧ fpTraceReverse = "28298aacb4d36e37" ∧
    fpAlignRecursion = "d76e96b076003751" ∧ fpAlignTraps = "12866ecdea35edb5" ∧
    fpStartsLess = "b7d2e4dbaeec5a67" ∧ fpEndsLess = "a5365f6edcfa5bf9" :=
  ⟨rfl, rfl, rfl, rfl, rfl, rfl⟩

/-- the functions of `merge.go` and `trapezoid.go` that the merger model transcribes -/
theorem merge_fingerprints :
    Biogo.Generated.PalsMerge.fpNewMerger = "392443e40c06fbbe" ∧
    Biogo.Generated.PalsMerge.fpMergeFilterHit = "f9561280355fe664" ∧
    Biogo.Generated.PalsMerge.fpClipVertical = "5861ce210623e268" ∧
    Biogo.Generated.PalsMerge.fpClipTrapezoids = "47091a1af8bc4977" ∧
    Biogo.Generated.PalsMerge.fpFinaliseMerge = "bba445c04632a297" ∧
    Biogo.Generated.PalsMerge.fpPrependFrontTo = "73d0994c671efa3a" ∧
    Biogo.Generated.PalsMerge.fpJoin = "9849eba41fd84ef7" ∧
    Biogo.Generated.PalsMerge.fpDecapitate = "5eb00fe0a5bab0ec" ∧
    Biogo.Generated.PalsMerge.fpClip = "e36f3e570daea767" ∧
    Biogo.Generated.PalsMerge.fpTrapLess = "1a7ae4edcf19e1d1" :=
  ⟨rfl, rfl, rfl, rfl, rfl, rfl, rfl, rfl, rfl, rfl⟩

end Biogo.Properties.C15_shape
