/-
C20 — gene models keep exons, introns and coding regions as exact partitions; nested
positions compose; rejected updates leave the exon set as it was.  The property theorems, and
the closed forms of the chain queries they are read off from (helper lemmas are in
`Biogo/Proofs/Gene.lean` and `Biogo/Proofs/Feat.lean`).

The theorems are about the definitions the driver executes (`Biogo.Gene.add`, `setExons`,
`introns`, `utr5/cds/utr3`, `Biogo.Feat.basePositionOf` …); where the code depends on something
the model takes as a parameter (the growth policy of `append`, `sort.Sort`) the theorem is
stated for every value of the parameter.
-/
import Biogo.Model.Gene
import Biogo.Model.Feat
import Biogo.Spec.Gene
import Biogo.Proofs.Gene
import Biogo.Proofs.Feat
import Biogo.Generated.GeneFacts

namespace Biogo.Properties.C20
open Biogo.Gene Biogo.Feat Biogo.Spec.Gene Biogo.Proofs.Gene Biogo.Proofs.Feat


/-- **"For any transcript whose exons are accepted, the exons are sorted and non-overlapping"**,
    at the level of `Exons.Add`: for every heap, every well-formed receiver (any offset, length and
    spare capacity), every growth policy and every `sort.Sort` that returns a sorted
    permutation, an accepted `Add` returns a slice whose exons are sorted by start, pairwise
    non-overlapping (each ends no later than every later one starts), on one location, and are
    exactly the old exons plus the new ones. -/
theorem accepted_sorted_disjoint (grow : Nat → Nat → Nat) (sort : List Exon → List Exon)
    (hsort : SortSpec sort) (h : Heap) (s : Slice) (xs : List Exon) (w : WF h s)
    (h' : Heap) (r : Slice) (hacc : addWith grow sort h s xs = (h', r, none)) :
    sortedDisjoint (read h' r) = true ∧ Disjoint (read h' r) ∧ (read h' r).Perm (read h s ++ xs) := by
  obtain ⟨_, _, hread, hcs⟩ := addWith_ok hsort.length w.readable hacc
  rw [hread]
  have hsd := sortedDisjoint_of_checkSorted _ (hsort.sorted _) hcs
  exact ⟨hsd, disjoint_of_sortedDisjoint _ hsd, hsort.perm _⟩

/-- the same for the function the driver runs -/
theorem accepted_sorted_disjoint_add (h : Heap) (s : Slice) (xs : List Exon) (w : WF h s)
    (h' : Heap) (r : Slice) (hacc : add h s xs = (h', r, none)) :
    sortedDisjoint (read h' r) = true ∧ Disjoint (read h' r) ∧ (read h' r).Perm (read h s ++ xs) :=
  accepted_sorted_disjoint exactGrow sortByStart sortByStart_spec h s xs w h' r hacc

-- non-vacuity: an accepted Add on a receiver with spare capacity
example :
    let st := xsInit 2 [⟨1, 0, 10, 1⟩, ⟨1, 20, 10, 2⟩, zeroExon, zeroExon]
    let res := add st.1 st.2 [⟨1, 12, 5, 3⟩]
    res.2.2 = none ∧ read res.1 res.2.1 = [⟨1, 0, 10, 1⟩, ⟨1, 12, 5, 3⟩, ⟨1, 20, 10, 2⟩] := by decide +kernel

/-- **"exons and introns alternate and together tile the transcript from 0 to its length"**:
    after an accepted `SetExons` (any heap, any previous exon set, any growth policy, any correct
    `sort.Sort`) the stored exons are the given ones, sorted, non-overlapping, all located on the
    transcript, the first starting at 0; `Introns()` has exactly one intron between consecutive
    exons, each intron spanning exactly the gap; and when no exon has negative length the
    sequence exon, intron, exon, … is an exact tiling of `[0, Len)` (`Len` = end of the last
    exon = `t.Len()`): every position of the transcript lies in exactly one of them. -/
theorem exons_introns_tile (grow : Nat → Nat → Nat) (sort : List Exon → List Exon)
    (hsort : SortSpec sort) (h : Heap) (t : Tx) (ht : t.id ≠ 0) (xs : List Exon)
    (h' : Heap) (t' : Tx) (hacc : setExonsWith grow sort h t xs = (h', t', none)) :
    let es := read h' t'.exons
    es.Perm xs ∧ es ≠ [] ∧ sortedDisjoint es = true ∧ Disjoint es ∧ (∀ e ∈ es, e.loc = t.id) ∧
    startOf es = 0 ∧
    alternate es (introns es) = true ∧ intronsFit es (introns es) = true ∧
    (nonNeg xs = true →
      tiles 0 (endOf es) (interleave es (introns es)) = true ∧
      ∀ p, cover (interleave es (introns es)) p = if 0 ≤ p ∧ p < endOf es then 1 else 0) := by
  have ok := setExonsWith_ok hsort hacc
  simp only [ok.stored]
  have hcs := ok.checked
  have hloc := ok.loc
  have hstart := ok.start
  have hsd := sortedDisjoint_of_checkSorted _ (hsort.sorted xs) hcs
  have hperm := hsort.perm xs
  generalize sort xs = es at hcs hloc hstart hsd hperm ⊢
  cases es with
  | nil => exact absurd hloc.symm ht
  | cons e l =>
    refine ⟨hperm, List.cons_ne_nil _ _, hsd, disjoint_of_sortedDisjoint _ hsd,
      fun x hx => (sortedDisjoint_loc e l hsd x hx).trans hloc, hstart, alternate_introns _,
      intronsFit_introns _, fun hnn => ?_⟩
    have hnn' : nonNeg (e :: l) = true := by
      simp only [nonNeg, List.all_eq_true] at hnn ⊢
      exact fun x hx => hnn x (hperm.mem_iff.mp hx)
    have ht := tiles_interleave e l hsd hnn'
    rw [show e.start = 0 from hstart] at ht
    exact ⟨ht, tiles_cover _ _ _ ht⟩

-- non-vacuity: three exons given out of order, one pair abutting
example :
    let res := setExons (txInit 1).1 (txInit 1).2 [⟨1, 30, 5, 3⟩, ⟨1, 0, 10, 1⟩, ⟨1, 10, 5, 2⟩]
    res.2.2 = none ∧ introns (read res.1 res.2.1.exons) = [⟨1, 10, 0⟩, ⟨1, 15, 15⟩] := by decide +kernel


/-- **"Rejected updates … leave the previous exon set exactly as it was"**, for `Exons.Add`
    and *every capacity history*: for every heap `h` (the sum of everything that happened
    before), every receiver `s` in it (any array, offset, length and spare capacity), every
    growth policy of `append` and every sorting function whatsoever, a rejected `Add` returns
    the receiver itself, and no array that existed before the call has changed — in particular
    the receiver's whole backing array `s[:cap(s)]`, hence its exons `s[:len(s)]`, and the
    backing arrays of the arguments and of every other slice. -/
theorem rejected_add_unchanged (grow : Nat → Nat → Nat) (sort : List Exon → List Exon)
    (h : Heap) (s : Slice) (xs : List Exon) (hs : s.arr < h.length)
    (h' : Heap) (r : Slice) (e : Err) (hrej : addWith grow sort h s xs = (h', r, some e)) :
    r = s ∧ cells h' s = cells h s ∧ read h' s = read h s ∧
      ∀ a < h.length, Heap.arr h' a = Heap.arr h a := by
  have hk := addWith_keeps grow sort h s xs
  have hr : (addWith grow sort h s xs).2.1 = s := addWith_err_slice (e := e) (by rw [hrej])
  rw [hrej] at hk hr
  exact ⟨hr, cells_of_keeps hk s hs, read_of_keeps hk s hs, hk.2⟩

/-- The same holds for accepted calls: `Add` never writes to the receiver's array (this is what
    fix F20 established; before it the accepted result shared the receiver's array). -/
theorem add_never_writes_receiver (grow : Nat → Nat → Nat) (sort : List Exon → List Exon)
    (h : Heap) (s : Slice) (xs : List Exon) (hs : s.arr < h.length) :
    cells (addWith grow sort h s xs).1 s = cells h s :=
  cells_of_keeps (addWith_keeps grow sort h s xs) s hs

/-- … spelled out over histories: start from `make(Exons, n, cap)` filled in any way, apply any
    sequence of `Add`s (accepted or rejected, result kept or dropped) and re-slicings
    (`s[:j]` up to the capacity, `s[j:]`); in the state reached, a rejected `Add` leaves the
    exon set and the whole backing array of the receiver as they were. -/
theorem rejected_add_unchanged_history (n : Nat) (cells0 : List Exon) (hn : n ≤ cells0.length)
    (ops : List XsOp) (xs : List Exon) (h' : Heap) (r : Slice) (e : Err) :
    let st := xsRun (xsInit n cells0) ops
    add st.1 st.2 xs = (h', r, some e) →
      r = st.2 ∧ read h' st.2 = read st.1 st.2 ∧ cells h' st.2 = cells st.1 st.2 := by
  intro st hrej
  have w : WF st.1 st.2 := xsRun_wf (xsInit_wf n cells0 hn) ops
  obtain ⟨h1, h2, h3, _⟩ := rejected_add_unchanged exactGrow sortByStart st.1 st.2 xs w.arr_lt h' r e hrej
  exact ⟨h1, h3, h2⟩

-- non-vacuity: the witness of F20 is a rejected Add on a receiver with spare capacity
example :
    let st := xsInit 2 [⟨1, 0, 10, 1⟩, ⟨1, 20, 10, 2⟩, zeroExon, zeroExon]
    (add st.1 st.2 [⟨1, 5, 10, 3⟩]).2.2 = some .overlap := by decide +kernel

/-- **"… including slices with spare capacity"**, the reset idiom on bare `Exons` values: over every
    history of a variable `s` (kept / dropped `Add`s, `s[:j]`, `s[j:]`) and a second variable `held`
    (`held = s` at any points) — so in particular `held := s; s = s[:0]`, after which the receiver is
    empty and its spare capacity is the array `held` still reads — an `Add` on `s`, rejected or
    accepted, leaves what `held` reads (its exons and its whole backing array) exactly as it was, and
    a rejected one also leaves `s` itself as it was. -/
theorem add_keeps_held_history (n : Nat) (cells0 : List Exon) (hn : n ≤ cells0.length)
    (ops : List XhOp) (xs : List Exon) :
    let st := xhRun (xhInit n cells0) ops
    let res := add st.1.1 st.1.2 xs
    read res.1 st.2 = read st.1.1 st.2 ∧ cells res.1 st.2 = cells st.1.1 st.2 ∧
      (∀ e, res.2.2 = some e →
        res.2.1 = st.1.2 ∧ read res.1 st.1.2 = read st.1.1 st.1.2 ∧ cells res.1 st.1.2 = cells st.1.1 st.1.2) := by
  intro st res
  obtain ⟨w, wh⟩ := xhRun_wf (xhInit_wf n cells0 hn).1 (xhInit_wf n cells0 hn).2 ops
  have hk : Keeps st.1.1.length st.1.1 res.1 := add_keeps st.1.1 st.1.2 xs
  exact ⟨read_of_keeps hk _ wh, cells_of_keeps hk _ wh, fun e he =>
    ⟨addWith_err_slice he, read_of_keeps hk _ w.arr_lt, cells_of_keeps hk _ w.arr_lt⟩⟩

-- non-vacuity: `held := s; s = s[:0]`, then a rejected Add of two exons that fit the capacity
example :
    let st := xhRun (xhInit 3 [⟨1, 0, 15, 1⟩, ⟨1, 15, 50, 2⟩, ⟨1, 94, 15, 3⟩]) [.hold, .op (.upTo 0)]
    st.1.2.len = 0 ∧ cap st.1.1 st.1.2 = 3 ∧ read st.1.1 st.2 = [⟨1, 0, 15, 1⟩, ⟨1, 15, 50, 2⟩, ⟨1, 94, 15, 3⟩] ∧
    (add st.1.1 st.1.2 [⟨1, 4, 7, 4⟩, ⟨1, 8, 28, 5⟩]).2.2 = some .overlap := by decide +kernel

/-- Refutation witness for seeded change C20-m3 on bare `Exons` values: with `Add` appending into
    the receiver (as on the pinned tree, and as the seeded change does for an empty receiver), after
    `held := s; s = s[:0]` the rejected `s.Add(4–11, 8–36)` leaves `s` (empty) as it was but `held`
    reads `[4–11, 8–36, 94–109]`: the statement of `add_keeps_held_history` is false of it, while
    "the receiver's contents are as they were" is not violated. -/
theorem pinned_reset_add_corrupts_held :
    let st := xhRun (xhInit 3 [⟨1, 0, 15, 1⟩, ⟨1, 15, 50, 2⟩, ⟨1, 94, 15, 3⟩]) [.hold, .op (.upTo 0)]
    let res := addPinnedWith exactGrow sortByStart st.1.1 st.1.2 [⟨1, 4, 7, 4⟩, ⟨1, 8, 28, 5⟩]
    res.2.2 = some .overlap ∧ read res.1 st.1.2 = read st.1.1 st.1.2 ∧
      read res.1 st.2 = [⟨1, 4, 7, 4⟩, ⟨1, 8, 28, 5⟩, ⟨1, 94, 15, 3⟩] := by decide +kernel

/-- Refutation witness for the pinned tree (defect F20): with `Add` as it was (append into
    the receiver, sort in place, then check), `s = [0–10, 20–30]` with capacity 4 and
    `Add(5–15)` is rejected and `s` then reads `[0–10, 5–15]`.  The statement
    `rejected_add_unchanged` is false of `addPinnedWith`. -/
theorem pinned_rejected_add_corrupts :
    let st := xsInit 2 [⟨1, 0, 10, 1⟩, ⟨1, 20, 10, 2⟩, zeroExon, zeroExon]
    let res := addPinnedWith exactGrow sortByStart st.1 st.2 [⟨1, 5, 10, 3⟩]
    res.2.2 = some .overlap ∧ res.2.1 = st.2 ∧
      read st.1 st.2 = [⟨1, 0, 10, 1⟩, ⟨1, 20, 10, 2⟩] ∧
      read res.1 st.2 = [⟨1, 0, 10, 1⟩, ⟨1, 5, 10, 3⟩] := by decide +kernel

/-- **Rejected `SetExons`** (overlapping exons, foreign location, no zero start): the
    transcript keeps its exon slice, and no array that existed before the call has changed, so
    `t.Exons()` reads exactly as before.  For every heap, growth policy and sorting function. -/
theorem rejected_setExons_unchanged (grow : Nat → Nat → Nat) (sort : List Exon → List Exon)
    (h : Heap) (t : Tx) (xs : List Exon) (ht : t.exons.arr < h.length)
    (h' : Heap) (t' : Tx) (e : Err) (hrej : setExonsWith grow sort h t xs = (h', t', some e)) :
    t' = t ∧ read h' t'.exons = read h t.exons ∧ cells h' t.exons = cells h t.exons ∧
      ∀ a < h.length, Heap.arr h' a = Heap.arr h a := by
  have hk := setExonsWith_keeps grow sort h t xs
  have ht' : (setExonsWith grow sort h t xs).2.1 = t := setExonsWith_err (e := e) (by rw [hrej])
  rw [hrej] at hk ht'
  subst ht'
  exact ⟨rfl, read_of_keeps hk _ ht, cells_of_keeps hk _ ht, hk.2⟩

/-- … over histories of a transcript: after any sequence of `SetExons`, `t.Exons().Add(…)`
    (result dropped), `Add`-then-`SetExons` and `t.Exons()[:j].Add(…)` (result dropped; `j = 0` is
    the reset idiom, whose receiver is empty and has the transcript's live exon array as spare
    capacity) calls, accepted or rejected, a rejected update of any of the four kinds leaves
    `t.Exons()` exactly as it was. -/
theorem rejected_update_unchanged_history (id : Nat) (ops : List TxOp) (op : TxOp) (e : Err) :
    let st := txRun (txInit id) ops
    (txApply st op).2 = some e →
      (txApply st op).1.2 = st.2 ∧ read (txApply st op).1.1 st.2.exons = read st.1 st.2.exons := by
  intro st hrej
  exact ⟨(txApply_step _ op).rejected hrej, (txApply_frame (txRun_wf (txInit_wf id) ops) op).1⟩

-- non-vacuity: SetExons accepted, then a rejected Add through Exons(), then a rejected SetExons
example :
    let st := txRun (txInit 1) [.set [⟨1, 0, 10, 1⟩, ⟨1, 20, 10, 2⟩]]
    (txApply st (.addDrop [⟨1, 5, 10, 3⟩])).2 = some .overlap ∧
    (txApply st (.set [⟨1, 3, 10, 4⟩])).2 = some .noZeroStart ∧
    (txApply st (.set [⟨2, 0, 10, 5⟩])).2 = some .notTranscript ∧
    read st.1 st.2.exons = [⟨1, 0, 10, 1⟩, ⟨1, 20, 10, 2⟩] := by decide +kernel

/-- **`t.Exons()[:j].Add(xs…)` never writes a cell of the transcript's array** — for every heap,
    every transcript whose exon slice lies in it, every `j` (clamped to the capacity as Go demands,
    so the receiver may reach into all of the transcript's spare capacity; `j = 0`: the reset idiom
    `t.Exons()[:0].Add(…)`, an empty receiver whose spare capacity is the transcript's live exon
    array), every argument list, growth policy and sorting function, whether the call is accepted or
    rejected: the transcript's whole backing array `t.Exons()[:cap]`, hence the exon set it shows,
    reads as before, a rejected call returns the re-sliced receiver, and no other array that existed
    changed either.  (Seeded change C20-m3 — no defensive copy for an empty receiver — falsifies
    exactly this: the arguments are appended and sorted inside the transcript's array.) -/
theorem reslice_add_never_writes_transcript (grow : Nat → Nat → Nat) (sort : List Exon → List Exon)
    (h : Heap) (t : Tx) (j : Nat) (xs : List Exon) (ht : t.exons.arr < h.length) :
    let res := addWith grow sort h (resliceTo h t.exons j) xs
    cells res.1 t.exons = cells h t.exons ∧ read res.1 t.exons = read h t.exons ∧
      (∀ a < h.length, Heap.arr res.1 a = Heap.arr h a) ∧
      (∀ e, res.2.2 = some e → res.2.1 = resliceTo h t.exons j) := by
  intro res
  have hk : Keeps h.length h res.1 := addWith_keeps grow sort h (resliceTo h t.exons j) xs
  exact ⟨cells_of_keeps hk _ ht, read_of_keeps hk _ ht, hk.2, fun e he => addWith_err_slice he⟩

/-- … and the re-sliced receiver is a well-formed slice of the same array, so the theorems about
    `Add` on well-formed receivers (`accepted_sorted_disjoint`, `rejected_add_unchanged`) apply to it:
    an accepted `t.Exons()[:j].Add(xs…)` returns the first `min j cap` cells of the transcript's array
    plus `xs`, sorted and non-overlapping, in a new array. -/
theorem reslice_add_accepted (grow : Nat → Nat → Nat) (sort : List Exon → List Exon) (hsort : SortSpec sort)
    (h : Heap) (t : Tx) (j : Nat) (xs : List Exon) (w : WF h t.exons)
    (h' : Heap) (r : Slice) (hacc : addWith grow sort h (resliceTo h t.exons j) xs = (h', r, none)) :
    Disjoint (read h' r) ∧ (read h' r).Perm ((cells h t.exons).take (min j (cap h t.exons)) ++ xs) ∧
      r.arr = h.length := by
  have wr := resliceTo_wf w j
  obtain ⟨_, hd, hp⟩ := accepted_sorted_disjoint grow sort hsort h _ xs wr h' r hacc
  obtain ⟨_, rfl, _⟩ := addWith_ok hsort.length wr.readable hacc
  exact ⟨hd, hp, rfl⟩

/-- **An `Add` whose result is dropped is not an update**: over every history of a transcript, a
    `t.Exons().Add(…)` or `t.Exons()[:j].Add(…)` with the result dropped — accepted or rejected —
    leaves the transcript and the exon set it shows exactly as they were (what the driver demands
    after an accepted `A` / `Z`: the exons shown are still the ones accepted last). -/
theorem dropped_add_unchanged_history (id : Nat) (ops : List TxOp) (xs : List Exon) :
    let st := txRun (txInit id) ops
    (∀ j, (txApply st (.resliceAdd j xs)).1.2 = st.2 ∧
        read (txApply st (.resliceAdd j xs)).1.1 st.2.exons = read st.1 st.2.exons ∧
        cells (txApply st (.resliceAdd j xs)).1.1 st.2.exons = cells st.1 st.2.exons) ∧
    ((txApply st (.addDrop xs)).1.2 = st.2 ∧
        read (txApply st (.addDrop xs)).1.1 st.2.exons = read st.1 st.2.exons ∧
        cells (txApply st (.addDrop xs)).1.1 st.2.exons = cells st.1 st.2.exons) := by
  intro st
  have hf := txApply_frame (st := st) (txRun_wf (txInit_wf id) ops)
  exact ⟨fun j => ⟨by simp only [txApply], hf _⟩, by simp only [txApply], hf _⟩

-- non-vacuity: the reset idiom on a transcript with three exons; two arguments fit the capacity and
-- overlap (rejected), one fits and is accepted, four exceed it
example :
    let st := txRun (txInit 1) [.set [⟨1, 0, 15, 1⟩, ⟨1, 15, 50, 2⟩, ⟨1, 94, 15, 3⟩]]
    (txApply st (.resliceAdd 0 [⟨1, 4, 7, 4⟩, ⟨1, 8, 28, 5⟩])).2 = some .overlap ∧
    (txApply st (.resliceAdd 0 [⟨1, 4, 7, 4⟩])).2 = none ∧
    (txApply st (.resliceAdd 2 [⟨1, 70, 7, 4⟩])).2 = none ∧
    (txApply st (.resliceAdd 2 [⟨1, 60, 7, 4⟩])).2 = some .overlap ∧
    cap st.1 (resliceTo st.1 st.2.exons 0) = 3 ∧ (resliceTo st.1 st.2.exons 0).len = 0 ∧
    read (txApply st (.resliceAdd 0 [⟨1, 4, 7, 4⟩, ⟨1, 8, 28, 5⟩])).1.1 st.2.exons
      = [⟨1, 0, 15, 1⟩, ⟨1, 15, 50, 2⟩, ⟨1, 94, 15, 3⟩] := by decide +kernel

/-- Refutation witness for seeded change C20-m3 (`newSlice := s` for an empty receiver, i.e. `Add` as
    on the pinned tree when `len(s) = 0`): on the transcript above, `t.Exons()[:0].Add(4–11, 8–36)`
    is rejected (overlap) and the transcript then shows `[4–11, 8–36, 94–109]` — the statement of
    `reslice_add_never_writes_transcript` is false of `addPinnedWith`. -/
theorem pinned_reset_add_corrupts_transcript :
    let st := txRun (txInit 1) [.set [⟨1, 0, 15, 1⟩, ⟨1, 15, 50, 2⟩, ⟨1, 94, 15, 3⟩]]
    let res := addPinnedWith exactGrow sortByStart st.1 (resliceTo st.1 st.2.exons 0) [⟨1, 4, 7, 4⟩, ⟨1, 8, 28, 5⟩]
    res.2.2 = some .overlap ∧
      read st.1 st.2.exons = [⟨1, 0, 15, 1⟩, ⟨1, 15, 50, 2⟩, ⟨1, 94, 15, 3⟩] ∧
      read res.1 st.2.exons = [⟨1, 4, 7, 4⟩, ⟨1, 8, 28, 5⟩, ⟨1, 94, 15, 3⟩] := by decide +kernel


/-- **Rejected `SetFeatures`** (a feature located elsewhere, no feature starting at 0): the
    gene's length and features are exactly as before. -/
theorem rejected_setFeatures_unchanged (gid : Nat) (g g' : GeneSt) (feats : List FeatIv) (e : Err)
    (hrej : setFeatures gid g feats = (g', some e)) : g' = g := by
  unfold setFeatures at hrej
  split at hrej
  · cases hrej; rfl
  · split at hrej
    · cases hrej; rfl
    · cases hrej

/-- An accepted `SetFeatures` stores the given features; all are located on the gene and lie
    within `[0, Len)` … `Len` being the largest end; one of them starts at 0 (the analogue for
    genes of "one exon starts at 0 and the last one ends at the transcript's end"). -/
theorem accepted_setFeatures (gid : Nat) (g g' : GeneSt) (feats : List FeatIv)
    (hacc : setFeatures gid g feats = (g', none)) :
    g'.feats = feats ∧ (∀ f ∈ feats, f.loc = gid ∧ 0 ≤ f.start ∧ f.stop ≤ g'.length) ∧
      (∃ f ∈ feats, f.start = 0) ∧ 0 ≤ g'.length ∧
      (g'.length = 0 ∨ ∃ f ∈ feats, f.stop = g'.length) := by
  unfold setFeatures at hacc
  split at hacc
  · cases hacc
  · rename_i pos e hscan
    split at hacc
    · cases hacc
    · rename_i hpos
      obtain rfl : pos = 0 := Decidable.of_not_not hpos
      cases hacc
      obtain ⟨h1, _, h3, h4, h5⟩ := scanFeats_ok gid feats maxInt 0 0 e hscan
      simp only [Int.sub_zero]
      -- the minimum is 0, not the initial `maxInt`: some feature starts at 0
      exact ⟨trivial, h1, h4.resolve_left (by decide), h3, h5⟩

example : (setFeatures 1 ⟨0, []⟩ [⟨1, 5, 20, 1⟩, ⟨1, 0, 10, 2⟩]).2 = none ∧
    (setFeatures 1 ⟨0, []⟩ [⟨1, 5, 20, 1⟩, ⟨1, 0, 10, 2⟩]).1.length = 20 ∧
    (setFeatures 1 ⟨7, []⟩ [⟨1, 5, 20, 1⟩]).2 = some .noZeroFeat ∧
    (setFeatures 1 ⟨7, []⟩ [⟨2, 0, 20, 1⟩]).2 = some .featLoc := by decide +kernel

/-- `BasePositionOf` in closed form: on a chain of at most 1000 features (the documented
    limit) the position is shifted by the sum of the `Start`s of the feature and all its
    locations, and the reference is the last feature of the chain. -/
theorem basePositionOf_eq (f : Node) (rest : Chain) (p : Int) (hlen : (f :: rest).length ≤ limit) :
    basePositionOf (f :: rest) p = .ok (p + startSum (f :: rest), lastId f rest) :=
  basePosLoop_closed limit f rest p hlen

/-- … seen from a feature `x` in the middle of the chain: the reference is the last feature of
    what follows `x` -/
theorem basePositionOf_append (pre : List Node) (x : Node) (rest : Chain) (p : Int)
    (hlen : (pre ++ x :: rest).length ≤ limit) :
    basePositionOf (pre ++ x :: rest) p = .ok (p + startSum (pre ++ x :: rest), lastId x rest) := by
  cases pre with
  | nil => exact basePositionOf_eq x rest p hlen
  | cons a pre => rw [List.cons_append, basePositionOf_eq a (pre ++ x :: rest) p hlen, lastId_append]

/-- … and beyond the limit it is the documented panic. -/
theorem basePositionOf_tooLong (c : Chain) (p : Int) (hlen : limit < c.length) :
    basePositionOf c p = .error .tooLong :=
  basePosLoop_tooLong limit c p hlen

/-- **"positions … mapped through nested locations compose additively"**: the base position of
    `p` in a feature `x` is the base position of `p + x.Start()` in its location — one nesting
    level (exon → transcript → gene → chromosome …) adds one start. -/
theorem basePosition_additive (x y : Node) (rest : Chain) (p : Int)
    (hlen : (x :: y :: rest).length ≤ limit) :
    basePositionOf (x :: y :: rest) p = basePositionOf (y :: rest) (p + x.start) := by
  rw [basePositionOf_eq x (y :: rest) p hlen,
    basePositionOf_eq y rest (p + x.start) (Nat.le_of_succ_le hlen)]
  simp only [startSum, lastId, Int.add_assoc]

/-- `PositionWithin` an enclosing location `m` (first occurrence on the chain, at most 999 links
    up) adds the starts of the features below it. -/
theorem positionWithin_eq (pre : List Node) (m : Node) (rest : Chain) (p : Int)
    (hne : ∀ x ∈ pre, x.id ≠ m.id) (hlen : pre.length < limit) :
    positionWithin (pre ++ m :: rest) (some m.id) p = .ok (p + startSum pre, true) :=
  posWithinLoop_found limit pre m rest p hne hlen

/-- a feature is not located within a reference that is not on its chain -/
theorem positionWithin_absent (f : Node) (rest : Chain) (r : Nat) (p : Int)
    (hne : ∀ x ∈ f :: rest, x.id ≠ r) (hlen : (f :: rest).length ≤ limit) :
    positionWithin (f :: rest) (some r) p = .ok (0, false) :=
  posWithinLoop_absent limit f rest r p hne hlen

/-- **Composition through a middle location** (`within_compose`, positions): if `m` encloses
    the feature and `k` encloses `m` (an acyclic stretch of the chain within the depth limit),
    mapping `p` into `m` and the result into `k` is the same as mapping `p` into `k` directly;
    all three calls succeed. -/
theorem within_compose (pre : List Node) (m : Node) (mid : List Node) (k : Node) (rest : Chain) (p : Int)
    (hm : ∀ x ∈ pre, x.id ≠ m.id) (hk : ∀ x ∈ pre ++ m :: mid, x.id ≠ k.id)
    (hlen : (pre ++ m :: mid).length < limit) :
    ∃ q r, positionWithin (pre ++ m :: mid ++ k :: rest) (some m.id) p = .ok (q, true) ∧
      positionWithin (m :: mid ++ k :: rest) (some k.id) q = .ok (r, true) ∧
      positionWithin (pre ++ m :: mid ++ k :: rest) (some k.id) p = .ok (r, true) ∧
      q = p + startSum pre ∧ r = p + startSum (pre ++ m :: mid) := by
  have ⟨h1, h2⟩ : pre.length < limit ∧ (m :: mid).length < limit := by
    rw [List.length_append] at hlen; omega
  refine ⟨p + startSum pre, p + startSum (pre ++ m :: mid), ?_, ?_,
    positionWithin_eq (pre ++ m :: mid) k rest p hk hlen, rfl, rfl⟩
  · rw [List.append_assoc, List.cons_append]
    exact positionWithin_eq pre m (mid ++ k :: rest) p hm h1
  · rw [startSum_append, ← Int.add_assoc]
    exact positionWithin_eq (m :: mid) k rest _ (fun x hx => hk x (List.mem_append_right _ hx)) h2

/-- the base position does not change when moving to an enclosing location -/
theorem basePositionOf_within (pre : List Node) (m : Node) (rest : Chain) (p : Int)
    (hm : ∀ x ∈ pre, x.id ≠ m.id) (hlen : (pre ++ m :: rest).length ≤ limit) :
    positionWithin (pre ++ m :: rest) (some m.id) p = .ok (p + startSum pre, true) ∧
      basePositionOf (pre ++ m :: rest) p = basePositionOf (m :: rest) (p + startSum pre) := by
  have ⟨h1, h2⟩ : pre.length < limit ∧ rest.length + 1 ≤ limit := by
    rw [List.length_append, List.length_cons] at hlen; omega
  refine ⟨positionWithin_eq pre m rest p hm h1, ?_⟩
  -- both sides add all the starts and name the last feature of the chain
  rw [basePositionOf_eq m rest _ h2, basePositionOf_append pre m rest p hlen, startSum_append,
    Int.add_assoc]

-- (`hc` only names the head of the chain)
set_option linter.unusedVariables false in
theorem basePosition_within (pre : List Node) (m : Node) (rest : Chain) (f : Node) (tl : Chain) (p : Int)
    (hc : pre ++ m :: rest = f :: tl)
    (hm : ∀ x ∈ pre, x.id ≠ m.id) (hlen : (pre ++ m :: rest).length ≤ limit) :
    ∃ q, positionWithin (pre ++ m :: rest) (some m.id) p = .ok (q, true) ∧
      basePositionOf (pre ++ m :: rest) p = basePositionOf (m :: rest) q :=
  ⟨_, basePositionOf_within pre m rest p hm hlen⟩

-- non-vacuity: exon (start 20) in transcript (100) in gene (1000) on a chromosome (0)
example : positionWithin [⟨1, 20, some 1⟩, ⟨2, 100, some (-1)⟩, ⟨3, 1000, some 1⟩, ⟨4, 0, none⟩] (some 3) 5 = .ok (125, true)
    ∧ basePositionOf [⟨1, 20, some 1⟩, ⟨2, 100, some (-1)⟩, ⟨3, 1000, some 1⟩, ⟨4, 0, none⟩] 5 = .ok (1125, 4) := by
  constructor <;> rfl

/-- `BaseOrientationOf` in closed form (chains within the depth limit): for an orientable
    feature the product of the orientations along the maximal run of orientable features,
    relative to the feature after the run (or the last one); for a feature that is not
    orientable, `NotOriented` and the first orientable location (or the last feature). -/
theorem baseOrientationOf_eq (f : Node) (rest : Chain) (hlen : (f :: rest).length ≤ limit) :
    baseOrientationOf (f :: rest) = .ok (baseOrientSpec (f :: rest) |>.getD (0, 0)) := by
  unfold baseOrientationOf baseOrientSpec
  by_cases hf : f.oriented = true
  · simp only [hf, if_true, Option.getD_some]
    rw [baseOriLoop_closed limit 1 f rest hf hlen, Int.one_mul]
  · simp only [hf, Bool.false_eq_true, if_false, Option.getD_some]
    exact baseOriNotLoop_closed limit f rest hlen

/-- … so `BaseOrientationOf` answers whatever the closed form is shown to be -/
theorem baseOrientationOf_of_spec {c : Chain} {v : Int × Nat} (h : baseOrientSpec c = some v)
    (hlen : c.length ≤ limit) : baseOrientationOf c = .ok v := by
  cases c with
  | nil => cases h
  | cons f rest => rw [baseOrientationOf_eq f rest hlen, h]; rfl

/-- … for an orientable feature -/
theorem baseOrientationOf_oriented (f : Node) (rest : Chain) (hf : f.oriented = true)
    (hlen : (f :: rest).length ≤ limit) :
    baseOrientationOf (f :: rest) = .ok (orientProduct (f :: rest), runRef f rest) :=
  baseOrientationOf_of_spec (by simp only [baseOrientSpec, hf, if_true]) hlen

/-- **"orientations … compose multiplicatively"**: the base orientation of an orientable
    feature `x` whose location `y` is orientable is `x.Orientation()` times the base orientation
    of `y`, relative to the same reference. -/
theorem baseOrientation_multiplicative (x y : Node) (rest : Chain)
    (hx : x.oriented = true) (hy : y.oriented = true) (hlen : (x :: y :: rest).length ≤ limit) :
    ∃ o r, baseOrientationOf (y :: rest) = .ok (o, r) ∧
      baseOrientationOf (x :: y :: rest) = .ok (x.ori * o, r) := by
  refine ⟨orientProduct (y :: rest), runRef y rest,
    baseOrientationOf_oriented y rest hy (Nat.le_of_succ_le hlen), ?_⟩
  rw [baseOrientationOf_oriented x (y :: rest) hx hlen]
  conv => lhs; rw [orientProduct]
  simp only [hx, if_true, runRef, hy]

/-- `OrientationWithin` an enclosing location `m` above a non-empty stretch `x :: pre`: the
    product of the orientations of the features below `m` (`NotOriented` if one of them is not
    orientable). -/
theorem orientationWithin_eq (x : Node) (pre : List Node) (m : Node) (rest : Chain)
    (hne : ∀ y ∈ x :: pre, y.id ≠ m.id) (hlen : (x :: pre).length ≤ limit) :
    orientationWithin (x :: pre ++ m :: rest) (some m.id) = .ok (orientAll (x :: pre)) := by
  show oriWithinLoop limit 1 (x :: pre ++ m :: rest) m.id = _
  rw [oriWithinLoop_found limit 1 x pre m rest hne hlen, Int.one_mul]

/-- **Composition through a middle location** (`within_compose`, orientations): the orientation
    of the feature within `k` is its orientation within `m` times the orientation of `m`
    within `k`. -/
theorem orientationWithin_compose (x : Node) (pre : List Node) (m : Node) (mid : List Node) (k : Node)
    (rest : Chain)
    (hm : ∀ y ∈ x :: pre, y.id ≠ m.id) (hk : ∀ y ∈ x :: pre ++ m :: mid, y.id ≠ k.id)
    (hlen : (x :: pre ++ m :: mid).length ≤ limit) :
    ∃ a b, orientationWithin (x :: pre ++ m :: mid ++ k :: rest) (some m.id) = .ok a ∧
      orientationWithin (m :: mid ++ k :: rest) (some k.id) = .ok b ∧
      orientationWithin (x :: pre ++ m :: mid ++ k :: rest) (some k.id) = .ok (a * b) := by
  have ⟨h1, h2⟩ : (x :: pre).length ≤ limit ∧ (m :: mid).length ≤ limit := by
    rw [List.length_append] at hlen; omega
  refine ⟨orientAll (x :: pre), orientAll (m :: mid), ?_, ?_, ?_⟩
  · rw [List.append_assoc, List.cons_append (as := mid)]
    exact orientationWithin_eq x pre m (mid ++ k :: rest) hm h1
  · exact orientationWithin_eq m mid k rest (fun y hy => hk y (List.mem_append_right _ hy)) h2
  · rw [← orientAll_append]
    exact orientationWithin_eq x (pre ++ m :: mid) k rest hk hlen

-- non-vacuity: exon (+) in transcript (−) in gene (−) on a chromosome: forward within the chromosome
example : orientationWithin [⟨1, 20, some 1⟩, ⟨2, 100, some (-1)⟩, ⟨3, 1000, some (-1)⟩, ⟨4, 0, none⟩] (some 4) = .ok 1
    ∧ orientationWithin [⟨1, 20, some 1⟩, ⟨2, 100, some (-1)⟩, ⟨3, 1000, some (-1)⟩, ⟨4, 0, none⟩] (some 3) = .ok (-1)
    ∧ baseOrientationOf [⟨1, 20, some 1⟩, ⟨2, 100, some (-1)⟩, ⟨3, 1000, some (-1)⟩, ⟨4, 0, none⟩] = .ok (1, 4) := by
  refine ⟨rfl, rfl, rfl⟩

/-- **"the 5'UTR, CDS and 3'UTR tile it in the order dictated by its orientation"**: for a
    coding transcript whose base orientation is forward or reverse, `UTR5`, `CDS`, `UTR3` are
    defined, abut in the order 5'UTR–CDS–3'UTR (forward) or 3'UTR–CDS–5'UTR (reverse) from 0 to
    `Len`, and — when `0 ≤ CDSstart ≤ CDSend ≤ Len`, which the code does not enforce — form an
    exact tiling of `[0, Len)`: every position lies in exactly one of the three. -/
theorem utr_cds_tile (t : Coding) (o : Int) (ref : Nat)
    (hbo : baseOrientationOf (t.node :: t.loc) = .ok (o, ref)) (ho : o = 1 ∨ o = -1) :
    ∃ u5 u3, utr5 t = .ok u5 ∧ utr3 t = .ok u3 ∧
      abuts 0 t.len (utrOrder o (pieceOf u5) (pieceOf (cds t)) (pieceOf u3)) = true ∧
      pieceOf (cds t) = (t.cdsStart, t.cdsEnd) ∧
      (0 ≤ t.cdsStart → t.cdsStart ≤ t.cdsEnd → t.cdsEnd ≤ t.len →
        tiles 0 t.len (utrOrder o (pieceOf u5) (pieceOf (cds t)) (pieceOf u3)) = true ∧
        ∀ p, cover (utrOrder o (pieceOf u5) (pieceOf (cds t)) (pieceOf u3)) p
              = if 0 ≤ p ∧ p < t.len then 1 else 0) := by
  obtain ⟨u5, u3, h5, h3, hord⟩ := utr_regions t hbo ho
  refine ⟨u5, u3, h5, h3, ?_⟩
  rw [hord]
  exact ⟨abuts3 _ _ _, pieceOf_cds t, fun h1 h2 h3 =>
    have ht := tiles3 t.cdsStart t.cdsEnd t.len h1 h2 h3
    ⟨ht, tiles_cover _ _ _ ht⟩⟩

/-- the orientation that dictates the order is the product of the orientations from the
    transcript up through its orientable locations (gene, contigs …) -/
theorem utr_orientation (t : Coding) (ht : t.node.oriented = true) (hlen : (t.node :: t.loc).length ≤ limit) :
    baseOrientationOf (t.node :: t.loc) = .ok (orientProduct (t.node :: t.loc), runRef t.node t.loc) :=
  baseOrientationOf_oriented t.node t.loc ht hlen

-- non-vacuity: forward transcript on a reverse gene: 3'UTR comes first
example :
    let t : Coding := { node := ⟨1, 20, some 1⟩, loc := [⟨2, 100, some (-1)⟩, ⟨3, 0, none⟩], cdsStart := 100, cdsEnd := 500, len := 800 }
    baseOrientationOf (t.node :: t.loc) = .ok (-1, 3) ∧ utr3 t = .ok (0, 100) ∧ utr5 t = .ok (500, 300) := by
  refine ⟨rfl, rfl, rfl⟩

/-- `OneToZero ∘ ZeroToOne` is the identity: 0-based → 1-based → 0-based. -/
theorem oneToZero_zeroToOne (p : Int) : oneToZero (zeroToOne p) = .ok p := by
  unfold oneToZero zeroToOne
  by_cases h : p ≥ 0
  · have hpos : p + 1 > 0 := Int.lt_add_one_iff.mpr h
    rw [if_pos h, if_neg (Int.ne_of_gt hpos), if_pos hpos, Int.add_sub_cancel]
  · rw [if_neg h, if_neg (fun e => h (Int.le_of_eq e.symm)), if_neg (fun k => h (Int.le_of_lt k))]

/-- `ZeroToOne ∘ OneToZero` is the identity on valid 1-based positions (`p ≠ 0`);
    `OneToZero 0` panics. -/
theorem zeroToOne_oneToZero (p : Int) (hp : p ≠ 0) : (oneToZero p).map zeroToOne = .ok p := by
  unfold oneToZero
  rw [if_neg hp]
  by_cases h : p > 0
  · rw [if_pos h]
    show Except.ok (zeroToOne (p - 1)) = _
    rw [zeroToOne, if_pos (Int.le_sub_one_of_lt h), Int.sub_add_cancel]
  · rw [if_neg h]
    show Except.ok (zeroToOne p) = _
    rw [zeroToOne, if_neg (fun k => h (Int.lt_iff_le_and_ne.mpr ⟨k, Ne.symm hp⟩))]

/-- and `OneToZero 0` is the documented panic -/
theorem oneToZero_zero : oneToZero 0 = .error .zeroIndex := rfl

/-! ## Facts regenerated from the source on every run -/

/-- every depth loop of `BasePositionOf`, `PositionWithin`, `BaseOrientationOf` (two loops) and
    `OrientationWithin` in `feat/feature.go` is `for n := 0; n < 1000; n++`: the fuel the model
    runs with, and the bound the theorems above are stated for, is the one in the source. -/
theorem source_depth_limits :
    Biogo.Generated.featLoopBounds =
      [("BasePositionOf", limit), ("PositionWithin", limit), ("BaseOrientationOf", limit),
       ("BaseOrientationOf", limit), ("OrientationWithin", limit)] := by decide +kernel

/-- before its checking loop `Exons.Add` calls `make`, `copy`, `append`, `sort.Sort`, in this
    order — the sequence `addWith` is written with (on the pinned tree it was `append`,
    `sort.Sort`: `addPinnedWith`). -/
theorem source_add_prologue :
    Biogo.Generated.addPrologue = ["make", "copy", "append", "sort.Sort"] := by decide +kernel

end Biogo.Properties.C20
