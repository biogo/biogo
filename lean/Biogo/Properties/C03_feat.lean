/-
C03 (part feat) — the BED (each column count) and GFF readers are total: malformed input
yields errors, never panics or hangs.  The theorems are about
`Biogo.Bed.readAll` / `Biogo.Gff.readAll` (and `readLine` / `read`, the single call), the
functions the driver runs, and hold for every byte string.

"Never blocks": `readAll` is a total function (structural recursion on the lines, for GFF
on the call bound), and `*_progress` bounds the number of calls.
"Each call returns either a non-nil record or a non-nil error": a call of the model is a
`Call` — a record, an error, `eof` (io.EOF), or `panicked`; there is no constructor for
"neither", and `*_never_panics` excludes the last.  (The implementation is watched for
`(nil, nil)` by the harness.)
-/
import Biogo.Proofs.FeatTotal
import Biogo.Generated.FeatIO  -- read by `./check`: the import closure decides which regenerated facts the property owns
import Biogo.Proofs.TimeDate

namespace Biogo.Properties.C03_feat
open Biogo.BytesFeat

/-- C03 "never panics", BED reader of every column count, every byte string. -/
theorem bed_never_panics (n : Nat) (hn : Bed.validWidth n = true) (bs : Bytes) :
    ∀ p, Bed.Call.panicked p ∉ Bed.readAll n bs := by
  intro p hp
  rw [Bed.readAll, Bed.readLines_eq n hn] at hp
  simp only [List.mem_append, List.mem_mapIdx, List.mem_singleton, reduceCtorEq, or_false] at hp
  obtain ⟨i, _, h⟩ := hp
  exact Bed.readLine_no_panic n hn _ _ p h

/-- C03 "the call sequence reaches io.EOF within one call per input line plus one": exactly one
    call per line, then `io.EOF`. -/
theorem bed_progress (n : Nat) (hn : Bed.validWidth n = true) (bs : Bytes) :
    (Bed.readAll n bs).length = (lines bs).length + 1 ∧ (Bed.readAll n bs).getLast? = some .eof := by
  rw [Bed.readAll, Bed.readLines_eq n hn]
  simp [Bed.trimmedLines]

/-- call `i` reads line `i`: what ties the `rejects` theorems below, which speak of one call `readLine` on one
    line, to `readAll` on a whole text -/
theorem bed_call_reads_line (n : Nat) (hn : Bed.validWidth n = true) (bs : Bytes) (i : Nat)
    (h : i < (Bed.trimmedLines bs).length) :
    (Bed.readAll n bs)[i]? = some (Bed.readLine n (Bed.trimmedLines bs)[i] (i + 1)) := by
  rw [Bed.readAll, Bed.readLines_eq n hn, List.getElem?_append_left (by simpa using h)]
  simp [h]

theorem bed_readLine_err_of_not_ok (n : Nat) (hn : Bed.validWidth n = true) (line : Bytes) (k : Nat)
    (h : ∀ r, Bed.parseBody n line ≠ .ok r) : ∃ e, Bed.readLine n line k = .err e k := by
  obtain ⟨e, he⟩ := handlePanic_ret_of_not_ok (Bed.safe_parseBody n hn line) h
  exact ⟨e, by simp [Bed.readLine, Bed.parseBed, he]⟩

/-- C03 "missing mandatory columns … are reported as errors": fewer than `n` tab-separated
    columns ⇒ `ErrBadBedType`. -/
theorem bed_rejects_missing_columns (n : Nat) (line : Bytes) (k : Nat)
    (h : (splitN 9 (n + 1) line).length < n) : Bed.readLine n line k = .err .badType k := by
  simp [Bed.readLine, Bed.parseBed, Bed.parseBody, h, handlePanic]

theorem parse3_not_ok_of_coord {f : List Bytes} {x : Bytes} {e : NumErr} (hx : f[1]? = some x ∨ f[2]? = some x)
    (he : parseInt x 64 = .error e) : ∀ r, Bed.parse3 f ≠ .ok r := by
  intro r
  unfold Bed.parse3
  apply bind_not_ok_right; intro chrom
  rcases hx with hx | hx
  · apply bind_not_ok; intro a
    simp [idx_of_getElem? hx, Bed.mustAtoi, he]
  · apply bind_not_ok_right; intro start
    apply bind_not_ok; intro a
    simp [idx_of_getElem? hx, Bed.mustAtoi, he]

theorem parseBody_not_ok_of_parse3 (n : Nat) (line : Bytes)
    (h : ∀ r, Bed.parse3 (splitN 9 (n + 1) line) ≠ .ok r) : ∀ r, Bed.parseBody n line ≠ .ok r := by
  have h4 : ∀ r, Bed.parse4 (splitN 9 (n + 1) line) ≠ .ok r := bind_not_ok h
  have h5 : ∀ r, Bed.parse5 (splitN 9 (n + 1) line) ≠ .ok r := bind_not_ok h4
  have h6 : ∀ r, Bed.parse6 (splitN 9 (n + 1) line) ≠ .ok r := bind_not_ok h5
  have h12 : ∀ r, Bed.parse12 (splitN 9 (n + 1) line) ≠ .ok r := bind_not_ok h6
  intro r
  unfold Bed.parseBody
  simp only []
  let P := fun x : Bed.Res Bed.Rec => x ≠ Res.ok r
  exact ite_elim P (fun _ => by nofun) fun _ => ite_elim P (fun _ => h r) fun _ =>
    ite_elim P (fun _ => h4 r) fun _ => ite_elim P (fun _ => h5 r) fun _ => ite_elim P (fun _ => h6 r) fun _ => h12 r

/-- C03 "non-numeric coordinates … are reported as errors": a start or end column that
    `strconv.ParseInt(s, 0, 64)` rejects (syntax or range) ⇒ the call returns an error. -/
theorem bed_rejects_non_numeric_coordinates (n : Nat) (hn : Bed.validWidth n = true) (line : Bytes) (k : Nat)
    (x : Bytes) (e : NumErr)
    (hx : (splitN 9 (n + 1) line)[1]? = some x ∨ (splitN 9 (n + 1) line)[2]? = some x)
    (he : parseInt x 64 = .error e) : ∃ err, Bed.readLine n line k = .err err k := by
  apply bed_readLine_err_of_not_ok n hn
  exact parseBody_not_ok_of_parse3 n line (parse3_not_ok_of_coord hx he)

/-- C03 "bad strand … reported as errors", BED6 and BED12: a strand column other than `+`, `.`,
    `-` ⇒ the call returns an error. -/
theorem bed_rejects_bad_strand (n : Nat) (hn : n = 6 ∨ n = 12) (line : Bytes) (k : Nat) (x : Bytes)
    (hx : (splitN 9 (n + 1) line)[5]? = some x) (hbad : x ≠ [43] ∧ x ≠ [46] ∧ x ≠ [45]) :
    ∃ err, Bed.readLine n line k = .err err k := by
  have hv : Bed.validWidth n = true := by rcases hn with rfl | rfl <;> decide
  apply bed_readLine_err_of_not_ok n hv
  have h6 : ∀ r, Bed.parse6 (splitN 9 (n + 1) line) ≠ .ok r := by
    intro r
    unfold Bed.parse6
    apply bind_not_ok_right; intro r5
    apply bind_not_ok
    intro a
    simp only [idx_of_getElem? hx, bind_ok]
    exact Bed.mustAtos_not_ok hbad 5 a
  have h12 : ∀ r, Bed.parse12 (splitN 9 (n + 1) line) ≠ .ok r := bind_not_ok h6
  intro r
  unfold Bed.parseBody
  simp only []
  apply ite_elim (fun x : Bed.Res Bed.Rec => x ≠ Res.ok r) (fun _ => by nofun)
  intro _
  rcases hn with rfl | rfl
  · exact h6 r
  · exact h12 r

/-- C03 "never panics", GFF reader, every byte string, whatever `strconv.ParseFloat` and
    `time.Parse` do. -/
theorem gff_never_panics (o : Gff.Oracles) (bs : Bytes) :
    ∀ p, Gff.Call.panicked p ∉ (Gff.readAll o bs).1 :=
  (Gff.readCalls_spec o _ (Gff.trimmedLines bs) {} (Nat.lt_succ_self _)).2.2

/-- C03 "reaches io.EOF within one call per input line plus one": the call list has at most
    lines+1 elements and its last element is `io.EOF` (so the bound `lines+1` on the number of
    calls that `readAll` passes to `readCalls` is never what stops it). -/
theorem gff_progress (o : Gff.Oracles) (bs : Bytes) :
    (Gff.readAll o bs).1.length ≤ (lines bs).length + 1 ∧ (Gff.readAll o bs).1.getLast? = some .eof := by
  have := Gff.readCalls_spec o _ (Gff.trimmedLines bs) {} (Nat.lt_succ_self _)
  refine ⟨?_, this.2.1⟩
  simpa [Gff.trimmedLines, Gff.readAll] using this.1

/-- a single `Read` never panics, from any reader state -/
theorem gff_read_never_panics (o : Gff.Oracles) (ls : List Bytes) (st : Gff.St) :
    ∀ p, (Gff.read o ls st).1 ≠ .panicked p := Gff.read_no_panic o ls st

/-- the line is a feature line: not blank, not a `##` metadata line, not a `#` comment -/
def featureLine (line : Bytes) : Prop :=
  line.isEmpty = false ∧ hasPrefix [35, 35] line = false ∧ line.head? ≠ some 35

instance (line : Bytes) : Decidable (featureLine line) := by unfold featureLine; infer_instance

theorem read_err_of_parseFeature (o : Gff.Oracles) (line : Bytes) (ls : List Bytes) (st : Gff.St)
    (h : featureLine line) (e : Gff.Err) (he : Gff.parseFeature o line = .panic (.error e) ∨ Gff.parseFeature o line = .ret e)
    (hk : e ≠ .badMoltype ∧ e ≠ .date) :
    (Gff.read o (line :: ls) st).1 = .err e (st.line + 1) := by
  rw [Gff.read_featureLine o line ls st h.1 h.2.1 h.2.2]
  rcases he with he | he <;> rw [he] <;> simp only [Res.bind, Gff.resToCall, handlePanic] <;>
    cases e <;> simp_all

/-- C03 "missing mandatory columns": a GFF feature line with fewer than eight tab-separated
    columns (seven included — defect F2) ⇒ `ErrFieldMissing`. -/
theorem gff_rejects_missing_columns (o : Gff.Oracles) (line : Bytes) (ls : List Bytes) (st : Gff.St)
    (h : featureLine line) (hlen : (splitN 9 10 line).length ≤ 7) :
    (Gff.read o (line :: ls) st).1 = .err (.missing (splitN 9 10 line).length) (st.line + 1) := by
  apply read_err_of_parseFeature o line ls st h
  · right; simp [Gff.parseFeature, hlen]
  · simp

/-- with the eight mandatory columns present, the first steps of the parser that can fail are the
    start and the end column.  What follows them is left as a continuation `k`, which the three theorems below
    never look into; it is found by unification (`rfl`), not written out. -/
theorem parseFeature_coords (o : Gff.Oracles) (line : Bytes) (hlen : 7 < (splitN 9 10 line).length) :
    ∃ k : Int → Int → Gff.Res Gff.Feature, Gff.parseFeature o line =
      Gff.mustAtoPos (splitN 9 10 line) 3 >>= fun s => Gff.mustAtoi (splitN 9 10 line) 4 >>= k s := by
  refine ⟨?k, ?eq⟩
  case eq =>
    simp only [Gff.parseFeature, Nat.not_le.mpr hlen, if_false, idx_eq (show 0 < (splitN 9 10 line).length by omega),
      idx_eq (show 1 < (splitN 9 10 line).length by omega), idx_eq (show 2 < (splitN 9 10 line).length by omega), bind_ok]
    rfl

/-- C03 "non-numeric coordinates": a start column that `ParseInt` rejects ⇒ error at column 3. -/
theorem gff_rejects_non_numeric_start (o : Gff.Oracles) (line : Bytes) (ls : List Bytes) (st : Gff.St)
    (h : featureLine line) (hlen : 7 < (splitN 9 10 line).length) (x : Bytes) (e : NumErr)
    (hx : (splitN 9 10 line)[3]? = some x) (he : parseInt x 64 = .error e) :
    (Gff.read o (line :: ls) st).1 = .err (.num 3) (st.line + 1) := by
  obtain ⟨k, hk⟩ := parseFeature_coords o line hlen
  apply read_err_of_parseFeature o line ls st h
  · left
    simp [hk, Gff.mustAtoPos, Gff.mustAtoi, idx_of_getElem? hx, he]
  · simp

/-- C03 "a GFF start of zero": start column 0 ⇒ `ErrZeroPosition` at column 3 (defect F3). -/
theorem gff_rejects_start_zero (o : Gff.Oracles) (line : Bytes) (ls : List Bytes) (st : Gff.St)
    (h : featureLine line) (hlen : 7 < (splitN 9 10 line).length) (x : Bytes)
    (hx : (splitN 9 10 line)[3]? = some x) (he : parseInt x 64 = .ok 0) :
    (Gff.read o (line :: ls) st).1 = .err (.zero 3) (st.line + 1) := by
  obtain ⟨k, hk⟩ := parseFeature_coords o line hlen
  apply read_err_of_parseFeature o line ls st h
  · left
    simp [hk, Gff.mustAtoPos, Gff.mustAtoi, idx_of_getElem? hx, he, Gff.oneToZero]
  · simp

/-- C03 "non-numeric coordinates": start fine, end column rejected by `ParseInt` ⇒ error at column 4. -/
theorem gff_rejects_non_numeric_end (o : Gff.Oracles) (line : Bytes) (ls : List Bytes) (st : Gff.St)
    (h : featureLine line) (hlen : 7 < (splitN 9 10 line).length) (x y : Bytes) (s : Int) (e : NumErr)
    (hx : (splitN 9 10 line)[3]? = some x) (hs : parseInt x 64 = .ok s) (hs0 : s ≠ 0)
    (hy : (splitN 9 10 line)[4]? = some y) (he : parseInt y 64 = .error e) :
    (Gff.read o (line :: ls) st).1 = .err (.num 4) (st.line + 1) := by
  obtain ⟨k, hk⟩ := parseFeature_coords o line hlen
  apply read_err_of_parseFeature o line ls st h
  · left
    have hz : Gff.oneToZero s = some (if s > 0 then s - 1 else s) := by
      unfold Gff.oneToZero; simp [hs0]; split <;> rfl
    simp [hk, Gff.mustAtoPos, Gff.mustAtoi, idx_of_getElem? hx, hs, hz, idx_of_getElem? hy, he]
  · simp

theorem read_err_of_not_ok (o : Gff.Oracles) (line : Bytes) (ls : List Bytes) (st : Gff.St) (h : featureLine line)
    (hnot : ∀ f, Gff.parseFeature o line ≠ .ok f) : ∃ e l, (Gff.read o (line :: ls) st).1 = .err e l := by
  rw [Gff.read_featureLine o line ls st h.1 h.2.1 h.2.2]
  obtain ⟨e, he⟩ : ∃ e, handlePanic ((Gff.parseFeature o line).bind fun f => .ok (Gff.Item.feature f)) = .ret e :=
    handlePanic_ret_of_not_ok (safe_bind (Gff.safe_parseFeature o line) fun f => safe_ok _) (bind_not_ok hnot)
  simp only [Gff.resToCall, he]
  exact ⟨e, _, rfl⟩

/-- C03 "bad strand": a strand column other than `+`, `.`, `-` ⇒ the call returns an error. -/
theorem gff_rejects_bad_strand (o : Gff.Oracles) (line : Bytes) (ls : List Bytes) (st : Gff.St)
    (h : featureLine line) (x : Bytes) (hx : (splitN 9 10 line)[6]? = some x)
    (hbad : x ≠ [43] ∧ x ≠ [46] ∧ x ≠ [45]) :
    ∃ e l, (Gff.read o (line :: ls) st).1 = .err e l := by
  apply read_err_of_not_ok o line ls st h
  intro f
  unfold Gff.parseFeature
  simp only []
  split
  · intro h; cases h
  · apply bind_not_ok_right; intro _
    apply bind_not_ok_right; intro _
    apply bind_not_ok_right; intro _
    apply bind_not_ok_right; intro _
    apply bind_not_ok_right; intro _
    apply bind_not_ok_right; intro _
    apply bind_not_ok
    exact Gff.mustAtos_not_ok hx hbad

/-- the `##` line with `rest` after the marker -/
def metaLine (rest : Bytes) : Bytes := 35 :: 35 :: rest

/-- C03 "incomplete metadata lines": each keyword that needs an argument, written without one
    (`##gff-version` — defect F1 —, `##source-version`, `##date`, `##Type`, `##type`, `##DNA`, …),
    and `##sequence-region` with fewer than three arguments ⇒ `ErrBadMetaLine`. -/
theorem gff_rejects_incomplete_metaline (o : Gff.Oracles) (kw : Bytes) (args : List Bytes)
    (ls : List Bytes) (st : Gff.St)
    (hkw : (kw ∈ [ofString "gff-version", ofString "source-version", ofString "date", ofString "Type",
                  ofString "type", ofString "DNA", ofString "RNA", ofString "Protein", ofString "dna",
                  ofString "rna", ofString "protein"] ∧ args = []) ∨
           (kw = ofString "sequence-region" ∧ args.length < 3))
    (rest : Bytes) (hsplit : splitOn 32 rest = kw :: args) :
    (Gff.read o (metaLine rest :: ls) st).1 = .err .metaline (st.line + 1) := by
  rw [metaLine, Gff.read_meta o rest ls st]
  have : Gff.commentMetaline o st.md rest = .done (.ret .metaline) := by
    rcases hkw with ⟨hk, rfl⟩ | ⟨rfl, hlen⟩
    · exact Gff.commentMetaline_noargs o st.md rest kw hsplit (by
        simp only [List.mem_cons, List.not_mem_nil, or_false] at hk
        simp only [Gff.isSeqKeyword, Bool.or_eq_true, beq_iff_eq]
        rcases hk with rfl | rfl | rfl | rfl | rfl | rfl | rfl | rfl | rfl | rfl | rfl <;>
          simp only [eq_self, true_or, or_true])
    · rw [Gff.commentMetaline_region o st.md rest args hsplit, if_pos (by simp only [List.length_cons]; omega)]
  rw [this]
  simp [Gff.resToCall, handlePanic]

/-- C03 "a GFF start of zero", `##sequence-region chr 0 10` (defect F3): a zero start argument ⇒
    `ErrZeroPosition` at column 2. -/
theorem gff_rejects_region_start_zero (o : Gff.Oracles) (name s e : Bytes) (more : List Bytes)
    (ls : List Bytes) (st : Gff.St) (rest : Bytes)
    (hsplit : splitOn 32 rest = ofString "sequence-region" :: name :: s :: e :: more)
    (hs : parseInt s 64 = .ok 0) :
    (Gff.read o (metaLine rest :: ls) st).1 = .err (.zero 2) (st.line + 1) := by
  rw [metaLine, Gff.read_meta o rest ls st, Gff.commentMetaline_region o st.md rest _ hsplit]
  simp [idx, Gff.mustAtoPos, Gff.mustAtoi, hs, Gff.oneToZero, Gff.resToCall, handlePanic]

/-! ## the `##date` line: `time.Parse("2006-1-02", ·)` modelled exactly

The theorems above hold for every `parseDate : Bytes → Bool`.  `Biogo.Go.TimeDate.parseAstronomical`
is the exact model of `time.Parse(gff.Astronomical, s)` as to success and the date returned
(transcribed from time/format.go: four digits, `-`, one or two digits greedily, `-`, exactly
two digits, nothing after; month 1..12; day 1..`daysIn`); the drivers of C02–C04 run the GFF
model with it, and op `dt` compares it with the real parser on date-like strings. -/

open Biogo.Go.TimeDate in
/-- **`##date` round trip**: what `Time.Format("2006-1-02")` writes for any date of the years
    0..9999 (`WriteMetaData(time.Time)`) is accepted by `time.Parse("2006-1-02", ·)` as that date. -/
theorem date_parse_format (year month day : Nat) (hy : year ≤ 9999) (hm1 : 1 ≤ month) (hm2 : month ≤ 12)
    (hd1 : 1 ≤ day) (hd2 : day ≤ daysIn month year) :
    parseAstronomical (formatAstronomical year month day) = some (year, month, day) :=
  parse_format year month day hy hm1 hm2 hd1 hd2

open Biogo.Go.TimeDate in
/-- what the layout accepts and rejects: single-digit months, leap days, year 0000; no one-digit
    day, no two-digit year, no month 0 or 13, no day 0 or beyond the month's end, no extra text -/
theorem date_layout_examples :
    [ofString "2020-1-02", ofString "1999-12-31", ofString "2000-2-29", ofString "2024-02-29", ofString "0000-1-01",
     ofString "2020-10-10"].map parseAstronomical
      = [some (2020, 1, 2), some (1999, 12, 31), some (2000, 2, 29), some (2024, 2, 29), some (0, 1, 1), some (2020, 10, 10)] ∧
    [ofString "2023-2-29", ofString "1900-2-29", ofString "2020-13-01", ofString "2020-1-2", ofString "20-1-02",
     ofString "2020-1-02 x", ofString "2020-0-10", ofString "2020-4-31", ofString "2020-1-00", ofString "2020-123-01",
     ofString "x", ofString ""].map parseAstronomical = List.replicate 12 none := by
  decide +kernel

/-- with the exact date parser: a `##date` line with a valid date is skipped, one with an
    impossible date is answered by the parser's error -/
example : (Gff.readAll ⟨fun _ => none, fun _ => [], Biogo.Go.TimeDate.dateOK⟩
      (ofString "##date 2024-2-29\n##date 2023-2-29\n")).1 = [.err .date 0, .eof] := by decide +kernel

/-! ## non-vacuity and the four defect witnesses -/

def noOracle : Gff.Oracles := ⟨fun _ => none, fun _ => [], fun _ => false⟩

/-- F1 -/
example : (Gff.readAll noOracle (ofString "##gff-version\n")).1 = [.err .metaline 1, .eof] := by decide +kernel
/-- F2 -/
example : (Gff.readAll noOracle (ofString "chr1\tsrc\tgene\t10\t20\t.\t+\n")).1 = [.err (.missing 7) 1, .eof] := by
  decide +kernel
/-- F3 -/
example : (Gff.readAll noOracle (ofString "chr1\tsrc\tgene\t0\t20\t.\t+\t0\n")).1 = [.err (.zero 3) 1, .eof] := by
  decide +kernel
example : (Gff.readAll noOracle (ofString "##sequence-region chr 0 10\n")).1 = [.err (.zero 2) 1, .eof] := by
  decide +kernel
example : featureLine (ofString "chr1\tsrc\tgene\t0\t20\t.\t+\t0") := by decide
example : Bed.readAll 6 (ofString "chr1\t1\tx\tn\t0\t+\nchr1\t1\t2\tn\t0\t*\nchr1\t1\n") =
    [.err (.num 2) 1, .err (.strand 5) 2, .err .badType 3, .eof] := by decide +kernel

end Biogo.Properties.C03_feat
