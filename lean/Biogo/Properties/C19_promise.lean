/-
C19 — promises under every schedule, for ALL eight `(mutable, recoverable, relay)` combinations
and every kind of caller (Fulfill, Fail, Recover, Break, Wait; any number, any values, nil
included).

Property theorems only.  They are about `Biogo.Promise.sys c` with `c.fixed = true` — the
protocol after the fix commits F19 (Wait under the mutex), 0095d35 (Fail tests `set`) and 5f9d169
(a refused Recover leaves the promise alone); the transition system the driver
(Biogo/Drive/C19.lean) executes under the forced schedules it shares with the implementation,
`Biogo.PromiseCond.fsys`, refines it (Properties/C19_cond.lean).  `Reach` quantifies over every
finite schedule of the goroutines.

What is *not* claimed, because promise.go documents the opposite: `Break` empties the promise
"blocking all listeners", and `Recover` on a recoverable promise resets it whatever it holds —
so Waits may legitimately block, and the value of an immutable promise may change, when such
calls exist.  The theorems say exactly that these are the only ways (`no_deadlock_all`,
`NoReset`).
-/
import Biogo.Proofs.PromiseAll

namespace Biogo.Properties.C19_promise
open Biogo.LTS Biogo.Promise

variable {c : Cfg} {s s' : St} {i : Nat}

/-- "All of this holds under every scheduling of the goroutines involved" — for all eight flag
    combinations and all five kinds of call: every reachable state of the concurrent protocol is
    explained by a *sequential* history.  There is a list of events `(call, return value)` which,
    executed one call after the other on an empty promise with the sequential semantics of
    promise.go (`seqCall`: `fulfill`, `fail`, `Recover`, `Break`, and a Wait that returns the
    Result present), is possible, ends with the promise's current content, contains every call
    at most once, and contains exactly the calls that have passed their linearisation point,
    each with the return value it delivers.  So the sequential promise laws (`seq_*` in
    Properties/C19.lean) are all there is: no interleaving adds a behaviour. -/
theorem promise_linearizable (hfix : c.fixed = true) (hr : Reach (sys c) s) :
    ∃ hist : List (Nat × Ret),
      seqExec c.flags c.calls none hist = some (cur s) ∧
      (hist.map Prod.fst).Nodup ∧
      ∀ (j : Nat) (ret : Ret), (j, ret) ∈ hist ↔ (s.pcs[j]?).bind lp = some ret :=
  lin_reach hfix s hr

/-- Fulfill, Fail, Recover and Break are atomic: such a call runs only while nobody holds the
    mutex, it maps the content by its sequential function, returns that function's result, and
    leaves the mutex free. -/
theorem calls_atomic_under_mutex (hfix : c.fixed = true) (_hr : Reach (sys c) s)
    {call : Call} (hcall : c.calls[i]? = some call) (hnw : call ≠ .wait)
    (hstep : step c s i = some s') :
    s.mu = none ∧ s'.mu = none ∧ cur s = s.box ∧ cur s' = s'.box ∧
    cur s' = (atomicCall c.flags (cur s) call).1 ∧
    s'.pcs[i]? = some (.done (atomicCall c.flags (cur s) call).2) := by
  cases step_cases hfix hstep with
  | atomic call' b ret hcall' _ hpc hmu heq hs' =>
    rw [hcall] at hcall'; cases hcall'
    have hlt := lt_of_getElem? hpc
    have hc1 : cur s = s.box := cur_mu_none hmu
    have hmu' : s'.mu = none := by rw [hs']; exact hmu
    have hc2 : cur s' = s'.box := cur_mu_none hmu'
    refine ⟨hmu, hmu', hc1, hc2, ?_, ?_⟩
    · rw [hc2, hc1, heq, hs']
    · rw [hc1, heq, hs']; simp [hlt]
  | take r hcall' _ _ _ _ => rw [hcall] at hcall'; cases hcall'; exact absurd rfl hnw
  | put r hcall' _ _ => rw [hcall] at hcall'; cases hcall'; exact absurd rfl hnw

/-- "without … deadlock", in full generality: in every reachable state either some goroutine can
    take a step, or the mutex is free and every call that has not returned is a Wait that has not
    taken anything, standing before an *empty* promise.  With `Break`/`Recover` callers that is
    the documented behaviour ("Break … blocking all listeners"); nothing else ever blocks: no
    Fulfill, Fail, Recover or Break waits for ever, no Wait is stuck holding the message, the
    mutex is never left locked, and no Wait sleeps while the promise holds a Result. -/
theorem no_deadlock_all (hfix : c.fixed = true) (hr : Reach (sys c) s) :
    (∃ i, (step c s i).isSome = true) ∨
    (s.mu = none ∧
      ∀ (i : Nat) (pc : APc), s.pcs[i]? = some pc → pc.isDone = false →
        c.calls[i]? = some .wait ∧ pc = .start ∧ s.box = none ∧ cur s = none) := by
  have hI := ginv_reach hfix s hr
  exact (enabled_or_blocked (step c s)).imp_right (stuck_shape hfix hI.mutex hI.len hI.bor_wait)

/-- a promise that holds a Result never blocks anybody: if some call has not returned, some
    goroutine can move -/
theorem settled_never_stuck (hfix : c.fixed = true) (hr : Reach (sys c) s)
    (hcur : cur s ≠ none) (hnd : allDone s = false) : ∃ i, (step c s i).isSome = true := by
  rcases no_deadlock_all hfix hr with h | ⟨_, h⟩
  · exact h
  · obtain ⟨k, pc, hpc, hp⟩ := exists_not_done hnd
    exact absurd (h k pc hpc hp).2.2.2 hcur

/-- the mutex is never leaked: whoever holds it is a Wait between its two blocks, and it can
    always take its next step; while it does, nobody else moves (the borrow window of F19 is
    closed: no other goroutine can observe the mailbox empty) -/
theorem mutex_never_leaks (hfix : c.fixed = true) (hr : Reach (sys c) s) {j : Nat}
    (hmu : s.mu = some j) :
    (∃ r, s.pcs[j]? = some (.borrowed r) ∧ c.calls[j]? = some .wait ∧ cur s = some r) ∧
    (step c s j).isSome = true ∧ ∀ k, k ≠ j → step c s k = none := by
  have hI := ginv_reach hfix s hr
  obtain ⟨r, hpc⟩ := hI.mutex.mu_bor j hmu
  have hcall := hI.bor_wait j r hpc
  refine ⟨⟨r, hpc, hcall, cur_of_borrowed (hI.mutex.bor j r hpc).2 hmu hpc⟩,
    by rw [step_put hfix hcall hpc]; rfl, ?_⟩
  intro k hkj
  cases hs : step c s k with
  | none => rfl
  | some t =>
    exfalso
    cases step_cases hfix hs with
    | atomic _ _ _ _ _ _ hmu' _ _ => rw [hmu] at hmu'; cases hmu'
    | take _ _ _ hmu' _ _ => rw [hmu] at hmu'; cases hmu'
    | put r' _ hpc' _ =>
      have := (hI.mutex.bor k r' hpc').1
      rw [hmu] at this; cases this; exact hkj rfl

/-- when no call can reset the promise (no Break; Recover only where it is refused) and at least
    one Fulfill or Fail exists, nothing ever blocks — for every flag combination, every value,
    nil included.  (Generalises `no_deadlock` of Properties/C19.lean.) -/
theorem no_deadlock_noreset (hfix : c.fixed = true) (hN : NoReset c) (hr : Reach (sys c) s)
    (hsetter : ∃ (k : Nat) (call : Call), c.calls[k]? = some call ∧ call.isFF = true)
    (hnd : allDone s = false) : ∃ i, (step c s i).isSome = true :=
  can_move hfix hN hr hsetter hnd

/-- "every Wait, started before or after fulfilment, returns that value": a Wait that had not
    started in `s` and has returned `r` in `s'` performed, somewhere between the two, its take
    step in a state `t` in which the promise's settled Result was exactly `r` (in the mailbox,
    mutex free): what a Wait returns was the promise's content at a moment between the Wait's
    start and its return. -/
theorem wait_returns_settled_between (hfix : c.fixed = true)
    (hcall : c.calls[i]? = some .wait) (h0 : s.pcs[i]? = some .start)
    (hrf : ReachFrom (sys c) s s') {r : Res} (h1 : s'.pcs[i]? = some (.done (.res r))) :
    ∃ t t', ReachFrom (sys c) s t ∧ step c t i = some t' ∧ ReachFrom (sys c) t' s' ∧
      t.pcs[i]? = some .start ∧ t.mu = none ∧ t.box = some r ∧ cur t = some r := by
  obtain ⟨t, t', a, b, d, e, f, g, _⟩ := wait_history hfix hrf hcall h0 (r := r) (by simp [h1, lp])
  exact ⟨t, t', a, b, d, e, f, g, cur_of_box g⟩

/-- … and it still is the content at the instant the Wait returns: the step that makes a Wait
    return `r` starts in a state whose content is `r` and ends in one whose mailbox holds `r`,
    mutex free. -/
theorem wait_delivers_current (hfix : c.fixed = true) (hr : Reach (sys c) s)
    {r : Res} (hpc : s.pcs[i]? = some (.borrowed r)) :
    cur s = some r ∧
    ∃ t, step c s i = some t ∧ t.box = some r ∧ t.mu = none ∧ t.pcs[i]? = some (.done (.res r)) := by
  have hI := ginv_reach hfix s hr
  obtain ⟨hmu, hbox⟩ := hI.mutex.bor i r hpc
  have hcall := hI.bor_wait i r hpc
  exact ⟨cur_of_borrowed hbox hmu hpc, _, step_put hfix hcall hpc, rfl, rfl, List.getElem?_set_self (lt_of_getElem? hpc)⟩

/-- nothing out of thin air: whatever the promise holds is the value of a call that reported
    success (Fulfill returned nil, Fail or Recover returned true), with that call's error or the
    relayed "already set" error — hence so is everything a Wait delivers. -/
theorem content_has_a_source (hfix : c.fixed = true) (hr : Reach (sys c) s) {r : Res}
    (hcur : cur s = some r) :
    ∃ (j : Nat) (call : Call) (ret : Ret), c.calls[j]? = some call ∧ s.pcs[j]? = some (.done ret) ∧
      (APc.done ret).isWin = true ∧ r.val = call.valueOf ∧
      (r.err = call.errOf ∨ r.err = some .alreadySet) :=
  prov_reach hfix s hr r hcur

/-- the calls of C19's promise sentence and more: Fulfill and Fail with any values (nil
    included), Wait, and Recover where it is refused — everything except the two calls that
    promise.go documents as resetting the promise -/
example :
    let c : Cfg := { flags := ⟨false, false, true⟩,
                     calls := [.fulfill none, .fail (some 5) (some (.user 7)), .recover (some 3), .wait, .fulfill (some 1)],
                     fixed := true }
    NoReset c := by
  intro c call h; simp [c] at h; rcases h with h | h | h | h | h <;> subst h <;> rfl

/-- "An immutable Promise takes the value of exactly one successful Fulfill": under every
    schedule at most one Fulfill/Fail reports success, and exactly one has once the promise holds
    anything.  Any relay flag, any values (a promise fulfilled with nil included — fix 0095d35),
    refused Recovers allowed (fix 5f9d169). -/
theorem immutable_single_assignment (hfix : c.fixed = true) (hm : c.flags.mutable = false)
    (hN : NoReset c) (hr : Reach (sys c) s) :
    s.pcs.countP APc.isWin ≤ 1 ∧ (cur s ≠ none ↔ s.pcs.countP APc.isWin = 1) := by
  have hW : s.pcs.countP APc.isWin = if cur s = none then 0 else 1 := wins_reach hfix hm hN s hr
  rw [hW]; split <;> simp [*]

/-- "an immutable promise's value never changes after the first success": once the promise
    holds `r`, in every later state it holds a Result with the same value, and the same error —
    or, on a relaying promise, the "already set" error relayed into a Result that had none. -/
theorem immutable_value_never_changes (hfix : c.fixed = true) (hm : c.flags.mutable = false)
    (hN : NoReset c) (hr : Reach (sys c) s) {r : Res} (hcur : cur s = some r)
    (hrf : ReachFrom (sys c) s s') :
    ∃ r', cur s' = some r' ∧ r'.val = r.val ∧
      (r'.err = r.err ∨ (c.flags.relay = true ∧ r.err = none ∧ r'.err = some .alreadySet)) :=
  cur_ext_stable hfix hm hN (ginv_reach hfix s hr) hrf hcur

/-- without relay the whole Result never changes -/
theorem immutable_result_never_changes (hfix : c.fixed = true) (hm : c.flags.mutable = false)
    (hrl : c.flags.relay = false) (hN : NoReset c) (hr : Reach (sys c) s) {r : Res}
    (hcur : cur s = some r) (hrf : ReachFrom (sys c) s s') : cur s' = some r := by
  obtain ⟨r', h1, h2⟩ := cur_ext_stable hfix hm hN (ginv_reach hfix s hr) hrf hcur
  rw [h1, Ext.eq_of_norelay hrl h2]

/-- the step form, with no assumption on the other calls: the only calls that change the value
    of an immutable promise are Break and Recover on a recoverable promise -/
theorem immutable_value_changed_only_by_reset (hfix : c.fixed = true) (hm : c.flags.mutable = false)
    (hr : Reach (sys c) s) {call : Call} (hcall : c.calls[i]? = some call)
    (hnr : call.resets c.flags = false) {r : Res} (hcur : cur s = some r)
    (hstep : step c s i = some s') :
    ∃ r', cur s' = some r' ∧ r'.val = r.val ∧
      (r'.err = r.err ∨ (c.flags.relay = true ∧ r.err = none ∧ r'.err = some .alreadySet)) :=
  cur_ext_step hfix hm (fun call' h' => by rw [hcall] at h'; cases h'; exact hnr) (ginv_reach hfix s hr)
    hstep hcur

/-- "takes the value of exactly one successful Fulfill": a Fulfill that reported success (or a
    Fail that did) has its value in the promise in every later state, with its error — or the
    relayed one. -/
theorem immutable_takes_successful_value (hfix : c.fixed = true) (hm : c.flags.mutable = false)
    (hN : NoReset c) (hr : Reach (sys c) s) {call : Call} {ret : Ret} {r0 : Res}
    (hcall : c.calls[i]? = some call) (hpc : s.pcs[i]? = some (.done ret))
    (hobs : obsRes call ret = some r0) (hrf : ReachFrom (sys c) s s') :
    ∃ r', cur s' = some r' ∧ r'.val = r0.val ∧
      (r'.err = r0.err ∨ (c.flags.relay = true ∧ r0.err = none ∧ r'.err = some .alreadySet)) :=
  obs_stable hfix hm hN hr hcall hpc rfl hobs hrf

/-- "every other Fulfill returns an error and leaves it unchanged", and the relay semantics as
    documented in promise.go ("Promises created with relay set to true will relay an error
    generated by attempting to fulfill an immutable fulfilled promise"): a Fulfill that runs on
    an immutable promise holding `r`
    * `r` carries no error: returns "already set"; the promise keeps `r` — with relay its error
      becomes the relayed "already set" error, the value stays;
    * `r` carries an error: returns "failed promise" (with relay: "cannot relay"); the promise
      keeps `r` unchanged. -/
theorem relay_semantics (hfix : c.fixed = true) (hm : c.flags.mutable = false)
    (hr : Reach (sys c) s) {v : Option Nat} (hcall : c.calls[i]? = some (.fulfill v))
    {r : Res} (hcur : cur s = some r) (hstep : step c s i = some s') :
    (r.err = none →
      s'.pcs[i]? = some (.done (.ferr (some .alreadySet))) ∧
      cur s' = some ⟨r.val, if c.flags.relay then some .alreadySet else none⟩) ∧
    (∀ e, r.err = some e →
      s'.pcs[i]? = some (.done (.ferr (some (if c.flags.relay then .cannotRelay else .failedPromise)))) ∧
      cur s' = some r) := by
  obtain ⟨_, _, _, _, h5, h6⟩ := calls_atomic_under_mutex hfix hr hcall (by simp) hstep
  rw [hcur] at h5 h6
  obtain ⟨v0, err⟩ := r
  constructor
  · rintro rfl
    simp only [atomicCall, fulfill_fulfilled, hm, Bool.false_eq_true, if_false] at h5 h6
    exact ⟨h6, h5⟩
  · rintro e rfl
    simp only [atomicCall, fulfill_failed] at h5 h6
    exact ⟨h6, h5⟩

/-- a Fail on an immutable promise that holds anything — `Result{nil, nil}` after `Fulfill(nil)`
    included — reports false and changes nothing (any flags, in fact) -/
theorem fail_on_settled_refused (hfix : c.fixed = true) (hr : Reach (sys c) s)
    {v : Option Nat} {e : Option ErrV} (hcall : c.calls[i]? = some (.fail v e))
    {r : Res} (hcur : cur s = some r) (hstep : step c s i = some s') :
    s'.pcs[i]? = some (.done (.bool false)) ∧ cur s' = some r := by
  obtain ⟨_, _, _, _, h5, h6⟩ := calls_atomic_under_mutex hfix hr hcall (by simp) hstep
  rw [hcur] at h5 h6
  simp [atomicCall, fail_set] at h5 h6
  exact ⟨h6, h5⟩

/-- a refused Recover (non-recoverable promise) reports false and changes nothing -/
theorem refused_recover_changes_nothing (hfix : c.fixed = true) (hr : Reach (sys c) s)
    (hnrc : c.flags.recoverable = false) {v : Option Nat} (hcall : c.calls[i]? = some (.recover v))
    (hstep : step c s i = some s') :
    s'.pcs[i]? = some (.done (.bool false)) ∧ cur s' = cur s := by
  obtain ⟨_, _, _, _, h5, h6⟩ := calls_atomic_under_mutex hfix hr hcall (by simp) hstep
  simp [atomicCall, recover, hnrc] at h5 h6
  exact ⟨h6, h5⟩

/-- "every Wait, started before or after fulfilment, returns that value (or the failure's
    error)": what a Wait has delivered (or taken) stays the content for ever, up to the relayed
    error; so all Waits deliver the same value, and without relay the very same Result — the
    winner's (`immutable_takes_successful_value`). -/
theorem immutable_waits_deliver_the_value (hfix : c.fixed = true) (hm : c.flags.mutable = false)
    (hN : NoReset c) (hr : Reach (sys c) s)
    {r0 : Res} (hcall : c.calls[i]? = some .wait) (hpc : s.pcs[i]? = some (.done (.res r0))) :
    (∀ s', ReachFrom (sys c) s s' → ∃ r', cur s' = some r' ∧ r'.val = r0.val ∧
        (r'.err = r0.err ∨ (c.flags.relay = true ∧ r0.err = none ∧ r'.err = some .alreadySet))) ∧
    (∀ (j : Nat) (r1 : Res), c.calls[j]? = some .wait → s.pcs[j]? = some (.done (.res r1)) →
        r1.val = r0.val ∧ (c.flags.relay = false → r1 = r0)) :=
  ⟨fun _ hrf => immutable_takes_successful_value hfix hm hN hr hcall hpc rfl hrf,
    fun _ _ hcj hpj => (obs_reach hfix hm hN s hr).waits_agree hcall hpc hcj hpj⟩

/-- "Mutable promises may have their value state changed with subsequent Fulfill calls": on a
    mutable promise a Fulfill succeeds and installs its value unless the promise carries an
    error; then it fails ("failed promise" / with relay "cannot relay") and changes nothing. -/
theorem mutable_fulfill_replaces (hfix : c.fixed = true) (hm : c.flags.mutable = true)
    (hr : Reach (sys c) s) {v : Option Nat} (hcall : c.calls[i]? = some (.fulfill v))
    (hstep : step c s i = some s') :
    ((cur s = none ∨ ∃ r, cur s = some r ∧ r.err = none) →
      s'.pcs[i]? = some (.done (.ferr none)) ∧ cur s' = some ⟨v, none⟩) ∧
    (∀ r e, cur s = some r → r.err = some e →
      (∃ fe, s'.pcs[i]? = some (.done (.ferr (some fe)))) ∧ cur s' = some r) := by
  obtain ⟨_, _, _, _, h5, h6⟩ := calls_atomic_under_mutex hfix hr hcall (by simp) hstep
  constructor
  · rintro (h | ⟨⟨v0, _⟩, h, rfl⟩) <;> rw [h] at h5 h6
    · simp only [atomicCall, fulfill_unset] at h5 h6
      exact ⟨h6, h5⟩
    · simp only [atomicCall, fulfill_fulfilled, hm, if_true] at h5 h6
      exact ⟨h6, h5⟩
  · rintro ⟨v0, _⟩ e h rfl
    rw [h] at h5 h6
    simp only [atomicCall, fulfill_failed] at h5 h6
    exact ⟨⟨_, h6⟩, h5⟩

/-- without resetting calls a promise that holds a Result holds one for ever (any flags) -/
theorem settled_stays_settled (hfix : c.fixed = true) (hN : NoReset c) (hr : Reach (sys c) s)
    (hcur : cur s ≠ none) (hrf : ReachFrom (sys c) s s') : cur s' ≠ none :=
  Option.ne_none_iff_isSome.2
    (cur_some_stable hfix hN (ginv_reach hfix s hr) hrf (Option.ne_none_iff_isSome.1 hcur))

/-- `(*Promise).fail` as found: "not set" was read off the message's content -/
def failAsFound (box : Option Res) (v : Option Nat) (e : Option ErrV) : Option Res × Bool :=
  let (r, _) := messageState box
  if r.err.isNone && r.val.isNone then
    (some { val := (if v.isSome then v else r.val), err := e }, true)
  else (some r, false)

/-- `(*Promise).Recover` as found: the message was taken before the `recoverable` test -/
def recoverAsFound (f : Flags) (_box : Option Res) (v : Option Nat) : Option Res × Bool :=
  if f.recoverable then
    if v.isSome then ((fulfill f none v).1, true) else (none, true)
  else (none, false)

/-- as found, an immutable promise fulfilled with nil could be failed afterwards: two setters
    succeed, and the Result changes under the waiters' feet -/
theorem fail_after_fulfill_nil_as_found :
    let f : Flags := ⟨false, false, false⟩
    let b1 := (fulfill f none none)
    b1 = (some ⟨none, none⟩, none) ∧
    failAsFound b1.1 (some 5) (some (.user 7)) = (some ⟨some 5, some (.user 7)⟩, true) ∧
    Promise.fail b1.1 (some 5) (some (.user 7)) = (some ⟨none, none⟩, false) := by
  decide

/-- as found, a refused Recover emptied the promise: an immutable, non-recoverable promise
    fulfilled with 1 could then be fulfilled with 2 -/
theorem refused_recover_dropped_message_as_found :
    let f : Flags := ⟨false, false, false⟩
    let b1 := (fulfill f none (some 1)).1
    recoverAsFound f b1 (some 5) = (none, false) ∧
    (fulfill f (recoverAsFound f b1 (some 5)).1 (some 2)) = (some ⟨some 2, none⟩, none) ∧
    Promise.recover f b1 (some 5) = (b1, false) ∧
    (fulfill f (Promise.recover f b1 (some 5)).1 (some 2)).2 = some .alreadySet := by
  decide

/-! ## Non-vacuity -/

/-- a run with every kind of call on a mutable, recoverable, relaying promise: Fulfill(1); a
    Wait takes it; Break is blocked while the waiter holds the mutex, then empties the promise;
    the second Wait is blocked; Recover(3) refills; Fail is refused; everything has returned -/
example :
    let c : Cfg := { flags := ⟨true, true, true⟩,
                     calls := [.fulfill (some 1), .wait, .brk, .wait, .recover (some 3), .fail none (some (.user 7))],
                     fixed := true }
    step c (runSkip (sys c) (init c) [0, 1]) 2 = none ∧
    step c (runSkip (sys c) (init c) [0, 1, 1, 2]) 3 = none ∧
    (runSkip (sys c) (init c) [0, 1, 1, 2, 3, 4, 3, 3, 5]).pcs =
      [.done (.ferr none), .done (.res ⟨some 1, none⟩), .done .unit, .done (.res ⟨some 3, none⟩),
       .done (.bool true), .done (.bool false)] := by
  decide

/-- the stuck shape of `no_deadlock_all` does occur: Fulfill, Break, then a Wait -/
example :
    let c : Cfg := { flags := ⟨false, false, false⟩, calls := [.fulfill (some 1), .brk, .wait], fixed := true }
    let s := runSkip (sys c) (init c) [0, 1]
    (∀ i ∈ [0, 1, 2], step c s i = none) ∧ allDone s = false ∧ cur s = none := by
  decide

/-- relay: the rejected second Fulfill stores its error; the Wait delivers value 1 with it -/
example :
    let c : Cfg := { flags := ⟨false, false, true⟩, calls := [.fulfill (some 1), .fulfill (some 2), .wait], fixed := true }
    (runSkip (sys c) (init c) [0, 1, 2, 2]).pcs =
      [.done (.ferr none), .done (.ferr (some .alreadySet)), .done (.res ⟨some 1, some .alreadySet⟩)] := by
  decide

end Biogo.Properties.C19_promise
