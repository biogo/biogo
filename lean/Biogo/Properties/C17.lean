/-
C17 — Alphabets map letters, indices and complements consistently.
Property theorems only.  First the theorems about the constructors, for any definition.  Then
the built-in alphabets: the definitions are regenerated from the source
(`Biogo.Generated.Alphabets`); of their laws, those that are theorems about every accepted
definition are instances of these theorems, and those that are facts about the literals are
decided by the kernel on the letters of the pairing string: every other letter is its own
complement, and of such a letter they say nothing (`literalLaw_of_pairing`).
-/
import Biogo.Model.Alphabet
import Biogo.Generated.Alphabets
import Biogo.Drive.C17
import Biogo.Proofs.AlphabetBuild

namespace Biogo.Properties.C17
open Biogo.Alphabet

/-- membership in a definition, in either case for case-insensitive alphabets -/
def inDef (d : Def) (l : UInt8) : Bool := Biogo.Drive.C17.inDef d l

def isUpperB (b : UInt8) : Bool := 65 ≤ b && b ≤ 90
def isLowerB (b : UInt8) : Bool := 97 ≤ b && b ≤ 122

/-- All per-letter laws of C17 for a built-in alphabet, as one decidable statement. -/
def builtinLawsAt (d : Def) (l : UInt8) : Bool :=
  match d.build with
  | .error _ => false
  | .ok (a, p) =>
    -- valid exactly when the letter (in either case if uncased) is in the definition
    (a.isValid l == inDef d l)
    -- IndexOf negative exactly for invalid letters, and within 0..Len-1 otherwise
    && ((a.indexOf l < 0) == !a.isValid l)
    && (!a.isValid l || (0 ≤ a.indexOf l && a.indexOf l < a.length))
    -- Letter (IndexOf l) = l up to case (exactly, for case sensitive alphabets)
    && (!a.isValid l ||
          (match a.letter (a.indexOf l).toNat with
           | some x => if d.cased then x == l else toLower x == toLower l
           | none => false))
    && (match p with
        | none => d.pairS.isNone
        | some p =>
          let c := (p.complement l).1
          -- involution
          ((p.complement c).1 == l)
          -- valid letters go to valid letters
          && (!a.isValid l || a.isValid c)
          -- case preserving
          && (isUpperB l == isUpperB c) && (isLowerB l == isLowerB c)
          -- method and table forms agree (invalid pairs are marked by the high bit)
          && (p.complements l == if (p.complement l).2 then c else c ||| 128)
          -- four-letter nucleotide alphabets: index of complement = 3 - index
          && (!(d.nucleotide4 && a.isValid l) || a.indexOf c == 3 - a.indexOf l))

/-- Letter and IndexOf are mutually inverse on 0..Len-1, Len is the definition's length. -/
def builtinIndexLawsAt (d : Def) (i : Nat) : Bool :=
  match d.build with
  | .error _ => false
  | .ok (a, _) =>
    a.length == d.letters.length &&
    (match a.letter i with
     | some l => a.indexOf l == (i : Int) && a.isValid l
     | none => false)

/-! ## Any definition

The theorems below are about the constructors themselves (`newAlphabet`, `newPairing`,
`newComplementor` of `Biogo.Model.Alphabet` — the functions the driver runs on the `na`, `np`,
`nc` cases and on the built-ins), for every definition, of any length. -/

section general
variable {ls : List UInt8} {g a : UInt8} {cased : Bool} {A : Alpha}

/-- "a letter is valid exactly when it (in either case, for case-insensitive alphabets)
    appears in the definition" — `inDefinition` is the predicate the driver evaluates on the
    implementation's output. -/
theorem valid_iff_mem (h : newAlphabet ls g a cased = .ok A) (l : UInt8) :
    A.isValid l = inDefinition cased ls l :=
  newAlphabet_valid h l

/-- case-sensitive: valid ⇔ a letter of the definition -/
theorem valid_iff_mem_cased (h : newAlphabet ls g a true = .ok A) (l : UInt8) :
    A.isValid l = true ↔ l ∈ ls := by
  rw [valid_iff_mem h]; simp [inDefinition]

/-- case-insensitive: valid ⇔ equal to a letter of the definition up to ASCII case -/
theorem valid_iff_mem_uncased (h : newAlphabet ls g a false = .ok A) (l : UInt8) :
    A.isValid l = true ↔ ∃ x ∈ ls, toLower x = toLower l := by
  rw [valid_iff_mem h]; simp [inDefinition]

/-- the hypothesis "distinct letters": distinct after lower-casing when the alphabet is not
    case sensitive -/
def Distinct (cased : Bool) (ls : List UInt8) : Prop :=
  if cased then ls.Nodup else (ls.map toLower).Nodup

/-- "IndexOf and Letter are mutually inverse on 0..Len-1" (1): `IndexOf (Letter i) = i`. -/
theorem indexOf_letter (h : newAlphabet ls g a cased = .ok A) (hd : Distinct cased ls)
    (i : Nat) (hi : i < A.length) :
    ∃ l, A.letter i = some l ∧ A.isValid l = true ∧ A.indexOf l = (i : Int) := by
  have hlen := (newAlphabet_ok h).1
  apply indexOf_letter_nodup h _ i (by omega)
  cases cased <;> simpa [Distinct, indexList] using hd

/-- "… mutually inverse" (2): for a valid `l`, `IndexOf l` lies in `0..Len-1` and
    `Letter (IndexOf l)` is `l` up to ASCII case — exactly `l` for a case-sensitive alphabet.
    (No distinctness needed.) -/
theorem letter_indexOf (h : newAlphabet ls g a cased = .ok A) (l : UInt8) (hv : A.isValid l = true) :
    0 ≤ A.indexOf l ∧ A.indexOf l < A.length ∧
    ∃ x, A.letter (A.indexOf l).toNat = some x ∧ toLower x = toLower l ∧ (cased = true → x = l) := by
  obtain ⟨h0, h1, h2⟩ := letter_indexOf_fold h l hv
  have hlen := (newAlphabet_ok h).1
  refine ⟨h0, by omega, foldOf cased l, h2, ?_, ?_⟩
  · cases cased <;> simp [foldOf, toLower_idem]
  · intro hc; simp [foldOf, hc]

/-- "IndexOf is negative for invalid letters" — and only for them. -/
theorem indexOf_neg_iff_invalid (h : newAlphabet ls g a cased = .ok A) (l : UInt8) :
    A.indexOf l < 0 ↔ A.isValid l = false :=
  indexOf_neg_iff h l

end general

/-- "AllValid reports the first invalid position", for any alphabet value and any slice:
    the answer is `(true, -1)` exactly when every letter is valid; an answer `(false, i)` names
    a position `i` inside the slice whose letter is invalid and before which every letter is
    valid; and there is no third kind of answer. -/
theorem allValid_first_invalid (a : Alpha) (ls : List Letter) :
    (a.allValid ls = (true, -1) ↔ ∀ l ∈ ls, a.isValid l = true) ∧
    (∀ i : Int, a.allValid ls = (false, i) →
      ∃ n : Nat, i = n ∧ n < ls.length ∧ ls[n]?.map a.isValid = some false ∧
        ∀ m < n, ls[m]?.map a.isValid = some true) ∧
    (a.allValid ls = (true, -1) ∨ ∃ n : Nat, a.allValid ls = (false, (n : Int))) := by
  simp only [Alpha.allValid, allValidFrom_eq, show a.isValid = a.valid from rfl, Nat.zero_add]
  cases h : ls.findIdx? (fun l => !a.valid l) with
  | none =>
    have := List.findIdx?_eq_none_iff.mp h
    simpa using this
  | some n =>
    obtain ⟨hn, h1, h2⟩ := List.findIdx?_eq_some_iff_getElem.mp h
    simp only [Bool.not_eq_eq_eq_not, Bool.not_true] at h1 h2
    simp only []
    refine ⟨⟨fun hc => (by cases hc), fun hall => ?_⟩, ?_, Or.inr ⟨n, rfl⟩⟩
    · rw [hall _ (List.getElem_mem hn)] at h1; cases h1
    · rintro i ⟨⟩
      exact ⟨n, rfl, hn, by simp [hn, h1], fun m hm => by simp [show m < ls.length by omega, h2 m hm]⟩

section pairing
variable {s c : List UInt8} {p : Pairing}

/-- "the complement is … [an] involution": for any accepted pairing,
    `Complement (Complement l) = l` for all 256 letter values. -/
theorem complement_involutive (h : newPairing s c = .ok p) (l : UInt8) :
    (p.complement (p.complement l).1).1 = l :=
  newPairing_pair_involutive h l

/-- "its method and table forms agree": the table holds the method's letter, with the high
    bit set exactly when the method reports `ok = false`. -/
theorem table_agrees_method (h : newPairing s c = .ok p) (l : UInt8) :
    p.complements l = if (p.complement l).2 then (p.complement l).1 else (p.complement l).1 ||| 128 := by
  simp only [Pairing.complement]
  exact newPairing_table h l

/-- the complementing alphabet keeps the pairing it was given, so the two laws above hold for
    the value `NewComplementor` returns -/
theorem newComplementor_pairing {n : Nucleic} {g a : UInt8} {cased : Bool} {ls : List UInt8}
    (h : newComplementor ls p g a cased = .ok n) :
    n.pairing = p ∧ newAlphabet ls g a cased = .ok n.alpha := by
  unfold newComplementor at h
  split at h
  · cases h
  · rename_i A hA
    split at h
    · injection h with h; subst h; exact ⟨rfl, hA⟩
    · cases h

/-- The acceptance test of `NewComplementor` never fails: a letter without a pairing keeps
    itself as complement (so `i&0x7f == v&0x7f`), a letter with one has `ok = true`, and either
    makes the first conjunct of the test false.  `NewComplementor` therefore accepts every
    pairing `NewPairing` accepts, whatever the alphabet — which is why "valid letters go to valid
    letters" and "case preserving" are *not* theorems about arbitrary complementors (witnesses
    below); they are proved for the built-ins (`builtin_laws`). -/
theorem newComplementor_accepts_every_pairing {ls : List UInt8} {g a : UInt8} {cased : Bool} {A : Alpha}
    (hp : newPairing s c = .ok p) (hA : newAlphabet ls g a cased = .ok A) :
    newComplementor ls p g a cased = .ok { alpha := A, pairing := p } :=
  newComplementor_of_newPairing hp hA

/-- "constructors reject non-ASCII definitions" -/
theorem rejects_nonASCII (ls : List UInt8) (g a : UInt8) (cased : Bool) (p : Pairing)
    (h : ∃ b ∈ ls, b ≥ 128) :
    newAlphabet ls g a cased = .error .nonASCII ∧
    newComplementor ls p g a cased = .error .nonASCII := by
  have hany : ls.any (fun b => b ≥ 128) = true := by
    obtain ⟨b, hb, hge⟩ := h
    exact List.any_eq_true.mpr ⟨b, hb, by simpa using hge⟩
  have h1 : newAlphabet ls g a cased = .error .nonASCII := by simp [newAlphabet, hany]
  exact ⟨h1, by simp [newComplementor, h1]⟩

/-- … and non-ASCII pairing definitions -/
theorem rejects_nonASCII_pairing (hlen : s.length = c.length) (h : ∃ b ∈ s ++ c, b ≥ 128) :
    newPairing s c = .error .pairNonASCII := by
  obtain ⟨b, hb, hge⟩ := h
  have : (s.any (· ≥ 128) || c.any (· ≥ 128)) = true := by
    rw [← List.any_append]; exact List.any_eq_true.mpr ⟨b, hb, by simpa using hge⟩
  simp [newPairing, hlen, this]

/-- "constructors reject … mismatched … pairings" -/
theorem rejects_length_mismatch (h : s.length ≠ c.length) :
    newPairing s c = .error .lengthMismatch := by
  simp [newPairing, h]

/-- A pairing of equal-length ASCII strings is accepted exactly when the table it defines
    (`pair[s[i]] = c[i]`, last write wins, identity elsewhere) is an involution of the 256
    letter values. -/
theorem accepts_iff_involution (hlen : s.length = c.length) (hascii : ∀ b ∈ s ++ c, b < 128) :
    (∃ p, newPairing s c = .ok p) ↔ ∀ x, pairTable s c (pairTable s c x) = x := by
  constructor
  · rintro ⟨p, h⟩ x
    exact newPairing_pair h ▸ newPairing_pair_involutive h x
  · intro hinv
    rcases newPairing_cases hlen hascii with ⟨_, hp⟩ | ⟨hf, _⟩
    · exact hp
    · rw [checkBijection_of_involutive (pairTable s c) s c hinv] at hf; cases hf

/-- "constructors reject … non-bijective pairings": if the table is not injective (two letters
    share a complement) the pairing is rejected with the "not a bijection" error.  (So is every
    bijection that is not an involution, by `accepts_iff_involution`.) -/
theorem rejects_non_bijection (hlen : s.length = c.length) (hascii : ∀ b ∈ s ++ c, b < 128)
    (h : ¬ Function.Injective (pairTable s c)) :
    newPairing s c = .error .notBijection := by
  have hno : ¬ ∃ p, newPairing s c = .ok p := by
    intro hp
    have hinv := (accepts_iff_involution hlen hascii).mp hp
    apply h
    intro x y hxy
    rw [← hinv x, ← hinv y, hxy]
  rcases newPairing_cases hlen hascii with ⟨_, hp⟩ | ⟨_, he⟩
  · exact absurd hp hno
  · exact he

/-- The second test of the check loop (`c[i] == pair[pair[c[i]]]`) never decides: if every
    letter of `s` passes the first test, the pairing is accepted. -/
theorem second_bijection_test_redundant (hlen : s.length = c.length) (hascii : ∀ b ∈ s ++ c, b < 128)
    (h : ∀ l ∈ s, pairTable s c (pairTable s c l) = l) : ∃ p, newPairing s c = .ok p :=
  (accepts_iff_involution hlen hascii).mpr (pairTable_involutive_of_check s c h)

end pairing

-- non-vacuity: the hypotheses are satisfied by real definitions, cased and not, and by a
-- real pairing; a non-injective pairing and a 3-cycle are rejected
example : (match newAlphabet [97, 99, 103, 116] 45 110 false with
    | .ok A => A.isValid 65 && A.indexOf 84 == 3 && A.letter 3 == some 116 | .error _ => false) = true ∧
    Distinct false [97, 99, 103, 116] ∧ Distinct true [65, 97] ∧ ¬ Distinct false [65, 97] := by
  refine ⟨by decide +kernel, ?_, ?_, ?_⟩ <;> simp [Distinct, toLower] <;> decide
example : (match newPairing [97, 116] [116, 97] with | .ok p => p.pair 97 == 116 | .error _ => false) = true ∧
    (match newPairing [97, 98] [99, 99] with | .error e => e == .notBijection | .ok _ => false) = true ∧
    (match newPairing [97, 98, 99] [98, 99, 97] with | .error e => e == .notBijection | .ok _ => false) = true := by
  decide +kernel

/-- Not general (refutation witnesses on the model, replayed on the implementation by the `nc`
    corpus lines): the alphabet "ab" with the accepted pairing a↔c is accepted, `a` is valid and
    its complement `c` is not; the accepted pairing a↔G is not case preserving. -/
theorem complement_valid_not_general :
    (match newPairing [97, 99] [99, 97] with
     | .ok p =>
       (match newComplementor [97, 98] p 45 110 true with
        | .ok n => n.alpha.isValid 97 && !n.alpha.isValid (n.pairing.complement 97).1
        | .error _ => false)
     | .error _ => false) = true ∧
    (match newPairing [97, 71] [71, 97] with
     | .ok p => isLowerB 97 && !isLowerB (p.complement 97).1
     | .error _ => false) = true := by decide +kernel

/-- What `builtinLawsAt` says beyond the theorems above, which hold of every definition the
    constructors accept: that valid letters go to valid letters, that the complement preserves
    case, and the index law of the four-letter nucleotide alphabets.  These are facts about the
    literals (`complement_valid_not_general`). -/
def literalLaw (a : Alpha) (p : Pairing) (nuc4 : Bool) (l : UInt8) : Bool :=
  let c := (p.complement l).1
  (!a.isValid l || a.isValid c)
  && (isUpperB l == isUpperB c) && (isLowerB l == isLowerB c)
  && (!(nuc4 && a.isValid l) || a.indexOf c == 3 - a.indexOf l)

def literalLawsAt (d : Def) (l : UInt8) : Bool :=
  match d.build with
  | .error _ => false
  | .ok (_, none) => d.pairS.isNone
  | .ok (a, some p) => literalLaw a p d.nucleotide4 l

/-- the other conjuncts of `builtinLawsAt` are `valid_iff_mem`, `indexOf_neg_iff_invalid`,
    `letter_indexOf`, `complement_involutive` and `table_agrees_method` at the definition -/
theorem builtinLawsAt_eq (d : Def) (l : UInt8) : builtinLawsAt d l = literalLawsAt d l := by
  unfold builtinLawsAt literalLawsAt
  cases h : d.build with
  | error e => rfl
  | ok r =>
    obtain ⟨a, p⟩ := r
    obtain ⟨hA, hp⟩ := Def.build_ok h
    have h1 : (a.isValid l == inDef d l) = true := by
      rw [valid_iff_mem hA]; exact beq_self_eq_true _
    have h234 : ((a.indexOf l < 0) == !a.isValid l) = true ∧
        (!a.isValid l || (0 ≤ a.indexOf l && a.indexOf l < a.length)) = true ∧
        (!a.isValid l ||
          (match a.letter (a.indexOf l).toNat with
           | some x => if d.cased then x == l else toLower x == toLower l
           | none => false)) = true := by
      cases hv : a.isValid l with
      | false => simp [(indexOf_neg_iff_invalid hA l).mpr hv]
      | true =>
        obtain ⟨h0, hlt, x, hx, hlow, hcase⟩ := letter_indexOf hA l hv
        have : ¬ a.indexOf l < 0 := by omega
        cases hc : d.cased <;> simp [this, h0, hlt, hx, hlow, hcase, hc]
    cases p with
    | none => simp [h1, h234]
    | some q =>
      obtain ⟨s, c, hq⟩ := hp q rfl
      simp [literalLaw, h1, h234, complement_involutive hq, ← table_agrees_method hq]

/-- The literal laws hold at every letter once they hold at the letters of the pairing string:
    the fill loop of `NewPairing` leaves every other letter its own complement, for which the
    first three say nothing; the index law needs such a letter to be invalid, i.e. every letter of
    the alphabet to be in the pairing string. -/
theorem literalLaw_of_pairing {s c ls : List UInt8} {g amb : UInt8} {cased : Bool} {A : Alpha}
    {p : Pairing} (hp : newPairing s c = .ok p) (hA : newAlphabet ls g amb cased = .ok A) (nuc4 : Bool)
    (hs : ∀ l ∈ s, literalLaw A p nuc4 l = true) (h4 : nuc4 = true → ∀ x ∈ A.letters, x ∈ s)
    (l : UInt8) : literalLaw A p nuc4 l = true := by
  by_cases hl : l ∈ s
  · exact hs l hl
  · have hpl : p.pair l = l := by rw [newPairing_pair hp]; exact pairTable_not_mem s c l hl
    have hv : nuc4 = true → A.valid l = false := fun h => by
      rw [newAlphabet_valid_letters hA, List.contains_eq_mem, decide_eq_false_iff_not]
      exact fun hx => hl (h4 h l hx)
    cases nuc4 <;> simp_all [literalLaw, Pairing.complement, Alpha.isValid]

/-- the hypotheses of `literalLaw_of_pairing` for a definition, as the kernel decides them -/
def literalLawsOK (d : Def) : Bool :=
  match d.pairS, d.pairC with
  | some s, some c =>
    match newPairing s c, newAlphabet d.letters d.gap d.ambiguous d.cased with
    | .ok p, .ok a =>
      s.all (literalLaw a p d.nucleotide4) && (!d.nucleotide4 || a.letters.all s.contains)
    | _, _ => false
  | none, none => (newAlphabet d.letters d.gap d.ambiguous d.cased).isOk
  | _, _ => false

theorem literalLawsAt_of_OK {d : Def} (h : literalLawsOK d = true) (l : UInt8) :
    literalLawsAt d l = true := by
  unfold literalLawsOK at h
  unfold literalLawsAt
  rw [Def.build_eq_buildTables]
  unfold Def.buildTables
  split at h
  · rename_i s c hs hc
    split at h
    · rename_i p a hp hA
      simp only [hs, hc, hp, hA]
      simp only [Bool.and_eq_true, List.all_eq_true, Bool.or_eq_true, Bool.not_eq_true',
        List.contains_iff_mem] at h
      exact literalLaw_of_pairing hp hA _ h.1
        (fun h4 => h.2.resolve_left (by simp [h4])) l
    · cases h
  · rename_i hs hc
    simp only [hs, hc]
    cases hA : newAlphabet d.letters d.gap d.ambiguous d.cased with
    | error e => rw [hA] at h; cases h
    | ok a => rfl
  · cases h

/-- The laws particular to the literals, on the letters of each pairing string, and the index
    laws, in one evaluation, so that the tables of each built-in alphabet are built once (and
    without the acceptance test of `NewComplementor`, `Def.build_eq_buildTables`). -/
theorem builtin_laws_all : ∀ d ∈ Biogo.Generated.builtins,
    literalLawsOK d = true ∧ ∀ i < d.letters.length, builtinIndexLawsAt d i = true := by
  simp only [builtinIndexLawsAt, Def.build_eq_buildTables]
  decide +kernel

/-- every built-in alphabet, every one of the 256 letter values -/
theorem builtin_laws (d : Def) (hd : d ∈ Biogo.Generated.builtins) (l : UInt8) :
    builtinLawsAt d l = true :=
  builtinLawsAt_eq d l ▸ literalLawsAt_of_OK (builtin_laws_all d hd).1 l

theorem builtin_index_laws :
    ∀ d ∈ Biogo.Generated.builtins, ∀ i < d.letters.length, builtinIndexLawsAt d i = true :=
  fun d hd => (builtin_laws_all d hd).2

/-- there are seven built-in alphabets and every one is accepted by its constructor -/
theorem builtins_accepted :
    Biogo.Generated.builtins.length = 7 ∧
    ∀ d ∈ Biogo.Generated.builtins, (match d.build with | .ok _ => true | .error _ => false) = true := by
  refine ⟨rfl, fun d hd => ?_⟩
  -- the laws are `false` for a definition that is not accepted
  have := builtin_laws d hd 0
  unfold builtinLawsAt at this
  split at this
  · cases this
  · rename_i h; rw [h]

-- non-vacuity: the quantifiers range over real letters
example : builtinLawsAt Biogo.Generated.alphaDNA 97 = true ∧
    (match Biogo.Generated.alphaDNA.build with
     | .ok (a, some p) => a.indexOf 97 == 0 && (p.complement 97).1 == 116 && a.indexOf 116 == 3
     | _ => false) = true :=
  ⟨builtin_laws _ (List.Mem.head _) 97, by rw [Def.build_eq_buildTables]; decide +kernel⟩

end Biogo.Properties.C17
