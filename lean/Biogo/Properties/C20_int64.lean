/-
C20 — "1-based/0-based conversions are mutually inverse" over Go's `int` as it is on the 64-bit
platforms (`Int64`, `pos--` / `pos++` wrap around), not over unbounded integers: for which
arguments the inverse laws hold bit-exactly, what happens at the one argument where they do
not, and that no implementation returning an `int` could do better there.
-/
import Biogo.Model.Feat
import Biogo.Proofs.Feat64
import Biogo.Proofs.ExceptEq
import Biogo.Properties.C20

namespace Biogo.Properties.C20_int64
open Biogo.Feat Biogo.Proofs.Feat64

/-- **The bit-exact model refines the unbounded one**: read as integers, `OneToZero` over `Int64`
    is `OneToZero` over the integers for every argument (it never overflows: `pos--` only for
    `pos > 0`), and `ZeroToOne` over `Int64` is `ZeroToOne` over the integers for every argument but
    `math.MaxInt64`.  So the theorems `oneToZero_zeroToOne`, `zeroToOne_oneToZero` of
    `Properties/C20.lean` are about the real `int` arithmetic everywhere except there. -/
theorem conversions64_refine (p : Int64) :
    (oneToZero64 p).map Int64.toInt = oneToZero p.toInt ∧
    (p ≠ Int64.maxValue → (zeroToOne64 p).toInt = zeroToOne p.toInt) :=
  ⟨toInt_oneToZero64 p, toInt_zeroToOne64 p⟩

/-- **`OneToZero ∘ ZeroToOne` is the identity** on every `int` except `math.MaxInt64`. -/
theorem oneToZero64_zeroToOne64 (p : Int64) (hp : p ≠ Int64.maxValue) :
    oneToZero64 (zeroToOne64 p) = .ok p := by
  apply except_toInt_ok
  rw [toInt_oneToZero64, toInt_zeroToOne64 p hp]
  exact Biogo.Properties.C20.oneToZero_zeroToOne p.toInt

/-- At `math.MaxInt64` the increment wraps: `ZeroToOne(MaxInt64) = MinInt64`, and `OneToZero` of
    that is `MinInt64`, not `MaxInt64`. -/
theorem zeroToOne64_max :
    zeroToOne64 Int64.maxValue = Int64.minValue ∧
    oneToZero64 (zeroToOne64 Int64.maxValue) = .ok Int64.minValue := by decide +kernel

/-- … and this is not a defect of `ZeroToOne`: `math.MaxInt64` is not a value of `OneToZero` at all
    (a 0-based `MaxInt64` has no 1-based counterpart in an `int`), so no function whatsoever in place
    of `ZeroToOne` satisfies the law at that argument. -/
theorem maxInt64_not_a_zero_based_image (q : Int64) : oneToZero64 q ≠ .ok Int64.maxValue := by
  intro h
  have h1 := toInt_oneToZero64 q
  rw [h] at h1
  have hq := Int64.toInt_lt q
  simp only [Except.map, Int64.toInt_maxValue] at h1
  unfold oneToZero at h1
  split at h1
  · cases h1
  · split at h1
    · simp only [Except.ok.injEq] at h1; omega
    · simp only [Except.ok.injEq] at h1; omega

/-- so: the law holds exactly for `p ≠ math.MaxInt64` -/
theorem oneToZero64_zeroToOne64_iff (p : Int64) :
    oneToZero64 (zeroToOne64 p) = .ok p ↔ p ≠ Int64.maxValue := by
  constructor
  · intro h hp
    subst hp
    exact maxInt64_not_a_zero_based_image _ h
  · exact oneToZero64_zeroToOne64 p

/-- **`ZeroToOne ∘ OneToZero` is the identity** on every valid 1-based `int` (`p ≠ 0`), the two
    boundary values `math.MinInt64` and `math.MaxInt64` included. -/
theorem zeroToOne64_oneToZero64 (p : Int64) (hp : p ≠ 0) : (oneToZero64 p).map zeroToOne64 = .ok p := by
  have hp' : p.toInt ≠ 0 := fun x => hp ((eq_zero_iff64 p).mpr x)
  unfold oneToZero64
  rw [if_neg hp]
  by_cases h : p > 0
  · -- `p - 1` does not wrap and is not negative, and `(p - 1) + 1 = p` in any ring
    have h' := (pos_iff64 p).mp h
    have hge : p - 1 ≥ 0 := by
      rw [nonneg_iff64, toInt_sub_one64 p (by omega)]; omega
    simp only [if_pos h, Except.map, zeroToOne64, if_pos hge, Int64.sub_add_cancel]
  · have hlt : ¬ p ≥ 0 := fun x => by
      have := (nonneg_iff64 p).mp x
      have := mt (pos_iff64 p).mpr h
      omega
    simp only [if_neg h, Except.map, zeroToOne64, if_neg hlt]

/-- and `OneToZero(0)` is the documented panic -/
theorem oneToZero64_zero : oneToZero64 0 = .error .zeroIndex := by decide

-- non-vacuity at the boundaries
example : (oneToZero64 Int64.maxValue).map zeroToOne64 = .ok Int64.maxValue ∧
    (oneToZero64 Int64.minValue).map zeroToOne64 = .ok Int64.minValue ∧
    oneToZero64 (zeroToOne64 (Int64.maxValue - 1)) = .ok (Int64.maxValue - 1) ∧
    oneToZero64 (zeroToOne64 Int64.minValue) = .ok Int64.minValue := by decide +kernel

end Biogo.Properties.C20_int64
