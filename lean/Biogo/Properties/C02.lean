/-
C02 — BED and GFF features survive write-then-read with coordinate conventions.
-/
import Biogo.Spec.FeatIO
import Biogo.Proofs.FeatBedRound
import Biogo.Proofs.FeatGffRound
import Biogo.Proofs.FeatSeqRound
import Biogo.Proofs.FastaPrefix

namespace Biogo.Properties.C02
open Biogo.BytesFeat Biogo.Gff Biogo.FeatIO

/-- `strconv.ParseInt(strconv.FormatInt(n, 10), 0, 64) = n` for every int64 (§3.2 of the design) -/
theorem parseInt_formatInt (i : Int) (h : inInt64 i = true) : parseInt (formatInt i) 64 = .ok i :=
  Biogo.BytesFeat.parseInt_formatInt i h

/-- C02, second sentence: a BED record of any of the five Go types (`b.width` columns), written
    by a Writer of a narrower (or equal) column count `m`, reads back through a Reader of that
    column count as exactly its first `m` columns, followed by `io.EOF`; the writer reports the
    number of bytes it emitted.  Only the `m` written columns need to be well formed. -/
theorem bed_narrow (b : Bed.Rec) (m : Nat) (hm : Bed.validWidth m = true) (hmw : m ≤ b.width)
    (hwf : bedWF m b = true) :
    ∃ text n, Bed.write m b = .ok (text, n) ∧ n = text.length ∧
      Bed.readAll m text = [.record (Bed.firstCols m b), .eof] :=
  ⟨_, _, Bed.write_eq b m hmw, by simp, Bed.readAll_format b m m hm hm (Nat.le_refl _) hwf⟩

/-- C02, first sentence for BED: a BED3/4/5/6/12 record with well-formed fields written at its
    own column count reads back equal to the original in every field.  (`firstCols b.width b = b`
    says that `b` is a value of the Go type with `b.width` columns: the columns that type does
    not have hold their defaults.) -/
theorem bed_roundtrip (b : Bed.Rec) (hm : Bed.validWidth b.width = true)
    (hnorm : Bed.firstCols b.width b = b) (hwf : bedWF b.width b = true) :
    ∃ text n, Bed.write b.width b = .ok (text, n) ∧ n = text.length ∧
      Bed.readAll b.width text = [.record b, .eof] := by
  obtain ⟨text, n, h1, h2, h3⟩ := bed_narrow b b.width hm (Nat.le_refl _) hwf
  exact ⟨text, n, h1, h2, by rw [h3, hnorm]⟩

/-- the stronger form in the design: a line written at `n` columns read by a reader of any
    column count `m ≤ n` gives the first `m` columns (`SplitN(line, m+1)` leaves the rest of the
    line in an ignored last piece) -/
theorem bed_narrow_read (b : Bed.Rec) (n m : Nat) (hn : Bed.validWidth n = true) (hm : Bed.validWidth m = true)
    (hmn : m ≤ n) (hnw : n ≤ b.width) (hwf : bedWF n b = true) :
    ∃ text c, Bed.write n b = .ok (text, c) ∧
      Bed.readAll m text = [.record (Bed.firstCols m b), .eof] :=
  ⟨_, _, Bed.write_eq b n hnw, Bed.readAll_format b n m hn hm hmn hwf⟩

/-- "reported byte counts equal bytes emitted", BED writer (every outcome) -/
theorem bed_write_count (b : Bed.Rec) (m : Nat) (text : Bytes) (n : Nat)
    (h : Bed.write m b = .ok (text, n)) : n = text.length := by
  unfold Bed.write at h
  split at h
  · cases h
  · cases h; simp

/-- a writer wider than the record's type is refused (`ErrBadBedType`) -/
theorem bed_write_wider_refused (b : Bed.Rec) (m : Nat) (h : b.width < m) : Bed.write m b = .error .badType := by
  simp [Bed.write, h]

/-! non-vacuity: a BED12 record with two blocks, negative and extreme coordinates, opaque colour -/
def bedExample : Bed.Rec :=
  { width := 12, chrom := ofString "chr1", start := -5, stop := 9223372036854775807, name := ofString "a b#;",
    score := -9223372036854775808, strand := -1, thickStart := 0, thickEnd := 7, rgb := { r := 255, g := 0, b := 9, a := 255 },
    blockCount := 2, blockSizes := [3, -4], blockStarts := [0, 6] }

example : bedWF 12 bedExample = true ∧ Bed.firstCols 12 bedExample = bedExample ∧
    Bed.validWidth bedExample.width = true := by decide +kernel

/-- `feat.OneToZero (feat.ZeroToOne p) = p` for every position (no panic: the 1-based value is never 0) -/
theorem oneToZero_zeroToOne (p : Int) : oneToZero (zeroToOne p) = some p :=
  oneToZero_zeroToOne' p

/-- `feat.ZeroToOne (feat.OneToZero p) = p` for every 1-based position `p ≠ 0` -/
theorem zeroToOne_oneToZero (p : Int) (hp : p ≠ 0) :
    (oneToZero p).map zeroToOne = some p := by
  unfold oneToZero zeroToOne
  by_cases h : p > 0
  · simp [hp, h]
    omega
  · have h2 : ¬ (p ≥ 0) := by omega
    simp [hp, h, h2]

/-- 0 is the only position `OneToZero` refuses -/
theorem oneToZero_none_iff (p : Int) : oneToZero p = none ↔ p = 0 := by
  unfold oneToZero
  by_cases h : p = 0
  · simp [h]
  · by_cases h2 : p > 0 <;> simp [h, h2]

/-- C02, first sentence for GFF: a GFF2 feature with well-formed fields (`gffWF`: non-empty,
    tab- and newline-free, trimmed text fields not starting with `#`; int64 coordinates with
    start < end — positive length; strand ∈ {−1,0,1}; frame ∈ {−1..2}; nil / finite / infinite
    score; tags over `[A-Za-z_]+`; `;`-free trimmed values, possibly empty; comments) written by
    `Writer.Write`, with or without the `##gff-version 2` header, and parsed by `Reader.Read`
    yields one feature equal to the original in every field (nil and empty attribute lists
    identified: the text cannot tell them apart), then `io.EOF`; the reported count is the number
    of bytes emitted.  `FloatLaw` is the single assumed law about `%v` / `ParseFloat`. -/
theorem gff_roundtrip (o : Oracles) (f : Feature) (hdr : Bool) (hwf : gffWF f = true) (hfl : FloatLaw o f.score) :
    ∃ text n, writeFeature o f = .ok (text, n) ∧ n = text.length ∧
      ∃ g, (readAll o ((if hdr then headerText else []) ++ text)).1 = [.item (.feature g), .eof] ∧
        norm g = norm f ∧
        (readAll o ((if hdr then headerText else []) ++ text)).2.md.version = (if hdr then 2 else 0) := by
  refine ⟨_, _, writeFeature_eq o f (gffWF_unpack hwf).lt, by simp, parsed f, ?_, norm_parsed f, ?_⟩
  · rw [readAll_feature o f hdr hwf hfl]
  · rw [readAll_feature o f hdr hwf hfl]

/-- C02, "GFF text carries 1-based inclusive coordinates while the parsed feature exposes the same
    interval zero-based half-open, so Start, End and Len are preserved" -/
theorem gff_coords (o : Oracles) (f : Feature) (hdr : Bool) (hwf : gffWF f = true) (hfl : FloatLaw o f.score) :
    ∃ g, (readAll o ((if hdr then headerText else []) ++ (featureText o f ++ [10]))).1 = [.item (.feature g), .eof] ∧
      g.start = f.start ∧ g.stop = f.stop ∧ g.len = f.len := by
  refine ⟨parsed f, by rw [readAll_feature o f hdr hwf hfl], ?_⟩
  have : (parsed f).start = f.start ∧ (parsed f).stop = f.stop := by
    unfold parsed
    split
    · split <;> simp
    · simp
  exact ⟨this.1, this.2, by simp [Feature.len, this.1, this.2]⟩

/-- the text is 1-based inclusive: for a non-negative zero-based start, the start column of the
    written line is `Start + 1` and the end column is `End` -/
theorem gff_text_is_one_based (o : Oracles) (f : Feature) (hwf : gffWF f = true) (hfl : FloatLaw o f.score)
    (hs : 0 ≤ f.start) :
    (splitN 9 10 (trimSpace (featureText o f ++ [10])))[3]? = some (formatInt (f.start + 1)) ∧
    (splitN 9 10 (trimSpace (featureText o f ++ [10])))[4]? = some (formatInt f.stop) := by
  rw [trimSpace_append_nl, trimSpace_featureText o f hwf, splitN_effFields o f hwf hfl]
  have hz : zeroToOne f.start = f.start + 1 := by unfold zeroToOne; simp [hs]
  simp [effFields, fields8, hz]

/-- "reported byte counts equal bytes emitted", GFF feature writer (every outcome) -/
theorem gff_write_count (o : Oracles) (f : Feature) (text : Bytes) (n : Nat)
    (h : writeFeature o f = .ok (text, n)) : n = text.length := by
  unfold writeFeature at h
  split at h
  · cases h
  · cases h; simp

/-- C02 "sequence-region lines … round-trip likewise": a region (name without white space,
    int64 start < end) written as `##sequence-region name start+1 end` — by `Write(*Region)`,
    `WriteMetaData(*Feature)` or `Write` of any other feature — reads back as a region with the
    same name, Start and End (molecule type: the reader's current `##Type`, undefined here);
    reported count = bytes emitted. -/
theorem region_roundtrip (o : Oracles) (name : Bytes) (s e : Int) (hdr : Bool) (hn : nameOK name = true)
    (hs : inInt64 s = true) (he : inInt64 e = true) (hlt : s < e) :
    ∃ text n, writeRegion name s e = .ok (text, n) ∧ n = text.length ∧
      (readAll o ((if hdr then headerText else []) ++ text)).1 = [.item (.region name (-1) s e), .eof] :=
  ⟨_, _, writeRegion_eq name s e hlt, rfl, readAll_region o name s e hdr hn hs he hlt⟩

/-- C02 "the name and letters of inline GFF sequences round-trip likewise": a sequence of
    molecule type DNA/RNA/Protein (m = 0,1,2) with a white-space-free name, a trimmed single-line
    description (dropped by the reader), non-empty ASCII letters without white space, written at any
    line width ≥ 1 — provided no line of letters is itself the end marker `end-<Mol>` — reads back
    with the same name and letters; reported count = bytes emitted.  (`width = 0` is a division by
    zero in the FASTA writer and is outside the model: `i % 0 = i` in Lean.) -/
theorem inline_seq_roundtrip (o : Oracles) (width m : Nat) (hm : m ≤ 2) (id desc letters : Bytes) (hdr : Bool)
    (hid : nameOK id = true) (hd : descOK desc = true) (hl : lettersOK letters = true)
    (hend : noEndMarker width m letters = true) :
    ∃ text n, writeSeq width m id desc letters = .ok (text, n) ∧ n = text.length ∧
      (readAll o ((if hdr then headerText else []) ++ text)).1 = [.item (.sequence id m letters), .eof] := by
  obtain ⟨t, hw, hr⟩ := readAll_seq o width m hm id desc letters hdr hid hd hl hend
  exact ⟨t, t.length, hw, rfl, hr⟩

/-- **The inline-sequence writer is the FASTA writer with user-set prefixes.**  `gff.Writer.Write`
    hands a sequence to a `fasta.Writer` whose `IDPrefix` is `"##<Mol> "` and `SeqPrefix` `"##"`
    (`seqCfg m`) and appends `##end-<Mol>`: the text and count of the GFF model's `writeSeq` are
    the output and count of the FASTA writer model of C01 (`Biogo.Fasta.write`) with these
    prefixes, plus the marker — for every width ≥ 1, molecule type and non-empty sequence. -/
theorem inline_seq_writer_is_fasta (width m : Nat) (hw : width ≠ 0) (hm : m ≤ 2) (id desc letters : Bytes)
    (hl : letters ≠ []) :
    ∃ sink' n, Biogo.Fasta.write { cfg := seqCfg m, width := width } {} ⟨id, desc, letters⟩ = .ok (sink', n) ∧
      writeSeq width m id desc letters = .ok (sink'.bytes ++ endLine m, n + (endLine m).length) :=
  writeSeq_via_fasta width m hw hm id desc letters hl

/-- `inline_seq_roundtrip` stated through the FASTA writer model: what `Biogo.Fasta.write` emits
    with the GFF prefixes, followed by the end marker, is read back by the GFF reader as the
    sequence (name and letters), then `io.EOF`; the two counts add up to the bytes emitted. -/
theorem inline_seq_roundtrip_via_fasta (o : Oracles) (width m : Nat) (hw : width ≠ 0) (hm : m ≤ 2)
    (id desc letters : Bytes) (hdr : Bool) (hne : letters ≠ [])
    (hid : nameOK id = true) (hd : descOK desc = true) (hl : lettersOK letters = true)
    (hend : noEndMarker width m letters = true) :
    ∃ sink' n, Biogo.Fasta.write { cfg := seqCfg m, width := width } {} ⟨id, desc, letters⟩ = .ok (sink', n) ∧
      n + (endLine m).length = (sink'.bytes ++ endLine m).length ∧
      (readAll o ((if hdr then headerText else []) ++ (sink'.bytes ++ endLine m))).1
        = [.item (.sequence id m letters), .eof] := by
  obtain ⟨sink', n, h1, h2⟩ := writeSeq_via_fasta width m hw hm id desc letters hne
  obtain ⟨text, n', h3, h4, h5⟩ := inline_seq_roundtrip o width m hm id desc letters hdr hid hd hl hend
  rw [h2] at h3
  simp only [Except.ok.injEq, Prod.mk.injEq] at h3
  obtain ⟨rfl, rfl⟩ := h3
  exact ⟨sink', n, h1, h4, h5⟩

/-- "reported byte counts equal bytes emitted", region and inline-sequence writers (every outcome) -/
theorem region_write_count (name : Bytes) (s e : Int) (text : Bytes) (n : Nat)
    (h : writeRegion name s e = .ok (text, n)) : n = text.length := by
  unfold writeRegion at h
  split at h
  · cases h
  · cases h; rfl

theorem inline_seq_write_count (width m : Nat) (id desc letters text : Bytes) (n : Nat)
    (h : writeSeq width m id desc letters = .ok (text, n)) : n = text.length := by
  unfold writeSeq at h
  split at h
  · cases h
  · split at h
    · cases h
    · cases h; rfl

example : nameOK (ofString "chrX") = true ∧ descOK (ofString "a description") = true ∧
    lettersOK (ofString "acgtacgtac") = true ∧ noEndMarker 3 0 (ofString "acgtacgtac") = true := by decide +kernel

/-! non-vacuity: a feature with a negative start, an infinite score (formatted `+Inf`), three
    attributes (one with an empty value, one quoted with spaces) and a comment -/
def gffExample : Feature :=
  { seqName := ofString "chr 1", source := ofString "src#", feature := ofString "gene", start := -3, stop := 9223372036854775807,
    score := some 0x7FF0000000000000, strand := 1, frame := 2,
    attrs := some [⟨ofString "ID", ofString "x"⟩, ⟨ofString "Flag", []⟩, ⟨ofString "Note_a", ofString "\"two words\""⟩],
    comments := ofString "a comment" }

def exampleOracles : Oracles :=
  { parseFloat := fun t => if t == ofString "+Inf" then some 0x7FF0000000000000 else none,
    formatFloat := fun _ => ofString "+Inf", parseDate := fun _ => false }

example : gffWF gffExample = true := by decide +kernel
example : FloatLaw exampleOracles gffExample.score := by
  simp only [FloatLaw, gffExample]; exact ⟨by decide +kernel, by decide +kernel⟩

end Biogo.Properties.C02
