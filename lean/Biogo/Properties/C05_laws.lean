/-
C05 — checker soundness.  The C05 driver answers `ok`/`diff` only if `checkC05` (Drive/C05.lean:
the executable laws of Spec/ContLaws.lean evaluated on the implementation's observations)
raises no complaint.  `c05_verdict_sound` says what the absence of a complaint means in
declarative terms, so the executable laws leave the trusted base.
-/
import Biogo.Drive.C05
import Biogo.Proofs.ContLawsSound

namespace Biogo.Properties.C05_laws
open Biogo.Containers Biogo.Containers.Laws Biogo.Drive.C05

/-- every letter the object shows is one the alphabet pairs (the quantifier of C05) -/
def AllPaired (pairs : UInt8 → Bool) (o : ObjV) : Prop := ∀ r ∈ o.rows, ∀ c ∈ r.cells, pairs c.L = true

theorem allPaired_iff (pairs : UInt8 → Bool) (o : ObjV) : allPaired pairs o = true ↔ AllPaired pairs o := by
  simp only [allPaired, List.all_eq_true, AllPaired]

/-- what one step `before --op--> after` of a C05 history must satisfy, declaratively; `prevOp`
    is the operation of the step before and `prev2` the observation before that step (the
    involution statements speak about an operation applied twice in a row) -/
def StepSpec (hist : History) (op : Op) (prevOp : Option Op) (prev2 : Option (List ObjV)) (before after : Snap) : Prop :=
  after.1 = "ok" ∧
  match op with
  | .revComp k =>
    FrameSpec before.2 after.2 (some k) ∧ after.2.length = before.2.length ∧
    ∃ b a, before.2[k]? = some b ∧ after.2[k]? = some a ∧
      (AllPaired hist.pairs b →
        RevCompSpec hist.cx.comp b a ∧
        (prevOp = some op → ∀ b0, prev2.bind (·[k]?) = some b0 → SameLettersCoords b0 a))
  | .reverse k =>
    FrameSpec before.2 after.2 (some k) ∧ after.2.length = before.2.length ∧
    (prevOp = some op → ∀ b0 a, prev2.bind (·[k]?) = some b0 → after.2[k]? = some a → SameLetters b0 a)
  | .clone k =>
    FrameSpec before.2 after.2 none ∧ after.2.length = before.2.length + 1 ∧
    ∃ b, before.2[k]? = some b ∧ after.2[before.2.length]? = some b
  | .set k r pos c =>
    FrameSpec before.2 after.2 (some k) ∧
    ∃ b a, before.2[k]? = some b ∧ after.2[k]? = some a ∧ SetSpec b a r pos c
  | .rowRevComp k r =>
    FrameSpec before.2 after.2 (some k) ∧
    ∃ b a, before.2[k]? = some b ∧ after.2[k]? = some a ∧
      (AllPaired hist.pairs b →
        RowRevCompSpec hist.cx.comp b a r ∧
        (prevOp = some op → ∀ b0, prev2.bind (·[k]?) = some b0 → SameLettersCoords b0 a))
  | .rowReverse k _ =>
    FrameSpec before.2 after.2 (some k) ∧
    (prevOp = some op → ∀ b0 a, prev2.bind (·[k]?) = some b0 → after.2[k]? = some a → SameLetters b0 a)
  | _ => False

theorem stepLaw_sound (hist : History) (op : Op) (prevOp : Option Op) (prev2 : Option (List ObjV))
    (before after : Snap) (h : stepLaw hist op prevOp prev2 before after = none) :
    StepSpec hist op prevOp prev2 before after := by
  unfold stepLaw at h
  simp only [and_none, check_none, beq_iff_eq] at h
  obtain ⟨hok, h⟩ := h
  refine ⟨hok, ?_⟩
  cases op with
  | revComp k =>
    simp only [and_none, check_none, beq_iff_eq] at h
    obtain ⟨h1, h2, h3⟩ := h
    refine ⟨lawFrame_sound _ _ _ h1, h2, ?_⟩
    split at h3
    · rename_i b a hb ha
      refine ⟨b, a, hb, ha, ?_⟩
      intro hp
      have hp' : allPaired hist.pairs b = true := (allPaired_iff _ _).mpr hp
      simp only [hp', Bool.not_true, Bool.false_eq_true, if_false, and_none] at h3
      refine ⟨lawRevComp_sound _ _ _ h3.1, ?_⟩
      intro htw b0 hb0
      have h4 := h3.2
      rw [htw, beq_self_eq_true, hb0] at h4
      simp only [check_none] at h4
      exact sameLettersCoords_sound _ _ h4
    · cases h3
  | reverse k =>
    simp only [and_none, check_none, beq_iff_eq] at h
    obtain ⟨h1, h2, h3⟩ := h
    refine ⟨lawFrame_sound _ _ _ h1, h2, ?_⟩
    intro htw b0 a hb0 ha
    rw [htw, beq_self_eq_true, hb0, ha] at h3
    simp only [check_none] at h3
    exact sameLetters_sound _ _ h3
  | clone k =>
    simp only [and_none, check_none, beq_iff_eq, Bool.and_eq_true] at h
    obtain ⟨h1, h2, h3, h4⟩ := h
    refine ⟨lawFrame_sound _ _ _ h1, h2, ?_⟩
    cases hb : before.2[k]? with
    | none => rw [hb] at h4; simp at h4
    | some b => exact ⟨b, rfl, by rw [h3, hb]⟩
  | set k r pos c =>
    simp only [and_none] at h
    obtain ⟨h1, h2⟩ := h
    refine ⟨lawFrame_sound _ _ _ h1, ?_⟩
    split at h2
    · rename_i b a hb ha; exact ⟨b, a, hb, ha, lawSet_sound _ _ _ _ _ h2⟩
    · cases h2
  | rowRevComp k r =>
    simp only [and_none] at h
    obtain ⟨h1, h3⟩ := h
    refine ⟨lawFrame_sound _ _ _ h1, ?_⟩
    split at h3
    · rename_i b a hb ha
      refine ⟨b, a, hb, ha, ?_⟩
      intro hp
      have hp' : allPaired hist.pairs b = true := (allPaired_iff _ _).mpr hp
      simp only [hp', Bool.not_true, Bool.false_eq_true, if_false, and_none] at h3
      refine ⟨lawRowRevComp_sound _ _ _ _ h3.1, ?_⟩
      intro htw b0 hb0
      have h4 := h3.2
      rw [htw, beq_self_eq_true, hb0] at h4
      simp only [check_none] at h4
      exact sameLettersCoords_sound _ _ h4
    · cases h3
  | rowReverse k r =>
    simp only [and_none] at h
    obtain ⟨h1, h3⟩ := h
    refine ⟨lawFrame_sound _ _ _ h1, ?_⟩
    intro htw b0 a hb0 ha
    rw [htw, beq_self_eq_true, hb0, ha] at h3
    simp only [check_none] at h3
    exact sameLetters_sound _ _ h3
  | _ => simp at h

/-- the operation of the step before step `t`, and the observation before that step -/
def prevOpAt (prevOp : Option Op) (ops : List Op) (t : Nat) : Option Op := if t = 0 then prevOp else ops[t - 1]?
def prev2At (prev2 : Option (List ObjV)) (snaps : List Snap) (t : Nat) : Option (List ObjV) :=
  if t = 0 then prev2 else (snaps[t - 1]?).map (·.2)

theorem checkSteps_sound (hist : History) : ∀ (ops : List Op) (prevOp : Option Op) (prev2 : Option (List ObjV))
    (snaps : List Snap), checkSteps hist ops prevOp prev2 snaps = none →
    snaps.length = ops.length + 1 ∧
    ∀ (t : Nat) (op : Op) (before after : Snap), ops[t]? = some op → snaps[t]? = some before →
      snaps[t + 1]? = some after →
      StepSpec hist op (prevOpAt prevOp ops t) (prev2At prev2 snaps t) before after := by
  intro ops
  induction ops with
  | nil =>
    intro prevOp prev2 snaps h
    match snaps, h with
    | [_], _ => exact ⟨rfl, fun t op _ _ ht => by simp at ht⟩
    | [], h => simp [checkSteps] at h
    | _ :: _ :: _, h => simp [checkSteps] at h
  | cons op ops ih =>
    intro prevOp prev2 snaps h
    match snaps, h with
    | [], h => simp [checkSteps] at h
    | [_], h => simp [checkSteps] at h
    | before :: after :: rest, h =>
      simp only [checkSteps, and_none] at h
      obtain ⟨h1, h3⟩ := h
      obtain ⟨hl, hrest⟩ := ih (some op) (some before.2) (after :: rest) h3
      refine ⟨by simp only [List.length_cons] at hl ⊢; omega, ?_⟩
      intro t op' b' a' hop hb ha
      cases t with
      | zero =>
        simp only [List.getElem?_cons_zero, Option.some.injEq] at hop hb
        simp only [Nat.zero_add, List.getElem?_cons_succ, List.getElem?_cons_zero, Option.some.injEq] at ha
        subst hop; subst hb; subst ha
        exact stepLaw_sound hist _ _ _ _ _ h1
      | succ t =>
        simp only [List.getElem?_cons_succ] at hop hb ha
        have := hrest t op' b' a' hop hb ha
        have e1 : prevOpAt prevOp (op :: ops) (t + 1) = prevOpAt (some op) ops t := by
          unfold prevOpAt
          cases t with
          | zero => simp
          | succ t => simp
        have e2 : prev2At prev2 (before :: after :: rest) (t + 1) = prev2At (some before.2) (after :: rest) t := by
          unfold prev2At
          cases t with
          | zero => simp
          | succ t => simp
        rw [e1, e2]; exact this

/-- **checker soundness (C05).**  If the driver's check of the implementation's observations
    raises no complaint, then there is one snapshot per operation, every operation reported
    success, and every step satisfies the declarative statement of its operation: `revcomp_spec`
    and `multi_revcomp_mirror` (`RevCompSpec`, `RowRevCompSpec`), the involutions when an
    operation is applied twice in a row, the effect of `Set`, `Clone` observed equal to the
    original, and — for every operation — `clone_deep` as a frame statement (`FrameSpec`: every
    other object is observed exactly as before). -/
theorem c05_verdict_sound (hist : History) (impl : List Snap) (h : checkC05 hist impl = none) :
    impl.length = hist.ops.length + 1 ∧
    ∀ (t : Nat) (op : Op) (before after : Snap), hist.ops[t]? = some op → impl[t]? = some before →
      impl[t + 1]? = some after →
      StepSpec hist op (prevOpAt none hist.ops t) (prev2At none impl t) before after :=
  checkSteps_sound hist hist.ops none none impl h

/-- **the verdict**: `ok` or `diff` for a case line means the input and the observation parsed
    and `checkC05` raised no complaint about the implementation's observations -/
theorem verdict_means_checked (inp obs : String)
    (h : (handleLine inp obs).status = "ok" ∨ (handleLine inp obs).status = "diff") :
    ∃ hist impl, parseHistory Biogo.Generated.builtins (Biogo.Wire.tokens inp) = some hist ∧
      parseSnapshots obs = some impl ∧ checkC05 hist impl = none := by
  unfold handleLine at h
  split at h
  · simp [Biogo.Wire.bad] at h
  · rename_i hist hh
    dsimp only at h
    split at h
    · simp at h
    · split at h
      · simp [Biogo.Wire.fail] at h
      · split at h
        · simp [Biogo.Wire.bad] at h
        · rename_i impl hi
          split at h
          · simp [Biogo.Wire.fail] at h
          · rename_i hc
            exact ⟨hist, impl, hh, hi, hc⟩

end Biogo.Properties.C05_laws
