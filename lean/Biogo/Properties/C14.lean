/-
C14 — PALS q-gram filter reports every ε-match.
-/
import Biogo.Model.Filter
import Biogo.Spec.Filter
import Biogo.Generated.FilterFacts
import Biogo.Proofs.Filter
import Biogo.Proofs.FilterRun
import Biogo.Proofs.FilterComplete
import Biogo.Proofs.ExceptEq
import Biogo.Properties.C10

namespace Biogo.Properties.C14
open Biogo.Filter Biogo.Spec.Filter Biogo.Spec.Kmer Biogo.Proofs.Filter Biogo.Proofs.Kmer
open Biogo.Proofs.FilterRun Biogo.Proofs.FilterComplete

/-- `tube_geometry`: a diagonal index `d` lies in the band of tube `d / off`, and also in the
    band of the previous tube exactly when `d % off < e` (tube `i` covers the diagonal indices
    `i·off … i·off + (off + e) - 1`). -/
theorem tube_geometry (off e d : Nat) (hoff : 0 < off) :
    (d / off * off ≤ d ∧ d < d / off * off + (off + e)) ∧
    (0 < d / off → ((d / off - 1) * off ≤ d ∧ (d < (d / off - 1) * off + (off + e) ↔ d % off < e))) := by
  obtain ⟨⟨h1, h2⟩, h3⟩ := band_geometry off e d hoff
  exact ⟨⟨h1, Nat.add_assoc _ off e ▸ h2⟩, fun hpos => Nat.add_assoc _ off e ▸ h3 (Nat.ne_of_gt hpos)⟩

/-- `qgram_lemma` (Ukkonen, substitutions only): an ε-match — windows `t[a:a+n]`, `q[b:b+n]`
    differing in at most `e` columns — shares at least `MinWordsPerFilterHit(n, k, e) =
    n + 1 - k(e+1)` k-mer occurrences; every shared k-mer pairs target position `a+i` with query
    position `b+i` (so it lies on the diagonal of the match), lies inside the match
    (`i + k ≤ n`), and any two of them are at most `n - k = maxKmerDist` apart in the query. -/
theorem qgram_lemma (lk : Lookup) (k : Nat) (hk : 1 ≤ k) (t q : List UInt8) (n e a b : Nat)
    (h : EpsMatch lk t q n e a b) :
    ((sharedKmers lk k t q a b n).length : Int) ≥ minWordsPerFilterHit n k e ∧
    (∀ i ∈ sharedKmers lk k t q a b n,
      i + k ≤ n ∧ ∃ w, wordAt lk k t (a + i) = some w ∧ wordAt lk k q (b + i) = some w) ∧
    (∀ i ∈ sharedKmers lk k t q a b n, ∀ i' ∈ sharedKmers lk k t q a b n,
      (b + i') - (b + i) ≤ n - k) := by
  refine ⟨minWords_le_sharedKmers lk k hk t q a b n e h.2.2, fun i hi => ?_, fun i hi i' hi' => ?_⟩
  · obtain ⟨h1, h2⟩ := (mem_sharedKmers lk k t q a b n i).mp hi
    exact ⟨by omega, sharedAt_words h2⟩
  · have := (mem_sharedKmers lk k t q a b n i).mp hi
    have := (mem_sharedKmers lk k t q a b n i').mp hi'
    omega

-- non-vacuity: "acgtacgtac" against "acgtaagtac" (one substitution), k = 3, n = 10, e = 1:
-- threshold 10 + 1 - 3·2 = 5, shared 3-mers at offsets 0,1,2 and 6,7
example :
    let lk : Lookup := fun b => if b = 97 then some 0 else if b = 99 then some 1 else if b = 103 then some 2
      else if b = 116 then some 3 else none
    EpsMatch lk [97, 99, 103, 116, 97, 99, 103, 116, 97, 99] [97, 99, 103, 116, 97, 97, 103, 116, 97, 99] 10 1 0 0 ∧
    sharedKmers lk 3 [97, 99, 103, 116, 97, 99, 103, 116, 97, 99] [97, 99, 103, 116, 97, 97, 103, 116, 97, 99] 0 0 10
      = [0, 1, 2, 6, 7] ∧ minWordsPerFilterHit 10 3 1 = 5 := by
  decide

/-- the retirement rule regenerated from `align/pals/filter/filter.go` is the repaired one
    (`tubeEnd` subtracts `MaxError`; the final flush starts at the first tube no tick has retired).
    This is the tie of `filter_complete` to the source: it fails to build on the pinned tree. -/
theorem rule_tie : Biogo.Generated.FilterFacts.rule = repaired := by decide

/-- `retire_timing_ok`, arithmetic core: with the repaired rule the `j`-th tick happens at query
    position `tickPos j = (j+1)·off + e - 1` and retires exactly tube `j`.  (That no other tube index
    sharing the slot of a live tube can be addressed meanwhile is `FilterRun.addressed_live` with
    `InWin.inj`: the indices in use at a position lie among `cap` consecutive ones.) -/
theorem retire_timing_ok {c : Cfg} (w : WF c) (j : Nat) :
    tubeEndIndex c (tickPos c j) = (j : Int) ∧ tickPos c (j + 1) = tickPos c j + c.off :=
  ⟨tubeEndIndex_tick w j, tickPos_succ w j⟩

/-- `run_accumulates` / completeness of the tube state machine for one match (abstract run: any
    assignment `ts` of target positions to query positions `0 … Qlen-k`): if `m ≥ threshold` shared
    k-mers of a match, all in tube `i`, at query positions within `[lo, hi]` with
    `hi - lo ≤ maxKmerDist`, are among the processed common k-mers, then a hit on the diagonal of
    tube `i` whose query interval contains `[lo, hi + k)` is pushed, and no slot index is negative. -/
theorem run_accumulates {c : Cfg} (w : WF c) (i lo hi m : Nat) (sh : Nat → Bool) (tstar : Nat → Nat)
    (ts : Nat → List Nat) (qlen : Nat)
    (hk2 : 2 ≤ c.k) (hkt : c.k ≤ c.tlen) (hq : c.k ≤ qlen) (hqe : c.maxError + 1 ≤ qlen)
    (hs : Shared sh lo hi m) (he : Events c i sh tstar ts)
    (hthr : (m : Int) ≥ c.minKmers) (hm1 : 1 ≤ m) (hD : (hi : Int) - lo ≤ c.maxKmerDist)
    (hband : i * c.off ≤ c.tlen + lo) (hhiq : hi ≤ tickPos c i) (hhi : hi + c.k ≤ qlen) :
    (runFilter c ts (qlen - c.k + 1) qlen).panic = false ∧
    Done c i lo hi (runFilter c ts (qlen - c.k + 1) qlen) :=
  run_complete w i lo hi m sh tstar ts qlen hk2 hkt hq hqe hs he
    ⟨hthr, hm1, hD, hband, (hs.range lo hs.first).2, hhiq⟩ hhi

/-- both strands in one statement, in the form the driver's checker evaluates it
    (`C14_checker.checker_iff_strand`): whatever the two flags, every ε-match required on that strand
    (`requiredC`) is covered. -/
theorem filter_complete_strand {lk : Lookup} (hlk : FourLetter lk) (t q : List UInt8) (k n e off : Nat)
    (selfAlign complement : Bool) (hk : Biogo.Kmer.minKmerLen ≤ k) (hk' : k ≤ Biogo.Kmer.maxKmerLen)
    (ht : k + 1 ≤ t.length)
    (hthr : 0 < minWordsPerFilterHit n k e) (he : e ≤ off) (hoff : 1 ≤ off) :
    ∀ hits, filter Biogo.Generated.FilterFacts.rule lk (builtIndex lk k t)
        { minMatch := n, maxError := e, tubeOffset := off } q selfAlign complement = .ok hits →
      ∀ a b, EpsMatch lk t q n e a b → requiredC selfAlign complement t.length a b = true →
        Covered (hits.map toSpec) (off + e) n a b := by
  have hk1 : 2 ≤ k ∧ 2 * k ≤ Biogo.Kmer.wordBits := by
    unfold Biogo.Kmer.minKmerLen at hk; unfold Biogo.Kmer.maxKmerLen at hk'; unfold Biogo.Kmer.wordBits; omega
  intro hits hf a b hm hreq
  rw [rule_tie] at hf
  obtain ⟨hits', hf', hcov⟩ := filter_complete_aux hlk t q k n e off selfAlign complement hk1.1 hk1.2 (by omega) hthr he hoff a b hm hreq
  rw [hf] at hf'
  cases hf'
  exact hcov

/-- **C14, the property** (for the model of the repaired code): for any target and any query —
    the property is stated for sequences over the four-letter alphabet (either case); since the
    ticker follows the query position (`Rule.tickByPosition`, fix `0c69d0c`) the theorem does not
    need that: letters outside the alphabet are allowed in both sequences and count as mismatches
    in `EpsMatch`, so every window pair with at most `e` columns that differ *or* hold such a letter
    is covered (there is no hypothesis `AllValid lk q`; `filter_incomplete_ticker` shows that the
    callback-counting ticker needs one) —, any supported word size `k`
    (`MinKmerLen ≤ k ≤ MaxKmerLen`, target of at least `k+1` letters), match length `n`, error bound
    `e` and tube offset `off ≥ max e 1` whose q-gram threshold `n + 1 - k(e+1)` is positive: the index
    is built, and whenever `Filter` returns its hits, every pair of length-`n` windows differing by at
    most `e` substitutions — in self-comparison mode: every such pair strictly above the main
    diagonal — is covered by a reported hit (its diagonal band of width `off + e` contains the match
    diagonal and its query interval overlaps the match).  `filter` is the function the driver runs
    against `filter.Filter`; the rule is the one regenerated from the source (`rule_tie`). -/
theorem filter_complete {lk : Lookup} (hlk : FourLetter lk) (t q : List UInt8) (k n e off : Nat)
    (selfAlign : Bool) (hk : Biogo.Kmer.minKmerLen ≤ k) (hk' : k ≤ Biogo.Kmer.maxKmerLen)
    (ht : k + 1 ≤ t.length)
    (hthr : 0 < minWordsPerFilterHit n k e) (he : e ≤ off) (hoff : 1 ≤ off) :
    (∃ ix0, Biogo.Kmer.new lk 4 k t = .ok ix0 ∧ Biogo.Kmer.build lk ix0 = builtIndex lk k t) ∧
    ∀ hits, filter Biogo.Generated.FilterFacts.rule lk (builtIndex lk k t)
        { minMatch := n, maxError := e, tubeOffset := off } q selfAlign false = .ok hits →
      ∀ a b, EpsMatch lk t q n e a b → required selfAlign a b = true →
        Covered (hits.map toSpec) (off + e) n a b := by
  exact ⟨⟨_, Biogo.Properties.C10.new_ok lk k t hk hk' ht, rfl⟩,
    filter_complete_strand hlk t q k n e off selfAlign false hk hk' ht hthr he hoff⟩

/-- **C14 on the complement strand** (`complement = true`, the second pass of `PALS.Align`): same
    parameter ranges as `filter_complete`, the query being whatever the caller hands over (PALS: the
    reverse complement of the query).  Without self comparison the flag has no effect and every
    ε-match is covered.  In a self comparison the filter cuts the common k-mers below the
    anti-diagonal (`q < Tlen - t`), and every ε-match that lies on or above it — `Tlen ≤ a + b`, i.e.
    none of its k-mers is cut — is covered by a reported hit.  For `q = revcomp t` each pair of
    regions appears twice, mirrored about the anti-diagonal, and of a pair of disjoint regions
    exactly one image satisfies `Tlen ≤ a + b` (`C14_checker.requiredC_mirror`): every inverted
    repeat with disjoint arms is found, once. -/
theorem filter_complete_complement {lk : Lookup} (hlk : FourLetter lk) (t q : List UInt8) (k n e off : Nat)
    (selfAlign : Bool) (hk : Biogo.Kmer.minKmerLen ≤ k) (hk' : k ≤ Biogo.Kmer.maxKmerLen)
    (ht : k + 1 ≤ t.length)
    (hthr : 0 < minWordsPerFilterHit n k e) (he : e ≤ off) (hoff : 1 ≤ off) :
    ∀ hits, filter Biogo.Generated.FilterFacts.rule lk (builtIndex lk k t)
        { minMatch := n, maxError := e, tubeOffset := off } q selfAlign true = .ok hits →
      ∀ a b, EpsMatch lk t q n e a b → (selfAlign = true → t.length ≤ a + b) →
        Covered (hits.map toSpec) (off + e) n a b := by
  intro hits hf a b hm hreq
  refine filter_complete_strand hlk t q k n e off selfAlign true hk hk' ht hthr he hoff hits hf a b hm ?_
  cases selfAlign with
  | false => rfl
  | true => simpa [requiredC] using hreq rfl

/-- **the ticker repair is conservative inside the property's quantifier**: for a query over the
    four-letter alphabet (every k-mer position has a callback) the model of the code before fix
    `0c69d0c` — the ticker a countdown of callbacks — and the model of the repaired code — the ticker
    following the query position, rule regenerated from the source — return the same result of
    `Filter`, errors included, for every index, parameters `e ≤ off`, `1 ≤ off` and both flags.  (With letters
    outside the alphabet they differ: `filter_incomplete_ticker`.) -/
theorem ticker_repair_conservative {lk : Lookup} (hlk : FourLetter lk) (ix : Biogo.Kmer.Index) (p : Params)
    (q : List UInt8) (selfAlign complement : Bool)
    (hk : 1 ≤ ix.k) (hk2 : 2 * ix.k ≤ Biogo.Kmer.wordBits) (hq : AllValid lk q) (hkq : ix.k ≤ q.length)
    (he : p.maxError ≤ p.tubeOffset) (hoff : 1 ≤ p.tubeOffset) :
    filter { Biogo.Generated.FilterFacts.rule with tickByPosition := false } lk ix p q selfAlign complement =
      filter Biogo.Generated.FilterFacts.rule lk ix p q selfAlign complement :=
  filter_countdown_eq hlk _ (by rw [rule_tie]; rfl) ix p q selfAlign complement hk hk2 hq hkq he hoff

/-- lower-case DNA lookup -/
def dna : Lookup := fun b =>
  if b = 97 then some 0 else if b = 99 then some 1 else if b = 103 then some 2 else if b = 116 then some 3 else none

/-- does `filter` (with `rule`) leave the match at `(a, b)` uncovered? -/
def misses (rule : Rule) (k n e off : Nat) (t q : List UInt8) (a b : Nat) : Bool :=
  match filter rule dna (builtIndex dna k t) { minMatch := n, maxError := e, tubeOffset := off } q false false with
  | .ok hits => !(hits.any fun h => covers (off + e) n (toSpec h) a b)
  | .error _ => false

theorem fourLetter_dna : FourLetter dna := by
  intro b d h
  unfold dna at h
  repeat' split at h
  all_goals cases h
  all_goals decide

/-- the scans of the test vectors below (`k = 4`) in the form the kernel evaluates quickly -/
theorem scanFrom_dna (t : List UInt8) (ht : 4 ≤ t.length) (rule : Rule) (p : Params) (q : List UInt8)
    (selfAlign complement : Bool) (tubes0 : Array Tube) :
    scanFrom rule dna (builtIndex dna 4 t) p q selfAlign complement tubes0 =
      scanWith rule dna 4 t.length (occurrences dna 4 t) p q selfAlign complement tubes0 :=
  scanFrom_builtIndex fourLetter_dna 4 (by decide) (by decide) t ht rule p q selfAlign complement tubes0

theorem filter_dna (t : List UInt8) (ht : 4 ≤ t.length) (rule : Rule) (p : Params) (q : List UInt8)
    (selfAlign complement : Bool) :
    filter rule dna (builtIndex dna 4 t) p q selfAlign complement =
      if p.tubeOffset < p.maxError then .error .offsetLtError
      else if p.tubeOffset = 0 then .error .panic
      else (scanWith rule dna 4 t.length (occurrences dna 4 t) p q selfAlign complement
        (Array.replicate (mkCfg rule 4 t.length p selfAlign complement).cap default)).1 :=
  filter_builtIndex fourLetter_dna 4 (by decide) (by decide) t ht rule p q selfAlign complement

/-- `filter_incomplete` (F21): with the retirement rule of the pinned tree (`tubeEnd` does not
    subtract `MaxError`) completeness fails — `k=4 n=13 e=1 off=8`, target of 20 letters, query of 28,
    the ε-match at `a=5 b=0` is covered by no hit (the witness of `corpus/C14.txt`). -/
theorem filter_incomplete_pinned :
    EpsMatch dna [116, 116, 97, 103, 103, 97, 99, 99, 99, 103, 103, 116, 116, 103, 99, 103, 116, 116, 99, 99] [97, 99, 99, 99, 103, 103, 99, 116, 103, 99, 103, 116, 116, 99, 116, 116, 103, 116, 97, 116, 103, 103, 99, 116, 103, 97, 103, 97] 13 1 5 0 ∧
    misses Rule.pinned 4 13 1 8 [116, 116, 97, 103, 103, 97, 99, 99, 99, 103, 103, 116, 116, 103, 99, 103, 116, 116, 99, 99] [97, 99, 99, 99, 103, 103, 99, 116, 103, 99, 103, 116, 116, 99, 116, 116, 103, 116, 97, 116, 103, 103, 99, 116, 103, 97, 103, 97] 5 0 = true := by
  rw [misses, filter_dna _ (by decide)]
  decide +kernel

/-- `filter_incomplete` (K4): with only the retirement rule repaired, the final flush of the pinned
    tree still reports the run of an end-of-query tube under an aliased index — `k=4 n=4 e=0 off=2`,
    target `caacc`, query `acaacaaaca`, the exact match at `a=0 b=1` is covered by no hit (tube 3 is
    flushed as tube 7 of a 4-slot array). -/
theorem filter_incomplete_flush :
    EpsMatch dna [99, 97, 97, 99, 99] [97, 99, 97, 97, 99, 97, 97, 97, 99, 97] 4 0 0 1 ∧
    misses { retireSubMaxError := true, flushFromLastTick := false } 4 4 0 2 [99, 97, 97, 99, 99] [97, 99, 97, 97, 99, 97, 97, 97, 99, 97] 0 1 = true := by
  rw [misses, filter_dna _ (by decide)]
  decide +kernel

/-- `filter_incomplete` (ticker; outside the quantifier of C14, which is stated over A,C,G,T): with
    the callback-counting ticker the code had before fix `0c69d0c` (`tickByPosition := false`, both
    other repairs in place) a query with letters outside the alphabet loses matches — `k=4 n=7 e=0
    off=5`, target `cttacta`, query `cttactaaaacnn`: the two last windows get no callback, the tick that retires
    tube 1 never comes, the final flush starts beyond it and reports the run of the exact match at
    `a=0 b=0` under the aliased index 4 (the `fln` witness of `corpus/C14.txt`, shrunk). -/
theorem filter_incomplete_ticker :
    EpsMatch dna [99, 116, 116, 97, 99, 116, 97] [99, 116, 116, 97, 99, 116, 97, 97, 97, 97, 99, 110, 110] 7 0 0 0 ∧
    misses { retireSubMaxError := true, flushFromLastTick := true, tickByPosition := false } 4 7 0 5
      [99, 116, 116, 97, 99, 116, 97] [99, 116, 116, 97, 99, 116, 97, 97, 97, 97, 99, 110, 110] 0 0 = true ∧
    misses repaired 4 7 0 5
      [99, 116, 116, 97, 99, 116, 97] [99, 116, 116, 97, 99, 116, 97, 97, 97, 97, 99, 110, 110] 0 0 = false := by
  rw [misses, misses, filter_dna _ (by decide), filter_dna _ (by decide)]
  decide +kernel

/-- what the repaired filter returns on the K4 witness of `filter_incomplete_flush` -/
theorem flush_witness_repaired :
    filter repaired dna (builtIndex dna 4 [99, 97, 97, 99, 99]) { minMatch := 4, maxError := 0, tubeOffset := 2 }
      [97, 99, 97, 97, 99, 97, 97, 97, 99, 97] false false = .ok [⟨1, 5, -1⟩] := by
  rw [filter_dna _ (by decide)]
  decide +kernel

-- the same two inputs are covered under the repaired rule (as `filter_complete` says they must be)
example : misses repaired 4 13 1 8 [116, 116, 97, 103, 103, 97, 99, 99, 99, 103, 103, 116, 116, 103, 99, 103, 116, 116, 99, 99] [97, 99, 99, 99, 103, 103, 99, 116, 103, 99, 103, 116, 116, 99, 116, 116, 103, 116, 97, 116, 103, 103, 99, 116, 103, 97, 103, 97] 5 0 = false ∧ misses repaired 4 4 0 2 [99, 97, 97, 99, 99] [97, 99, 97, 97, 99, 97, 97, 97, 99, 97] 0 1 = false := by
  rw [misses, misses, flush_witness_repaired, filter_dna _ (by decide)]
  decide +kernel

/-- `misses` with both flags -/
def missesC (rule : Rule) (k n e off : Nat) (t q : List UInt8) (selfAlign complement : Bool) (a b : Nat) : Bool :=
  match filter rule dna (builtIndex dna k t) { minMatch := n, maxError := e, tubeOffset := off } q selfAlign complement with
  | .ok hits => !(hits.any fun h => covers (off + e) n (toSpec h) a b)
  | .error _ => false

/-- what the repaired filter returns on the self comparison of `caacgttg`, complement strand -/
theorem palindrome_witness_repaired :
    filter repaired dna (builtIndex dna 4 [99, 97, 97, 99, 103, 116, 116, 103]) { minMatch := 4, maxError := 0, tubeOffset := 2 }
      [99, 97, 97, 99, 103, 116, 116, 103] true true = .ok [⟨4, 8, 0⟩] := by
  rw [filter_dna _ (by decide)]
  decide +kernel

-- `caacgttg` is its own reverse complement (`L = 8`); `k = n = 4`, `e = 0`, `off = 2`.  The exact
-- matches are the five windows of the main diagonal.  `(4, 4)` lies on the anti-diagonal
-- (`a + b = L`): required, and covered.  Its mirror image `(0, 0)` (the same pair of regions
-- `[0,4)`, `[4,8)`) lies below: not required, and indeed cut — the pair is reported once.
example :
    EpsMatch dna [99, 97, 97, 99, 103, 116, 116, 103] [99, 97, 97, 99, 103, 116, 116, 103] 4 0 4 4 ∧
    requiredC true true 8 4 4 = true ∧
    missesC repaired 4 4 0 2 [99, 97, 97, 99, 103, 116, 116, 103] [99, 97, 97, 99, 103, 116, 116, 103] true true 4 4 = false ∧
    EpsMatch dna [99, 97, 97, 99, 103, 116, 116, 103] [99, 97, 97, 99, 103, 116, 116, 103] 4 0 0 0 ∧
    requiredC true true 8 0 0 = false ∧
    missesC repaired 4 4 0 2 [99, 97, 97, 99, 103, 116, 116, 103] [99, 97, 97, 99, 103, 116, 116, 103] true true 0 0 = true := by
  rw [missesC, missesC, palindrome_witness_repaired]
  decide +kernel

end Biogo.Properties.C14
