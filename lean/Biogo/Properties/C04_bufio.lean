/-
C04 (part bufio) — "physical lines far longer than any internal buffer": the line-level views
the four reader models consume are the image of a byte-level model of `bufio.Reader`.

`Biogo.Go.Bufio` transcribes `fill`, `ReadSlice`, `ReadLine`, `collectFragments`/`ReadBytes` of
Go's bufio.go over a buffer of `size` bytes and an underlying `io.Reader` (`Src`) that delivers a
fixed byte string in chunks chosen by an arbitrary policy `pol` (short reads), and reports its
final error `fin` (`io.EOF` for a file) together with the last bytes (`withData`) or after them.
`b.stream` is what has not yet been handed to the caller: the buffered bytes, then the bytes
still in the underlying reader.

`Inv b` is what holds of a reader between two calls (in particular of a new one, `inv_new`):
the buffer has at least two bytes (`bufio` makes it at least 16), `r + len(data) ≤ size`, the
underlying reader makes progress (never an empty read with a nil error — the `io.Reader`
contract) and its final error is not `ErrBufferFull`, a pending error means the source is
exhausted.  Every theorem holds for every such reader: **every buffer size, every line length,
every chunking of the underlying reads, either timing of the final error.**
-/
import Biogo.Proofs.BufioImage

namespace Biogo.Properties.C04_bufio
open Biogo.Go.Bufio
open Biogo.BytesFeat (first_lf)
open Biogo.Spec.Bufio (sliceOf lineOf lineInput endsPendingAux readBytesCalls)

/-- a reader as `bufio.NewReaderSize(rd, size)` makes it satisfies the invariant -/
theorem inv_new (src : Src) (size : Nat) (hp : Progressing src.pol) (hf : src.fin ≠ .bufferFull) :
    Inv (newReaderSize src size) := inv_newReaderSize src size hp hf

/-- **`ReadSlice` depends on the undelivered stream only** — not on how it is split between the
    buffer and the underlying reader, nor on the chunking: it returns `sliceOf` of the stream
    (up to and including the first delimiter within `size` bytes; else the whole rest with the
    final error if that is shorter than the buffer, or fills it exactly and the error came with
    the data; else the next `size` bytes with `ErrBufferFull`), leaves the rest as the stream,
    and re-establishes the invariant. -/
theorem readSlice_of_stream (delim : UInt8) (b : Reader) (h : Inv b) :
    (readSlice delim b).1 = (sliceOf b.size delim b.src.fin b.src.withData b.stream).1 ∧
    (readSlice delim b).2.1 = (sliceOf b.size delim b.src.fin b.src.withData b.stream).2.1 ∧
    (readSlice delim b).2.2.stream = (sliceOf b.size delim b.src.fin b.src.withData b.stream).2.2 ∧
    Inv (readSlice delim b).2.2 ∧ SameCfg b (readSlice delim b).2.2 :=
  let r := readSlice_spec delim b h
  ⟨r.line_eq, r.err_eq, r.stream_eq, r.inv, r.cfg⟩

/-- **`ReadLine` depends on the undelivered stream only**: it returns `lineOf` of the stream
    (`isPrefix` fragmentation, CR stripped only directly before the LF of a complete line, a CR
    that is the last byte of a full buffer put back for the next call). -/
theorem readLine_of_stream (b : Reader) (h : Inv b) :
    (readLine b).1 = (lineOf b.size b.src.fin b.src.withData b.stream).1 ∧
    (readLine b).2.stream = (lineOf b.size b.src.fin b.src.withData b.stream).2 ∧
    Inv (readLine b).2 ∧ SameCfg b (readLine b).2 :=
  let r := readLine_spec (Reads.init h)
  ⟨r.1, r.2.stream, r.2.inv, r.2.cfg⟩

/-- **chunking does not matter**: two readers with the same buffer size over the same remaining
    bytes, whatever their underlying readers' policies and however much each has buffered,
    return the same from `ReadLine` and leave the same remaining bytes. -/
theorem readLine_chunking_independent (b₁ b₂ : Reader) (h₁ : Inv b₁) (h₂ : Inv b₂) (hs : b₁.size = b₂.size)
    (hf : b₁.src.fin = b₂.src.fin) (hw : b₁.src.withData = b₂.src.withData) (hst : b₁.stream = b₂.stream) :
    (readLine b₁).1 = (readLine b₂).1 ∧ (readLine b₁).2.stream = (readLine b₂).2.stream := by
  have r₁ := readLine_spec (Reads.init h₁)
  have r₂ := readLine_spec (Reads.init h₂)
  rw [hs, hf, hw, hst] at r₁
  exact ⟨r₁.1.trans r₂.1.symm, r₁.2.stream.trans r₂.2.stream.symm⟩

/-- **The fragments of one terminated physical line join to the line.**  The loop
    `for { buff, isPrefix, err = ReadLine(); line = append(line, buff...); if isPrefix { continue }; … }`
    of `fasta.Reader.Read` / `fastq.Reader.Read`, started where a line `l` (no LF inside, any
    length) followed by LF begins, ends with `line` = `l` without one CR directly before the
    LF, no error, and the stream positioned after the LF. -/
theorem readLine_fragments_join (l post : Bytes) (hl : (10 : UInt8) ∉ l) (b : Reader) (h : Inv b)
    (hst : b.stream = l ++ 10 :: post) :
    ∃ b', nextLine b = (chompCR l, none, b') ∧ b'.stream = post ∧ Inv b' ∧ SameCfg b b' :=
  let ⟨b', h1, h2⟩ := nextLine_terminated l post hl (hst ▸ Reads.init h)
  ⟨b', h1, h2.stream, h2.inv, h2.cfg⟩

/-- **… and so do those of an unterminated last line**, byte for byte (a final CR is kept).
    The loop ends with the complete line, or with the final error while the fragments are
    pending: exactly when nothing is left, or the error comes after the data and the line ends
    on a buffer boundary (`endsPendingAux`: a multiple of `size`, up to the CR adjustment). -/
theorem readLine_fragments_last (l : Bytes) (hl : (10 : UInt8) ∉ l) (b : Reader) (h : Inv b) (hst : b.stream = l) :
    ∃ b', nextLine b =
        (l, (if l = [] ∨ (b.src.withData = false ∧ endsPendingAux b.size (l.length + 1) l = true)
              then some b.src.fin else none), b') ∧
      b'.stream = [] ∧ Inv b' ∧ SameCfg b b' :=
  let ⟨b', h1, h2⟩ := nextLine_last l hl (hst ▸ Reads.init h)
  ⟨b', h1, h2.stream, h2.inv, h2.cfg⟩

/-- **`ReadBytes('\n')` returns exactly the line with its terminator**, whatever its length … -/
theorem readBytes_line (l post : Bytes) (hl : (10 : UInt8) ∉ l) (b : Reader) (h : Inv b)
    (hst : b.stream = l ++ 10 :: post) :
    ∃ b', readBytes 10 b = (l ++ [10], none, b') ∧ b'.stream = post ∧ Inv b' ∧ SameCfg b b' :=
  let ⟨b', h1, h2⟩ := readBytes_terminated l post hl (hst ▸ Reads.init h)
  ⟨b', h1, h2.stream, h2.inv, h2.cfg⟩

/-- **… or the unterminated rest together with the final error** (`io.EOF`). -/
theorem readBytes_rest (l : Bytes) (hl : (10 : UInt8) ∉ l) (b : Reader) (h : Inv b) (hst : b.stream = l) :
    ∃ b', readBytes 10 b = (l, some b.src.fin, b') ∧ b'.stream = [] ∧ Inv b' ∧ SameCfg b b' :=
  let ⟨b', h1, h2⟩ := readBytes_last l hl (hst ▸ Reads.init h)
  ⟨b', h1, h2.stream, h2.inv, h2.cfg⟩

/-- **The line-level view of the FASTA/FASTQ models is the image of the byte-level model.**
    A `ReadLine` loop over `bufio.NewReaderSize(rd, size)`, `rd` delivering `bs` in any chunks:
    the lines it collects, the fragments pending when the final error arrives, and that error
    are `lineInput (max size 16) withData bs` … -/
theorem readLine_loop_image (bs : Bytes) (pol : Nat → Nat → Nat) (wd : Bool) (fin : Err) (size : Nat)
    (hp : Progressing pol) (hf : fin ≠ .bufferFull) :
    allLines (newReaderSize { rest := bs, pol := pol, withData := wd, fin := fin } size) =
      ((lineInput (max size 16) wd bs).1, (lineInput (max size 16) wd bs).2, some fin) := by
  have := allLines_image _ (inv_newReaderSize { rest := bs, pol := pol, withData := wd, fin := fin } size hp hf)
  simpa [newReaderSize, Reader.stream, minReadBufferSize] using this

/-- … which for `bufio.NewReader(rd)` (4096 bytes) is `Biogo.Go.Bytes.readLineInput`, the input of
    `Biogo.Fastq.readAll`; the `eofWithData` parameter of the FASTQ model is `withData`. -/
theorem readLine_loop_image_default (bs : Bytes) (pol : Nat → Nat → Nat) (wd : Bool) (hp : Progressing pol) :
    allLines (newReader { rest := bs, pol := pol, withData := wd }) =
      ((Biogo.Go.Bytes.readLineInput wd bs).1, (Biogo.Go.Bytes.readLineInput wd bs).2, some .eof) := by
  have := readLine_loop_image bs pol wd .eof defaultBufSize hp (by decide)
  rw [show max defaultBufSize 16 = 4096 from rfl, lineInput_default] at this
  exact this

/-- the FASTA reader (after fix `02b768f`) processes fragments pending at `io.EOF` as a line:
    what it sees is `Biogo.Go.Bytes.splitLines`, the input of `Biogo.Fasta.readAll` -/
theorem readLine_loop_image_fasta (bs : Bytes) (pol : Nat → Nat → Nat) (wd : Bool) (hp : Progressing pol) :
    let r := allLines (newReader { rest := bs, pol := pol, withData := wd })
    r.1 ++ (if r.2.1 = [] then [] else [r.2.1]) = Biogo.Go.Bytes.splitLines bs := by
  simp only [readLine_loop_image_default bs pol wd hp, ← lineInput_default]
  exact lineInput_all_lines 4096 wd bs

/-- **The line-level view of the BED/GFF models is the image of the byte-level model.**  A
    `ReadBytes('\n')` loop returns every element of `Biogo.BytesFeat.lines bs`, with the final
    error exactly on an unterminated last line, or with no data after the end … -/
theorem readBytes_loop_image (bs : Bytes) (pol : Nat → Nat → Nat) (wd : Bool) (fin : Err) (size : Nat)
    (hp : Progressing pol) (hf : fin ≠ .bufferFull) :
    allReadBytes (newReaderSize { rest := bs, pol := pol, withData := wd, fin := fin } size) = readBytesCalls fin bs := by
  have := allReadBytes_image _ (inv_newReaderSize { rest := bs, pol := pol, withData := wd, fin := fin } size hp hf)
  simpa [newReaderSize, Reader.stream] using this

/-- … so the data of the calls `bed.Reader.Read` / `gff.Reader.Read` / `metaSeq` go on to process
    (`err == nil`, or `io.EOF` with `len(line) > 0` — fix F4) are `lines bs`, the input of
    `Biogo.Bed.readAll` and `Biogo.Gff.readAll`. -/
theorem readBytes_loop_image_processed (bs : Bytes) (pol : Nat → Nat → Nat) (wd : Bool) (size : Nat)
    (hp : Progressing pol) :
    ((allReadBytes (newReaderSize { rest := bs, pol := pol, withData := wd } size)).filter
        (fun c => c.2.isNone || !c.1.isEmpty)).map (·.1) = Biogo.BytesFeat.lines bs := by
  rw [readBytes_loop_image bs pol wd .eof size hp (by decide)]
  exact readBytesCalls_processed .eof bs

/-- **None of bufio's "should be unreachable" panics is reached**, and no loop of the model
    stops for lack of fuel (those branches set `panicked`). -/
theorem never_panics (b : Reader) (h : Inv b) (delim : UInt8) :
    (readSlice delim b).2.2.panicked = false ∧ (readLine b).2.panicked = false ∧
    (readBytes 10 b).2.2.panicked = false ∧ (nextLine b).2.2.panicked = false := by
  refine ⟨(readSlice_spec delim b h).inv.noPanic, (readLine_spec (Reads.init h)).2.inv.noPanic, ?_, ?_⟩
  · rcases first_lf b.stream with hno | ⟨l, post, hbs, hl⟩
    · obtain ⟨b', h1, h3⟩ := readBytes_last _ hno (Reads.init h)
      rw [h1]; exact h3.inv.noPanic
    · obtain ⟨b', h1, h3⟩ := readBytes_terminated l post hl (hbs ▸ Reads.init h)
      rw [h1]; exact h3.inv.noPanic
  · obtain ⟨b', h1⟩ := nextLine_spec (ReadsLines.init h)
    split at h1 <;> (rw [h1.1]; exact h1.2.unpack.1.noPanic)

/-! ### non-vacuity: a 16-byte buffer (the smallest `bufio` makes) -/

/-- one byte per read, a 17-byte CRLF line `x…x\r\n` (the CR is the 16th byte) then `y`: the CR
    is put back, the line arrives as a 15-byte `isPrefix` fragment and an empty final one -/
example :
    let b := newReaderSize { rest := List.replicate 15 120 ++ [13, 10, 121], pol := fun _ _ => 1 } 16
    (readLine b).1 = ⟨List.replicate 15 120, true, none⟩ ∧
    (readLine (readLine b).2).1 = ⟨[], false, none⟩ ∧
    (readLine (readLine (readLine b).2).2).1 = ⟨[121], false, none⟩ ∧
    (readLine (readLine (readLine (readLine b).2).2).2).1 = ⟨[], false, some .eof⟩ := by decide +kernel

/-- an unterminated 16-byte last line: fragments pending at `io.EOF` when the error comes after
    the data, a complete line when it comes with them -/
example : allLines (newReaderSize { rest := List.replicate 16 120 } 16) = ([], List.replicate 16 120, some .eof) ∧
    allLines (newReaderSize { rest := List.replicate 16 120, withData := true } 16) = ([List.replicate 16 120], [], some .eof) := by
  decide +kernel

example : Progressing (fun _ _ => 1) := fun _ _ _ => Nat.le_refl 1

/-- `ReadBytes` over a 40-byte line with a 16-byte buffer and half reads -/
example : (readBytes 10 (newReaderSize { rest := List.replicate 40 120 ++ [10, 121], pol := fun _ n => (n + 1) / 2 } 16)).1
    = List.replicate 40 120 ++ [10] := by decide +kernel

end Biogo.Properties.C04_bufio
