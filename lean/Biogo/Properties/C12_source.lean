/-
C12 — source tie below hook granularity.

`Model/MorassConc.lean` treats the code between two hook points as one atomic block.  Four of
its blocks rely on the *order of statements inside the block* in a way no forced schedule can
exhibit, because the goroutine concerned has not reached its first hook yet (or holds a lock):

* the caller's `push.send` block registers the new writer in the WaitGroup **before** the
  goroutine exists (`wg := wg + 1` in the caller's step) — if `writers.Add(1)` ran inside the
  spawned goroutine, `Finalise`'s `Wait` could return before the writer is counted;
* `Finalise` counts, runs and then waits: `Add(1); write(); Wait()`;
* the writer's final block decrements the counter whatever path it leaves by (`defer Done` is the
  first statement), and its `files` registration is inside `filesLock` (the model's
  `register` step is atomic with respect to the other writers).

* a `Push` of a value of another type is rejected by the **first** statement of `Push` (the
  model's `reject` block returns the error and changes nothing; were the check made later — after
  the hand-over of a full chunk — a rejected call would spawn a writer).

The facts are regenerated from `/repo/morass/morass.go` by go/ast on every run
(`harness/props/c12_facts.go`); this theorem fails to check when one of them stops holding.
-/
import Biogo.Generated.MorassFacts

namespace Biogo.Properties.C12_source
open Biogo.Generated.MorassFacts

theorem model_matches_source_structure :
    pushAddsBeforeSpawn = true ∧ finaliseAddsWritesThenWaits = true ∧
    writeDefersDoneFirst = true ∧ filesAppendUnderLock = true ∧ setErrLocks = true ∧
    pushChecksTypeFirst = true := by
  decide

end Biogo.Properties.C12_source
