/-
C10 — the plain-scan reference the driver compares the implementation's index with
(`Spec.KmerGroup.byWord` / `byText`: sort the windows by (key, position), group runs of equal keys)
is the declarative `occurrences` / `frequency` of the theorems of `Properties/C10.lean`.
-/
import Biogo.Spec.Kmer
import Biogo.Spec.KmerGroup
import Biogo.Proofs.Kmer
import Biogo.Properties.C10

namespace Biogo.Properties.C10_checker
open Biogo.Spec.Kmer Biogo.Spec.KmerGroup

structure StrictOrder {κ : Type} (lt : κ → κ → Bool) : Prop where
  irrefl : ∀ a, lt a a = false
  trans : ∀ a b c, lt a b = true → lt b c = true → lt a c = true
  tri : ∀ a b, lt a b = true ∨ a = b ∨ lt b a = true

def vals {κ : Type} [BEq κ] (L : List (κ × Nat)) (k : κ) : List Nat := (L.filter (·.1 == k)).map (·.2)

section
variable {κ : Type} [BEq κ] [LawfulBEq κ] {lt : κ → κ → Bool}

omit [LawfulBEq κ] in
theorem vals_cons (k : κ) (v : Nat) (xs : List (κ × Nat)) (k0 : κ) :
    vals ((k, v) :: xs) k0 = if k == k0 then v :: vals xs k0 else vals xs k0 := by
  unfold vals; rw [List.filter_cons]; split <;> simp

theorem vals_eq_nil {xs : List (κ × Nat)} {k0 : κ} (h : ∀ x ∈ xs, x.1 ≠ k0) : vals xs k0 = [] := by
  unfold vals
  rw [List.map_eq_nil_iff, List.filter_eq_nil_iff]
  intro x hx; simpa using h x hx

theorem groupSorted_head (x : κ × Nat) (xs : List (κ × Nat)) :
    ∃ vs rest, groupSorted (x :: xs) = (x.1, vs) :: rest := by
  obtain ⟨k, v⟩ := x
  rw [groupSorted]
  cases groupSorted xs with
  | nil => exact ⟨_, _, rfl⟩
  | cons g rest =>
    obtain ⟨k', vs'⟩ := g
    by_cases h : k = k'
    · subst h; exact ⟨v :: vs', rest, by simp⟩
    · exact ⟨[v], (k', vs') :: rest, by simp [h]⟩

/-- putting `(k, v)` in front of a list whose groups `G` are known: the group of `k` gains `v`,
    the other groups (`R`) stay -/
theorem mem_cons_group {G R : List (κ × List Nat)} {k : κ} {v : Nat} {xs : List (κ × Nat)}
    (hG : ∀ k0 vs, (k0, vs) ∈ G ↔ vs ≠ [] ∧ vs = vals xs k0)
    (hR : ∀ g, g ∈ R ↔ g ∈ G ∧ g.1 ≠ k) (k0 : κ) (vs : List Nat) :
    (k0, vs) ∈ (k, v :: vals xs k) :: R ↔ vs ≠ [] ∧ vs = vals ((k, v) :: xs) k0 := by
  rw [List.mem_cons, hR, hG, vals_cons, Prod.mk.injEq]
  by_cases h : k = k0
  · subst h
    simp only [beq_self_eq_true, if_true, true_and, ne_eq, not_true_eq_false, and_false, or_false]
    exact ⟨fun h => ⟨by simp [h], h⟩, fun h => h.2⟩
  · have hb : (k == k0) = false := by simpa using h
    simp only [hb, Bool.false_eq_true, if_false, ne_eq]
    constructor
    · rintro (⟨h1, _⟩ | ⟨h1, _⟩)
      · exact absurd h1.symm h
      · exact h1
    · exact fun h1 => Or.inr ⟨h1, fun h2 => h h2.symm⟩

theorem groupSorted_spec (so : StrictOrder lt) (L : List (κ × Nat))
    (h : L.Pairwise (fun a b => lexLe lt a b = true)) :
    (groupSorted L).Pairwise (fun a b => lt a.1 b.1 = true) ∧
    ∀ k0 vs, (k0, vs) ∈ groupSorted L ↔ vs ≠ [] ∧ vs = vals L k0 := by
  induction L with
  | nil => exact ⟨List.Pairwise.nil, fun k0 vs => by simp [groupSorted, vals]⟩
  | cons kv xs ih =>
    obtain ⟨k, v⟩ := kv
    cases xs with
    | nil => refine ⟨by simp [groupSorted], mem_cons_group (G := []) (R := []) (xs := []) ?_ ?_⟩ <;> simp [vals]
    | cons x ys =>
      rw [List.pairwise_cons] at h
      obtain ⟨ihB, ihA⟩ := ih h.2
      obtain ⟨vs', rest, hG⟩ := groupSorted_head x ys
      rw [groupSorted, hG]
      rw [hG] at ihA ihB
      rw [List.pairwise_cons] at ihB
      have hhead := (ihA x.1 vs').mp List.mem_cons_self
      by_cases hk : k = x.1
      · -- the first group of the tail has key `k` and gains `v`
        subst hk
        simp only [beq_self_eq_true, if_true]
        refine ⟨List.pairwise_cons.mpr ihB, ?_⟩
        rw [hhead.2]
        refine mem_cons_group ihA fun g => ⟨fun hg => ⟨List.mem_cons_of_mem _ hg, fun he => ?_⟩, ?_⟩
        · have := ihB.1 g hg; rw [he, so.irrefl] at this; cases this
        · rintro ⟨hg, hne⟩
          rcases List.mem_cons.mp hg with rfl | hg
          · exact absurd rfl hne
          · exact hg
      · -- `k` is below every key of the tail and opens a group of its own
        have hb : (k == x.1) = false := by simpa using hk
        simp only [hb, Bool.false_eq_true, if_false]
        have hlt : lt k x.1 = true := by
          have := h.1 x List.mem_cons_self
          simp only [lexLe, Bool.or_eq_true, Bool.and_eq_true, beq_iff_eq] at this
          exact this.resolve_right fun h' => hk h'.1
        have hnone : vals (x :: ys) k = [] := by
          apply Classical.byContradiction
          intro hne
          rcases List.mem_cons.mp ((ihA k _).mpr ⟨hne, rfl⟩) with he | hm
          · exact hk (Prod.mk.inj he).1
          · have := so.trans _ _ _ hlt (ihB.1 _ hm)
            rw [so.irrefl] at this; cases this
        refine ⟨List.pairwise_cons.mpr ⟨?_, List.pairwise_cons.mpr ihB⟩, ?_⟩
        · intro g hg
          rcases List.mem_cons.mp hg with rfl | hg
          · exact hlt
          · exact so.trans _ _ _ hlt (ihB.1 g hg)
        · have := mem_cons_group (k := k) (v := v) (R := (x.1, vs') :: rest) ihA
            fun g => ⟨fun hg => ⟨hg, fun he => ?_⟩, And.left⟩
          · rwa [hnone] at this
          · obtain ⟨k1, vs1⟩ := g
            have := (ihA k1 vs1).mp hg
            rw [show k1 = k from he, hnone] at this
            exact this.1 this.2

theorem lexLe_trans (so : StrictOrder lt) (a b c : κ × Nat) (h1 : lexLe lt a b = true)
    (h2 : lexLe lt b c = true) : lexLe lt a c = true := by
  simp only [lexLe, Bool.or_eq_true, Bool.and_eq_true, beq_iff_eq, decide_eq_true_eq] at *
  rcases h1 with h1 | ⟨h1, h1'⟩ <;> rcases h2 with h2 | ⟨h2, h2'⟩
  · exact Or.inl (so.trans _ _ _ h1 h2)
  · rw [← h2]; exact Or.inl h1
  · rw [h1]; exact Or.inl h2
  · exact Or.inr ⟨h1.trans h2, by omega⟩

theorem lexLe_total (so : StrictOrder lt) (a b : κ × Nat) : (lexLe lt a b || lexLe lt b a) = true := by
  simp only [lexLe, Bool.or_eq_true, Bool.and_eq_true, beq_iff_eq, decide_eq_true_eq]
  rcases so.tri a.1 b.1 with h | h | h
  · exact Or.inl (Or.inl h)
  · by_cases h2 : a.2 ≤ b.2
    · exact Or.inl (Or.inr ⟨h, h2⟩)
    · exact Or.inr (Or.inr ⟨h.symm, by omega⟩)
  · exact Or.inr (Or.inl h)

theorem vals_sorted (so : StrictOrder lt) {L : List (κ × Nat)} (h : L.Pairwise (fun a b => lexLe lt a b = true))
    (k0 : κ) : (vals L k0).Pairwise (fun a b => decide (a ≤ b) = true) := by
  unfold vals
  rw [List.pairwise_map, List.pairwise_filter]
  refine h.imp ?_
  intro a b hab ha hb
  rw [beq_iff_eq] at ha hb
  simp only [lexLe, Bool.or_eq_true, Bool.and_eq_true, beq_iff_eq, decide_eq_true_eq] at hab
  rcases hab with h1 | ⟨_, h1⟩
  · rw [ha, hb, so.irrefl] at h1; cases h1
  · simpa using h1

/-- **sort and group**: keys strictly increase, every key with a value has exactly one group, and
    the group holds the values filed under the key in increasing order -/
theorem groupBy_spec (so : StrictOrder lt) (keyed : List (κ × Nat)) :
    (groupBy lt keyed).Pairwise (fun a b => lt a.1 b.1 = true) ∧
    ∀ k0 vs, (k0, vs) ∈ groupBy lt keyed ↔
      vs ≠ [] ∧ vs = (vals keyed k0).mergeSort (fun a b => decide (a ≤ b)) := by
  have hs : (keyed.mergeSort (lexLe lt)).Pairwise (fun a b => lexLe lt a b = true) :=
    List.pairwise_mergeSort (lexLe_trans so) (lexLe_total so) keyed
  obtain ⟨hB, hA⟩ := groupSorted_spec so _ hs
  refine ⟨hB, fun k0 vs => ?_⟩
  have heq : vals (keyed.mergeSort (lexLe lt)) k0 = (vals keyed k0).mergeSort (fun a b => decide (a ≤ b)) := by
    apply List.Perm.eq_of_pairwise (le := fun a b => decide (a ≤ b) = true)
    · intro a b _ _ h1 h2
      simp only [decide_eq_true_eq] at h1 h2; omega
    · exact vals_sorted so hs k0
    · exact List.pairwise_mergeSort (by intro a b c h1 h2; simp only [decide_eq_true_eq] at *; omega)
        (by intro a b; simp only [Bool.or_eq_true, decide_eq_true_eq]; omega) _
    · unfold vals
      exact (((List.mergeSort_perm keyed (lexLe lt)).filter _).map _).trans (List.mergeSort_perm _ _).symm
  unfold groupBy
  rw [hA, heq]

/-- … and when the values come in increasing order already (positions of a scan), the group is
    the plain sub-list -/
theorem groupBy_spec_sorted (so : StrictOrder lt) (keyed : List (κ × Nat))
    (hv : keyed.Pairwise (fun a b => a.2 ≤ b.2)) :
    (groupBy lt keyed).Pairwise (fun a b => lt a.1 b.1 = true) ∧
    ∀ k0 vs, (k0, vs) ∈ groupBy lt keyed ↔ vs ≠ [] ∧ vs = vals keyed k0 := by
  obtain ⟨hB, hA⟩ := groupBy_spec so keyed
  refine ⟨hB, fun k0 vs => ?_⟩
  rw [hA, List.mergeSort_of_pairwise]
  unfold vals
  rw [List.pairwise_map]
  exact (hv.filter _).imp (by intro a b h; simpa using h)

theorem lookup_of_spec {G : List (κ × List Nat)} {f : κ → List Nat}
    (h : ∀ k0 vs, (k0, vs) ∈ G ↔ vs ≠ [] ∧ vs = f k0) (k0 : κ) : (G.lookup k0).getD [] = f k0 := by
  cases hl : G.lookup k0 with
  | none =>
    -- no entry: `f k0` is empty, or `(k0, f k0)` would be one
    apply Classical.byContradiction
    intro hne
    have := List.lookup_eq_none_iff.mp hl _ ((h k0 (f k0)).mpr ⟨fun h' => hne h'.symm, rfl⟩)
    simp at this
  | some vs =>
    obtain ⟨l₁, l₂, rfl, _⟩ := List.lookup_eq_some_iff.mp hl
    exact ((h k0 vs).mp (List.mem_append_right _ List.mem_cons_self)).2

end

theorem natLt_strict : StrictOrder (fun (a b : Nat) => decide (a < b)) where
  irrefl := by intro a; simp
  trans := by intro a b c h1 h2; simp only [decide_eq_true_eq] at *; omega
  tri := by intro a b; simp only [decide_eq_true_eq]; omega

theorem ltBytes_irrefl : ∀ a, ltBytes a a = false
  | [] => rfl
  | x :: xs => by simp [ltBytes, ltBytes_irrefl xs, UInt8.lt_irrefl]

theorem ltBytes_trans : ∀ a b c, ltBytes a b = true → ltBytes b c = true → ltBytes a c = true
  | [], [], _, h, _ => by simp [ltBytes] at h
  | [], _ :: _, [], _, h => by simp [ltBytes] at h
  | [], _ :: _, _ :: _, _, _ => rfl
  | _ :: _, [], _, h, _ => by simp [ltBytes] at h
  | _ :: _, _ :: _, [], _, h => by simp [ltBytes] at h
  | x :: xs, y :: ys, z :: zs, h1, h2 => by
    simp only [ltBytes, Bool.or_eq_true, decide_eq_true_eq, Bool.and_eq_true, beq_iff_eq] at *
    rcases h1 with h1 | ⟨h1, h1'⟩ <;> rcases h2 with h2 | ⟨h2, h2'⟩
    · exact Or.inl (UInt8.lt_trans h1 h2)
    · subst h2; exact Or.inl h1
    · subst h1; exact Or.inl h2
    · exact Or.inr ⟨h1.trans h2, ltBytes_trans xs ys zs h1' h2'⟩

theorem ltBytes_tri : ∀ a b, ltBytes a b = true ∨ a = b ∨ ltBytes b a = true
  | [], [] => Or.inr (Or.inl rfl)
  | [], _ :: _ => Or.inl rfl
  | _ :: _, [] => Or.inr (Or.inr rfl)
  | x :: xs, y :: ys => by
    simp only [ltBytes, Bool.or_eq_true, decide_eq_true_eq, Bool.and_eq_true, beq_iff_eq, List.cons.injEq]
    by_cases h1 : x < y
    · exact Or.inl (Or.inl h1)
    · by_cases h2 : y < x
      · exact Or.inr (Or.inr (Or.inl h2))
      · have hxy : x = y := by
          apply UInt8.toNat_inj.mp
          rw [UInt8.lt_iff_toNat_lt] at h1 h2
          omega
        rcases ltBytes_tri xs ys with h | h | h
        · exact Or.inl (Or.inr ⟨hxy, h⟩)
        · exact Or.inr (Or.inl ⟨hxy, h⟩)
        · exact Or.inr (Or.inr (Or.inr ⟨hxy.symm, h⟩))

theorem ltBytes_strict : StrictOrder ltBytes := ⟨ltBytes_irrefl, ltBytes_trans, ltBytes_tri⟩

theorem groupBy_windows {κ : Type} [BEq κ] [LawfulBEq κ] {lt : κ → κ → Bool} (so : StrictOrder lt)
    (f : Nat × Nat → κ) (lk : Lookup) (k : Nat) (s : List UInt8) :
    (groupBy lt ((allWindows lk k s).map fun c => (f c, c.1))).Pairwise (fun a b => lt a.1 b.1 = true) ∧
    ∀ key ps, (key, ps) ∈ groupBy lt ((allWindows lk k s).map fun c => (f c, c.1)) ↔
      ps ≠ [] ∧ ps = ((allWindows lk k s).filter (fun c => f c == key)).map (·.1) := by
  have hv : ((allWindows lk k s).map fun c => (f c, c.1)).Pairwise (fun a b => a.2 ≤ b.2) := by
    rw [List.pairwise_map]
    exact (Biogo.Proofs.Kmer.wordsFrom_pairwise lk k s 0).imp Nat.le_of_lt
  obtain ⟨hB, hA⟩ := groupBy_spec_sorted so _ hv
  refine ⟨hB, fun key ps => ?_⟩
  rw [hA, vals, List.filter_map, List.map_map]
  rfl

/-- **`byWord` is `occurrences`** — what the driver compares `KmerIndex()` with: the groups come by
    strictly increasing word, a word has a group exactly when it occurs, and the group of `w` is the
    list `occurrences lk k s w` of `positions_spec`. -/
theorem byWord_spec (lk : Lookup) (k : Nat) (s : List UInt8) :
    (byWord (allWindows lk k s)).Pairwise (fun a b => a.1 < b.1) ∧
    ∀ w ps, (w, ps) ∈ byWord (allWindows lk k s) ↔ ps ≠ [] ∧ ps = occurrences lk k s w := by
  obtain ⟨hB, hA⟩ := groupBy_windows natLt_strict (·.2) lk k s
  exact ⟨hB.imp (by intro a b h; simpa using h), hA⟩

/-- what the driver demands of `KmerPositions(w)` for a word in range: the entry of `w` in the
    grouped scan, nothing for an absent word — is `occurrences lk k s w` -/
theorem byWord_lookup (lk : Lookup) (k : Nat) (s : List UInt8) (w : Nat) :
    ((byWord (allWindows lk k s)).lookup w).getD [] = occurrences lk k s w :=
  lookup_of_spec (byWord_spec lk k s).2 w

theorem frequency_eq_length (lk : Lookup) (k : Nat) (s : List UInt8) (w : Nat) :
    frequency lk k s w = (occurrences lk k s w).length :=
  (Biogo.Proofs.KmerIndex.occ_length (allWindows lk k s) w).symm

/-- what the driver compares `KmerFrequencies()` with — the group sizes — is the list of the
    non-zero `frequency` values of `freq_spec`, by strictly increasing word -/
theorem byWord_freq (lk : Lookup) (k : Nat) (s : List UInt8) :
    ((byWord (allWindows lk k s)).map fun kv => (kv.1, kv.2.length)).Pairwise (fun a b => a.1 < b.1) ∧
    ∀ w n, (w, n) ∈ ((byWord (allWindows lk k s)).map fun kv => (kv.1, kv.2.length)) ↔
      n ≠ 0 ∧ n = frequency lk k s w := by
  obtain ⟨hB, hA⟩ := byWord_spec lk k s
  refine ⟨by rw [List.pairwise_map]; exact hB, fun w n => ?_⟩
  rw [frequency_eq_length]
  simp only [List.mem_map, Prod.mk.injEq]
  constructor
  · rintro ⟨⟨w', ps⟩, hm, rfl, rfl⟩
    obtain ⟨h1, rfl⟩ := (hA _ _).mp hm
    exact ⟨mt List.length_eq_zero_iff.mp h1, rfl⟩
  · rintro ⟨h1, rfl⟩
    exact ⟨(w, occurrences lk k s w), (hA _ _).mpr ⟨mt List.length_eq_zero_iff.mpr h1, rfl⟩, rfl, rfl⟩

theorem eq_of_sorted_of_mem_iff {ν : Type} {A B : List (Nat × ν)}
    (hA : A.Pairwise (fun a b => a.1 < b.1)) (hB : B.Pairwise (fun a b => a.1 < b.1))
    (h : ∀ x, x ∈ A ↔ x ∈ B) : A = B := by
  have hne : ∀ {a b : Nat × ν}, a.1 < b.1 → a ≠ b := fun hab he => Nat.lt_irrefl _ (he ▸ hab)
  exact ((List.perm_ext_iff_of_nodup (hA.imp hne) (hB.imp hne)).mpr h).eq_of_pairwise
    (fun a b _ _ h1 h2 => absurd h1 (Nat.lt_asymm h2)) hA hB

/-- explicit form for a four-letter alphabet: the grouped scan is the table
    `w ↦ occurrences lk k s w` over `w = 0 … 4^k` with the empty entries left out (`4^k` itself is always empty) — and its
    sizes are literally the list `freq_spec` states for `KmerFrequencies()`. -/
theorem byWord_eq {lk : Lookup} (hlk : Biogo.Proofs.Kmer.FourLetter lk) (k : Nat) (s : List UInt8) :
    byWord (allWindows lk k s) = (List.range (4 ^ k + 1)).filterMap (fun w =>
      if occurrences lk k s w ≠ [] then some (w, occurrences lk k s w) else none) ∧
    ((byWord (allWindows lk k s)).map fun kv => (kv.1, kv.2.length)) = (List.range (4 ^ k + 1)).filterMap (fun w =>
      if frequency lk k s w > 0 then some (w, frequency lk k s w) else none) := by
  obtain ⟨hB, hA⟩ := byWord_spec lk k s
  have hocc : ∀ w, occurrences lk k s w ≠ [] → w < 4 ^ k + 1 := by
    intro w hw
    obtain ⟨p, hp⟩ := List.exists_mem_of_ne_nil _ hw
    obtain ⟨c, hc, _⟩ := List.mem_map.mp hp
    rw [List.mem_filter, beq_iff_eq] at hc
    have := (Biogo.Proofs.Kmer.mem_wordsFrom_bounds hlk k s 0 c hc.1).1
    omega
  have h1 : byWord (allWindows lk k s) = (List.range (4 ^ k + 1)).filterMap (fun w =>
      if occurrences lk k s w ≠ [] then some (w, occurrences lk k s w) else none) := by
    apply eq_of_sorted_of_mem_iff hB
    · rw [List.pairwise_filterMap]
      refine List.pairwise_lt_range.imp fun hab x hx y hy => ?_
      rw [Option.ite_none_right_eq_some, Option.some.injEq] at hx hy
      rw [← hx.2, ← hy.2]; exact hab
    · rintro ⟨w, ps⟩
      rw [hA]
      simp only [List.mem_filterMap, List.mem_range, Option.ite_none_right_eq_some, Option.some.injEq,
        Prod.mk.injEq]
      constructor
      · rintro ⟨h1, rfl⟩; exact ⟨w, hocc w h1, h1, rfl, rfl⟩
      · rintro ⟨w', _, h1, rfl, rfl⟩; exact ⟨h1, rfl⟩
  refine ⟨h1, ?_⟩
  rw [h1, List.map_filterMap]
  congr 1
  funext w
  rw [frequency_eq_length]
  by_cases h : occurrences lk k s w = []
  · simp [h]
  · have : (occurrences lk k s w).length > 0 := List.length_pos_iff.mpr h
    simp [h, this]

/-- positions of the valid windows whose `k` letters, lower-cased, read `txt` — the string view
    of `occurrences` -/
def textOccurrences (lk : Lookup) (k : Nat) (s : List UInt8) (txt : List UInt8) : List Nat :=
  ((allWindows lk k s).filter (fun c => textAt s.toArray k c.1 == txt)).map (·.1)

/-- **`byText`**, what the driver compares `StringKmerIndex()` with: groups by strictly increasing
    text (byte-wise), one for every text that occurs, holding the positions of the valid windows
    that read that text -/
theorem byText_spec (lk : Lookup) (k : Nat) (s : List UInt8) :
    (byText s.toArray k (allWindows lk k s)).Pairwise (fun a b => ltBytes a.1 b.1 = true) ∧
    ∀ txt ps, (txt, ps) ∈ byText s.toArray k (allWindows lk k s) ↔
      ps ≠ [] ∧ ps = textOccurrences lk k s txt :=
  groupBy_windows ltBytes_strict (fun c => textAt s.toArray k c.1) lk k s

/-- what the driver demands of `KmerPositionsString(text)` for a valid text -/
theorem byText_lookup (lk : Lookup) (k : Nat) (s : List UInt8) (txt : List UInt8) :
    ((byText s.toArray k (allWindows lk k s)).lookup txt).getD [] = textOccurrences lk k s txt :=
  lookup_of_spec (byText_spec lk k s).2 txt

/-- what the driver demands of `ComplementOf(w)` (ops `km`): the numeral of the reverse-complemented
    digit string of `w` — `complement_spec` read at the digits of `w` -/
theorem km_complement (k : Nat) (hk2 : 2 ≤ k) (hk : 2 * k ≤ Biogo.Kmer.wordBits) (w : Nat) (hw : w < 4 ^ k) :
    Biogo.Kmer.complementOf k w = encode (revComp (toDigits k w)) := by
  have := Biogo.Properties.C10.complement_spec k hk2 hk (toDigits k w)
    (Biogo.Proofs.KmerWord.toDigits_length k w) (Biogo.Proofs.KmerWord.toDigits_lt k w)
  rwa [Biogo.Proofs.KmerWord.encode_toDigits, Nat.mod_eq_of_lt hw] at this

-- non-vacuity: "acgtnaacgtt" at k = 4: acgt (27) at 0 and 6, nothing for aaaa (0)
example :
    let lk : Lookup := fun b => if b = 97 then some 0 else if b = 99 then some 1 else if b = 103 then some 2
      else if b = 116 then some 3 else none
    ((byWord (allWindows lk 4 [97, 99, 103, 116, 110, 97, 97, 99, 103, 116, 116])).lookup 27).getD [] = [0, 6] ∧
    ((byWord (allWindows lk 4 [97, 99, 103, 116, 110, 97, 97, 99, 103, 116, 116])).lookup 0).getD [] = [] := by
  intro lk
  rw [byWord_lookup, byWord_lookup]
  decide

end Biogo.Properties.C10_checker
