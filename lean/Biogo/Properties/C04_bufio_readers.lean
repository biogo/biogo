/-
C04 (part bufio, continued) — the four reader models run on what the byte-level `bufio.Reader`
model delivers, for any chunking of the underlying reads, are the line-level models of C01–C04;
so the layout theorems of C04 hold with physical lines of any length relative to bufio's
buffer **as a consequence of the refinement theorems** of `Properties/C04_bufio`, not of a
trusted abstraction.

`…OverBufio` composes the reader model with the byte-level model: the lines come from the
`ReadLine`/`append`/`isPrefix` loop (`allLines`), resp. from the `ReadBytes('\n')` loop
(`allReadBytes`), over `bufio.NewReader(rd)`.  (The Go readers pull the lines one at a time while
they process them; pulling has no effect but to advance the stream, so the composition drains
them first.)
-/
import Biogo.Properties.C04_bufio
import Biogo.Properties.C04_seq
import Biogo.Properties.C04_feat
import Biogo.Proofs.SeqLazy

namespace Biogo.Properties.C04_bufio
open Biogo.Go.Bufio

/-- an underlying `io.Reader` over `bs` ending in `io.EOF` -/
abbrev fileSrc (bs : Bytes) (pol : Nat → Nat → Nat) (withData : Bool) : Src :=
  { rest := bs, pol := pol, withData := withData }

/-- the FASTA reader model over the byte-level model: fragments pending at `io.EOF` are
    processed as a line (fix `02b768f`) -/
def fastaOverBufio (cfg : Biogo.Fasta.Cfg) (src : Src) : List Biogo.Fasta.Call :=
  let r := allLines (newReader src)
  let lines := r.1 ++ (if r.2.1 = [] then [] else [r.2.1])
  Biogo.Fasta.readAllAux cfg (lines.length + 1) {} lines

/-- the FASTQ reader model over the byte-level model: complete lines, and the fragments pending
    at `io.EOF` (used as the quality line in state `quality`, dropped otherwise) -/
def fastqOverBufio (cfg : Biogo.Fastq.Cfg) (src : Src) : List Biogo.Fastq.Call :=
  let r := allLines (newReader src)
  Biogo.Fastq.readAllAux cfg (Biogo.Go.Bytes.lineCount src.rest + 1) r.1 r.2.1

/-- the lines `bed.Reader.Read` / `gff.Reader.Read` / `metaSeq` process: the data of the
    `ReadBytes('\n')` calls without error, or with `io.EOF` and `len(line) > 0` (fix F4) -/
def processedLines (src : Src) : List Bytes :=
  ((allReadBytes (newReader src)).filter (fun c => c.2.isNone || !c.1.isEmpty)).map (·.1)

def bedOverBufio (n : Nat) (src : Src) : List Biogo.Bed.Call :=
  Biogo.Bed.readLines n ((processedLines src).map Biogo.BytesFeat.trimSpace) 0

def gffOverBufio (o : Biogo.Gff.Oracles) (src : Src) : List Biogo.Gff.Call × Biogo.Gff.St :=
  let ls := (processedLines src).map Biogo.BytesFeat.trimSpace
  Biogo.Gff.readCalls o (ls.length + 1) ls {}

/-- **the FASTA model is the image of its byte-level composition**, for every chunking and
    either timing of `io.EOF` -/
theorem fasta_over_bufio (cfg : Biogo.Fasta.Cfg) (bs : Bytes) (pol : Nat → Nat → Nat) (wd : Bool)
    (hp : Progressing pol) : fastaOverBufio cfg (fileSrc bs pol wd) = Biogo.Fasta.readAll cfg bs := by
  have h := readLine_loop_image_fasta bs pol wd hp
  simp only at h
  simp only [fastaOverBufio, fileSrc, h, Biogo.Fasta.readAll]

/-- **the FASTQ model is the image of its byte-level composition**; the model's `eofWithData`
    is the underlying reader's `withData` -/
theorem fastq_over_bufio (cfg : Biogo.Fastq.Cfg) (bs : Bytes) (pol : Nat → Nat → Nat) (wd : Bool)
    (hp : Progressing pol) : fastqOverBufio cfg (fileSrc bs pol wd) = Biogo.Fastq.readAll cfg wd bs := by
  simp only [fastqOverBufio, fileSrc, readLine_loop_image_default bs pol wd hp, Biogo.Fastq.readAll]

theorem processedLines_eq (bs : Bytes) (pol : Nat → Nat → Nat) (wd : Bool) (hp : Progressing pol) :
    processedLines (fileSrc bs pol wd) = Biogo.BytesFeat.lines bs :=
  readBytes_loop_image_processed bs pol wd defaultBufSize hp

/-- **the BED model is the image of its byte-level composition** -/
theorem bed_over_bufio (n : Nat) (bs : Bytes) (pol : Nat → Nat → Nat) (wd : Bool) (hp : Progressing pol) :
    bedOverBufio n (fileSrc bs pol wd) = Biogo.Bed.readAll n bs := by
  simp only [bedOverBufio, processedLines_eq bs pol wd hp, Biogo.Bed.readAll, Biogo.Bed.trimmedLines]

/-- **the GFF model (inline sequences included) is the image of its byte-level composition** -/
theorem gff_over_bufio (o : Biogo.Gff.Oracles) (bs : Bytes) (pol : Nat → Nat → Nat) (wd : Bool) (hp : Progressing pol) :
    gffOverBufio o (fileSrc bs pol wd) = Biogo.Gff.readAll o bs := by
  simp only [gffOverBufio, processedLines_eq bs pol wd hp, Biogo.Gff.readAll, Biogo.Gff.trimmedLines]

/-- `bufio.NewReader` over a file is a reader between calls … -/
theorem inv_newReader (bs : Bytes) (pol : Nat → Nat → Nat) (wd : Bool) (hp : Progressing pol) :
    Inv (newReader (fileSrc bs pol wd)) := inv_newReaderSize _ _ hp nofun

/-- … whose line-level view is the `readLineInput` of the FASTA/FASTQ models -/
theorem lineInput_newReader (bs : Bytes) (pol : Nat → Nat → Nat) (wd : Bool) :
    Biogo.Spec.Bufio.lineInput (newReader (fileSrc bs pol wd)).size (newReader (fileSrc bs pol wd)).src.withData
      (newReader (fileSrc bs pol wd)).stream = Biogo.Go.Bytes.readLineInput wd bs :=
  lineInput_default wd bs

/-! ### the loops of `Read` run lazily

`…OverBufio` drains the lines first.  The Go loops pull one line at a time while they work; that
shape is `Biogo.Go.Bufio.runLazy body atErr` (one `nextLine` — the `ReadLine`/`append`/`isPrefix`
part — per iteration, `body` on a complete line, `atErr` when `ReadLine` returns an error).
`runLazy_drained` proves for **every** `body`/`atErr` that the lazy run equals the run over the
drained view `lineInput` and leaves a reader whose remaining input is what the drained run has
left; instantiated with the bodies of the two readers (`lazyBody`, `lazyAtErr`: the code after
`if isPrefix { continue }`, resp. inside `if err != nil`) it gives: -/

/-- **FASTQ, one call**: `fastq.Reader.Read` run lazily over any reader between calls is the model's
    `read` on the line-level view of the remaining input; the reader it leaves views the rest. -/
theorem fastq_read_lazy (cfg : Biogo.Fastq.Cfg) (b : Reader) (hinv : Inv b) (hfin : b.src.fin = .eof) :
    ∃ ret rest p b',
      Biogo.Fastq.read cfg (Biogo.Spec.Bufio.lineInput b.size b.src.withData b.stream).1
        (Biogo.Spec.Bufio.lineInput b.size b.src.withData b.stream).2 = .ok (ret, rest, p) ∧
      Biogo.Fastq.readLazy cfg b = some (.ok ret, b') ∧ Inv b' ∧ SameCfg b b' ∧
      Biogo.Spec.Bufio.lineInput b'.size b'.src.withData b'.stream = (rest, p) :=
  let ⟨ret, (rest, p), b', h1, h2, h3⟩ := Biogo.Fastq.readLazy_spec cfg (ReadsLines.init hinv) hfin
  ⟨ret, rest, p, b', h1, h2, h3.unpack⟩

/-- **FASTQ, the whole history**: every call run lazily over `bufio.NewReader(rd)`, any chunking —
    the history is `Biogo.Fastq.readAll`. -/
theorem fastq_lazy_image (cfg : Biogo.Fastq.Cfg) (bs : Bytes) (pol : Nat → Nat → Nat) (wd : Bool)
    (hp : Progressing pol) :
    Biogo.Fastq.readAllLazy cfg (Biogo.Go.Bytes.lineCount bs + 1) (newReader (fileSrc bs pol wd))
      = Biogo.Fastq.readAll cfg wd bs := by
  rw [Biogo.Fastq.readAllLazy_eq cfg rfl _ _ _ _ (ReadsLines.init (inv_newReader bs pol wd hp)), lineInput_newReader]
  rfl

/-- **FASTA, one call** (any user-set prefixes, any persistent state `st`) -/
theorem fasta_read_lazy (cfg : Biogo.Fasta.Cfg) (st : Biogo.Fasta.St) (b : Reader) (hinv : Inv b)
    (hfin : b.src.fin = .eof) :
    ∃ ret st' rest b',
      Biogo.Fasta.read cfg st ((Biogo.Spec.Bufio.lineInput b.size b.src.withData b.stream).1 ++
        Biogo.Fasta.optLine (Biogo.Spec.Bufio.lineInput b.size b.src.withData b.stream).2) = .ok (ret, st', rest) ∧
      Biogo.Fasta.readLazy cfg st b = some (.ok (ret, st'), b') ∧ Inv b' ∧ SameCfg b b' ∧
      rest = (Biogo.Spec.Bufio.lineInput b'.size b'.src.withData b'.stream).1 ++
        Biogo.Fasta.optLine (Biogo.Spec.Bufio.lineInput b'.size b'.src.withData b'.stream).2 :=
  let ⟨ret, st', li, b', h1, h2, h3⟩ := Biogo.Fasta.readLazy_spec cfg st (ReadsLines.init hinv) hfin
  ⟨ret, st', _, b', h1, h2, h3.unpack.1, h3.unpack.2.1, by rw [h3.unpack.2.2]⟩

/-- **FASTA, the whole history**, lazily over `bufio.NewReader(rd)`, any chunking, any prefixes —
    the history is `Biogo.Fasta.readAll`. -/
theorem fasta_lazy_image (cfg : Biogo.Fasta.Cfg) (bs : Bytes) (pol : Nat → Nat → Nat) (wd : Bool)
    (hp : Progressing pol) :
    Biogo.Fasta.readAllLazy cfg ((Biogo.Go.Bytes.splitLines bs).length + 1) {} (newReader (fileSrc bs pol wd))
      = Biogo.Fasta.readAll cfg bs := by
  rw [Biogo.Fasta.readAllLazy_eq cfg rfl _ _ _ _ _ (ReadsLines.init (inv_newReader bs pol wd hp)), lineInput_newReader,
    ← lineInput_default]
  exact congrArg _ (lineInput_all_lines 4096 wd bs)

open Biogo.Spec.Seqio in
/-- **FASTA, lines of any length through a 4096-byte buffer.**  Two byte strings holding the same
    well-formed records in any layout (`FastaRenders`: one physical line of any length, any wrap
    width, blank lines, trailing blanks, CRLF, final newline or not), read through
    `bufio.NewReader` over underlying readers with any chunking and either timing of `io.EOF`,
    give the same call history: these records, then `io.EOF`. -/
theorem fasta_long_lines (recs : List Biogo.Fasta.Rec) (bs₁ bs₂ : Bytes)
    (pol₁ pol₂ : Nat → Nat → Nat) (wd₁ wd₂ : Bool) (hp₁ : Progressing pol₁) (hp₂ : Progressing pol₂)
    (hwf : ∀ r ∈ recs, wfFasta r = true) (h₁ : FastaRenders recs bs₁) (h₂ : FastaRenders recs bs₂) :
    fastaOverBufio {} (fileSrc bs₁ pol₁ wd₁) = fastaOverBufio {} (fileSrc bs₂ pol₂ wd₂) ∧
    fastaOverBufio {} (fileSrc bs₁ pol₁ wd₁)
      = recs.map (fun r => Biogo.Fasta.Call.ret ⟨some r, none⟩) ++ [Biogo.Fasta.Call.ret ⟨none, some .eof⟩] := by
  rw [fasta_over_bufio _ _ _ _ hp₁, fasta_over_bufio _ _ _ _ hp₂]
  exact C04_seq.fasta_layout_independent recs bs₁ bs₂ hwf h₁ h₂

open Biogo.Spec.Seqio Biogo.Fastq in
/-- **FASTQ, lines of any length through a 4096-byte buffer** (`linear.QSeq`, every Phred-offset
    encoding). -/
theorem fastq_long_lines (tabs : QTables) (enc : Encoding) (recs : List QRec) (bs₁ bs₂ : Bytes)
    (pol₁ pol₂ : Nat → Nat → Nat) (wd₁ wd₂ : Bool) (hp₁ : Progressing pol₁) (hp₂ : Progressing pol₂)
    (hwf : ∀ r ∈ recs, wfFastq enc r = true)
    (h₁ : FastqRenders (qlineOf tabs enc) recs bs₁) (h₂ : FastqRenders (qlineOf tabs enc) recs bs₂) :
    fastqOverBufio ⟨.qseq enc, tabs⟩ (fileSrc bs₁ pol₁ wd₁) = fastqOverBufio ⟨.qseq enc, tabs⟩ (fileSrc bs₂ pol₂ wd₂) ∧
    fastqOverBufio ⟨.qseq enc, tabs⟩ (fileSrc bs₁ pol₁ wd₁)
      = recs.map (fun r => Call.ret ⟨some r, none⟩) ++ [Call.ret ⟨none, some .eof⟩] := by
  rw [fastq_over_bufio _ _ _ _ hp₁, fastq_over_bufio _ _ _ _ hp₂]
  exact C04_seq.fastq_layout_independent tabs enc wd₁ wd₂ recs bs₁ bs₂ hwf h₁ h₂

open Biogo.BytesFeat in
/-- **BED and GFF, every byte string, lines of any length**: CRLF terminators and a missing final
    newline change nothing at the byte level either. -/
theorem feat_long_lines (n : Nat) (o : Biogo.Gff.Oracles) (x : List UInt8) (hx : x ≠ []) (hlast : x.getLast hx ≠ 10)
    (pol₁ pol₂ : Nat → Nat → Nat) (wd₁ wd₂ : Bool) (hp₁ : Progressing pol₁) (hp₂ : Progressing pol₂) :
    bedOverBufio n (fileSrc (crlf x) pol₁ wd₁) = bedOverBufio n (fileSrc (x ++ [10]) pol₂ wd₂) ∧
    gffOverBufio o (fileSrc (crlf x) pol₁ wd₁) = gffOverBufio o (fileSrc (x ++ [10]) pol₂ wd₂) := by
  rw [bed_over_bufio _ _ _ _ hp₁, bed_over_bufio _ _ _ _ hp₂, gff_over_bufio _ _ _ _ hp₁, gff_over_bufio _ _ _ _ hp₂]
  exact ⟨C04_feat.bed_read_crlf_no_final_newline n x hx hlast, C04_feat.gff_read_crlf_no_final_newline o x hx hlast⟩

set_option maxRecDepth 200000 in
/-- non-vacuity: a one-record FASTA file whose sequence line is 5000 letters long (longer than
    the buffer), read one byte at a time, is read as the record -/
example : fastaOverBufio {} (fileSrc ([62, 120, 10] ++ List.replicate 5000 97 ++ [13, 10]) (fun _ _ => 1) false)
    = [.ret ⟨some ⟨[120], [], List.replicate 5000 97⟩, none⟩, .ret ⟨none, some .eof⟩] := by
  -- an instance of `fasta_long_lines`: the two lines `>x` and `a…a\r` are a layout of the record,
  -- whatever the length of the second
  generalize 5000 = n
  have hp : Progressing (fun _ _ => 1) := fun _ _ _ => Nat.le_refl 1
  have hr : Biogo.Spec.Seqio.FastaRenders [⟨[120], [], List.replicate n 97⟩]
      ([62, 120, 10] ++ List.replicate n 97 ++ [13, 10]) := by
    refine ⟨[[62, 120], List.replicate n 97 ++ [13]], ?_, ?_⟩
    · have hs := Biogo.Spec.Seqio.SeqLines.cons (List.replicate n 97) (List.replicate n 97 ++ [13]) [] []
        ⟨[13], rfl, by decide⟩ .nil
      rw [List.append_nil] at hs
      exact .record ⟨[120], [], List.replicate n 97⟩ [62, 120] _ [] [] ⟨[], rfl, by decide⟩ hs .nil
    · have ht := Biogo.Spec.Seqio.Terminated.lf [62, 120] _ _ (by decide)
        (.lf (List.replicate n 97 ++ [13]) [] [] (by intro b hb e; subst e; simp at hb) .nil)
      simpa using ht
  have hwf : ∀ r ∈ [(⟨[120], [], List.replicate n 97⟩ : Biogo.Fasta.Rec)], Biogo.Spec.Seqio.wfFasta r = true := by
    intro r hr
    rw [List.mem_singleton.mp hr]
    have hl : Biogo.Spec.Seqio.fastaLettersOK (List.replicate n 97) = true :=
      List.all_eq_true.mpr fun b hb => by rw [List.eq_of_mem_replicate hb]; decide
    show (Biogo.Spec.Seqio.nameOK [120] && Biogo.Spec.Seqio.descOK [] && _) = true
    rw [hl]; decide
  exact (fasta_long_lines _ _ _ _ _ false false hp hp hwf hr hr).2

end Biogo.Properties.C04_bufio
