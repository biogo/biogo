/-
C15, part `merge` — the contract of the merger between the q-gram filter and the DP aligner
(`align/pals/filter/merge.go`, `trapezoid.go`), for the model `Biogo.PalsMerge` that the driver
runs against `filter.Merger` (`Drive/C15_merge.lean`).

* every filter hit handed to the merger (outside the self-comparison cut) lies inside one of the
  returned trapezoids — diagonal band and query interval (`merger_covers_hits`);
* the returned trapezoids are in ascending `Bottom` and well-formed (`merger_output_sorted`,
  `merger_output_wellformed`);
* in a self comparison every returned trapezoid satisfies `Left - maxIGap > MaxError`, for every
  input whatsoever (`merger_self_clear_of_diagonal`) — the invariant the third repair (`03bf687`)
  relies on: the aligner's widening by `maxIGap` diagonals cannot reach the main diagonal;
* inside the modelled domain the merger always answers (`merger_total`), and on sequences without
  invalid letters the two clipping passes change nothing (`clipping_is_identity_on_valid`).
-/
import Biogo.Proofs.PalsMerge
import Biogo.Proofs.PalsMergeClip
import Biogo.Generated.PalsMergeFacts

namespace Biogo.Properties.C15_merge
open Biogo.PalsMerge Biogo.Proofs.PalsMerge

/-- The padding constant of the model is the one in `merge.go` (regenerated on every run). -/
theorem merge_source_facts :
    Biogo.Generated.PalsMerge.diagonalPadding = diagonalPadding := by decide

/-- the hypotheses under which the merger's contract is stated: a band at least one diagonal
    wide (`TubeOffset + MaxError ≥ 1`), `maxIGap ≥ 1`, no invalid letter in either sequence (C15's
    standing assumption; with `N` runs the clipping passes cut trapezoids on purpose), hits in
    ascending `From` (the morass hands them over sorted by `Hit.Less`) with `From ≤ To` -/
structure Pre (c : Cfg) (hits : List FHit) : Prop where
  band : 0 ≤ c.binWidth
  gap : 1 ≤ c.maxIGap
  qvalid : AllValid c.qv
  tvalid : AllValid c.tv
  sorted : SortedByFrom hits
  ordered : ∀ h ∈ hits, h.from_ ≤ h.to

theorem merge_some {c : Cfg} {hits : List FHit} {traps : List Trap} (h : merge c hits = some traps) :
    ∃ s, mergeAll c St.init hits = some s ∧ traps = finalise c s := by
  unfold merge at h
  cases hm : mergeAll c St.init hits with
  | none => rw [hm] at h; cases h
  | some s => rw [hm] at h; simp only [Option.map_some, Option.some.injEq] at h; exact ⟨s, rfl, h.symm⟩

/-- `mergeAll_spec` wants a bound below every `From`: the first hit's, hence the case split on the hit list -/
theorem merged_state {c : Cfg} {hits : List FHit} (pre : Pre c hits) {s : St}
    (hm : mergeAll c St.init hits = some s) :
    (∀ h ∈ hits, dropped c h = false → ∃ t, (t ∈ s.active ∨ t ∈ s.done) ∧ Holds c t (-h.diagonal) h.to h.from_) ∧
    (∀ t, t ∈ s.active ∨ t ∈ s.done → t.bottom ≤ t.top ∧ t.left + c.binWidth ≤ t.right) := by
  have hwf := mergeAll_forall c (fun t => t.bottom ≤ t.top)
    (by intro x y hx hy; show (absorb x y).bottom ≤ (absorb x y).top
        rw [absorb_bottom, absorb_top]; omega)
    hits St.init s
    (fun h hh _ => ⟨pre.ordered h hh, by
      intro t ht; show (widen c _ _ t).bottom ≤ (widen c _ _ t).top
      rw [widen_bottom, widen_top]; omega⟩)
    (by simp [St.init]) (by simp [St.init]) hm
  cases hits with
  | nil =>
    simp only [mergeAll, Option.some.injEq] at hm
    subst hm
    simp [St.init]
  | cons h0 hs =>
    have hB : ∀ h ∈ h0 :: hs, h0.from_ ≤ h.from_ := by
      intro h hh
      rcases List.mem_cons.mp hh with e | e
      · subst e; exact Int.le_refl _
      · exact (List.pairwise_cons.mp pre.sorted).1 h e
    obtain ⟨⟨B', inv⟩, _, hold⟩ := mergeAll_spec c pre.band (h0 :: hs) St.init s h0.from_
      ⟨Good.nil c _, by simp [St.init]⟩ hB pre.sorted hm
    refine ⟨?_, ?_⟩
    · intro h hh hc
      obtain ⟨t, ht, hh'⟩ := hold h hh hc
      exact ⟨t, List.mem_append.mp ht, hh'⟩
    · intro t ht
      rcases ht with ht | ht
      · exact ⟨hwf.1 t ht, inv.good.wide t ht⟩
      · exact ⟨hwf.2 t ht, inv.doneWide t ht⟩

/-- **On sequences without invalid letters the two clipping passes change nothing**: the slice
    `FinaliseMerge` sorts is the merged list itself. -/
theorem clipping_is_identity_on_valid (c : Cfg) (hits : List FHit) (pre : Pre c hits) (s : St)
    (hm : mergeAll c St.init hits = some s) : finalList c s = s.active.reverse ++ s.done := by
  have hw := (merged_state pre hm).2
  unfold finalList
  rw [clipVertical_valid c pre.gap pre.qvalid, clipTrapezoids_valid c pre.gap pre.tvalid]
  intro t ht
  have := hw t (by simpa using ht)
  have hb := pre.band
  omega

/-- **`merger_covers_hits`** — every filter hit handed to the merger that is not dropped at the head
    of `MergeFilterHit` (`dropped`: the self-comparison cut, or — since the repair of the sixth
    defect — a band that starts beyond the last query row, `-Diagonal > Qlen`, which holds no cell of
    the comparison) is contained in some returned trapezoid: the trapezoid's diagonal range
    `[Left, Right]` contains the hit's band `[-Diagonal, -Diagonal + binWidth]` and its query
    range `[Bottom, Top]` contains `[From, To]`. -/
theorem merger_covers_hits (c : Cfg) (hits : List FHit) (traps : List Trap) (pre : Pre c hits)
    (hm : merge c hits = some traps) :
    ∀ h ∈ hits, dropped c h = false →
      ∃ t ∈ traps, t.left ≤ -h.diagonal ∧ -h.diagonal + c.binWidth ≤ t.right ∧
        t.bottom ≤ h.from_ ∧ h.to ≤ t.top := by
  obtain ⟨s, hs, rfl⟩ := merge_some hm
  intro h hh hc
  obtain ⟨t, ht, hold⟩ := (merged_state pre hs).1 h hh hc
  refine ⟨t, ?_, hold⟩
  unfold finalise
  rw [mem_sortByBottom, clipping_is_identity_on_valid c hits pre s hs]
  simpa using ht

/-- **`merger_output_sorted`** — the returned trapezoids are in ascending `Bottom` (for every
    input; `sort.Sort` is modelled by an insertion sort, the driver checks the implementation's
    slice for the same order). -/
theorem merger_output_sorted (c : Cfg) (hits : List FHit) (traps : List Trap)
    (hm : merge c hits = some traps) : traps.Pairwise (fun a b => a.bottom ≤ b.bottom) := by
  obtain ⟨s, _, rfl⟩ := merge_some hm
  exact sortByBottom_sorted _

/-- **`merger_output_wellformed`** — every returned trapezoid has `Bottom ≤ Top` and is at least
    a band wide (`Left + binWidth ≤ Right`, in particular `Left ≤ Right`). -/
theorem merger_output_wellformed (c : Cfg) (hits : List FHit) (traps : List Trap) (pre : Pre c hits)
    (hm : merge c hits = some traps) :
    ∀ t ∈ traps, t.bottom ≤ t.top ∧ t.left + c.binWidth ≤ t.right := by
  obtain ⟨s, hs, rfl⟩ := merge_some hm
  intro t ht
  unfold finalise at ht
  rw [mem_sortByBottom, clipping_is_identity_on_valid c hits pre s hs] at ht
  exact (merged_state pre hs).2 t (by simpa using ht)

theorem merge_origin {c : Cfg} {hits : List FHit} {traps : List Trap} (hm : merge c hits = some traps) :
    ∃ s, mergeAll c St.init hits = some s ∧
      ∀ t ∈ traps, ∃ t0, (t0 ∈ s.active ∨ t0 ∈ s.done) ∧ t0.left ≤ t.left ∧ t.right ≤ t0.right ∧
        (1 ≤ c.maxIGap → t0.bottom ≤ t.bottom ∧ t.top ≤ t0.top) := by
  obtain ⟨s, hs, rfl⟩ := merge_some hm
  exact ⟨s, hs, fun t ht => finalList_within c s t ((mem_sortByBottom _ t).mp ht)⟩

/-- A predicate on trapezoids holds of everything `merge` returns — whatever the hits, their order
    and the letters — when it holds of the own trapezoid of every hit that is merged, is kept by
    `widen` and `absorb`, and passes to a trapezoid with a smaller diagonal range and (for
    `maxIGap ≥ 1`) smaller rows: the merge walk builds its trapezoids by the first three, and neither
    `clipVertical` nor `clipTrapezoids` ever grows one (`finalList_within`). -/
theorem merger_output_forall (c : Cfg) (P : Trap → Prop) (hits : List FHit) (traps : List Trap)
    (hm : merge c hits = some traps)
    (hf : ∀ h ∈ hits, dropped c h = false →
      P (fresh c (-h.diagonal) h.to h.from_) ∧ ∀ t, P t → P (widen c (-h.diagonal) h.to t))
    (hab : ∀ x y, P x → P y → P (absorb x y))
    (hclip : ∀ t p, P t → t.left ≤ p.left → p.right ≤ t.right →
      (1 ≤ c.maxIGap → t.bottom ≤ p.bottom ∧ p.top ≤ t.top) → P p) :
    ∀ t ∈ traps, P t := by
  obtain ⟨s, hs, horigin⟩ := merge_origin hm
  have inv := mergeAll_forall c P hab hits St.init s hf (by simp [St.init]) (by simp [St.init]) hs
  intro t ht
  obtain ⟨t0, ht0, hl, hr, hrows⟩ := horigin t ht
  exact hclip t0 t (ht0.elim (inv.1 t0) (inv.2 t0)) hl hr hrows

/-- **`merger_self_clear_of_diagonal`** — in a self comparison every returned trapezoid satisfies
    `Left - maxIGap > MaxError`: whatever hits are handed over, in whatever order, with or without
    invalid letters, the band `[Left - maxIGap, Right + maxIGap]` the aligner works in stays
    strictly above the main diagonal (`MaxError ≥ 0`). -/
theorem merger_self_clear_of_diagonal (c : Cfg) (hself : c.selfComparison = true) (hits : List FHit)
    (traps : List Trap) (hm : merge c hits = some traps) :
    ∀ t ∈ traps, t.left - c.maxIGap > c.maxError := by
  refine merger_output_forall c (fun t => t.left - c.maxIGap > c.maxError) hits traps hm (fun h _ hc => ?_)
    (fun x y hx _ => hx) (fun t p ht hl _ _ => show p.left - c.maxIGap > c.maxError by omega)
  have hc := (dropped_eq_false.mp hc).2 hself
  refine ⟨show -h.diagonal - c.maxIGap > c.maxError by omega, fun t ht => ?_⟩
  show (widen c _ _ t).left - c.maxIGap > c.maxError
  rw [widen_left]
  omega

/-- **`clipping_never_grows`** — for arbitrary letters (runs of `N` anywhere in query or target),
    arbitrary hits in any order, `maxIGap ≥ 1`: every trapezoid `FinaliseMerge` returns lies —
    query rows *and* diagonal range — inside one of the trapezoids the merge walk built
    (`s.active`, `s.done`): neither `clipVertical` nor `clipTrapezoids` ever grows a trapezoid
    (the vertical scan cuts at positions inside `[Bottom, Top]` only). -/
theorem clipping_never_grows (c : Cfg) (hg : 1 ≤ c.maxIGap) (hits : List FHit) (traps : List Trap)
    (hm : merge c hits = some traps) :
    ∃ s, mergeAll c St.init hits = some s ∧
      ∀ t ∈ traps, ∃ t0, (t0 ∈ s.active ∨ t0 ∈ s.done) ∧
        t0.bottom ≤ t.bottom ∧ t.top ≤ t0.top ∧ t0.left ≤ t.left ∧ t.right ≤ t0.right := by
  obtain ⟨s, hs, horigin⟩ := merge_origin hm
  refine ⟨s, hs, fun t ht => ?_⟩
  obtain ⟨t0, ht0, hl, hr, hrows⟩ := horigin t ht
  exact ⟨t0, ht0, (hrows hg).1, (hrows hg).2, hl, hr⟩

/-- **`merger_output_rows_any_letters`** — whatever the letters and the order of the hits:
    when every hit has `0 ≤ From` and `To ≤ Qlen`, every returned trapezoid has `0 ≤ Bottom` and
    `Top ≤ Qlen`: `widen` and `absorb` only join rows, the clipping passes only cut them
    (`merger_output_within_rows` without the assumption that no letter is invalid). -/
theorem merger_output_rows_any_letters (c : Cfg) (hg : 1 ≤ c.maxIGap) (hits : List FHit) (traps : List Trap)
    (hin : ∀ h ∈ hits, 0 ≤ h.from_ ∧ h.to ≤ c.qlen) (hm : merge c hits = some traps) :
    ∀ t ∈ traps, 0 ≤ t.bottom ∧ t.top ≤ c.qlen := by
  refine merger_output_forall c (fun t => 0 ≤ t.bottom ∧ t.top ≤ c.qlen) hits traps hm (fun h hh _ => ?_)
    (fun x y hx hy => ?_) (fun t p ht _ _ hrows => ?_)
  · have := hin h hh
    refine ⟨by simp only [fresh]; omega, fun t ht => ?_⟩
    show 0 ≤ (widen c _ _ t).bottom ∧ (widen c _ _ t).top ≤ c.qlen
    rw [widen_bottom, widen_top]; omega
  · show 0 ≤ (absorb x y).bottom ∧ (absorb x y).top ≤ c.qlen
    rw [absorb_bottom, absorb_top]; omega
  · have := hrows hg
    show 0 ≤ p.bottom ∧ p.top ≤ c.qlen
    omega

/-- **`merger_output_within_rows`** — under `Pre`, when every hit has `0 ≤ From` and `To ≤ Qlen`
    (the filter's hits lie inside the query), every returned trapezoid has `0 ≤ Bottom` and
    `Top ≤ Qlen`: with `merger_output_wellformed` this is the hypothesis `TrapsIn` of the kernel
    theorems (`kernel_model_hits_under_contract`). -/
theorem merger_output_within_rows (c : Cfg) (hits : List FHit) (traps : List Trap) (pre : Pre c hits)
    (hin : ∀ h ∈ hits, 0 ≤ h.from_ ∧ h.to ≤ c.qlen) (hm : merge c hits = some traps) :
    ∀ t ∈ traps, 0 ≤ t.bottom ∧ t.top ≤ c.qlen :=
  merger_output_rows_any_letters c pre.gap hits traps hin hm

/-- **`merger_total`** — inside the modelled domain (every hit either dropped at the head of
    `MergeFilterHit` or with `From - bottomPadding ≤ Qlen + 1`, which every hit of `filter.Filter`
    satisfies: `filter_hits_in_merger_domain`) the model never answers `none`: the sentinel of the
    active list stays an inert end marker.  (Before the repair of the sixth defect the domain also
    needed `-Diagonal ≤ Qlen`, and `filter.Filter` does produce hits beyond it.) -/
theorem merger_total (c : Cfg) (hits : List FHit)
    (hdom : ∀ h ∈ hits, dropped c h = true ∨ inDomain c h = true) : ∃ traps, merge c hits = some traps := by
  obtain ⟨s, hs⟩ := mergeAll_total c hits St.init hdom (by simp [St.init]) (by simp [St.init])
  exact ⟨finalise c s, by unfold merge; rw [hs]; rfl⟩

/-! ### non-vacuity: the hypotheses are satisfiable and the model reproduces the golden result
of the repository's own `TestFilterAndMerge` (`filter_test.go`: de Bruijn target of 4096 letters,
query of 1024, `k = 6`, `MaxError = 4`, `TubeOffset = 32`, `maxIGap = 5`) -/

def testCfg : Cfg :=
  { qv := Array.replicate 1024 true, tv := Array.replicate 4096 true, k := 6, maxError := 4,
    tubeOffset := 32, maxIGap := 5, selfComparison := false }

def testHits : List FHit :=
  [⟨0, 163, 32⟩, ⟨141, 247, 64⟩, ⟨237, 433, 1120⟩, ⟨241, 347, 96⟩, ⟨341, 452, 128⟩, ⟨447, 565, 1952⟩,
   ⟨542, 628, 1984⟩, ⟨627, 814, 2592⟩, ⟨786, 898, 2624⟩, ⟨868, 939, 2880⟩, ⟨938, 997, 3040⟩, ⟨938, 1024, 3072⟩]

theorem testPre : Pre testCfg testHits where
  band := by decide
  gap := by decide
  qvalid := allValid_replicate 1024
  tvalid := allValid_replicate 4096
  sorted := by unfold SortedByFrom; decide
  ordered := by decide

/-- the state after the twelve `MergeFilterHit` calls -/
theorem test_mergeAll : mergeAll testCfg St.init testHits = some
    ⟨[⟨1024, 938, -3072, -3005⟩, ⟨939, 868, -2880, -2845⟩, ⟨898, 627, -2624, -2557⟩,
      ⟨628, 447, -1984, -1917⟩, ⟨452, 0, -128, 3⟩], [⟨433, 237, -1120, -1085⟩]⟩ := by decide +kernel

/-- the six trapezoids `TestFilterAndMerge` expects (the clipping passes are discharged by
    `clipping_is_identity_on_valid` instead of being evaluated letter by letter) -/
example : merge testCfg testHits = some
    [⟨452, 0, -128, 3⟩, ⟨433, 237, -1120, -1085⟩, ⟨628, 447, -1984, -1917⟩, ⟨898, 627, -2624, -2557⟩,
     ⟨939, 868, -2880, -2845⟩, ⟨1024, 938, -3072, -3005⟩] := by
  unfold merge
  rw [test_mergeAll, Option.map_some]
  unfold finalise
  rw [clipping_is_identity_on_valid testCfg testHits testPre _ test_mergeAll]
  decide +kernel

/-- self comparison, `MaxError = 2`, `maxIGap = 5`: the hit with `Left = 7` is cut, the one with
    `Left = 8` is kept -/
example : merge { qv := Array.replicate 100 true, tv := Array.replicate 100 true, k := 4, maxError := 2,
                  tubeOffset := 8, maxIGap := 5, selfComparison := true } [⟨10, 30, -7⟩, ⟨12, 40, -8⟩]
    = some [⟨40, 12, 8, 17⟩] := by decide +kernel

/-- non-vacuity of `clipping_never_grows` with a clip that really cuts: a run of six invalid query
    letters at `[20, 26)` splits the trapezoid `40:0:2:5` of the single hit into `20:0:2:5` and
    `40:26:2:5`, both within its rows -/
example : merge { qv := Array.replicate 20 true ++ Array.replicate 6 false ++ Array.replicate 20 true,
                  tv := Array.replicate 60 true, k := 4, maxError := 0, tubeOffset := 4, maxIGap := 5,
                  selfComparison := false } [⟨0, 40, -2⟩]
    = some [⟨20, 0, 2, 5⟩, ⟨40, 26, 2, 5⟩] := by decide +kernel

end Biogo.Properties.C15_merge
