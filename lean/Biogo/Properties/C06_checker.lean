/-
C06 — what the driver demands of the implementation's observation (`Drive.C06.specTruncate`,
`specStitch`, `specCompose`, `specJoin`, `untouched`, `specTrim`) is exactly the declarative
statement of C06: the result shows, position by position, the letters of the source at the
named positions; the source is untouched; the Trim window is maximal over all windows.
(`isMaxWindow_iff` in `Properties/C06.lean` is the Trim core; this file covers the rest.)
-/
import Biogo.Drive.C06
import Biogo.Properties.C06

namespace Biogo.Properties.C06_checker
open Biogo.Sequtils Biogo.Drive.C06

/-- inside the sequence, `truncateSpec` is the list of letters at `start … end-1`
    (resp. `start … End-1, Start … end-1`), one for every position -/
theorem truncateSpec_positions {α : Type} (xs : List α) (offset start stop : Int) (circ : Bool)
    (hin : truncateInside offset (offset + xs.length) circ start stop = true) :
    (truncateSpec xs offset start stop).map some =
      (truncatePositions offset (offset + xs.length) start stop).map (letterAt xs offset) := by
  unfold truncateSpec
  exact lettersAt_map_some xs offset _
    (Biogo.Properties.C06.truncatePositions_inside offset _ start stop circ hin)

/-- `stitchSpec` is the list of letters at the covered positions of `[Start, End)`, ascending,
    one for every such position -/
theorem stitchSpec_positions {α : Type} (xs : List α) (offset : Int) (fs : List Feat) :
    (stitchSpec xs offset fs).map some =
      (stitchPositions offset (offset + xs.length) fs).map (letterAt xs offset) ∧
    (∀ p, p ∈ stitchPositions offset (offset + xs.length) fs ↔
      (offset ≤ p ∧ p < offset + xs.length) ∧ ∃ f ∈ fs, f.s ≤ p ∧ p < f.e) ∧
    (stitchPositions offset (offset + xs.length) fs).Pairwise (· < ·) := by
  have hmem : ∀ p, p ∈ stitchPositions offset (offset + xs.length) fs ↔
      (offset ≤ p ∧ p < offset + xs.length) ∧ ∃ f ∈ fs, f.s ≤ p ∧ p < f.e := by
    intro p
    unfold stitchPositions
    rw [List.mem_filter, mem_intRange, covered_iff]
  exact ⟨stitchSpec_map_some xs offset fs, hmem, (pairwise_intRange _ _).filter _⟩

/-- every check of the driver is a chain `if … then some reason else …`: it reports nothing
    exactly when no test fires -/
theorem ite_some_eq_none {β : Type} (p : Prop) [Decidable p] (s : β) (r : Option β) :
    (if p then some s else r) = none ↔ ¬ p ∧ r = none := by
  by_cases h : p
  · rw [if_pos h]; exact ⟨(fun e => by cases e), fun e => absurd h e.1⟩
  · rw [if_neg h]; exact ⟨fun e => ⟨h, e⟩, fun e => e.2⟩

theorem untouched_iff (o : ImplOk) (xs : List El) (offset conf : Int) :
    untouched o xs offset conf = none ↔
      o.srcAfter = xs ∧ o.srcStart = offset ∧ o.srcConf = conf ∧ o.srcAfter2 = xs ∧ o.pads = true := by
  simp only [untouched, ite_some_eq_none, Decidable.not_not, ne_eq, Bool.or_eq_true, decide_eq_true_eq, not_or,
    Bool.not_eq_true', Bool.not_eq_false, and_true, and_assoc]

/-- the last test of `specTruncate`, `specStitch` and `specCompose`: with `dst ≠ src` the source is untouched -/
theorem untouched_unless_same (same : Bool) (o : ImplOk) (xs : List El) (offset conf : Int) :
    (if (!same) = true then untouched o xs offset conf else none) = none ↔
      (same = false → o.srcAfter = xs ∧ o.srcStart = offset ∧ o.srcConf = conf ∧ o.srcAfter2 = xs ∧ o.pads = true) := by
  cases same <;> simp [untouched_iff]

/-- the driver's scope for "inside": the range is inside the sequence (`truncateInside`, wrapping
    allowed iff circular) -/
def tInside (xs : List El) (offset conf start stop : Int) : Bool :=
  truncateInside offset (offset + xs.length) (conf == confCircular) start stop

/-- an undefined conformation (neither linear nor circular) with a wrapping range that a circular
    sequence would accept: the property does not say which outcome is right -/
def tFree (xs : List El) (offset conf start stop : Int) : Bool :=
  decide (conf ≠ confLinear) && decide (conf ≠ confCircular) && decide (start > stop) &&
    truncateInside offset (offset + xs.length) true start stop

/-- **Truncate, checker = statement**: no violation is reported exactly when — the call answered:
    the range is inside (or free), the letters are `truncateSpec`, the result starts at `start` and
    is linear, and with `dst ≠ src` the source is untouched; the call returned an error value: the
    range is outside (or free) and with `dst ≠ src` the source letters are unchanged; a panic or an
    unreadable observation is always a violation. -/
theorem truncate_checker_iff (xs : List El) (offset conf : Int) (same : Bool) (start stop : Int) (i : Impl) :
    specTruncate xs offset conf same start stop i = none ↔
      match i with
      | .panic => False
      | .junk => False
      | .err _ a _ _ _ =>
        (tInside xs offset conf start stop = false ∨ tFree xs offset conf start stop = true) ∧
        (same = false → a = xs)
      | .ok o =>
        (tInside xs offset conf start stop = true ∨ tFree xs offset conf start stop = true) ∧
        o.data = truncateSpec xs offset start stop ∧ o.start = start ∧ o.conf = confLinear ∧
        (same = false → o.srcAfter = xs ∧ o.srcStart = offset ∧ o.srcConf = conf ∧ o.srcAfter2 = xs ∧ o.pads = true) := by
  unfold specTruncate tInside tFree
  dsimp only
  generalize (decide (conf ≠ confLinear) && decide (conf ≠ confCircular) && decide (start > stop) &&
        truncateInside offset (offset + xs.length) true start stop) = F
  generalize truncateInside offset (offset + xs.length) (conf == confCircular) start stop = I
  cases i with
  | panic => exact ⟨(fun e => by cases e), False.elim⟩
  | junk => exact ⟨(fun e => by cases e), False.elim⟩
  | err c a s1 s2 p =>
    simp only [ite_some_eq_none, and_true, Bool.and_eq_true, Bool.not_eq_true', decide_eq_true_eq, ne_eq, not_and,
      Decidable.not_not]
    cases I <;> cases F <;> simp
  | ok o =>
    simp only [ite_some_eq_none, ne_eq, Decidable.not_not, untouched_unless_same]
    cases I <;> cases F <;> simp

/-- **Truncate, checker ⇒ statement** (the form with positions): when no violation is reported for
    an answered call on a range inside the sequence, the result shows — position by position, none
    lost — the letter of the source at `start … end-1` (resp. `start … End-1, Start … end-1`), starts
    at `start` and is linear; this is the conclusion of `truncate_spec` for the implementation. -/
theorem truncate_checker_sound (xs : List El) (offset conf : Int) (same : Bool) (start stop : Int) (o : ImplOk)
    (h : specTruncate xs offset conf same start stop (.ok o) = none)
    (hin : tInside xs offset conf start stop = true) :
    o.data.map some = (truncatePositions offset (offset + xs.length) start stop).map (letterAt xs offset) ∧
    o.start = start ∧ o.conf = confLinear := by
  have := (truncate_checker_iff xs offset conf same start stop (.ok o)).mp h
  simp only [] at this
  obtain ⟨_, h1, h2, h3, _⟩ := this
  rw [h1]
  exact ⟨truncateSpec_positions xs offset start stop _ hin, h2, h3⟩

theorem wellFormed_iff (fs : List Feat) : wellFormed fs = true ↔ ∀ f ∈ fs, f.s ≤ f.e := by
  simp [wellFormed]

/-- what `specStitch` and `specCompose` demand for features in scope: the call answered with the
    letters `want` and, with `dst ≠ src`, left the source untouched -/
theorem answered_iff (want : List El) (msg : String) (xs : List El) (offset conf : Int) (same : Bool) (i : Impl) :
    (match i with
      | .panic => some "panic"
      | .junk => some "unparsable-observation"
      | .err _ _ _ _ _ => some "error-for-well-formed-features"
      | .ok o => if o.data ≠ want then some msg else if !same then untouched o xs offset conf else none) = none ↔
      ∃ o, i = .ok o ∧ o.data = want ∧
        (same = false → o.srcAfter = xs ∧ o.srcStart = offset ∧ o.srcConf = conf ∧ o.srcAfter2 = xs ∧ o.pads = true) := by
  cases i with
  | panic => exact ⟨(fun e => by cases e), fun ⟨_, e, _⟩ => by cases e⟩
  | junk => exact ⟨(fun e => by cases e), fun ⟨_, e, _⟩ => by cases e⟩
  | err c a s1 s2 p => exact ⟨(fun e => by cases e), fun ⟨_, e, _⟩ => by cases e⟩
  | ok o =>
    simp only [Impl.ok.injEq, exists_eq_left', ite_some_eq_none, ne_eq, Decidable.not_not, untouched_unless_same]

/-- **Stitch, checker = statement**: for well-formed features no violation is reported exactly
    when the call answered with the letters `stitchSpec` (by `stitchSpec_positions`: the letters at
    the positions of `[Start, End)` covered by a feature, ascending, none lost) and, with
    `dst ≠ src`, the source is untouched.  An error value or a panic is a violation. -/
theorem stitch_checker_iff (xs : List El) (offset conf : Int) (same : Bool) (fs : List Feat) (i : Impl)
    (hwf : ∀ f ∈ fs, f.s ≤ f.e) :
    specStitch xs offset conf same fs i = none ↔
      ∃ o, i = .ok o ∧ o.data = stitchSpec xs offset fs ∧
        (same = false → o.srcAfter = xs ∧ o.srcStart = offset ∧ o.srcConf = conf ∧ o.srcAfter2 = xs ∧ o.pads = true) := by
  unfold specStitch
  rw [(wellFormed_iff fs).mpr hwf]
  simp only [Bool.not_true, Bool.false_eq_true, if_false]
  exact answered_iff _ _ xs offset conf same i

/-- **Compose, checker = statement**: for well-formed features (and no reverse-oriented feature
    when the source cannot reverse) no violation is reported exactly when the call answered with
    `composeSpec rc` — the concatenation, in feature order, of each feature's clipped segment, the
    reverse-oriented ones reversed and mapped through `rc` (`segment_positions`: each segment is the
    letters at the feature's positions inside the sequence) — and, with `dst ≠ src`, the source is
    untouched. -/
theorem compose_checker_iff (rc : El → El) (reverser : Bool) (xs : List El) (offset conf : Int) (same : Bool)
    (fs : List Feat) (i : Impl) (hwf : ∀ f ∈ fs, f.s ≤ f.e)
    (hrev : reverser = true ∨ ∀ f ∈ fs, f.o ≠ orientReverse) :
    specCompose rc reverser xs offset conf same fs i = none ↔
      ∃ o, i = .ok o ∧ o.data = composeSpec rc xs offset fs ∧
        (same = false → o.srcAfter = xs ∧ o.srcStart = offset ∧ o.srcConf = conf ∧ o.srcAfter2 = xs ∧ o.pads = true) := by
  unfold specCompose
  have hg : (!wellFormed fs || (!reverser && fs.any (·.o = orientReverse))) = false := by
    rw [(wellFormed_iff fs).mpr hwf]
    rcases hrev with h | h
    · simp [h]
    · have : fs.any (fun x => decide (x.o = orientReverse)) = false := by
        rw [List.any_eq_false]; intro f hf; simpa using h f hf
      simp [this]
  rw [hg]
  simp only [Bool.false_eq_true, if_false]
  exact answered_iff _ _ xs offset conf same i

/-- **Join, checker = statement**: an answered call at `seq.Start` / `seq.End` passes exactly when
    the letters are the concatenation in the requested order and the source object is untouched
    (its position is only demanded to be unchanged when it is not the destination); an error value
    passes only when an operand is circular and the source letters are unchanged. -/
theorem join_checker_iff (dxs sxs : List El) (dconf sconf soff wh : Int) (same : Bool) (i : Impl)
    (hwh : wh = whereStart ∨ wh = whereEnd) :
    specJoin dxs sxs dconf sconf soff wh same i = none ↔
      match i with
      | .panic => False
      | .junk => False
      | .err _ a _ _ _ => ¬ (dconf ≤ confLinear ∧ sconf ≤ confLinear) ∧ a = sxs
      | .ok o =>
        o.data = (if wh = whereEnd then dxs ++ sxs else sxs ++ dxs) ∧ o.srcAfter = sxs ∧
        (same = false → o.srcStart = soff ∧ o.srcConf = sconf) ∧ o.srcAfter2 = sxs ∧ o.pads = true := by
  have hw : ¬ ((wh ≠ whereStart && wh ≠ whereEnd) = true) := by
    rcases hwh with h | h <;> simp [h]
  cases i with
  | panic => exact ⟨(fun e => by cases e), False.elim⟩
  | junk => exact ⟨(fun e => by cases e), False.elim⟩
  | err c a s1 s2 p =>
    simp only [specJoin, ite_some_eq_none, Decidable.not_not, ne_eq, Bool.and_eq_true, decide_eq_true_eq, and_true]
  | ok o =>
    simp only [specJoin, if_neg hw]
    simp only [joinSpec, ite_some_eq_none, Decidable.not_not, ne_eq, and_true,
      Bool.and_eq_true, Bool.not_eq_true', Bool.or_eq_true, decide_eq_true_eq, not_and, not_or, Bool.not_eq_false]

/-- **Trim, checker = statement**: the driver passes the window `(a, b)` the implementation returned
    exactly when `a ≤ b`, a non-empty window lies inside the feature `[s0, s0 + n)`, and no window
    of the feature has a larger sum of `limit − E(k)` (the empty window, sum 0, included). -/
theorem trim_checker_iff (vs : List Int) (s0 a b : Int) :
    specTrim vs s0 a b = none ↔
      a ≤ b ∧ (a < b → s0 ≤ a ∧ b ≤ s0 + vs.length) ∧
      ∀ i j, s0 ≤ i → i ≤ j → j ≤ s0 + vs.length → windowSum vs s0 i j ≤ windowSum vs s0 a b := by
  rw [← Biogo.Properties.C06.isMaxWindow_iff]
  simp only [specTrim, isWindow, ite_some_eq_none, and_true, Bool.and_eq_true, Bool.not_eq_true', decide_eq_true_eq,
    Bool.not_eq_false, Bool.and_eq_false_iff, decide_eq_false_iff_not, not_and, Int.not_lt, gt_iff_lt]
  constructor <;> rintro ⟨h1, h2, h3⟩ <;> exact ⟨h1, fun h => by have := h2 h; omega, h3⟩

end Biogo.Properties.C06_checker
