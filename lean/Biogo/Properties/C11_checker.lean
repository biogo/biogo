/-
C11 — soundness of the executable statement.  `Biogo.Drive.C11.checkHistory` is what the drivers
of C11, C12 and C13 evaluate on the *implementation's* outputs; here it is proved to imply the
declarative specification `HistorySpec` (per cycle: the pulls are a non-decreasing permutation
of the pushes, then io.EOF; Len/Pos; every Push/Finalise/Clear succeeds).  So an `ok`/`diff`
verdict of a driver means the implementation's outputs satisfy the specification the theorems
are about, and the checker is not part of the trusted base.  The converse
(`checkHistory_complete`) shows that the checker demands no more than the specification.

For one cycle (`checkCycle_iff`) the tests of `checkCycle` say of each of the four parts of the
outputs (pushes, `Finalise`, pulls, `Clear`) what equality with `specCycle` says of it; only the
pulls need an argument (`pullsOK_iff`).  Programs with abandoned cycles (`checkSegs_iff`) follow by
induction, and a history is such a program without abandoned cycles.
-/
import Biogo.Model.Morass
import Biogo.Spec.Morass
import Biogo.Proofs.Morass
import Biogo.Properties.C11
import Biogo.Drive.C11

namespace Biogo.Properties.C11_checker
open Biogo.Morass Biogo.Drive.C11 Biogo.Properties.C11

theorem eq_append_iff {α} {o A B : List α} {n : Nat} (hn : A.length = n) :
    o = A ++ B ↔ o.take n = A ∧ o.drop n = B := by
  subst hn
  constructor
  · rintro rfl; simp
  · rintro ⟨h1, h2⟩; rw [← List.take_append_drop A.length o, h1, h2]

theorem ite_some_eq_none {c : Prop} [Decidable c] {s : String} {e : Option String} :
    (if c then some s else e) = none ↔ ¬ c ∧ e = none := by
  by_cases hc : c <;> simp [hc]

theorem nondecreasing_iff : ∀ (l : List Int), nondecreasing l = true ↔ l.Pairwise (· ≤ ·)
  | [] => by simp [nondecreasing]
  | [a] => by simp [nondecreasing]
  | a :: b :: r => by
    rw [nondecreasing, Bool.and_eq_true, decide_eq_true_eq, nondecreasing_iff (b :: r), List.pairwise_cons (a := a)]
    refine and_congr_left fun h => ⟨fun hab x hx => ?_, fun h' => h' b (by simp)⟩
    rcases List.mem_cons.mp hx with rfl | hx
    · exact hab
    · exact Int.le_trans hab ((List.pairwise_cons.mp h).1 x hx)

theorem foldl_erase_perm : ∀ (vs P : List Elem),
    P.length ≤ (vs.foldl List.erase P).length + vs.length
    ∧ ((vs.foldl List.erase P).length + vs.length = P.length → P.Perm (vs ++ vs.foldl List.erase P))
  | [], P => ⟨Nat.le_refl _, fun _ => List.Perm.refl _⟩
  | a :: t, P => by
    obtain ⟨h1, h2⟩ := foldl_erase_perm t (P.erase a)
    rw [List.foldl_cons, List.length_cons]
    by_cases ha : a ∈ P
    · have hp := List.perm_cons_erase ha
      have hl : P.length = (P.erase a).length + 1 := hp.length_eq
      exact ⟨hl ▸ Nat.succ_le_succ h1, fun heq => hp.trans (List.Perm.cons a (h2 (Nat.succ.inj (heq.trans hl))))⟩
    · -- a value that was never pushed: the count falls short
      rw [List.erase_of_not_mem ha] at h1 ⊢
      exact ⟨Nat.le_succ_of_le h1, fun heq => absurd (Nat.le_trans (Nat.le_of_eq heq) h1) (Nat.not_succ_le_self _)⟩

theorem foldl_erase_sub : ∀ (vs P R : List Elem), P.Perm (vs ++ R) →
    (vs.foldl List.erase P).length + vs.length = P.length
  | [], _, _, _ => rfl
  | a :: t, P, R, hp => by
    have hl := (List.perm_cons_erase (hp.mem_iff.mpr List.mem_cons_self)).length_eq
    rw [List.foldl_cons, List.length_cons, hl, List.length_cons]
    exact congrArg (· + 1) (foldl_erase_sub t (P.erase a) R (List.erase_cons_head a (t ++ R) ▸ hp.erase a))

/-- values that are all among `xs` and carry its smallest keys, in order, begin a sorted enumeration
    of `xs`: append the values not yet delivered, sorted -/
theorem sortedPerm_of_prefix {xs vs : List Elem}
    (hsub : (vs.foldl List.erase xs).length + vs.length = xs.length)
    (hk : vs.map (·.key) = (sortKeys (xs.map (·.key))).take vs.length) :
    ∃ ys, SortedPermOf ys xs ∧ ys.take vs.length = vs := by
  have hperm : xs.Perm (vs ++ vs.foldl List.erase xs) := (foldl_erase_perm vs xs).2 hsub
  refine ⟨vs ++ sortRun (vs.foldl List.erase xs),
    ⟨(List.Perm.append_left vs (sortRun_perm _)).trans hperm.symm, ?_⟩, List.take_left' rfl⟩
  -- the keys of the rest are the other keys of `xs`, none smaller than a key of `vs`
  rw [sortKeys_map_key] at hk
  have hrest : ((vs.foldl List.erase xs).map (·.key)).Perm (((sortRun xs).map (·.key)).drop vs.length) := by
    have := ((sortRun_perm xs).trans hperm).map (·.key)
    rw [List.map_append, hk] at this
    conv at this => lhs; rw [← List.take_append_drop vs.length ((sortRun xs).map (·.key))]
    exact ((List.perm_append_left_iff _).mp this).symm
  have hS : ((sortRun xs).map (·.key)).Pairwise (· ≤ ·) := List.pairwise_map.mpr (sortRun_sorted xs)
  rw [← List.take_append_drop vs.length ((sortRun xs).map (·.key)), ← hk] at hS
  obtain ⟨hvs, _, hle⟩ := List.pairwise_append.mp hS
  refine List.pairwise_append.mpr ⟨List.pairwise_map.mp hvs, sortRun_sorted _, fun a ha b hb => ?_⟩
  exact hle _ (List.mem_map_of_mem ha) _ (hrest.mem_iff.mp (List.mem_map_of_mem ((sortRun_perm _).mem_iff.mp hb)))

/-- the first `k` entries of a sorted enumeration of `xs` pass the checker's tests on values -/
theorem prefix_of_sortedPerm {xs ys : List Elem} (h : SortedPermOf ys xs) (k : Nat) :
    nondecreasing ((ys.take k).map (·.key)) = true
    ∧ (xs.length ≤ k → (ys.take k).isPerm xs = true)
    ∧ ((ys.take k).foldl List.erase xs).length + (ys.take k).length = xs.length
    ∧ (ys.take k).map (·.key) = (sortKeys (xs.map (·.key))).take (ys.take k).length := by
  refine ⟨?_, fun hle => ?_, ?_, ?_⟩
  · exact (nondecreasing_iff _).mpr (List.pairwise_map.mpr (List.Pairwise.sublist (List.take_sublist _ _) h.2))
  · rw [List.isPerm_iff, List.take_of_length_le (by rw [h.1.length_eq]; exact hle)]; exact h.1
  · exact foldl_erase_sub _ xs (ys.drop k) (by rw [List.take_append_drop]; exact h.1.symm)
  · rw [← sortedPerm_keys h, ← List.map_take, List.length_take, ← List.take_eq_take_min]

/-- outputs of which the first `m` are `ok` with a value, `Len = n` and `Pos` counting up, and the
    others `io.EOF`, are the `pullOuts` of the values they carry; the hypotheses are the tests of
    `checkCycle` on result, value, `Len` and `Pos` -/
theorem eq_pullOuts {ac : Bool} {n : Nat} (m : Nat) : ∀ (P : List Out) (p : Nat),
    (∀ x ∈ P.take m, x.res = .ok ∧ ¬ x.val = none) →
    (∀ x ∈ P.drop m, x.res = .eof ∧ x.val.isSome = false) →
    (∀ j, j < P.length → (match P[j]? with
      | some o => if j < m then o.len != n || o.pos != j + 1 + p
                  else o.len != (if ac then 0 else n) || o.pos != (if ac then 0 else n)
      | none => true) = false) →
    ∃ vs, vs.length = min m P.length ∧ P = pullOuts ac n p vs P.length := by
  induction m with
  | zero =>
    intro P p _ he hl
    refine ⟨[], (Nat.zero_min _).symm, ?_⟩
    rw [pullOuts_nil]
    refine List.ext_getElem (List.length_replicate ..).symm fun j h1 _ => ?_
    have h1' := he _ (List.getElem_mem h1)
    have h2' := hl j h1
    simp only [List.getElem?_eq_getElem h1, Nat.not_lt_zero, if_false] at h2'
    rw [List.getElem_replicate]
    generalize P[j] = x at h1' h2'
    obtain ⟨r, v, l, q⟩ := x
    obtain ⟨rfl, hv⟩ : r = .eof ∧ v.isSome = false := h1'
    cases v with
    | some v => cases hv
    | none => simpa [eofOut] using h2'
  | succ m ih =>
    intro P p hv he hl
    cases P with
    | nil => exact ⟨[], (Nat.min_zero _).symm, rfl⟩
    | cons x P =>
      obtain ⟨vs, hvs, hP⟩ := ih P (p + 1) (fun y hy => hv y (List.mem_cons_of_mem _ hy)) he
        (fun j h => by
          have := hl (j + 1) (Nat.succ_lt_succ h)
          simp only [Nat.add_lt_add_iff_right, List.getElem?_cons_succ, Nat.add_right_comm (j + 1) 1 p] at this
          exact this)
      have h1 := hv x List.mem_cons_self
      have h0 := hl 0 (Nat.succ_pos _)
      obtain ⟨r, v, l, q⟩ := x
      obtain ⟨rfl, hval⟩ : r = .ok ∧ ¬ v = none := h1
      cases v with
      | none => exact absurd rfl hval
      | some v =>
        obtain ⟨rfl, rfl⟩ : l = n ∧ q = p + 1 := by simpa [Nat.add_comm] using h0
        exact ⟨v :: vs, by rw [List.length_cons, List.length_cons, hvs, Nat.succ_min_succ],
          by rw [List.length_cons, pullOuts_succ, ← hP]⟩

/-- what `checkCycle` demands of the outputs `P` of the `k` pulls of a cycle that pushed `xs` -/
structure PullsOK (ac : Bool) (xs : List Elem) (k : Nat) (P : List Out) : Prop where
  sorted : nondecreasing ((P.filterMap (·.val)).map (·.key)) = true
  noEof : ∀ x ∈ P.take xs.length, ¬ x.res = .eof
  value : ∀ x ∈ P.take xs.length, x.res = .ok ∧ ¬ x.val = none
  perm : xs.length ≤ k → (P.filterMap (·.val)).isPerm xs = true
  pushed : ((P.filterMap (·.val)).foldl List.erase xs).length + (P.filterMap (·.val)).length = xs.length
  smallest : (P.filterMap (·.val)).map (·.key) = (sortKeys (xs.map (·.key))).take (P.filterMap (·.val)).length
  eof : ∀ x ∈ P.drop xs.length, x.res = .eof ∧ x.val.isSome = false
  lenPos : ∀ j, j < k → (match P[j]? with
      | some o => if j < xs.length then o.len != xs.length || o.pos != j + 1
                  else o.len != (if ac then 0 else xs.length) || o.pos != (if ac then 0 else xs.length)
      | none => true) = false

theorem pullsOK_iff {ac : Bool} {xs : List Elem} {k : Nat} {P : List Out} (hP : P.length = k) :
    PullsOK ac xs k P ↔ ∃ ys, SortedPermOf ys xs ∧ P = pullOuts ac xs.length 0 ys k := by
  constructor
  · intro h
    obtain ⟨vs, hl, hPe⟩ := eq_pullOuts (ac := ac) xs.length P 0 h.value h.eof fun j hj => h.lenPos j (hP ▸ hj)
    have hvals : P.filterMap (·.val) = vs := by
      rw [hPe, filterMap_val_pullOuts, List.take_of_length_le (hl ▸ Nat.min_le_right _ _)]
    have := h.pushed
    rw [hvals] at this
    obtain ⟨ys, hys, hyv⟩ := sortedPerm_of_prefix this (hvals ▸ h.smallest)
    refine ⟨ys, hys, ?_⟩
    rw [hP] at hPe hl
    rw [hPe, ← pullOuts_take _ _ _ ys, List.take_eq_take_min, hys.1.length_eq, Nat.min_comm, ← hl, hyv]
  · rintro ⟨ys, hys, rfl⟩
    have hyl : ys.length = xs.length := hys.1.length_eq
    have hv := filterMap_val_pullOuts ac xs.length 0 ys k
    obtain ⟨c3, c6, c7, c8⟩ := prefix_of_sortedPerm hys k
    have htake : ∀ x ∈ (pullOuts ac xs.length 0 ys k).take xs.length, x.res = .ok ∧ ¬ x.val = none := by
      intro x hx
      obtain ⟨j, hj, rfl⟩ := List.mem_take_iff_getElem.mp hx
      rw [getElem_pullOuts, List.getElem?_eq_getElem (hyl ▸ (Nat.lt_min.mp hj).1)]
      exact ⟨rfl, nofun⟩
    refine ⟨hv ▸ c3, fun x hx => by rw [(htake x hx).1]; nofun, htake, hv ▸ c6, hv ▸ c7, hv ▸ c8, ?_, ?_⟩
    · intro x hx
      obtain ⟨j, hj, rfl⟩ := List.mem_drop_iff_getElem.mp hx
      rw [getElem_pullOuts, List.getElem?_eq_none (hyl ▸ Nat.le_add_right _ _)]
      exact ⟨rfl, rfl⟩
    · intro j hj
      rw [List.getElem?_eq_getElem (by rw [length_pullOuts]; exact hj), getElem_pullOuts]
      by_cases hjn : j < xs.length
      · rw [List.getElem?_eq_getElem (hyl ▸ hjn)]; simp [hjn]
      · rw [List.getElem?_eq_none (hyl ▸ Nat.le_of_not_lt hjn)]; simp [hjn, eofOut]

theorem specCycle_length (ac : Bool) (ys : List Elem) (cy : Cycle) :
    (specCycle ac ys cy).length = cycleOpCount cy := by
  unfold specCycle cycleOpCount
  cases cy.clear <;> simp <;> omega

theorem eq_specCycle_iff {ac : Bool} {ys : List Elem} {cy : Cycle} {o : List Out} (hlen : o.length = cycleOpCount cy) :
    o = specCycle ac ys cy ↔
      o.take cy.pushes.length = (List.range cy.pushes.length).map (fun i => (⟨.ok, none, i + 1, i + 1⟩ : Out))
      ∧ o[cy.pushes.length]? = some ⟨.ok, none, cy.pushes.length, 0⟩
      ∧ (o.drop (cy.pushes.length + 1)).take cy.pulls = pullOuts ac cy.pushes.length 0 ys cy.pulls
      ∧ (cy.clear = true → o[cy.pushes.length + 1 + cy.pulls]? = some ⟨.ok, none, 0, 0⟩) := by
  show o = _ ++ _ :: (pullOuts ac cy.pushes.length 0 ys cy.pulls ++ _) ↔ _
  rw [eq_append_iff (n := cy.pushes.length) (by simp), drop_eq_cons_iff,
    eq_append_iff (length_pullOuts ..), List.drop_drop]
  refine and_congr_right fun _ => and_congr_right fun _ => and_congr_right fun _ => ?_
  unfold cycleOpCount at hlen
  generalize cy.clear = b at hlen ⊢
  cases b with
  | false =>
    simp only [Bool.false_eq_true, if_false, false_implies, iff_true, List.drop_eq_nil_iff] at hlen ⊢
    omega
  | true =>
    simp only [if_true, true_implies] at hlen ⊢
    rw [drop_eq_cons_iff, List.drop_eq_nil_iff]
    exact and_iff_left (by omega)

theorem checkCycle_iff (ac : Bool) (cy : Cycle) (o : List Out) (hlen : o.length = cycleOpCount cy) :
    checkCycle ac cy o = none ↔ ∃ ys, SortedPermOf ys cy.pushes ∧ o = specCycle ac ys cy := by
  have hP : ((o.drop (cy.pushes.length + 1)).take cy.pulls).length = cy.pulls := by
    rw [List.length_take, List.length_drop, hlen, cycleOpCount]; omega
  -- the nested `if`s are a conjunction: push part, `Finalise`, the eight tests on the pulls, `Clear`
  unfold checkCycle
  extract_lets n pushO po vals
  simp only [ite_some_eq_none, Decidable.not_not, and_true, Bool.not_eq_true', Bool.not_eq_false,
    Bool.not_eq_true, List.any_eq_false, Bool.and_eq_true, decide_eq_true_eq, Bool.or_eq_true, bne_iff_ne,
    beq_iff_eq, not_or, not_and, Option.isNone_iff_eq_none, List.mem_range]
  constructor
  · rintro ⟨c1, c2, c3, c4, c5, c6, c7, c8, c9, c10, c11⟩
    obtain ⟨ys, hys, hpo⟩ := (pullsOK_iff hP).mp ⟨c3, c4, c5, c6, c7, c8, c9, c10⟩
    exact ⟨ys, hys, (eq_specCycle_iff hlen).mpr ⟨c1, c2, hpo, c11⟩⟩
  · rintro ⟨ys, hys, ho⟩
    obtain ⟨c1, c2, hpo, c11⟩ := (eq_specCycle_iff hlen).mp ho
    obtain ⟨c3, c4, c5, c6, c7, c8, c9, c10⟩ := (pullsOK_iff hP).mpr ⟨ys, hys, hpo⟩
    exact ⟨c1, c2, c3, c4, c5, c6, c7, c8, c9, c10, c11⟩

theorem checkCycle_sound (ac : Bool) (cy : Cycle) (o : List Out) (hlen : o.length = cycleOpCount cy)
    (h : checkCycle ac cy o = none) : ∃ ys, SortedPermOf ys cy.pushes ∧ o = specCycle ac ys cy :=
  (checkCycle_iff ac cy o hlen).mp h

theorem checkCycle_complete (ac : Bool) (cy : Cycle) (ys : List Elem) (hys : SortedPermOf ys cy.pushes) :
    checkCycle ac cy (specCycle ac ys cy) = none :=
  (checkCycle_iff ac cy _ (specCycle_length ac ys cy)).mpr ⟨ys, hys, rfl⟩

theorem cycle_ops_length (cy : Cycle) : cy.ops.length = cycleOpCount cy := by
  unfold Cycle.ops cycleOpCount
  cases cy.clear <;> simp <;> omega

/-- the expected outputs of an abandoned cycle of `n` pushes -/
def droppedOuts (n : Nat) : List Out :=
  (List.range n).map (fun i => (⟨.ok, none, i + 1, i + 1⟩ : Out)) ++ [⟨.ok, none, 0, 0⟩]

theorem droppedOuts_length (n : Nat) : (droppedOuts n).length = n + 1 := by
  simp [droppedOuts]

theorem checkDropped_iff (n : Nat) (o : List Out) (hlen : o.length = n + 1) :
    checkDropped n o = none ↔ o = droppedOuts n := by
  unfold checkDropped droppedOuts
  rw [eq_append_iff (n := n) (by simp), drop_eq_cons_iff, List.drop_eq_nil_iff]
  simp only [ite_some_eq_none, Decidable.not_not, and_true]
  exact and_congr_right fun _ => (and_iff_left (by omega)).symm

/-! ### programs with cycles abandoned with `Clear`

`checkSegs` / `programStatementA` are what the drivers of C11 and C13 evaluate on a program in which
some cycles are given up with `Clear` before `Finalise`.  On a program without abandoned cycles they are
`checkHistory` / `programStatement` and `SegSpec` is `HistorySpec`, so the statements about histories
below are their instances: abandoned cycles demand nothing new of use cycles. -/

/-- what the property demands of the outputs of a program made of use cycles and abandoned cycles -/
def SegSpec (ac : Bool) : List Seg → List Out → Prop
  | [], outs => outs = []
  | .cyc cy :: rest, outs =>
    ∃ ys outs', SortedPermOf ys cy.pushes ∧ outs = specCycle ac ys cy ++ outs' ∧ SegSpec ac rest outs'
  | .dropped es :: rest, outs =>
    ∃ outs', outs = ((List.range es.length).map (fun i => (⟨.ok, none, i + 1, i + 1⟩ : Out)) ++ [⟨.ok, none, 0, 0⟩]) ++ outs'
      ∧ SegSpec ac rest outs'

/-- **The segment checker is sound**: whatever outputs (one per call) `checkSegs` accepts satisfy
    `SegSpec` - every use cycle delivers the sorted multiset of its own pushes (nothing of an
    abandoned cycle), every abandoned cycle answers nil with `Len`/`Pos` restarting.  It ties what
    the drivers of C11/C13 evaluate on the implementation's observation of a program with abandoned
    cycles to the specification `segs_from_fresh` proves of the model. -/
theorem checkSegs_sound (ac : Bool) : ∀ (sg : List Seg) (i : Nat) (outs : List Out),
    outs.length = (sg.flatMap Seg.ops).length → checkSegs ac sg i outs = none → SegSpec ac sg outs := by
  intro sg
  induction sg with
  | nil => intro _ _ hlen _; exact List.eq_nil_of_length_eq_zero hlen
  | cons g rest ih =>
    intro i outs hlen hc
    rw [List.flatMap_cons, List.length_append] at hlen
    cases g with
    | cyc cy =>
      rw [show (Seg.cyc cy).ops.length = _ from cycle_ops_length cy] at hlen
      rw [checkSegs] at hc
      split at hc
      · cases hc
      · rename_i hcc
        obtain ⟨ys, hys, hspec⟩ := checkCycle_sound ac cy _ (List.length_take_of_le (hlen ▸ Nat.le_add_right _ _)) hcc
        exact ⟨ys, _, hys, by rw [← hspec, List.take_append_drop], ih _ _ (by rw [List.length_drop, hlen, Nat.add_sub_cancel_left]) hc⟩
    | dropped es =>
      rw [show (Seg.dropped es).ops.length = es.length + 1 by simp [Seg.ops]] at hlen
      rw [checkSegs] at hc
      split at hc
      · cases hc
      · rename_i hcc
        have hd := (checkDropped_iff es.length _ (List.length_take_of_le (hlen ▸ Nat.le_add_right _ _))).mp hcc
        exact ⟨_, show outs = droppedOuts es.length ++ _ by rw [← hd, List.take_append_drop],
          ih _ _ (by rw [List.length_drop, hlen, Nat.add_sub_cancel_left]) hc⟩

/-- **The segment checker demands no more than the specification**: outputs that satisfy
    `SegSpec` are accepted by `checkSegs`. -/
theorem checkSegs_complete (ac : Bool) : ∀ (sg : List Seg) (i : Nat) (outs : List Out),
    SegSpec ac sg outs → checkSegs ac sg i outs = none := by
  intro sg
  induction sg with
  | nil => intro _ _ _; rfl
  | cons g rest ih =>
    intro i outs hs
    cases g with
    | cyc cy =>
      obtain ⟨ys, outs', hys, rfl, hrest⟩ := hs
      rw [checkSegs, List.take_left' (specCycle_length ac ys cy), checkCycle_complete ac cy ys hys,
        List.drop_left' (specCycle_length ac ys cy)]
      exact ih (i + 1) outs' hrest
    | dropped es =>
      obtain ⟨outs', rfl, hrest⟩ := hs
      have hl := droppedOuts_length es.length
      show checkSegs ac _ i (droppedOuts es.length ++ outs') = none
      rw [checkSegs, List.take_left' hl, (checkDropped_iff es.length _ hl).mpr rfl, List.drop_left' hl]
      exact ih (i + 1) outs' hrest

/-- on one output per call the segment checker and `SegSpec` coincide -/
theorem checkSegs_iff (ac : Bool) (sg : List Seg) (i : Nat) (outs : List Out)
    (hlen : outs.length = (sg.flatMap Seg.ops).length) :
    checkSegs ac sg i outs = none ↔ SegSpec ac sg outs :=
  ⟨checkSegs_sound ac sg i outs hlen, checkSegs_complete ac sg i outs⟩

/-- C11, "whatever earlier cycles did": on a history without abandoned cycles the segment checker
    is the history checker -/
theorem checkSegs_cycles (ac : Bool) (h : List Cycle) (i : Nat) (outs : List Out) :
    checkSegs ac (h.map Seg.cyc) i outs = checkHistory ac h i outs := by
  induction h generalizing i outs with
  | nil => rfl
  | cons cy rest ih =>
    simp only [List.map_cons, checkSegs, checkHistory]
    split <;> simp_all

/-- the executable statement for programs with abandoned cycles coincides with `programStatement`
    on programs without them -/
theorem programStatementA_cycles (ac : Bool) (h : List Cycle) (ops : List Op) (outs : List Out) :
    programStatementA ac (h.map Seg.cyc) ops outs = programStatement ac h ops outs := by
  simp only [programStatementA, programStatement, historyStatement, checkSegs_cycles]

theorem segSpec_cycles (ac : Bool) : ∀ (h : List Cycle) (outs : List Out),
    SegSpec ac (h.map Seg.cyc) outs ↔ HistorySpec ac h outs
  | [], _ => Iff.rfl
  | cy :: rest, _ => by
    simp only [List.map_cons, SegSpec, HistorySpec, segSpec_cycles ac rest]

theorem flatMap_ops_cycles (h : List Cycle) : (h.map Seg.cyc).flatMap Seg.ops = histOps h :=
  List.flatMap_map ..

/-- **The executable statement implies the specification.**  If `checkHistory` accepts the
    outputs of the calls of the history `h` (one output per call), they satisfy `HistorySpec`:
    for every cycle there is a non-decreasing permutation `ys` of the values pushed in that
    cycle such that the outputs of the cycle are exactly `specCycle ac ys cy` — every
    `Push`/`Finalise`/`Clear` succeeded with the `Len`/`Pos` the property states, the j-th `Pull`
    delivered `ys[j]`, then io.EOF. -/
theorem checkHistory_sound (ac : Bool) (h : List Cycle) (i : Nat) (outs : List Out)
    (hlen : outs.length = (histOps h).length) (hc : checkHistory ac h i outs = none) : HistorySpec ac h outs :=
  (segSpec_cycles ac h outs).mp
    (checkSegs_sound ac _ i outs (by rw [flatMap_ops_cycles]; exact hlen) (by rw [checkSegs_cycles]; exact hc))

/-- **The executable statement demands no more than the specification**: outputs that satisfy
    `HistorySpec` are accepted by `checkHistory`. -/
theorem checkHistory_complete (ac : Bool) (h : List Cycle) (i : Nat) (outs : List Out)
    (hs : HistorySpec ac h outs) : checkHistory ac h i outs = none := by
  rw [← checkSegs_cycles]; exact checkSegs_complete ac _ i outs ((segSpec_cycles ac h outs).mpr hs)

/-- on the outputs of a complete run of the history (one output per call) the executable
    statement and the specification coincide -/
theorem checkHistory_iff (ac : Bool) (h : List Cycle) (i : Nat) (outs : List Out)
    (hlen : outs.length = (histOps h).length) :
    checkHistory ac h i outs = none ↔ HistorySpec ac h outs :=
  ⟨checkHistory_sound ac h i outs hlen, checkHistory_complete ac h i outs⟩

theorem historyOf_some {ac : Bool} {ops : List Op} {h : List Cycle} (hh : historyOf ac ops = some h) :
    histOps h = ops ∧ wellFormed ac h = true := by
  unfold historyOf at hh
  split at hh
  · split at hh
    · rename_i hcond
      rw [← Option.some.inj hh]
      exact hcond
    · cases hh
  · cases hh

theorem segsOf_some {ac : Bool} {ops : List Op} {sg : List Seg} (hh : segsOf ac ops = some sg) :
    sg.flatMap Seg.ops = ops ∧ wellFormedSegs ac sg = true := by
  unfold segsOf at hh
  split at hh
  · split at hh
    · rename_i hcond
      rw [← Option.some.inj hh]
      exact hcond
    · cases hh
  · cases hh

/-- what the drivers of C11, C12 and C13 evaluate on the implementation's observation
    (`historyStatement`: one output per call of the program, and `checkHistory`), for a program
    that `historyOf` recognises as the well-formed history `h`: the implementation's outputs
    satisfy the specification of `history_sorted_multiset` / `conc_history_sorted_multiset` -/
theorem historyStatement_sound (ac : Bool) (ops : List Op) (h : List Cycle) (outs : List Out)
    (hh : historyOf ac ops = some h) (hs : historyStatement ac h ops outs = none) :
    wellFormed ac h = true ∧ histOps h = ops ∧ HistorySpec ac h outs := by
  obtain ⟨hops, hwf⟩ := historyOf_some hh
  obtain ⟨hl, hc⟩ := ite_some_eq_none.mp hs
  exact ⟨hwf, hops, checkHistory_sound ac h 1 outs (hops ▸ Decidable.not_not.mp hl) hc⟩

theorem rejectsStatement_cons_of_ne {op : Op} (h : op ≠ Op.reject) (ops : List Op) (o : Out) (outs : List Out)
    (l p : Nat) :
    rejectsStatement (op :: ops) (o :: outs) l p
      = if o.res = .rejected then some "type-mismatch-returned-by-an-accepted-call"
        else rejectsStatement ops outs o.len o.pos := by
  cases op with
  | reject => exact absurd rfl h
  | _ => rfl

/-- the statement about rejected pushes determines the outputs of the program from the outputs of
    its accepted calls: they are `weave ops (accepted outputs)` — at every rejected `Push` the
    type-mismatch error, no value, `Len`/`Pos` unchanged — and the accepted outputs are one per
    accepted call -/
theorem rejectsStatement_sound : ∀ (ops : List Op) (outs : List Out) (l p : Nat), outs.length = ops.length →
    rejectsStatement ops outs l p = none →
    outs = weave ops (dropRejOuts outs) l p ∧ (dropRejOuts outs).length = (dropRejects ops).length := by
  intro ops
  induction ops with
  | nil =>
    intro outs l p hlen _
    rw [List.eq_nil_of_length_eq_zero hlen]
    exact ⟨rfl, rfl⟩
  | cons op ops ih =>
    intro outs l p hlen h
    cases outs with
    | nil => cases hlen
    | cons o outs =>
      replace hlen : outs.length = ops.length := Nat.succ.inj hlen
      by_cases hop : op = Op.reject
      · subst hop
        rw [rejectsStatement] at h
        by_cases ho : o = ⟨.rejected, none, l, p⟩
        · rw [if_pos ho] at h
          obtain ⟨h1, h2⟩ := ih outs l p hlen h
          have e1 : dropRejOuts (o :: outs) = dropRejOuts outs := by simp [dropRejOuts, ho]
          rw [e1, dropRejects_cons_reject, weave, ← h1, ho]
          exact ⟨rfl, h2⟩
        · rw [if_neg ho] at h; cases h
      · rw [rejectsStatement_cons_of_ne hop, ite_some_eq_none] at h
        obtain ⟨h1, h2⟩ := ih outs o.len o.pos hlen h.2
        rw [dropRejOuts_cons_ne h.1, dropRejects_cons_of_ne hop, weave_cons_of_ne hop, ← h1, List.length_cons, List.length_cons, h2]
        exact ⟨rfl, rfl⟩

/-- What `programStatementA` accepts, whatever segments `sg` the accepted calls are grouped into: their
    outputs satisfy `SegSpec ac sg` and every rejected `Push` is a no-op, the outputs being
    `weave ops (accepted outputs) 0 0`. -/
theorem programStatementA_spec {ac : Bool} {sg : List Seg} {ops : List Op} {outs : List Out}
    (hops : sg.flatMap Seg.ops = dropRejects ops) (hs : programStatementA ac sg ops outs = none) :
    SegSpec ac sg (dropRejOuts outs) ∧ outs = weave ops (dropRejOuts outs) 0 0 := by
  obtain ⟨hl, hs⟩ := ite_some_eq_none.mp hs
  split at hs
  · cases hs
  · rename_i hrs
    obtain ⟨hl2, hc⟩ := ite_some_eq_none.mp hs
    exact ⟨checkSegs_sound ac sg 1 _ (hops ▸ Decidable.not_not.mp hl2) hc,
      (rejectsStatement_sound ops outs 0 0 (Decidable.not_not.mp hl) hrs).1⟩

/-- **what the drivers of C11 and C13 evaluate on a program with abandoned cycles and rejected
    pushes**: if `programStatementA` accepts the implementation's outputs of a program whose
    accepted calls `segsOf` recognises as the well-formed segments `sg`, then the outputs of the
    accepted calls satisfy `SegSpec ac sg` and every rejected `Push` is a no-op. -/
theorem programStatementA_sound (ac : Bool) (ops : List Op) (sg : List Seg) (outs : List Out)
    (hh : segsOf ac (dropRejects ops) = some sg) (hs : programStatementA ac sg ops outs = none) :
    wellFormedSegs ac sg = true ∧ sg.flatMap Seg.ops = dropRejects ops ∧ SegSpec ac sg (dropRejOuts outs)
      ∧ outs = weave ops (dropRejOuts outs) 0 0 := by
  obtain ⟨hops, hwf⟩ := segsOf_some hh
  exact ⟨hwf, hops, programStatementA_spec hops hs⟩

/-- **what the drivers evaluate on a program with rejected pushes**: if `programStatement` accepts
    the implementation's outputs of a program whose accepted calls `historyOf` recognises as the
    well-formed history `h`, then the outputs of the accepted calls satisfy `HistorySpec ac h` and
    every rejected `Push` is a no-op: the outputs are `weave ops (accepted outputs) 0 0`. -/
theorem programStatement_sound (ac : Bool) (ops : List Op) (h : List Cycle) (outs : List Out)
    (hh : historyOf ac (dropRejects ops) = some h) (hs : programStatement ac h ops outs = none) :
    wellFormed ac h = true ∧ histOps h = dropRejects ops ∧ HistorySpec ac h (dropRejOuts outs)
      ∧ outs = weave ops (dropRejOuts outs) 0 0 := by
  obtain ⟨hops, hwf⟩ := historyOf_some hh
  obtain ⟨h1, h2⟩ := programStatementA_spec ((flatMap_ops_cycles h).trans hops)
    ((programStatementA_cycles ac h ops outs).trans hs)
  exact ⟨hwf, hops, (segSpec_cycles ac h _).mp h1, h2⟩

/-- **C11 for programs with abandoned cycles** ("whatever earlier cycles did"): for every chunk size
    ≥ 1, AutoClear on or off and every well-formed sequence of use cycles and cycles abandoned with
    `Clear` before `Finalise`, the model's outputs are, segment by segment, those of `specCycle`
    for a sorted enumeration of that cycle's own pushes, resp. nil for every call of an abandoned
    cycle with `Len`/`Pos` counting its pushes and 0/0 after its `Clear`. -/
theorem segs_from_fresh {c : Nat} {ac : Bool} (hc : 1 ≤ c) :
    ∀ (sg : List Seg) {s : State}, Fresh c ac 0 s → wellFormedSegs ac sg = true →
      SegSpec ac sg (run s (sg.flatMap Seg.ops)).2 := by
  intro sg
  induction sg with
  | nil => intro s _ _; rfl
  | cons g rest ih =>
    intro s hs hwf
    -- a closed segment leaves the sorter ready for the segments that follow
    have hrest : ∀ {s' : State}, (g.closed ac = true → Fresh c ac 0 s') →
        SegSpec ac rest (run s' (rest.flatMap Seg.ops)).2 := by
      intro s' hf
      cases rest with
      | nil => rfl
      | cons g2 rest2 =>
        simp only [wellFormedSegs, Bool.and_eq_true] at hwf
        exact ih (hf hwf.1) hwf.2
    rw [List.flatMap_cons]
    cases g with
    | cyc cy =>
      obtain ⟨ys, hsp, hout, hclean, hclosed⟩ := cycle_spec (ac := ac) hc cy hs
      rw [show (Seg.cyc cy).ops = cy.ops from rfl, run_append s _ _ hclean]
      exact ⟨ys, _, hsp, by rw [hout], hrest hclosed⟩
    | dropped es =>
      obtain ⟨hout, hclean, hfresh⟩ := abandoned_cycle_fresh (ac := ac) hc hs es
      rw [show (Seg.dropped es).ops = es.map Op.push ++ [Op.clear] from rfl, run_append s _ _ hclean]
      exact ⟨_, by rw [hout], hrest fun _ => hfresh⟩

/-- non-vacuity: the checker accepts the outputs of the model on a memory-only cycle followed by a spilling
    cycle (the history of DESIGN.md, F13) -/
example : checkHistory false [⟨[⟨3,0⟩, ⟨1,0⟩, ⟨2,0⟩], 4, true⟩, ⟨[⟨9,0⟩, ⟨8,0⟩, ⟨7,0⟩, ⟨6,0⟩, ⟨5,0⟩], 6, true⟩] 1
    (run (init 4 false) (histOps [⟨[⟨3,0⟩, ⟨1,0⟩, ⟨2,0⟩], 4, true⟩, ⟨[⟨9,0⟩, ⟨8,0⟩, ⟨7,0⟩, ⟨6,0⟩, ⟨5,0⟩], 6, true⟩])).2
    = none := by decide +kernel

/-- and rejects a history whose second cycle delivers a value of the first -/
example : (checkHistory false [⟨[⟨2,0⟩], 0, true⟩, ⟨[], 1, false⟩] 1
    [⟨.ok, none, 1, 1⟩, ⟨.ok, none, 1, 0⟩, ⟨.ok, none, 0, 0⟩, ⟨.ok, none, 0, 0⟩, ⟨.ok, some ⟨2,0⟩, 0, 1⟩]).isSome = true := by
  decide

/-- non-vacuity of `checkSegs_sound` / `checkSegs_iff`: the outputs of an abandoned cycle of two
    pushes are accepted, and a `Len` that did not restart after its `Clear` is refused -/
example : checkSegs true [.dropped [⟨5,0⟩, ⟨3,0⟩]] 1
    [⟨.ok, none, 1, 1⟩, ⟨.ok, none, 2, 2⟩, ⟨.ok, none, 0, 0⟩] = none := by decide
example : checkSegs true [.dropped [⟨5,0⟩, ⟨3,0⟩]] 1
    [⟨.ok, none, 1, 1⟩, ⟨.ok, none, 2, 2⟩, ⟨.ok, none, 2, 0⟩] ≠ none := by decide

/-- non-vacuity: memory-only cycle, abandoned spilling cycle, drained cycle (the programs of seeded/C13-m7) -/
example : wellFormedSegs true [.cyc ⟨[⟨2,0⟩], 2, true⟩, .dropped [⟨5,0⟩, ⟨3,0⟩, ⟨4,0⟩], .cyc ⟨[⟨7,0⟩], 2, false⟩] = true := by decide

end Biogo.Properties.C11_checker
