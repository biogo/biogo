/-
C06 — Truncate, Join, Stitch, Compose and Trim follow positional semantics.

Property theorems only; helper lemmas are in `Biogo/Proofs/Sequtils*.lean`.  All theorems are
about the executable model `Biogo/Model/Sequtils.lean` that the driver runs, for every heap,
every element type, every sequence (any offset, any conformation), every start/end, every
feature list and every value vector; the vocabulary of positions (`letterAt`, `intRange`,
`truncatePositions`, `stitchPositions`, `composeSpec`, `windowSum`) is `Biogo/Spec/Sequtils.lean`,
which the driver evaluates on the implementation's output.

`WF h s` says that the slice header `s` fits its backing array in heap `h` (true of every
slice a Go program can hold).
-/
import Biogo.Proofs.SequtilsCompose
import Biogo.Proofs.SequtilsTrim
import Biogo.Generated.SequtilsFacts

set_option linter.unusedSectionVars false

namespace Biogo.Properties.C06
open Biogo.Sequtils

variable {α : Type} [Inhabited α]

/-- the constants of `seq` and `feat` the model uses are those of the source (regenerated) -/
theorem constants_tied :
    Biogo.Generated.Sequtils.seqStart = whereStart ∧ Biogo.Generated.Sequtils.seqEnd = whereEnd ∧
    Biogo.Generated.Sequtils.confLinear = confLinear ∧ Biogo.Generated.Sequtils.confCircular = confCircular ∧
    Biogo.Generated.Sequtils.orientReverse = orientReverse := by
  decide

/-! Non-vacuity: a concrete heap, source and calls satisfying the hypotheses of the theorems
    below (`WF`, a successful call), evaluated by the kernel. -/
def exHeap : Heap Nat := [[10, 11, 12, 13, 14, 0, 0]]
/-- five letters at positions -2 … 2, circular, two spare cells of capacity -/
def exSrc : Seq := { sl := { arr := 0, off := 0, len := 5, cap := 7 }, offset := -2, conf := 1 }

example : WF exHeap exSrc.sl := ⟨by decide, by decide, by decide⟩

/-- every position `Truncate` names lies inside the sequence when the call succeeds, so "the
    letters at those positions" loses none of them -/
theorem truncatePositions_inside (offset stop_ start stop : Int) (circ : Bool)
    (hin : truncateInside offset stop_ circ start stop = true) :
    ∀ p ∈ truncatePositions offset stop_ start stop, offset ≤ p ∧ p < stop_ := by
  intro p hp
  unfold truncateInside at hin
  unfold truncatePositions at hp
  split at hin
  · rename_i hle
    rw [if_pos hle, mem_intRange] at hp
    simp at hin; omega
  · rename_i hgt
    rw [if_neg hgt, List.mem_append, mem_intRange, mem_intRange] at hp
    simp at hin; omega

/-- **"Truncate(start,end) yields exactly the letters at those positions (wrapping through the
    origin for a circular source when start>end) in a linear result starting at start"**:
    whenever the model's Truncate answers, the result shows, position by position, the letter of
    the source at `start, …, end-1`, resp. `start, …, End-1, Start, …, end-1`; it is linear and
    starts at `start`.  (The second conjunct is the same statement in the form the driver
    evaluates on the implementation.) -/
theorem truncate_spec (h : Heap α) (src : Seq) (same : Bool) (start stop : Int) (h' : Heap α) (r : Seq)
    (wf : WF h src.sl) (hr : truncate h src same start stop = .ok (h', r)) :
    (read h' r.sl).map some =
        (truncatePositions src.offset src.stop start stop).map (letterAt (read h src.sl) src.offset) ∧
    read h' r.sl = truncateSpec (read h src.sl) src.offset start stop ∧
    r.offset = start ∧ r.conf = confLinear := by
  have hlen := read_length h src.sl wf
  obtain ⟨hin, e, c1, c2, -, -⟩ := truncate_cases h src same start stop h' r wf hr
  refine ⟨?_, e, c1, c2⟩
  rw [e, truncateSpec, hlen]
  refine lettersAt_map_some _ _ _ (fun p hp => ?_)
  rw [hlen]
  exact truncatePositions_inside _ _ _ _ _ hin p hp

-- non-vacuity: a wrapping Truncate into another object answers, with the letters at 1, 2, -2
example : ∃ h' r, truncate exHeap exSrc false 1 (-1) = .ok (h', r) ∧ read h' r.sl = [13, 14, 10] :=
  ⟨_, _, rfl, rfl⟩
example : ∃ h' r, truncate exHeap exSrc true (-1) 2 = .ok (h', r) ∧ read h' r.sl = [11, 12, 13] :=
  ⟨_, _, rfl, rfl⟩

/-- **"and returns an error, never a panic, for ranges outside the sequence"**: on every
    well-formed source the model's Truncate either answers or returns an error value; it answers
    exactly when the range is inside the sequence (`truncateInside`; only a linear sequence
    refuses `start > end`), so every range outside gets an error value and no input a panic. -/
theorem truncate_total (h : Heap α) (src : Seq) (same : Bool) (start stop : Int) (wf : WF h src.sl) :
    (∀ w, truncate h src same start stop ≠ .error (.panic w)) ∧
    ((∃ x, truncate h src same start stop = .ok x) ↔
      truncateInside src.offset src.stop (decide (src.conf ≠ confLinear)) start stop = true) ∧
    (truncateInside src.offset src.stop (decide (src.conf ≠ confLinear)) start stop = false →
      ∃ c, truncate h src same start stop = .error (.error c)) := by
  rcases truncate_correct h src same start stop wf with ⟨hin, h', r, hx, -⟩ | ⟨hout, c, hc⟩
  · refine ⟨(fun w => by rw [hx]; intro e; cases e), ⟨fun _ => hin, fun _ => ⟨_, hx⟩⟩, ?_⟩
    intro hf; rw [hin] at hf; cases hf
  · refine ⟨(fun w => by rw [hc]; intro e; cases e), ⟨?_, ?_⟩, fun _ => ⟨c, hc⟩⟩
    · rintro ⟨x, hx⟩; rw [hc] at hx; cases hx
    · intro ht; rw [hout] at ht; cases ht

/-- **"Join yields the concatenation in the requested order"**: `dst ++ src` at `seq.End`,
    `src ++ dst` at `seq.Start` (and for every other `where`, as the code does); the conformation
    of `dst` is kept, and at `seq.Start` its offset becomes `-len(src)`. -/
theorem join_spec (h : Heap α) (dst src : Seq) (wh : Int) (h' : Heap α) (r : Seq)
    (wd : WF h dst.sl) (ws : WF h src.sl) (hr : join h dst src wh = .ok (h', r)) :
    read h' r.sl = joinSpec (read h dst.sl) (read h src.sl) wh ∧
    (wh = whereEnd → read h' r.sl = read h dst.sl ++ read h src.sl) ∧
    (wh = whereStart → read h' r.sl = read h src.sl ++ read h dst.sl) := by
  obtain ⟨e, -⟩ := join_cases h dst src wh h' r wd ws hr
  refine ⟨e, ?_, ?_⟩
  · intro hw; rw [e, joinSpec, if_pos hw]
  · intro hw; rw [e, joinSpec, if_neg (by rw [hw]; decide)]

example : ∃ h' r, join exHeap { exSrc with conf := 0 } { exSrc with conf := 0, offset := 7 } whereStart = .ok (h', r) ∧
    r.offset = -5 ∧ (read h' r.sl).length = 10 := ⟨_, _, rfl, rfl, rfl⟩

/-- Join never panics and refuses exactly the circular sequences. -/
theorem join_total (h : Heap α) (dst src : Seq) (wh : Int) :
    (∀ w, join h dst src wh ≠ .error (.panic w)) ∧
    ((∃ x, join h dst src wh = .ok x) ↔ dst.conf ≤ confLinear ∧ src.conf ≤ confLinear) := by
  rcases join_outcome h dst src wh with ⟨h1, h2, x, hx⟩ | ⟨hc, c, he⟩
  · exact ⟨(fun w => by rw [hx]; intro e; cases e), fun _ => ⟨h1, h2⟩, fun _ => ⟨x, hx⟩⟩
  · refine ⟨(fun w => by rw [he]; intro e; cases e), ?_, fun ⟨a, b⟩ => by omega⟩
    rintro ⟨x, hx⟩; rw [he] at hx; cases hx

/-- **"Stitch yields the letters at the union of the feature intervals clipped to the sequence
    in ascending position order"**, for the result of *any* sort of the features by start
    (`ff` a permutation of `fs`, ascending by `Start()` — what `sort.Sort` guarantees): the result
    shows the letters at the positions of `[Start,End)` covered by at least one feature, ascending. -/
theorem stitch_spec_sorted (h : Heap α) (src : Seq) (fs ff : List Feat) (h' : Heap α) (r : Seq)
    (wf : WF h src.sl) (hperm : ff.Perm fs) (hs : List.Pairwise (fun x y : Feat => x.s ≤ y.s) ff)
    (hr : stitchSorted h src ff = .ok (h', r)) :
    read h' r.sl = stitchSpec (read h src.sl) src.offset fs ∧
    (read h' r.sl).map some =
      (stitchPositions src.offset src.stop fs).map (letterAt (read h src.sl) src.offset) := by
  obtain ⟨e, -⟩ := stitchSorted_cases h src ff h' r wf hs hr
  have ec : stitchPositions src.offset src.stop ff = stitchPositions src.offset src.stop fs :=
    List.filter_congr fun p _ => covered_perm ff fs hperm p
  rw [ec, ← stop_eq h src wf] at e
  exact ⟨e, by rw [e, ← stop_eq h src wf]; exact stitchSpec_map_some _ _ _⟩

/-- `stitch_spec_sorted` for the model's own sort; features with `end < start` are refused. -/
theorem stitch_spec (h : Heap α) (src : Seq) (fs : List Feat) (h' : Heap α) (r : Seq)
    (wf : WF h src.sl) (hr : stitch h src fs = .ok (h', r)) :
    read h' r.sl = stitchSpec (read h src.sl) src.offset fs ∧
    (read h' r.sl).map some =
      (stitchPositions src.offset src.stop fs).map (letterAt (read h src.sl) src.offset) ∧
    (∀ f ∈ fs, f.s ≤ f.e) := by
  obtain ⟨hwf, hr'⟩ := (stitch_ok_iff h src fs _).mp hr
  obtain ⟨a, b⟩ := stitch_spec_sorted h src fs (sortByStart fs) h' r wf (sortByStart_perm fs)
    (sortByStart_sorted fs) hr'
  exact ⟨a, b, hwf⟩

-- non-vacuity: unsorted, overlapping, partly and entirely outside
example : ∃ h' r, stitch exHeap exSrc [⟨1, 9, 0⟩, ⟨-5, -1, -1⟩, ⟨0, 2, 1⟩, ⟨7, 8, 0⟩] = .ok (h', r) ∧
    read h' r.sl = [10, 12, 13, 14] := ⟨_, _, rfl, rfl⟩

/-- Stitch answers for every list of well-formed features (no panic, no error value). -/
theorem stitch_total (h : Heap α) (src : Seq) (fs : List Feat) (wf : WF h src.sl)
    (hfs : ∀ f ∈ fs, f.s ≤ f.e) : ∃ x, stitch h src fs = .ok x := by
  obtain ⟨h', r, e, -⟩ := stitchSorted_correct h src _ wf (sortByStart_sorted fs)
  exact ⟨_, (stitch_ok_iff h src fs _).mpr ⟨hfs, e⟩⟩

/-- **"Compose yields the concatenation, in feature order, of each feature's clipped segment,
    reverse-complemented (reversed for non-complementing alphabets) for every reverse-oriented
    feature"** — any number of them, in any position.  `rev = some rc`: the source can reverse,
    `rc` is the complement table of its alphabet, or `id` when the alphabet does not complement. -/
theorem compose_spec (rc : α → α) (h : Heap α) (src : Seq) (fs : List Feat) (h' : Heap α) (r : Seq)
    (wf : WF h src.sl) (hr : compose (some rc) h src fs = .ok (h', r)) :
    read h' r.sl = composeSpec rc (read h src.sl) src.offset fs := by
  obtain ⟨e, -⟩ := compose_cases (some rc) h src fs h' r wf hr
  exact e

-- non-vacuity: two reverse features, one partly and one entirely outside (`+100` plays the complement)
example : ∃ h' r, compose (some (· + 100)) exHeap exSrc [⟨1, 9, -1⟩, ⟨-5, -1, -1⟩, ⟨7, 9, 1⟩, ⟨0, 2, 1⟩] = .ok (h', r) ∧
    read h' r.sl = [114, 113, 110, 12, 13] := ⟨_, _, rfl, rfl⟩

/-- Compose answers for every list of well-formed features (no panic, no error value), unless a
    reverse feature meets a source that cannot reverse. -/
theorem compose_total (rev : Option (α → α)) (h : Heap α) (src : Seq) (fs : List Feat) (wf : WF h src.sl)
    (hfs : ∀ f ∈ fs, f.s ≤ f.e) (hrev : rev.isSome ∨ ∀ f ∈ fs, f.o ≠ orientReverse) :
    ∃ x, compose rev h src fs = .ok x :=
  compose_ok rev h src fs wf hfs hrev

/-- a source that cannot reverse: Compose answers only when no feature is reverse oriented,
    and then yields the concatenation of the clipped segments -/
theorem compose_spec_noreverser (h : Heap α) (src : Seq) (fs : List Feat) (h' : Heap α) (r : Seq)
    (wf : WF h src.sl) (hr : compose (none : Option (α → α)) h src fs = .ok (h', r)) :
    read h' r.sl = composeSpec id (read h src.sl) src.offset fs := by
  obtain ⟨e, -⟩ := compose_cases none h src fs h' r wf hr
  exact e

/-- each clipped segment is "the letters at the feature's positions inside the sequence":
    no position is lost -/
theorem segment_positions (xs : List α) (offset : Int) (f : Feat) :
    (lettersAt xs offset (segPositions offset (offset + xs.length) f)).map some =
      (segPositions offset (offset + xs.length) f).map (letterAt xs offset) := by
  apply lettersAt_map_some
  intro p hp
  unfold segPositions at hp
  rw [mem_intRange] at hp
  omega

/-- **"When destination and source differ the source is unchanged and shares no storage with
    the result"**: Truncate into another object, Join, Stitch and Compose leave every array that
    existed before the call exactly as it was (`Keeps`: the heap only grows) and deliver the result
    in an array that did not exist before the call; in particular the source still reads the same
    and its array is not the result's. -/
theorem dst_ne_src_fresh (h : Heap α) (src : Seq) (h' : Heap α) (r : Seq) (wf : WF h src.sl)
    (hop : (∃ start stop, truncate h src false start stop = .ok (h', r)) ∨
           (∃ dst wh, WF h dst.sl ∧ join h dst src wh = .ok (h', r)) ∨
           (∃ dst wh, WF h dst.sl ∧ join h src dst wh = .ok (h', r)) ∨
           (∃ fs, stitch h src fs = .ok (h', r)) ∨
           (∃ rev fs, compose rev h src fs = .ok (h', r))) :
    Keeps h h' ∧ h.length ≤ r.sl.arr ∧ read h' src.sl = read h src.sl ∧ r.sl.arr ≠ src.sl.arr := by
  have fin : Keeps h h' → h.length ≤ r.sl.arr →
      Keeps h h' ∧ h.length ≤ r.sl.arr ∧ read h' src.sl = read h src.sl ∧ r.sl.arr ≠ src.sl.arr := by
    intro k f
    refine ⟨k, f, read_congr h h' _ (k.2 _ wf.1), ?_⟩
    have := wf.1; omega
  rcases hop with ⟨start, stop, hr⟩ | ⟨dst, wh, wd, hr⟩ | ⟨dst, wh, wd, hr⟩ | ⟨fs, hr⟩ | ⟨rev, fs, hr⟩
  · obtain ⟨-, -, -, -, k, f⟩ := truncate_cases h src false start stop h' r wf hr
    exact fin k (f (Or.inl rfl))
  · obtain ⟨-, k, f, -⟩ := join_cases h dst src wh h' r wd wf hr
    exact fin k f
  · obtain ⟨-, k, f, -⟩ := join_cases h src dst wh h' r wf wd hr
    exact fin k f
  · obtain ⟨-, k, f, -⟩ := stitchSorted_cases h src _ h' r wf (sortByStart_sorted fs)
      ((stitch_ok_iff h src fs _).mp hr).2
    exact fin k f
  · obtain ⟨-, k, f, -⟩ := compose_cases rev h src fs h' r wf hr
    exact fin k f

/-- also with `dst == src`, a wrapping Truncate, Stitch and Compose build the result in new
    storage and write nothing that existed; only the in-range Truncate with `dst == src`
    re-slices the source (as its documentation says) — and it writes nothing either -/
theorem truncate_same_writes_nothing (h : Heap α) (src : Seq) (start stop : Int) (h' : Heap α) (r : Seq)
    (wf : WF h src.sl) (hr : truncate h src true start stop = .ok (h', r)) :
    Keeps h h' ∧ (stop < start → h.length ≤ r.sl.arr) := by
  obtain ⟨-, -, -, -, k, f⟩ := truncate_cases h src true start stop h' r wf hr
  exact ⟨k, fun hlt => f (Or.inr hlt)⟩

/-- **"Trim returns a window whose summed (limit minus error probability) is maximal over all
    windows"** (Kadane invariant of the modified-Mott running sum): for every feature start `s0`
    and every vector of values `limit − E(i)`, the returned pair is a window of the feature
    (`s0 ≤ start ≤ end ≤ s0 + n`) and no window `[i, j)` of the feature has a larger sum. -/
theorem trim_optimal (s0 : Int) (vs : List Int) :
    (s0 ≤ (trim s0 vs).1 ∧ (trim s0 vs).1 ≤ (trim s0 vs).2 ∧ (trim s0 vs).2 ≤ s0 + vs.length) ∧
    ∀ i j, s0 ≤ i → i ≤ j → j ≤ s0 + vs.length →
      windowSum vs s0 i j ≤ windowSum vs s0 (trim s0 vs).1 (trim s0 vs).2 := by
  have inv := trim_inv vs s0
  unfold trim
  dsimp only
  refine ⟨⟨inv.start_lo, inv.start_stop, inv.stop_hi⟩, ?_⟩
  intro i j h1 h2 h3
  rw [windowSum_eq vs s0 i j h1 h2, windowSum_eq vs s0 _ _ inv.start_lo inv.start_stop, ← inv.best_eq]
  exact inv.best_max i j h1 h2 h3

-- the witness of F8 (+5, -10, +1) and a later, better window
example : trim 0 [5, -10, 1] = (0, 1) := by decide
example : trim 3 [5, -10, 1, 5, -1] = (5, 7) := by decide

theorem mem_allWindows (s0 : Int) (n : Nat) (w : Int × Int) :
    w ∈ allWindows s0 n ↔ s0 ≤ w.1 ∧ w.1 ≤ w.2 ∧ w.2 ≤ s0 + n := by
  simp only [allWindows, List.mem_flatMap, List.mem_map, mem_intRange]
  constructor
  · rintro ⟨i, hi, j, hj, rfl⟩
    exact ⟨hi.1, hj.1, by omega⟩
  · rintro ⟨h1, h2, h3⟩
    exact ⟨w.1, by omega, w.2, by omega, rfl⟩

/-- the brute-force check the driver runs on the implementation's answer is exactly the
    statement of optimality, and the model passes it -/
theorem isMaxWindow_iff (vs : List Int) (s0 a b : Int) :
    isMaxWindow vs s0 a b = true ↔
      ∀ i j, s0 ≤ i → i ≤ j → j ≤ s0 + vs.length → windowSum vs s0 i j ≤ windowSum vs s0 a b := by
  rw [isMaxWindow, List.all_eq_true]
  constructor
  · intro hall i j h1 h2 h3
    exact of_decide_eq_true (hall (i, j) ((mem_allWindows _ _ _).mpr ⟨h1, h2, h3⟩))
  · intro hall w hw
    obtain ⟨h1, h2, h3⟩ := (mem_allWindows _ _ _).mp hw
    exact decide_eq_true (hall w.1 w.2 h1 h2 h3)

theorem trim_passes_check (s0 : Int) (vs : List Int) :
    isMaxWindow vs s0 (trim s0 vs).1 (trim s0 vs).2 = true :=
  (isMaxWindow_iff vs s0 _ _).mpr (trim_optimal s0 vs).2

end Biogo.Properties.C06
