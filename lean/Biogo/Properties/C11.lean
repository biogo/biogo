/-
C11 — External sort yields the sorted multiset of its input for every usage history.

Property theorems about the executable model `Biogo.Morass` (the model the driver runs).
The invariants and per-operation lemmas are in `Biogo/Proofs/Morass.lean`.
-/
import Biogo.Model.Morass
import Biogo.Spec.Morass
import Biogo.Proofs.Morass

namespace Biogo.Properties.C11
open Biogo.Morass

theorem init_fresh (c : Nat) (ac : Bool) : Fresh c ac 0 (init c ac) :=
  ⟨rfl, rfl, rfl, Nat.le_refl 0, rfl, rfl, rfl, rfl⟩

theorem history_from_fresh {c : Nat} {ac : Bool} (hc : 1 ≤ c) :
    ∀ (h : List Cycle) {s : State}, Fresh c ac 0 s → wellFormed ac h = true →
      HistorySpec ac h (run s (histOps h)).2 := by
  intro h
  induction h with
  | nil => intro s _ _; rfl
  | cons cy rest ih =>
    intro s hs hwf
    obtain ⟨ys, hsp, hout, hclean, hclosed⟩ := cycle_spec (ac := ac) hc cy hs
    rw [show histOps (cy :: rest) = cy.ops ++ histOps rest from List.flatMap_cons .., run_append s _ _ hclean]
    refine ⟨ys, _, hsp, by rw [hout], ?_⟩
    cases rest with
    | nil => rfl
    | cons cy2 rest2 =>
      simp only [wellFormed, Bool.and_eq_true] at hwf
      exact ih (hclosed hwf.1) hwf.2

/-- **C11, the statement.**  For every chunk size ≥ 1, AutoClear on or off, and every
    well-formed history of use cycles on one sorter (push any values, Finalise, pull some, all
    or beyond `io.EOF`, Clear — a cycle may stay in memory or spill, whatever earlier cycles
    did), the outputs of all calls are, cycle by cycle: every Push/Finalise/Clear succeeds;
    the j-th Pull delivers `ys[j]` where `ys` is a non-decreasing permutation of the values
    pushed in that cycle, and `io.EOF` once they are exhausted; `Len` = number pushed in the
    cycle and `Pos` = number pushed, then pulled, so far. -/
theorem history_sorted_multiset (c : Nat) (hc : 1 ≤ c) (ac : Bool) (h : List Cycle)
    (hwf : wellFormed ac h = true) :
    HistorySpec ac h (run (init c ac) (histOps h)).2 :=
  history_from_fresh hc h (init_fresh c ac) hwf

/-- **A cycle abandoned with `Clear` before `Finalise`** (the programs on which a `Clear` that releases the run
    files only when the sorter is on its disk path leaves files behind: seeded/C13-m7).
    On a sorter that is ready for a cycle, any number of pushes - staying in the chunk or spilling run
    files - followed by `Clear`: every `Push` returns nil with `Len` =
    `Pos` = the number pushed so far, `Clear` returns nil with `Len` = `Pos` = 0, and the sorter is
    ready for a cycle again (`Fresh`: no file registered, empty chunk, no error) - the pushed values
    are discarded, so by `history_from_fresh` every later cycle delivers its own multiset only. -/
theorem abandoned_cycle_fresh {c : Nat} {ac : Bool} (hc : 1 ≤ c) {s : State} (h : Fresh c ac 0 s) (es : List Elem) :
    (run s (es.map Op.push ++ [Op.clear])).2
        = (List.range es.length).map (fun i => (⟨.ok, none, i + 1, i + 1⟩ : Out)) ++ [⟨.ok, none, 0, 0⟩]
    ∧ Clean (run s (es.map Op.push ++ [Op.clear])).2
    ∧ Fresh c ac 0 (run s (es.map Op.push ++ [Op.clear])).1 := by
  obtain ⟨ch', hout, hclean, hfill⟩ := pushes_run_fresh hc h es
  have hf : Fresh c ac 0 (clear (run s (es.map Op.push)).1) :=
    clear_fresh_of hfill.cs hfill.ac (Nat.le_succ_of_le (Nat.le_of_eq hfill.pool)) fun _ => hfill.chunk ▸ nofun
  rw [run_append _ _ _ hclean, run_clear, hf.len, hf.pos]
  exact ⟨hout ▸ rfl, clean_append hclean fun o ho => List.mem_singleton.mp ho ▸ ⟨nofun, nofun⟩, hf⟩

/-- non-vacuity: chunk size 2, three pushes (one run file written) then `Clear` -/
example : (run (init 2 true) ([⟨3,0⟩, ⟨1,0⟩, ⟨2,0⟩].map Op.push ++ [Op.clear])).1.files.length = 0
    ∧ (run (init 2 true) ([⟨3,0⟩, ⟨1,0⟩, ⟨2,0⟩].map Op.push)).1.files.length = 1 := by decide

/-- non-vacuity: a memory-only cycle with a partial drain, then a spilling cycle (the shape on
    which a `fast` that is never reset, and a `Clear` that keeps the unpulled values of a memory-only
    cycle, show), then an AutoClear-closed cycle, is well-formed -/
example : wellFormed true
    [⟨[⟨3,0⟩, ⟨1,0⟩, ⟨2,0⟩], 1, true⟩, ⟨[⟨9,0⟩, ⟨8,1⟩, ⟨7,2⟩, ⟨6,3⟩, ⟨5,0⟩], 6, false⟩, ⟨[⟨4,0⟩], 0, false⟩] = true := by
  decide

theorem inserts_key : Inserts (fun k x : Int => ¬ x ≤ k) insertKey :=
  ⟨fun _ => rfl, fun _ _ _ => (ite_not ..).symm⟩

/-- both sides are the non-decreasing enumeration of the keys of `l` -/
theorem sortKeys_map_key (l : List Elem) : sortKeys (l.map (·.key)) = (sortRun l).map (·.key) :=
  ((inserts_key.sort_perm rfl (fun _ _ => rfl) _).trans ((sortRun_perm l).map _).symm).eq_of_pairwise
    (fun _ _ _ _ => Int.le_antisymm)
    (inserts_key.sort_pairwise (r := (· ≤ ·)) rfl (fun _ _ => rfl) Int.le_trans
      (fun h => Int.le_of_lt (Int.not_le.mp h)) Decidable.of_not_not _)
    (List.pairwise_map.mpr (sortRun_sorted l))

theorem sortedPerm_keys {ys xs : List Elem} (h : SortedPermOf ys xs) :
    ys.map (·.key) = sortKeys (xs.map (·.key)) := by
  rw [sortKeys_map_key]
  exact ((h.1.trans (sortRun_perm xs).symm).map _).eq_of_pairwise (fun _ _ _ _ => Int.le_antisymm)
    (List.pairwise_map.mpr h.2) (List.pairwise_map.mpr (sortRun_sorted xs))

theorem specCycle_keyed {ac : Bool} {ys : List Elem} {cy : Cycle} (h : SortedPermOf ys cy.pushes) :
    (specCycle ac ys cy).map Out.keyed = specCycleKeys ac cy := by
  simp only [specCycle, specCycleKeys, List.map_append, List.map_cons, List.map_map, ← sortedPerm_keys h]
  congr 1
  · congr 1
    congr 1
    · apply List.map_congr_left
      intro j _
      simp only [Function.comp, List.getElem?_map]
      cases ys[j]? <;> rfl
    · split <;> rfl

theorem historySpec_keyed {ac : Bool} : ∀ (h : List Cycle) (outs : List Out),
    HistorySpec ac h outs → outs.map Out.keyed = specKeys ac h := by
  intro h
  induction h with
  | nil => intro outs ho; simp only [HistorySpec] at ho; subst ho; rfl
  | cons cy rest ih =>
    intro outs ho
    obtain ⟨ys, outs', hsp, rfl, hrest⟩ := ho
    simp only [List.map_append, specKeys, List.flatMap_cons]
    rw [specCycle_keyed hsp, ih outs' hrest]
    rfl

/-- **C11 at the level of the correspondence.**  What the driver compares with the
    implementation — result kinds, pulled keys, `Len`, `Pos` of every call — is a function of
    the history alone: the j-th pull of a cycle delivers the j-th smallest pushed key. -/
theorem history_key_observation (c : Nat) (hc : 1 ≤ c) (ac : Bool) (h : List Cycle)
    (hwf : wellFormed ac h = true) :
    (run (init c ac) (histOps h)).2.map Out.keyed = specKeys ac h :=
  historySpec_keyed h _ (history_sorted_multiset c hc ac h hwf)

/-- the model on a memory-only cycle followed by a spilling cycle, chunk 4 (with `fast` left set by the first
    cycle the second returns io.EOF at once: DESIGN.md, F13) -/
example : (run (init 4 false) (histOps
      [⟨[⟨3,0⟩, ⟨1,0⟩, ⟨2,0⟩], 4, true⟩, ⟨[⟨9,0⟩, ⟨8,0⟩, ⟨7,0⟩, ⟨6,0⟩, ⟨5,0⟩], 6, true⟩])).2.filterMap (·.val)
    = [⟨1,0⟩, ⟨2,0⟩, ⟨3,0⟩, ⟨5,0⟩, ⟨6,0⟩, ⟨7,0⟩, ⟨8,0⟩, ⟨9,0⟩] := by decide +kernel

/-- The values delivered by the pulls of a cycle are the first `pulls` entries of `ys`. -/
theorem spec_cycle_values (ac : Bool) (ys : List Elem) (cy : Cycle) :
    (specCycle ac ys cy).filterMap (·.val) = ys.take cy.pulls := by
  rw [specCycle_eq, List.filterMap_append, List.filterMap_cons_none rfl, List.filterMap_append,
    filterMap_val_pullOuts, List.filterMap_eq_nil_iff.mpr, List.filterMap_eq_nil_iff.mpr,
    List.nil_append, List.append_nil]
  · intro o ho; split at ho <;> simp_all
  · intro o ho; obtain ⟨i, _, rfl⟩ := List.mem_map.mp ho; rfl

/-- **Reading of the statement.**  In a cycle that satisfies `specCycle` for a sorted
    enumeration `ys` of the pushed multiset, the pulled values are in non-decreasing key order,
    and when at least as many pulls as pushes were made they are a permutation of the pushed
    values. -/
theorem spec_cycle_sorted_perm (ac : Bool) (ys : List Elem) (cy : Cycle) (h : SortedPermOf ys cy.pushes) :
    Sorted ((specCycle ac ys cy).filterMap (·.val))
    ∧ (cy.pushes.length ≤ cy.pulls → ((specCycle ac ys cy).filterMap (·.val)).Perm cy.pushes) := by
  rw [spec_cycle_values]
  refine ⟨List.Pairwise.sublist (List.take_sublist _ _) h.2, ?_⟩
  intro hle
  rw [List.take_of_length_le (by rw [h.1.length_eq]; exact hle)]
  exact h.1

theorem weave_cons_of_ne {op : Op} (h : op ≠ Op.reject) (ops : List Op) (o : Out) (outs : List Out) (l p : Nat) :
    weave (op :: ops) (o :: outs) l p = o :: weave ops outs o.len o.pos := by
  cases op with
  | reject => exact absurd rfl h
  | _ => rfl

/-- running a program with rejected pushes: the state is that of the program without them, the
    outputs are those of the program without them with the rejected calls woven in (type-mismatch
    error, no value, `Len`/`Pos` unchanged) — provided the program without them does not hang or
    panic (it never does on a well-formed history) -/
theorem run_rejects : ∀ (ops : List Op) (s : State), Clean (run s (dropRejects ops)).2 →
    (run s ops).1 = (run s (dropRejects ops)).1
    ∧ (run s ops).2 = weave ops (run s (dropRejects ops)).2 s.len s.pos := by
  intro ops
  induction ops with
  | nil => intro s _; exact ⟨rfl, rfl⟩
  | cons op ops ih =>
    intro s hclean
    by_cases hop : op = Op.reject
    · subst hop
      rw [dropRejects_cons_reject] at hclean ⊢
      obtain ⟨h1, h2⟩ := ih s hclean
      rw [run_cons_of_step ops (show step s .reject = (s, ⟨.rejected, none, s.len, s.pos⟩) from rfl) ⟨nofun, nofun⟩]
      exact ⟨h1, by simp only [weave]; rw [h2]⟩
    · rw [dropRejects_cons_of_ne hop] at hclean ⊢
      obtain ⟨hfirst, hclean'⟩ := clean_run_cons hclean
      obtain ⟨h1, h2⟩ := ih (step s op).1 hclean'
      have hlp : (step s op).2.len = (step s op).1.len ∧ (step s op).2.pos = (step s op).1.pos := by
        cases op with
        | reject => exact absurd rfl hop
        | _ => exact ⟨rfl, rfl⟩
      rw [run_cons_clean _ _ _ hfirst, run_cons_clean _ _ _ hfirst, weave_cons_of_ne hop, h2, hlp.1, hlp.2]
      exact ⟨h1, rfl⟩

theorem historySpec_clean (ac : Bool) : ∀ (h : List Cycle) (outs : List Out), HistorySpec ac h outs → Clean outs := by
  intro h
  induction h with
  | nil => intro outs ho; simp only [HistorySpec] at ho; subst ho; intro o ho; simp at ho
  | cons cy rest ih =>
    intro outs ho
    obtain ⟨ys, outs', _, rfl, hrest⟩ := ho
    exact clean_append (specCycle_clean ac ys cy) (ih outs' hrest)

/-- **A rejected Push is a no-op of the history.**  A program whose accepted calls are the
    well-formed history `h` — rejected pushes (values of another type) inserted anywhere: before
    the first push, when the chunk is exactly full, between Finalise and the pulls, after
    io.EOF — produces `weave ops outs 0 0`, where `outs` satisfy `HistorySpec ac h`: every accepted
    call behaves as if the rejected ones had not been made, and every rejected `Push` returns its
    error, delivers nothing and leaves `Len`/`Pos` unchanged. -/
theorem history_rejected_push_noop (c : Nat) (hc : 1 ≤ c) (ac : Bool) (h : List Cycle)
    (hwf : wellFormed ac h = true) (ops : List Op) (hops : dropRejects ops = histOps h) :
    ∃ outs, HistorySpec ac h outs ∧ (run (init c ac) ops).2 = weave ops outs 0 0 := by
  have hspec := history_sorted_multiset c hc ac h hwf
  refine ⟨(run (init c ac) (histOps h)).2, hspec, ?_⟩
  have := (run_rejects ops (init c ac) (by rw [hops]; exact historySpec_clean ac h _ hspec)).2
  rw [hops] at this
  exact this

/-- non-vacuity: chunk 2, push 2 1, a rejected Push with the chunk exactly full, Finalise, pulls -/
example : (run (init 2 false) [.push ⟨2,0⟩, .push ⟨1,0⟩, .reject, .finalise, .pull, .pull, .reject, .pull]).2.map (·.res)
    = [.ok, .ok, .rejected, .ok, .ok, .ok, .rejected, .eof] := by decide

end Biogo.Properties.C11
