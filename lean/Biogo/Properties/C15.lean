/-
C15 — PALS hits are real alignments; planted repeats are found.

Level `other`: what is *proved* here is (a) the oracle the driver validates every hit against —
an optimal global alignment score under the PALS scoring with a proof of optimality, computed
row by row — (b) the arithmetic that turns `Score ≤ oracle` into a bound on the edit distance of
the hit regions in terms of the reported `Error`, (c) the acceptance test of
`dp.alignRecursion` and the duplicate suppression of `AlignTraps` as pure functions,
(d) the facts about the regenerated cost constants these depend on, and (e) that the parameter
search of `PALS.Optimise` returns only parameters that pass its tests.  The banded x-drop kernel
itself — its contract, and the executable model that keeps it — is the subject of
`Properties/C15_kernel.lean`; recall of planted repeats is explored per run, not proved.
-/
import Biogo.Proofs.PalsOracle
import Biogo.Proofs.PalsSuppress
import Biogo.Proofs.PalsOptimise
import Biogo.Generated.PalsConsts

namespace Biogo.Properties.C15
open Biogo.PalsOracle Biogo.Spec.Alignment
open Biogo.Generated.Pals

/-! ### constants regenerated from `align/pals/pals.go` -/

/-- The scoring the property names (match +1, mismatch and indel −3) is the one in the source,
    and the derived constants are consistent: `MatchCost = DiffCost + SameCost` (so the kernel's
    `+MatchCost-DiffCost` per match is `+SameCost`), `BlockCost = DiffCost*MaxIGap`,
    `RMatchCost = DiffCost + 1`. -/
theorem pals_constants :
    SameCost = 1 ∧ DiffCost = 3 ∧ MatchCost = DiffCost + SameCost ∧ MatchCost - DiffCost = 1 ∧
    BlockCost = DiffCost * MaxIGap ∧ RMatchCost = DiffCost + 1 ∧ MaxIGap = 5 := by decide


def palsMatrix : Matrix := palsS SameCost DiffCost

theorem palsMatrix_is_plus1_minus3 (r q : Nat) :
    palsMatrix r q = if r = q ∧ r ≠ 0 then 1 else -3 := by
  simp [palsMatrix, palsS, SameCost, DiffCost]

/-- the oracle the driver evaluates on the letters of the two hit regions -/
def palsGlobal (r q : List Nat) : Int := globalScore palsMatrix r q

/-- the row-by-row evaluator computes, for every linear-gap matrix, the optimal global alignment
    score: no global alignment of `r` with `q` scores more, and some global alignment scores it -/
theorem globalScore_opt (S : Matrix) (r q : List Nat) :
    (∀ a : Aln, IsGlobal a r q → scoreLin S a ≤ globalScore S r q) ∧
    (∃ a : Aln, IsGlobal a r q ∧ scoreLin S a = globalScore S r q) := by
  rw [globalScore_eq]
  constructor
  · rintro a ⟨h1, h2⟩
    have := nwRec_upper S a
    rwa [h1, h2] at this
  · obtain ⟨a, h1, h2, h3⟩ := nwRec_attained S r q
    exact ⟨a, ⟨h1, h2⟩, h3⟩

/-- **`palsGlobal_opt`**: no global alignment of the two regions scores more than `palsGlobal`,
    and some global alignment scores exactly `palsGlobal` (for all regions, any length). -/
theorem palsGlobal_opt (r q : List Nat) :
    (∀ a : Aln, IsGlobal a r q → scoreLin palsMatrix a ≤ palsGlobal r q) ∧
    (∃ a : Aln, IsGlobal a r q ∧ scoreLin palsMatrix a = palsGlobal r q) :=
  globalScore_opt palsMatrix r q

example : palsGlobal [1, 2, 3, 4] [1, 2, 4] = 0 := by decide

/-- `editDist` is the edit distance: the least number of edit operations (columns that are not
    exact matches) of a global alignment. -/
theorem editDist_opt (r q : List Nat) :
    (∀ a : Aln, IsGlobal a r q → editDist r q ≤ cost a) ∧
    (∃ a : Aln, IsGlobal a r q ∧ cost a = editDist r q) := by
  obtain ⟨up, a, ha, hs⟩ := globalScore_opt editS r q
  have hd : (editDist r q : Int) = -(globalScore editS r q) := by
    unfold editDist
    rw [← hs, scoreLin_edit]
    simp
  constructor
  · intro b hb
    have := up b hb
    rw [scoreLin_edit] at this
    omega
  · refine ⟨a, ha, ?_⟩
    rw [scoreLin_edit] at hs
    omega

/-- **`score_bounds_edit`**: a score that does not exceed the optimal global score of the two
    regions bounds their edit distance: `DiffCost·edit ≤ SameCost·min(|A|,|B|) − Score`
    (with the constants: `3·edit ≤ min(|A|,|B|) − Score`). -/
theorem score_bounds_edit (r q : List Nat) (s : Int) (h : s ≤ palsGlobal r q) :
    DiffCost * (editDist r q : Int) ≤ SameCost * (min r.length q.length : Nat) - s := by
  obtain ⟨_, a, ha, hs⟩ := palsGlobal_opt r q
  have hc := (editDist_opt r q).1 a ha
  have hsc := scoreLin_pals SameCost DiffCost a
  have m1 := nmatch_le_projR a
  have m2 := nmatch_le_projQ a
  rw [ha.1] at m1
  rw [ha.2] at m2
  have e1 : scoreLin palsMatrix a = scoreLin (palsS SameCost DiffCost) a := rfl
  simp only [SameCost, DiffCost] at *
  omega

/-- In terms of what a hit reports: with `errNum = blen − (Score − indel)`, i.e.
    `Error = errNum / (RMatchCost·blen)`, a hit whose score does not exceed the oracle of its
    regions satisfies `DiffCost·edit + indel ≤ errNum = RMatchCost·blen·Error`. -/
theorem error_bounds_edit (h : Hit) (A B : List Nat) (hB : (B.length : Int) = h.blen)
    (hs : h.score ≤ palsGlobal A B) :
    DiffCost * (editDist A B : Int) + h.indel ≤ h.errNum := by
  have := score_bounds_edit A B h.score hs
  simp only [Hit.errNum, SameCost, DiffCost] at *
  omega

/-- **`accepted_hit_meets_thresholds`**: a hit that `alignRecursion` emits is at least
    `minLen` long on both sequences and its error `errNum/(RMatchCost·blen)` is at most
    `maxDiff = num/den` (cross-multiplied). -/
theorem accepted_hit_meets_thresholds (minLen num den : Int) (h : Hit)
    (acc : accept minLen RMatchCost num den h = true) :
    h.alen ≥ minLen ∧ h.blen ≥ minLen ∧ h.errNum * den ≤ num * (RMatchCost * h.blen) := by
  simp only [accept, lengthOK, errorOK, Bool.and_eq_true, decide_eq_true_eq] at acc
  exact ⟨acc.1.2, acc.1.1, acc.2⟩

/-- and conversely the test rejects nothing else -/
theorem rejected_hit_misses_a_threshold (minLen num den : Int) (h : Hit)
    (rej : accept minLen RMatchCost num den h = false) :
    h.alen < minLen ∨ h.blen < minLen ∨ h.errNum * den > num * (RMatchCost * h.blen) := by
  simp only [accept, lengthOK, errorOK, Bool.and_eq_false_iff, decide_eq_false_iff_not] at rej
  omega

example : accept 100 RMatchCost 60 1000 ⟨10, 20, 210, 221, 180⟩ = true := by decide

/-- Putting (a)–(c) together: an emitted hit whose score is at most the oracle of its regions
    has `DiffCost·edit·den ≤ num·RMatchCost·blen`, i.e. the edit distance of the regions is at
    most `(RMatchCost/DiffCost)·(1−minId)·blen`. -/
theorem edit_bounded_by_threshold (minLen num den : Int) (hden : 0 < den) (h : Hit) (A B : List Nat)
    (hB : (B.length : Int) = h.blen) (hs : h.score ≤ palsGlobal A B)
    (acc : accept minLen RMatchCost num den h = true) :
    DiffCost * (editDist A B : Int) * den ≤ num * (RMatchCost * h.blen) := by
  have e := error_bounds_edit h A B hB hs
  have t := (accepted_hit_meets_thresholds minLen num den h acc).2.2
  have hi : 0 ≤ h.indel := by simp [Hit.indel]
  have : DiffCost * (editDist A B : Int) ≤ h.errNum := by omega
  exact Int.le_trans (Int.mul_le_mul_of_nonneg_right this (Int.le_of_lt hden)) t


/-- a sort as far as the suppression needs it: the same elements -/
def KeepsElems (sort : List Hit → List Hit) : Prop := ∀ l x, x ∈ sort l ↔ x ∈ l

/-- **The suppression only removes hits**: whatever the two (unstable) sorts do, every hit that
    `AlignTraps` returns is one of the hits the kernel emitted, unchanged — so it still meets
    the thresholds of `accepted_hit_meets_thresholds`. -/
theorem suppression_returns_emitted_hits (sortStart sortEnd : List Hit → List Hit)
    (h1 : KeepsElems sortStart) (h2 : KeepsElems sortEnd) (segs : List Hit) :
    ∀ h ∈ suppress sortStart sortEnd segs, h ∈ segs ∧ 0 ≤ h.score := by
  intro h hh
  simp only [suppress, List.mem_filter, decide_eq_true_eq] at hh
  obtain ⟨hm, hs⟩ := hh
  obtain ⟨x, hx, mx⟩ := markRuns_marked _ _ h hm
  obtain rfl := mx.eq_of_nonneg hs
  have hx' := (h2 _ _).mp hx
  obtain ⟨y, hy, my⟩ := markRuns_marked _ _ h hx'
  obtain rfl := my.eq_of_nonneg hs
  exact ⟨(h1 _ _).mp hy, hs⟩

/-- **`suppression_keeps_best`**: for every emitted hit `g` (score ≥ 0) a hit `b₁` with the same
    start and at least its score survives the first pass, and a hit `b₂` with the same end as
    `b₁` and at least `b₁`'s score is returned. -/
theorem suppression_keeps_best (sortStart sortEnd : List Hit → List Hit)
    (h1 : KeepsElems sortStart) (h2 : KeepsElems sortEnd) (segs : List Hit) :
    ∀ g ∈ segs, 0 ≤ g.score → ∃ b₁ b₂, b₁ ∈ segs ∧ b₂ ∈ suppress sortStart sortEnd segs ∧
      (b₁.abpos, b₁.bbpos) = (g.abpos, g.bbpos) ∧ (b₂.aepos, b₂.bepos) = (b₁.aepos, b₁.bepos) ∧
      g.score ≤ b₁.score ∧ b₁.score ≤ b₂.score := by
  intro g hg hs
  obtain ⟨b1, m1, o1, k1, s1⟩ :=
    markRuns_keeps_best (fun h => (h.abpos, h.bbpos)) (sortStart segs) g ((h1 _ _).mpr hg)
  obtain ⟨b2, m2, _, k2, s2⟩ :=
    markRuns_keeps_best (fun h => (h.aepos, h.bepos))
      (sortEnd (markRuns (fun h => (h.abpos, h.bbpos)) (sortStart segs))) b1 ((h2 _ _).mpr m1)
  refine ⟨b1, b2, (h1 _ _).mp o1, ?_, k1, k2, s1, s2⟩
  simp only [suppress, List.mem_filter, decide_eq_true_eq]
  exact ⟨m2, by omega⟩

example : suppress id id [⟨1, 1, 50, 50, 40⟩, ⟨1, 1, 60, 61, 45⟩, ⟨7, 9, 60, 61, 30⟩] =
    [⟨1, 1, 60, 61, 45⟩] := by decide


open Biogo.PalsOptimise in
/-- **`optimise_sound`**: whenever the parameter search of `Optimise` succeeds (the float
    prefilter values `minWordSize`, `seedDiffs0` being inputs), the chosen parameters have a
    positive q-gram threshold (`MinWordsPerFilterHit > 0`), a word size within
    `[minWordSize, MaxKmerLen]`, `0 ≤ MaxError ≤ seedDiffs0`, `MinMatch ≤ minHitLen`, an average
    index list length within `MaxAvgIndexListLen`, respect the memory cap, and — with the default
    `tubeOffset = 0` argument — `TubeOffset = MaxError + TubeOffsetDelta ≥ MaxError`, which is
    what `filter.Filter` requires. -/
theorem optimise_sound (i : OptIn) (p : FParams) (h : optimise i = some p)
    (hsd : 0 ≤ i.seedDiffs0) (hml : 0 ≤ i.minHitLen) :
    minWords p.minMatch p.wordSize p.maxError > 0 ∧
    i.minWordSize ≤ p.wordSize ∧ p.wordSize ≤ maxKmerLen ∧
    0 ≤ p.maxError ∧ p.maxError ≤ i.seedDiffs0 ∧ 0 ≤ p.minMatch ∧ p.minMatch ≤ i.minHitLen ∧
    i.tlen ≤ maxAvgIndexListLen * pow4 p.wordSize ∧
    (∀ m, i.maxMem = some m → memRequired i p ≤ m) ∧
    (i.tubeOffsetArg ≤ 0 → p.tubeOffset = p.maxError + tubeOffsetDelta ∧ p.tubeOffset ≥ p.maxError) := by
  obtain ⟨k', sl', sd', a1, a2, a3, a4, a5, a6, a7, a8⟩ := outer_sound h hsd hml
  subst a7
  simp only [wordOK, Bool.and_eq_true, decide_eq_true_eq] at a8
  obtain ⟨⟨b1, b2⟩, b3⟩ := a8
  refine ⟨b2, a1, a2, a3, a4, a5, a6, b3, ?_, ?_⟩
  · intro m hm
    rw [hm] at b1
    simpa using b1
  · intro ht
    have : ¬ i.tubeOffsetArg > 0 := by omega
    simp only [mkParams, this, if_false, tubeOffsetDelta]
    exact ⟨trivial, by omega⟩

open Biogo.PalsOptimise in
example : optimise (⟨29940, 0, 400, 39, 6, 0, none⟩ : OptIn) = some ⟨10, 400, 39, 71⟩ := by decide

end Biogo.Properties.C15
