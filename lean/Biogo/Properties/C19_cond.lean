/-
C19 — the promise protocol with the condition variable spelled out.

`Biogo.Promise.sys` (Properties/C19.lean, C19_promise.lean) treats `Wait`'s first block as
"enabled iff the mutex is free and the mailbox is full".  `Biogo.PromiseCond.fsys` — the
transition system the driver executes for every `pp` case — has the sleep on `p.set` as a state
of its own, and `fulfill`/`fail` wake the sleepers after placing the message (`Wake.broadcast`:
the code; `Wake.signal`: the seeded change C19-m2).  Property theorems only:

* the refinement that carries every theorem about `Biogo.Promise.sys` over;
* what the abstraction had assumed: with Broadcast nobody sleeps while the promise holds a
  Result, the only blocked states are Waits asleep before an empty promise, and sleeping and
  waking cannot go on for ever;
* with Signal a wake-up is lost.
-/
import Biogo.Proofs.PromiseCond
import Biogo.Properties.C19_promise
import Biogo.Properties.C19

namespace Biogo.Properties.C19_cond
open Biogo.LTS Biogo.Promise Biogo.PromiseCond

variable {c : FCfg} {s s' : FSt} {i : Nat}

/-- Every reachable state of the protocol with the condition variable is, with the sleep
    forgotten (`sleeping`, `woken` ↦ not yet taken), a reachable state of `Biogo.Promise.sys`
    — whichever way the sleepers are woken.  So every safety theorem of Properties/C19.lean and
    C19_promise.lean holds for it: the two instances below, and likewise the others. -/
theorem cond_refines_protocol (hr : Reach (fsys c) s) : Reach (Promise.sys (absCfg c)) (abs s) :=
  abs_reach s hr

/-- one step: a step of `Biogo.Promise.sys`, or invisible (a Wait going to sleep) -/
theorem cond_step_refines (h : fstep c s i = some s') :
    Promise.step (absCfg c) (abs s) i = some (abs s') ∨ abs s' = abs s :=
  abs_step h

/-- instance: every schedule is explained by a sequential history (all flags, all calls) -/
theorem cond_linearizable (hr : Reach (fsys c) s) :
    ∃ hist : List (Nat × Ret),
      seqExec c.flags c.calls none hist = some (cur (abs s)) ∧
      (hist.map Prod.fst).Nodup ∧
      ∀ (j : Nat) (ret : Ret), (j, ret) ∈ hist ↔ ((abs s).pcs[j]?).bind lp = some ret :=
  C19_promise.promise_linearizable (c := absCfg c) rfl (abs_reach s hr)

/-- instance: single assignment of the immutable promise, any values, any relay flag -/
theorem cond_immutable_single_assignment (hm : c.flags.mutable = false) (hN : NoReset (absCfg c))
    (hr : Reach (fsys c) s) :
    (abs s).pcs.countP APc.isWin ≤ 1 ∧ (cur (abs s) ≠ none ↔ (abs s).pcs.countP APc.isWin = 1) :=
  C19_promise.immutable_single_assignment (c := absCfg c) rfl hm hN (abs_reach s hr)

/-- the runs of the driver: a `pp` case is executed on `fsys`; with the sleep forgotten its
    state is reachable in `Biogo.Promise.sys` -/
theorem driver_promise_runs_refine (qc : FCfg) (sched order : List Nat) :
    Reach (Promise.sys (absCfg qc)) (abs (Biogo.Drive.C19.runMacro (Biogo.Drive.C19.promMacro qc) sched order).st) :=
  abs_reach _ (Biogo.Properties.C19.runMacro_reach (Biogo.Drive.C19.promMacro qc) sched order)

/-- "without blocking forever": no lost wake-up.  With `Broadcast`, a Wait is asleep on the
    condition variable only while the mailbox is empty and nobody holds the mutex — i.e. while
    the promise holds nothing. -/
theorem no_lost_wakeup (hw : c.wake = .broadcast) (hr : Reach (fsys c) s) {j : Nat}
    (hj : s.pcs[j]? = some .sleeping) : s.box = none ∧ s.mu = none ∧ cur (abs s) = none := by
  obtain ⟨h1, h2⟩ := noSleeper_reach hw s hr j hj
  exact ⟨h1, h2, cur_none_of (s := abs s) h1 h2⟩

/-- "without … deadlock", with the condition variable: in every reachable state either some
    goroutine can take a step, or the mutex is free and every call that has not returned is a
    Wait asleep on the condition variable before an empty promise. -/
theorem no_deadlock_cond (hw : c.wake = .broadcast) (hr : Reach (fsys c) s) :
    (∃ i, (fstep c s i).isSome = true) ∨
    (s.mu = none ∧
      ∀ (i : Nat) (pc : FPc), s.pcs[i]? = some pc → pc.isDone = false →
        c.calls[i]? = some .wait ∧ pc = .sleeping ∧ s.box = none) := by
  have hG := ginv_reach (c := absCfg c) rfl _ (abs_reach s hr)
  refine (enabled_or_blocked (fstep c s)).imp_right fun hstuck => ?_
  obtain ⟨hmu, hall⟩ := fstuck_shape hG (waitOnly_reach s hr) hstuck
  refine ⟨hmu, fun i pc hpc hnd => ?_⟩
  obtain ⟨h1, rfl⟩ := hall i pc hpc hnd
  exact ⟨h1, rfl, (noSleeper_reach hw s hr i hpc).1⟩

/-- sleeping and waking cannot go on for ever: every step (with either way of waking) decreases
    `fmu`, so a run from the initial state has at most `n·(n+3)` steps for `n` calls. -/
theorem cond_terminates {sched : List Nat} (h : run (fsys c) (finit c) sched = some s) :
    sched.length + fmu c s ≤ c.calls.length * (c.calls.length + 3) := by
  have := run_length_le_of (S := fsys c) (fmu c) (fun s => GInv (absCfg c) (abs s))
    (fun _ _ _ hG hs => ginv_abs_step hG hs) (fun _ _ _ hG hs => fmu_step hG hs)
    (s := finit c) (abs_init c ▸ ginv_init (absCfg c)) h
  have h0 : fmu c (finit c) = c.calls.length * (c.calls.length + 3) := by
    simp only [fmu, finit, List.map_replicate, List.sum_replicate_nat, frank]
  omega

/-- the seeded change C19-m2 (`p.set.Signal()` in `fail`): two Waits asleep, one Fail — only one
    of them is woken; the other sleeps for ever although the promise holds a Result. -/
theorem signal_loses_wakeup :
    let c : FCfg := { flags := ⟨false, false, false⟩, calls := [.wait, .wait, .fail none (some (.user 7))], wake := .signal }
    ∃ sched : List Nat, ∃ s, run (fsys c) (finit c) sched = some s ∧
      (∀ i ∈ [0, 1, 2], fstep c s i = none) ∧ s.box = some ⟨none, some (.user 7)⟩ ∧
      s.pcs[1]? = some .sleeping :=
  ⟨[0, 1, 2, 0, 0], _, rfl, by decide, by decide, by decide⟩

/-- the same schedule with Broadcast: both Waits return the failure -/
example :
    let c : FCfg := { flags := ⟨false, false, false⟩, calls := [.wait, .wait, .fail none (some (.user 7))], wake := .broadcast }
    (runSkip (fsys c) (finit c) [0, 1, 2, 0, 0, 1, 1]).pcs =
      [.done (.res ⟨none, some (.user 7)⟩), .done (.res ⟨none, some (.user 7)⟩), .done (.bool true)] := by
  decide

/-- a Wait that sleeps, is woken, finds the promise emptied again by Break, and goes back to
    sleep (the `for` loop around `p.set.Wait()`); Recover(3) finally releases it -/
example :
    let c : FCfg := { flags := ⟨true, true, false⟩, calls := [.wait, .fulfill (some 1), .brk, .recover (some 3)], wake := .broadcast }
    (runSkip (fsys c) (finit c) [0, 1, 2]).pcs[0]? = some .woken ∧
    (runSkip (fsys c) (finit c) [0, 1, 2, 0]).pcs[0]? = some .sleeping ∧
    (runSkip (fsys c) (finit c) [0, 1, 2, 0, 3, 0, 0]).pcs[0]? = some (.done (.res ⟨some 3, none⟩)) := by
  decide

end Biogo.Properties.C19_cond
