/-
C13, whole histories — an I/O failure anywhere in a usage history is never hidden.
Same labelled transition system with the fault oracle as `Properties/C13.lean`; the caller's
program is `histOps h` for a well-formed history `h` of use cycles on one sorter.
-/
import Biogo.Model.MorassConc
import Biogo.Spec.Morass
import Biogo.Proofs.MorassConc
import Biogo.Proofs.MorassCycle
import Biogo.Proofs.MorassNoFault
import Biogo.Proofs.MorassSeq
import Biogo.Proofs.MorassHistory
import Biogo.Proofs.MorassReject
import Biogo.Properties.C12_history
import Biogo.Properties.C11_checker
import Biogo.Drive.C13

namespace Biogo.Properties.C13_history
open Biogo.Morass Biogo.MorassConc Biogo.Interleave

/-- **An I/O failure anywhere in a history is never hidden.**  Every chunk size ≥ 1, either
    mode, AutoClear/AutoClean on or off, every well-formed history `h` of use cycles, any
    fault — the n-th temporary-file creation, Encode, Sync, Seek, Decode (in `Finalise` or in
    `Pull`), Close or Remove of the *whole history*, so in whichever cycle it falls — or none, or
    any *list* of faults armed one after the other (`MorassConc.Fault`),
    and every schedule: once the caller has returned from its last call, either some call
    returned an I/O error, or every call of every cycle succeeded *and* the outputs satisfy
    `HistorySpec`: in every cycle the pulls delivered a non-decreasing permutation of the values
    pushed in that cycle, then io.EOF.  The sorter never reports success throughout a history
    while delivering, in some cycle, fewer or different values than were pushed in it.

    (After an I/O error the caller of the model gives up the cycle — sequential mode — or the
    sorter — concurrent mode.  For a list of faults this statement is satisfied as soon as the first
    failure has been reported; what holds for the failures that follow the caller's recovery is
    `C13_recovery.recovery_surfaces`.) -/
theorem history_fault_surfaces (c : Nat) (hc : 1 ≤ c) (conc ac acl : Bool) (h : List Cycle)
    (hwf : wellFormed ac h = true) (flt : Fault) {s : CState}
    (hr : Reach (sys conc c ac acl (histOps h) flt) s) (hfin : finished s = true) :
    (∃ o ∈ s.outs, o.res = .ioerr) ∨ HistorySpec ac h s.outs.reverse := by
  exact finished_history c ac hc hwf hr hfin

/-- without an injected fault no call of a history fails (so the second alternative holds) -/
theorem history_no_error (c : Nat) (conc ac acl : Bool) (h : List Cycle) {s : CState}
    (hr : Reach (sys conc c ac acl (histOps h) []) s) : ∀ o ∈ s.outs, o.res ≠ .ioerr :=
  (reach_NoFault hr).2.2

/-- non-vacuity: the two-cycle history of `C12_history` with the third Encode of the history
    failing — it falls into the *second* cycle (the first has two) — under a schedule that
    interleaves the writers with the caller: the first cycle completes, the failure is reported
    by a call of the second cycle -/
example : ∃ s, Reach (sys true 1 false false
      (histOps [⟨[⟨2, 0⟩, ⟨1, 0⟩], 1, true⟩, ⟨[⟨4, 0⟩, ⟨3, 0⟩], 3, false⟩]) [(.encode, 2)]) s
    ∧ finished s = true ∧ s.outs.reverse.map (·.res) = [.ok, .ok, .ok, .ok, .ok, .ok, .ok, .ioerr] :=
  exists_reach_of_run _
    [0, 0, 0, 1, 0, 1, 0, 1, 0, 1, 0, 1, 0, 0, 0, 0, 0, 0, 0, 0, 0, 0, 0, 2, 0, 2, 0, 2, 0, 2, 0, 0, 0, 0, 0]
    (by decide +kernel)

/-- **A rejected Push is a no-op of the history, whatever the interleaving.**  A program whose
    accepted calls are the well-formed history `h`, with `Push` calls of values of another type
    inserted anywhere (in particular when the chunk is exactly full, and right before `Finalise`),
    either mode, any list of faults, any schedule: the rejected calls spawn no writer and
    hand over no chunk — every reachable state is, once the rejected calls and their outputs are
    erased, a reachable state of the program without them (`reach_erase`) — so when the caller
    has returned from its last call, some call returned an I/O error or the outputs of the
    accepted calls satisfy `HistorySpec ac h`. -/
theorem history_rejected_push_noop (c : Nat) (hc : 1 ≤ c) (conc ac acl : Bool) (h : List Cycle)
    (hwf : wellFormed ac h = true) (ops : List Op) (hops : dropRejects ops = histOps h) (flt : Fault)
    {s : CState} (hr : Reach (sys conc c ac acl ops flt) s) (hfin : finished s = true) :
    (∃ o ∈ s.outs, o.res = .ioerr) ∨ HistorySpec ac h (dropRejOuts s.outs.reverse) := by
  exact finished_history_erase hc hwf hops hr hfin

/-- non-vacuity (and the shape of the seeded change C12-m3): chunk 2, push 2 1, a rejected Push
    with the chunk exactly full, Finalise, pulls — concurrent mode; the model spawns no writer for
    the rejected call and the pulls deliver 1 2 -/
example : ∃ s, Reach (sys true 2 false false [.push ⟨2, 0⟩, .push ⟨1, 0⟩, .reject, .finalise, .pull, .pull, .pull] []) s
    ∧ finished s = true ∧ s.writers.length = 0
    ∧ s.outs.reverse.map (·.res) = [.ok, .ok, .rejected, .ok, .ok, .ok, .eof]
    ∧ s.outs.reverse.filterMap (·.val) = [⟨1, 0⟩, ⟨2, 0⟩] :=
  exists_reach_of_run _ [0, 0, 0, 0, 0, 0, 0, 0, 0, 0, 0, 0, 0, 0, 0] (by decide +kernel)

/-- **Draining a sorter that has AutoClean set removes its temporary directory**, for whole
    histories: a fault-free well-formed history in which some cycle was pulled to io.EOF
    (`pulls > pushes`), either mode, any schedule — when the caller has returned from its last
    call the directory is gone. -/
theorem history_autoclean_drain_removes_dir (c : Nat) (hc : 1 ≤ c) (conc ac : Bool) (h : List Cycle)
    (hwf : wellFormed ac h = true) (cy : Cycle) (hcy : cy ∈ h) (hdrain : cy.pushes.length < cy.pulls)
    {s : CState} (hr : Reach (sys conc c ac true (histOps h) []) s) (hfin : finished s = true) :
    s.dirExists = false := by
  exact (reach_EofDir hr).of_spec (autoClean_const hr)
    (Biogo.Properties.C12_history.conc_history_sorted_multiset c hc conc ac true h hwf hr hfin) hcy hdrain

/-- **Draining with AutoClear set leaves no run files**, for whole histories: a fault-free
    well-formed history whose last cycle was pulled to io.EOF (AutoClean not set), either mode,
    any schedule — no run file of any cycle is left in the temporary directory. -/
theorem history_autoclear_drain_no_runs (c : Nat) (hc : 1 ≤ c) (conc : Bool) (done : List Cycle) (cy : Cycle)
    (hwf : wellFormed true (done ++ [cy]) = true) (hdrain : cy.pushes.length < cy.pulls)
    {s : CState} (hr : Reach (sys conc c true false (histOps (done ++ [cy])) []) s) (hfin : finished s = true) :
    s.onDisk = 0 := by
  obtain ⟨hfiles, hq⟩ := finished_no_files c true hc hwf hdrain hr hfin (reach_not_reported hr)
  exact (reach_DiskInv hr).idle_quiet (finished_iff.mp hfin).2 hfiles hq

/-- **The executable statement of the C13 driver implies the statement of `history_fault_surfaces`**
    on the implementation's outputs: if `surfaceStatement` accepts the outputs of a program that
    `historyOf` recognises (rejected pushes removed) as the well-formed history `h`, then some
    call returned an error (an I/O error, or the "push on finalised" error — the type-mismatch
    error of a rejected `Push` does not count), or the outputs of the accepted calls satisfy
    `HistorySpec` and every rejected `Push` was a no-op. -/
theorem surfaceStatement_sound (ac : Bool) (ops : List Op) (h : List Cycle) (outs : List Out)
    (hh : historyOf ac (dropRejects ops) = some h) (hs : Biogo.Drive.C13.surfaceStatement ac h ops outs = none) :
    (∃ o ∈ outs, o.res = .ioerr ∨ o.res = .finalised)
    ∨ (HistorySpec ac h (dropRejOuts outs) ∧ outs = weave ops (dropRejOuts outs) 0 0) := by
  unfold Biogo.Drive.C13.surfaceStatement at hs
  simp only at hs
  cases hf : outs.find? (fun o => o.res != .ok && o.res != .eof && o.res != .rejected) with
  | some o =>
    left
    rw [hf] at hs
    have hmem : o ∈ outs := List.mem_of_find?_eq_some hf
    have hp := List.find?_some hf
    refine ⟨o, hmem, ?_⟩
    simp only [Option.any_some, Option.isSome_some, if_true] at hs
    cases hr : o.res <;> simp [hr] at hp hs ⊢
  | none =>
    right
    rw [hf] at hs
    simp only [Option.any_none, Bool.false_eq_true, if_false, Option.isSome_none, Option.map_eq_none_iff] at hs
    have := Biogo.Properties.C11_checker.programStatement_sound ac ops h outs hh hs
    exact ⟨this.2.2.1, this.2.2.2⟩

end Biogo.Properties.C13_history
