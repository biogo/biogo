/-
C02 — what the driver demands of a BED / GFF round trip (`Drive.C02.wantBed`, `wantGff`,
`wantRegion`, `wantSeq`, `wantCoords`) is exactly the conclusion of `bed_narrow_read` /
`bed_roundtrip`, `gff_roundtrip`, `region_roundtrip`, `inline_seq_roundtrip`,
`gff_text_is_one_based`, rendered in the harness's notation.
-/
import Biogo.Drive.C02
import Biogo.Properties.C02

namespace Biogo.Properties.C02_checker
open Biogo.Drive.C02 Biogo.Drive.FeatCommon Biogo.FeatIO Biogo.BytesFeat
open Biogo.Gff (FloatLaw gffWF_unpack readAll_feature norm_parsed)

theorem intercalate_two (a b : String) : " ".intercalate [a, b] = a ++ " " ++ b := rfl

/-- **BED**: the demanded history is the rendering of `[.record (firstCols r b), .eof]`, the
    right-hand side of `bed_narrow_read` (and of `bed_roundtrip` for `r = b.width`) -/
theorem wantBed_is_roundtrip (r : Nat) (b : Bed.Rec) :
    wantBed r b = bedCalls [.record (Bed.firstCols r b), .eof] := by
  unfold wantBed bedCalls
  simp only [List.map_cons, List.map_nil, bedCall, intercalate_two]
  rw [String.append_assoc, String.append_assoc]
  rfl

/-- well-formedness of the first `n` columns includes that of the first `w ≤ n` -/
theorem bedWF_mono (n w : Nat) (b : Bed.Rec) (hwn : w ≤ n) (h : bedWF n b = true) : bedWF w b = true :=
  Bed.bedWF_mono h hwn

/-- … hence, by `bed_narrow_read`: within the driver's scope (`bedWF n b`, `r ≤ w ≤ n`; the column
    counts the harness uses are valid ones) the demanded history is the rendering of the model's
    read-back at `r` columns of the model's output at `w` columns, and the count the model's writer
    reports is the number of bytes it emitted -/
theorem wantBed_is_model (b : Bed.Rec) (n w r : Nat) (hw : Bed.validWidth w = true) (hr : Bed.validWidth r = true)
    (hrw : r ≤ w) (hwn : w ≤ n) (hnb : n ≤ b.width) (hwf : bedWF n b = true) :
    ∃ text c, Bed.write w b = .ok (text, c) ∧ c = text.length ∧
      wantBed r b = bedCalls (Bed.readAll r text) := by
  obtain ⟨text, c, h1, h2⟩ := Biogo.Properties.C02.bed_narrow_read b w r hw hr hrw (by omega)
    (bedWF_mono n w b hwn hwf)
  exact ⟨text, c, h1, Biogo.Properties.C02.bed_write_count b w text c h1, by rw [h2, wantBed_is_roundtrip]⟩

/-- the rendering of a feature does not see the nil / empty attribute list distinction -/
theorem gffFeature_norm (f g : Gff.Feature) (h : norm g = norm f) : gffFeature g = gffFeature f := by
  unfold norm normAttrs at h
  simp only [Gff.Feature.mk.injEq, Option.some.injEq] at h
  obtain ⟨e1, e2, e3, e4, e5, e6, e7, e8, e9, e10⟩ := h
  unfold gffFeature attrsStr Gff.Feature.len
  rw [e1, e2, e3, e4, e5, e6, e7, e8, e9, e10]

theorem metaStr_eq (hdr : Bool) : metaStr hdr = gffMeta { version := if hdr then 2 else 0 } := by
  cases hdr <;> decide

/-- **GFF features**: for a well-formed feature (and the float law on its score) the demanded
    string is the rendering of what the model's reader returns on what the model's writer wrote —
    one feature equal to the original up to nil/empty attributes, then `io.EOF`, with the metadata
    of the conclusion of `gff_roundtrip` (version 2 with the header line, 0 without; the other
    metadata fields at their defaults) -/
theorem wantGff_is_roundtrip (o : Gff.Oracles) (f : Gff.Feature) (hdr : Bool) (hwf : gffWF f = true)
    (hfl : FloatLaw o f.score) :
    ∃ text n, Gff.writeFeature o f = .ok (text, n) ∧ n = text.length ∧
      wantGff hdr f = gffCalls (Gff.readAll o ((if hdr then Gff.headerText else []) ++ text)) := by
  refine ⟨_, _, Gff.writeFeature_eq o f (gffWF_unpack hwf).lt, by simp, ?_⟩
  rw [readAll_feature o f hdr hwf hfl]
  unfold wantGff gffCalls
  simp only [List.map_cons, List.map_nil, gffCall, gffItem, intercalate_two]
  rw [gffFeature_norm f _ (norm_parsed f), metaStr_eq]
  simp only [String.append_assoc]
  rfl

/-- **1-based inclusive text**: the two columns the driver demands are the two columns
    `gff_text_is_one_based` states for a non-negative start -/
theorem wantCoords_is_one_based (f : Gff.Feature) (hs : 0 ≤ f.start) :
    wantCoords f = (formatInt (f.start + 1), formatInt f.stop) := by
  unfold wantCoords
  rw [if_pos hs]

/-- **sequence-region lines**: the record part of the demanded string is the rendering of the
    right-hand side of `region_roundtrip`; the metadata part demands, beyond that theorem, that the
    reader's metadata is untouched (version from the header only) -/
theorem wantRegion_is_roundtrip (hdr : Bool) (name : Bytes) (s e : Int) :
    wantRegion hdr name s e =
      " ".intercalate (([.item (.region name (-1) s e), .eof] : List Gff.Call).map gffCall) ++ " " ++
        gffMeta { version := if hdr then 2 else 0 } := by
  unfold wantRegion
  simp only [List.map_cons, List.map_nil, gffCall, intercalate_two]
  rw [metaStr_eq]
  simp only [String.append_assoc]
  rfl

/-- **inline sequences**: likewise for `inline_seq_roundtrip` -/
theorem wantSeq_is_roundtrip (hdr : Bool) (id : Bytes) (mol : Nat) (letters : Bytes) :
    wantSeq hdr id mol letters =
      " ".intercalate (([.item (.sequence id mol letters), .eof] : List Gff.Call).map gffCall) ++ " " ++
        gffMeta { version := if hdr then 2 else 0 } := by
  unfold wantSeq
  simp only [List.map_cons, List.map_nil, gffCall, intercalate_two]
  rw [metaStr_eq]
  simp only [String.append_assoc]
  rfl

/-! ### files of several records (ops `bedf`, `gfff`)
The harness keeps every record the reader returned and renders them after `io.EOF`; the demand is
the per-record demand mapped over the records.  (That the reader model returns exactly these calls
on the concatenated text is run by the driver on every case — `Bed.readAll` / `Gff.readAll` on the
whole text.  For BED it is `Bed.readAll_formats`, for GFF `Gff.readAll_features`; a GFF text that
mixes features, region lines and inline sequences is a `Gff.Chain` under `Gff.readAll_chain`.) -/

theorem intercalate_three (a b c : String) : " ".intercalate [a, b, c] = a ++ " " ++ b ++ " " ++ c := rfl

/-- for a file of one record the demand is the single-record demand `wantBed` -/
theorem wantBedFile_single (r : Nat) (b : Bed.Rec) : wantBedFile r [b] = wantBed r b := by
  unfold wantBedFile wantBed
  simp only [List.map_cons, List.map_nil, List.cons_append, List.nil_append, intercalate_two, String.append_assoc]
  rfl

/-- for a file of one feature the demand is the single-feature demand `wantGff` -/
theorem wantGffFile_single (hdr : Bool) (f : Gff.Feature) : wantGffFile hdr [f] = wantGff hdr f := by
  unfold wantGffFile wantGff
  simp only [List.map_cons, List.map_nil, List.cons_append, List.nil_append, intercalate_three, String.append_assoc]
  rfl

/-- **files of several BED records** (op `bedf`): the demanded history is the rendering of "every
    record, as its first `r` columns (`bed_narrow_read` per record), in order, then `io.EOF`" -/
theorem wantBedFile_is_records_then_eof (r : Nat) (bs : List Bed.Rec) :
    wantBedFile r bs = bedCalls (bs.map (fun b => Bed.Call.record (Bed.firstCols r b)) ++ [.eof]) := by
  unfold wantBedFile bedCalls
  congr 1
  simp only [List.map_append, List.map_map, List.map_cons, List.map_nil]
  rfl

/-- **files of several GFF features** (op `gfff`): every feature in order, then `io.EOF`, then the
    reader's metadata -/
theorem wantGffFile_is_features_then_eof (hdr : Bool) (fs : List Gff.Feature) :
    wantGffFile hdr fs =
      " ".intercalate ((fs.map (fun f => Gff.Call.item (.feature f)) ++ [Gff.Call.eof]).map gffCall ++ [metaStr hdr]) := by
  unfold wantGffFile
  congr 1
  simp only [List.map_append, List.map_map, List.map_cons, List.map_nil, List.append_assoc, List.cons_append, List.nil_append]
  rfl

end Biogo.Properties.C02_checker
