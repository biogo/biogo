/-
C09, part `aff`: the pairs returned by the affine aligners — the property theorems and, before `align_total`,
what the model's letter checks return on an illegal letter (`letterCheck_error`).
`nwAlign`, `swAlign`, `fitAlign` are the model of the code after the repairs of K5 (layer-aware
traceback), K1 (`up ↔ left` transitions in fill and traceback) and K3 (FittedAffine starts its
traceback in the best layer of its end cell).
-/
import Biogo.Model.AlignAff
import Biogo.Spec.AffPairs
import Biogo.Proofs.TraceWF
import Biogo.Proofs.NWFaith
import Biogo.Proofs.SWFaith
import Biogo.Proofs.FitFaith
import Biogo.Proofs.TraceLegacy

namespace Biogo.Properties.C09_aff
open Biogo.Spec.Alignment Biogo.AlignAff Biogo.Spec.AffPairs

theorem firstNeg_some (l : List Int) (i : Nat) (h : ∃ x ∈ l, x < 0) : ∃ p, firstNeg l i = some p := by
  induction l generalizing i with
  | nil => obtain ⟨x, hx, _⟩ := h; cases hx
  | cons y ys ih =>
    unfold firstNeg
    by_cases hy : y < 0
    · exact ⟨i, by rw [if_pos hy]⟩
    · rw [if_neg hy]
      obtain ⟨x, hx, hlt⟩ := h
      rcases List.mem_cons.mp hx with rfl | hx
      · exact absurd hlt hy
      · exact ih (i + 1) ⟨x, hx, hlt⟩

theorem firstNeg_none (l : List Int) (i : Nat) (h : ¬ ∃ x ∈ l, x < 0) : firstNeg l i = none := by
  induction l generalizing i with
  | nil => rfl
  | cons y ys ih =>
    unfold firstNeg
    have hy : ¬ y < 0 := fun hy => h ⟨y, List.mem_cons_self, hy⟩
    rw [if_neg hy]
    exact ih (i + 1) (fun ⟨x, hx, hlt⟩ => h ⟨x, List.mem_cons_of_mem _ hx, hlt⟩)

/-- an illegal letter in non-empty sequences is met by the letter check of every aligner -/
theorem letterCheck_error (w : Which) (r q : List Int) (hr : r ≠ []) (hq : q ≠ [])
    (h : (∃ x ∈ r, x < 0) ∨ (∃ x ∈ q, x < 0)) :
    ∃ p, letterCheck w r q = .error (.letterR p) ∨ letterCheck w r q = .error (.letterQ p) := by
  have hne : ¬ (r.isEmpty = true ∨ q.isEmpty = true) := by
    cases r <;> cases q <;> simp_all
  by_cases hqn : ∃ x ∈ q, x < 0
  · obtain ⟨p, hp⟩ := firstNeg_some q 0 hqn
    cases w
    · exact ⟨p, Or.inr (by simp only [letterCheck, hp])⟩
    · by_cases h0 : r.headD 0 < 0
      · exact ⟨0, Or.inl (by simp only [letterCheck, if_neg hne, if_pos h0])⟩
      · exact ⟨p, Or.inr (by simp only [letterCheck, if_neg hne, if_neg h0, hp])⟩
    · exact ⟨p, Or.inr (by simp only [letterCheck, hp])⟩
  · have hrn : ∃ x ∈ r, x < 0 := h.resolve_right hqn
    obtain ⟨p, hp⟩ := firstNeg_some r 0 hrn
    have hq0 := firstNeg_none q 0 hqn
    cases w
    · exact ⟨p, Or.inl (by simp only [letterCheck, hp, hq0])⟩
    · by_cases h0 : r.headD 0 < 0
      · exact ⟨0, Or.inl (by simp only [letterCheck, if_neg hne, if_pos h0])⟩
      · exact ⟨p, Or.inl (by simp only [letterCheck, if_neg hne, if_neg h0, hp, hq0])⟩
    · exact ⟨p, Or.inl (by simp only [letterCheck, hp, hq0])⟩

/-- "Illegal letters, mismatched alphabets or sequence types, and non-square or undersized
    matrices produce an error rather than a panic": on such an input the model of every
    affine aligner takes one of the explicit error returns (never one of the two panic
    outcomes, and never an alignment). -/
theorem align_total (w : Which) (M : List (List Int)) (gapOpen : Int) (ref qry : SeqArg)
    (h : ref.alpha = none ∨ qry.alpha ≠ ref.alpha ∨ ref.gapIdx ≠ 0 ∨ ref.quality ≠ qry.quality ∨
         M.length < ref.alen ∨ (∃ row ∈ M, row.length ≠ M.length) ∨
         ((∃ x ∈ ref.idx, x < 0) ∨ (∃ x ∈ qry.idx, x < 0)) ∧ ref.idx ≠ [] ∧ qry.idx ≠ []) :
    ∃ e, align w M gapOpen ref qry = .error e ∧ e ≠ .panicEmpty ∧ ∀ i j, e ≠ .panicNoPath i j := by
  unfold align
  cases hra : ref.alpha with
  | none => exact ⟨.noAlphabet, rfl, by decide, fun _ _ hh => by cases hh⟩
  | some ra =>
    simp only []
    by_cases h1 : qry.alpha ≠ some ra
    · rw [if_pos h1]; exact ⟨.alphabets, rfl, by decide, fun _ _ hh => by cases hh⟩
    rw [if_neg h1]
    by_cases h2 : ref.gapIdx ≠ 0
    · rw [if_pos h2]; exact ⟨.noGap, rfl, by decide, fun _ _ hh => by cases hh⟩
    rw [if_neg h2]
    by_cases h3 : ref.quality ≠ qry.quality
    · rw [if_pos h3]; exact ⟨.types, rfl, by decide, fun _ _ hh => by cases hh⟩
    rw [if_neg h3]
    by_cases h4 : M.length < ref.alen
    · rw [if_pos h4]; exact ⟨.size, rfl, by decide, fun _ _ hh => by cases hh⟩
    rw [if_neg h4]
    by_cases h5 : (M.any fun row => decide (row.length ≠ M.length)) = true
    · rw [if_pos h5]; exact ⟨.notSquare, rfl, by decide, fun _ _ hh => by cases hh⟩
    rw [if_neg h5]
    have h6 : ((∃ x ∈ ref.idx, x < 0) ∨ (∃ x ∈ qry.idx, x < 0)) ∧ ref.idx ≠ [] ∧ qry.idx ≠ [] := by
      rcases h with h | h | h | h | h | h | h
      · rw [hra] at h; cases h
      · rw [hra] at h; exact absurd h h1
      · exact absurd h h2
      · exact absurd h h3
      · exact absurd h h4
      · exfalso; apply h5
        obtain ⟨row, hrow, hne⟩ := h
        exact List.any_eq_true.mpr ⟨row, hrow, by simpa using hne⟩
      · exact h
    obtain ⟨p, hp | hp⟩ := letterCheck_error w ref.idx qry.idx h6.2.1 h6.2.2 h6.1
    · rw [hp]; exact ⟨.letterR p, rfl, (fun hh => by cases hh), (fun _ _ hh => by cases hh)⟩
    · rw [hp]; exact ⟨.letterQ p, rfl, (fun hh => by cases hh), (fun _ _ hh => by cases hh)⟩

/-- the hypothesis of `align_total` is satisfiable, and the conclusion then names the error -/
example : align .nw [[0, -1], [-1, 1]] (-1) ⟨some "X", 2, 0, false, [1, -1]⟩ ⟨some "X", 2, 0, false, [1]⟩
    = .error (.letterR 1) := by decide

/-- "The feature pairs returned by every aligner form one monotone path: consecutive pairs
    abut in both sequences, each pair is an equal-length ungapped block, a gap in exactly one
    sequence, or empty with zero score; global alignments span both sequences entirely":
    `NWAffine`, for every matrix, gap-open value and pair of sequences (whatever the table
    holds — the proof is an invariant of the traceback loop alone). -/
theorem trace_wf_nwAffine (S : Matrix) (gapOpen : Int) (r q : List Nat) (ps : List Pair)
    (h : nwAlign S gapOpen r q = .ok ps) :
    wellFormed ps = true ∧ spansAll ps r.length q.length = true := by
  obtain ⟨t, ht⟩ := Biogo.Proofs.TraceWF.map_fst_ok h
  exact Biogo.Proofs.NWAffine.nwAlignT_wf true true S gapOpen r q ps t ht

/-- "… and local ones stay within bounds": `SWAffine`. -/
theorem trace_wf_swAffine (S : Matrix) (gapOpen : Int) (r q : List Nat) (ps : List Pair)
    (h : swAlign S gapOpen r q = .ok ps) :
    wellFormed ps = true ∧ inBounds ps r.length q.length = true := by
  obtain ⟨t, ht⟩ := Biogo.Proofs.TraceWF.map_fst_ok h
  exact Biogo.Proofs.SWAffine.swAlignT_wf true true S gapOpen r q ps t ht

/-- `FittedAffine`: one well-formed path within bounds which, after the repair of K2b, starts
    at query position 0 and ends at the end of the query (C08: "consumes the whole query"). -/
theorem trace_wf_fittedAffine (S : Matrix) (gapOpen : Int) (r q : List Nat) (ps : List Pair)
    (h : fitAlign S gapOpen r q = .ok ps) :
    wellFormed ps = true ∧ inBounds ps r.length q.length = true ∧
      (firstStart ps).2 = 0 ∧ (lastEnd ps).2 = q.length := by
  obtain ⟨t, ht⟩ := Biogo.Proofs.TraceWF.map_fst_ok h
  exact Biogo.Proofs.FittedAffine.fitAlignT_wf true true true S gapOpen r q ps t ht

/-- non-vacuity: the aligners do return pairs -/
example : nwAlign (sc [[0, -1, -1], [-1, 1, -1], [-1, -1, 1]]) (-2) [1, 2, 1] [1, 1] =
    .ok [⟨0, 1, 0, 1, 1⟩, ⟨1, 2, 1, 1, -3⟩, ⟨2, 3, 1, 2, 1⟩] := by decide +kernel
example : swAlign (sc [[0, -1, -1], [-1, 1, -1], [-1, -1, 1]]) (-2) [1, 2, 1] [2, 1] =
    .ok [⟨1, 3, 0, 2, 2⟩] := by decide +kernel
example : fitAlign (sc [[0, -1, -1], [-1, 1, -1], [-1, -1, 1]]) (-2) [1, 2, 1] [2, 1] =
    .ok [⟨1, 3, 0, 2, 2⟩] := by decide +kernel

/-- "each pair's reported score equals the score recomputed from the letters, matrix and gap
    parameters" — **`NWAffine`, the full statement** (after the repair of K5: every `case` of
    the traceback switch is guarded by the layer it is a legal predecessor of).  For all
    matrices, gap-open values and non-empty sequences: every block carries the sum of its
    letter pairs and every gap pair `gapOpen` plus its per-letter gap scores, the leading gap
    block included. -/
theorem pair_scores_faithful (S : Matrix) (gapOpen : Int) (r q : List Nat) (hr : r ≠ [])
    (hq : q ≠ []) (ps : List Pair) (h : nwAlign S gapOpen r q = .ok ps) :
    faithful S gapOpen r q ps = true := by
  obtain ⟨t, ht⟩ := Biogo.Proofs.TraceWF.map_fst_ok h
  cases Biogo.Proofs.NWFaith.nwAlignT_aware_tie true S gapOpen r q ps t ht
  exact Biogo.Proofs.NWFaith.nwAlignT_faithful true true S gapOpen r q hr hq ps ht

/-- non-vacuity: a traceback with a gap -/
example : nwAlign (sc [[0, -1, -1], [-1, 1, -1], [-1, -1, 1]]) (-2) [1, 2, 1] [1, 1] =
      .ok [⟨0, 1, 0, 1, 1⟩, ⟨1, 2, 1, 1, -3⟩, ⟨2, 3, 1, 2, 1⟩] := by decide +kernel

/-- "each pair's reported score equals the score recomputed from the letters, matrix and gap
    parameters" — **`SWAffine`**, for all matrices with non-positive gap scores (the domain of
    C08/C09), all gap-open values and all sequences.  The local traceback stops on a value 0;
    with gap scores ≤ 0 a gap run that has not been charged its `gapOpen` yet never stands on a
    0 (`Proofs/SWAffine`: `Pos`, `sw_run`), so the first pair is a block or a complete gap. -/
theorem pair_scores_faithful_swAffine (S : Matrix) (gapOpen : Int) (hg : ∀ x, S x 0 ≤ 0 ∧ S 0 x ≤ 0)
    (r q : List Nat) (ps : List Pair) (h : swAlign S gapOpen r q = .ok ps) :
    faithful S gapOpen r q ps = true := by
  obtain ⟨t, ht⟩ := Biogo.Proofs.TraceWF.map_fst_ok h
  cases Biogo.Proofs.SWFaith.swAlignT_aware_tie true S gapOpen r q ps t ht
  exact Biogo.Proofs.SWFaith.swAlignT_faithful true true S gapOpen hg r q ps ht

/-- non-vacuity: a local alignment with a gap -/
example : swAlign (sc [[0, -1, -1], [-1, 2, -1], [-1, -1, 2]]) (-1) [1, 1, 2, 1, 1] [1, 1, 1, 1] =
    .ok [⟨0, 2, 0, 2, 4⟩, ⟨2, 3, 2, 2, -2⟩, ⟨3, 5, 2, 4, 4⟩] := by decide +kernel

/-- The hypothesis on the gap scores is needed: with a positive gap score a gap-layer value
    can extend a clipped 0, the traceback stops there and the gap pair is reported without its
    `gapOpen` (gap against a query letter scores +1, gap-open −1, `r = cac`, `q = cc`: the
    gap pair against query `[0,1)` is reported with 1, recomputed 0). -/
theorem pair_scores_swAffine_needs_nonpositive_gaps :
    ∃ (M : List (List Int)) (gapOpen : Int) (r q : List Nat) (ps : List Pair),
      swAlign (sc M) gapOpen r q = .ok ps ∧ faithful (sc M) gapOpen r q ps = false :=
  ⟨[[0, 1, 1], [-1, 2, -5], [-1, -5, 2]], -1, [2, 1, 2], [2, 2], [⟨2, 2, 0, 1, 1⟩, ⟨2, 3, 1, 2, 2⟩],
    by decide +kernel, by decide +kernel⟩

/-- "each pair's reported score equals the score recomputed from the letters, matrix and gap
    parameters" — **`FittedAffine`**, for all matrices, gap-open values and non-empty
    sequences, the leading query gap (fix K2b) and a trailing gap (the traceback may start in a
    gap layer since the repair of K3) included.  The loop can only stop inside a block or in a
    gap run that has just been charged its `gapOpen`: row 0 holds values only in the `left`
    layer, the free-prefix column 0 only in the `up` layer
    (`FittedAffine.fitTable_borders`, `TraceFaith.GlobalBorders.run`). -/
theorem pair_scores_faithful_fittedAffine (S : Matrix) (gapOpen : Int) (r q : List Nat) (hr : r ≠ [])
    (hq : q ≠ []) (ps : List Pair) (h : fitAlign S gapOpen r q = .ok ps) :
    faithful S gapOpen r q ps = true := by
  obtain ⟨t, ht⟩ := Biogo.Proofs.TraceWF.map_fst_ok h
  cases Biogo.Proofs.FitFaith.fitAlignT_aware_tie true true S gapOpen r q ps t ht
  exact Biogo.Proofs.FitFaith.fitAlignT_faithful true true true S gapOpen r q hr hq ps ht

/-- non-vacuity: a fitted alignment with a reference gap, and one with a leading query gap -/
example : fitAlign (sc [[0, -1, -1], [-1, 2, -1], [-1, -1, 2]]) (-1) [2, 1, 1, 2, 1, 1, 2] [1, 1, 1, 1] =
    .ok [⟨1, 3, 0, 2, 4⟩, ⟨3, 4, 2, 2, -2⟩, ⟨4, 6, 2, 4, 4⟩] := by decide +kernel
example : fitAlign (sc [[0, -1, -1], [-1, 2, -1], [-1, -1, 2]]) (-1) [1, 1] [2, 2, 1, 2, 1] =
    .ok [⟨0, 0, 0, 2, -3⟩, ⟨0, 1, 2, 3, 2⟩, ⟨1, 1, 3, 4, -2⟩, ⟨1, 2, 4, 5, 2⟩] := by decide +kernel

/-- The statement that holds for either switch: whenever the traceback
    (layer-aware, `aware = true`, or the layer-blind one it replaced, `aware = false`) only
    takes `case`s that belong to its current layer (the ghost flag of the model stays `false`),
    the pair scores are the recomputed ones — for the fill of the code (`cross = true`) and for
    the fill before the repair of K1 (`cross = false`).  (`_partial`: all that holds of the
    layer-blind switch; `pair_scores_faithful` is the full statement.) -/
theorem pair_scores_faithful_partial (aware cross : Bool) (S : Matrix) (gapOpen : Int) (r q : List Nat)
    (hr : r ≠ []) (hq : q ≠ []) (ps : List Pair) (h : nwAlignT aware cross S gapOpen r q = .ok (ps, false)) :
    faithful S gapOpen r q ps = true :=
  Biogo.Proofs.NWFaith.nwAlignT_faithful aware cross S gapOpen r q hr hq ps h

/-- non-vacuity: a layer-blind traceback with a gap and no tie -/
example : legacyPairs .nw (sc [[0, -1, -1], [-1, 1, -1], [-1, -1, 1]]) (-2) [1, 2, 1] [1, 1] =
      .ok [⟨0, 1, 0, 1, 1⟩, ⟨1, 2, 1, 1, -3⟩, ⟨2, 3, 1, 2, 1⟩] ∧
    tieSwitched .nw (sc [[0, -1, -1], [-1, 1, -1], [-1, -1, 1]]) (-2) [1, 2, 1] [1, 1] = false := by
  decide +kernel

/-- all letter pairs −10, gap letters −1 -/
def tieM : List (List Int) :=
  [[0, -1, -1, -1, -1], [-1, -10, -10, -10, -10], [-1, -10, -10, -10, -10], [-1, -10, -10, -10, -10],
   [-1, -10, -10, -10, -10]]

/-- **Why the repair was needed** (K5, fixed): the layer-blind switch (`legacyPairs`, the
    traceback as it was before the repair, on the fill of the code) violates "each pair's
    reported score equals the score recomputed from the letters, matrix and gap parameters".
    With all letter pairs −10, gap letters −1, gap-open −1, `r = a`, `q = aa` its last pair (gap
    in the reference against query `[1,2)`) is reported with −1 (no gap-open) although it is a
    gap of its own; recomputed −2.  It compared the value of the `up` layer with the
    `left`-extension candidate and took it.  On the same input the repaired traceback
    (`nwAlign`) returns faithful pairs with the same total.  (`aa` / `aaa` in `corpus/C09.txt`
    is the witness on the fill before the repair of K1; with the `up ↔ left` transitions that
    input has another optimum.) -/
theorem legacy_pair_scores_not_faithful :
    ∃ (M : List (List Int)) (gapOpen : Int) (r q : List Nat) (ps ps' : List Pair),
      gapOpen ≤ 0 ∧ (∀ x, x < 5 → sc M x 0 ≤ 0 ∧ sc M 0 x ≤ 0) ∧
      legacyPairs .nw (sc M) gapOpen r q = .ok ps ∧ wellFormed ps = true ∧
      faithful (sc M) gapOpen r q ps = false ∧ tieSwitched .nw (sc M) gapOpen r q = true ∧
      nwAlign (sc M) gapOpen r q = .ok ps' ∧ faithful (sc M) gapOpen r q ps' = true ∧
      total ps' = total ps :=
  ⟨tieM, -1, [1], [1, 1],
    [⟨0, 0, 0, 1, -2⟩, ⟨0, 1, 1, 1, -2⟩, ⟨1, 1, 1, 2, -1⟩],
    [⟨0, 0, 0, 2, -3⟩, ⟨0, 1, 2, 2, -2⟩],
    by decide, by decide, by decide +kernel, by decide, by decide +kernel, by decide +kernel,
    by decide +kernel, by decide +kernel, by decide⟩

/-- **The repair of K5 changes nothing but the tie cases**: for all three affine aligners, every
    matrix, gap-open value and pair of sequences, if the traceback as it was before the repair
    (`legacyPairs`, layer-blind switch) returns `ps` without taking a `case` of another layer
    (`tieSwitched = false`), the repaired aligner returns exactly `ps`.  (The driver evaluates
    the same statement on the implementation's pairs: tags `legacy-same` / `legacy-tie`.) -/
theorem k5_repair_conservative (w : Which) (S : Matrix) (gapOpen : Int) (r q : List Nat) (ps : List Pair)
    (h : legacyPairs w S gapOpen r q = .ok ps) (ht : tieSwitched w S gapOpen r q = false) :
    (alignT true w S gapOpen r q).map (·.1) = .ok ps := by
  unfold legacyPairs at h
  unfold tieSwitched at ht
  cases hT : alignT false w S gapOpen r q with
  | error e => rw [hT] at h; cases h
  | ok res =>
    obtain ⟨ps', t⟩ := res
    rw [hT] at h ht
    simp only [Except.map] at h
    simp only [] at ht
    cases h
    subst ht
    rw [Biogo.Proofs.TraceLegacy.alignT_legacy_agree w S gapOpen r q _ hT]
    rfl

/-- `alignT true` is the model the driver runs (`nwAlign`, `swAlign`, `fitAlign`) -/
example (S : Matrix) (o : Int) (r q : List Nat) :
    (alignT true .nw S o r q).map (·.1) = nwAlign S o r q ∧
    (alignT true .sw S o r q).map (·.1) = swAlign S o r q ∧
    (alignT true .fit S o r q).map (·.1) = fitAlign S o r q := ⟨rfl, rfl, rfl⟩

end Biogo.Properties.C09_aff
