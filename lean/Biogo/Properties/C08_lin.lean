/-
C08, part `lin` — NW, SW and Fitted return optimal-scoring alignments.
The property theorems, each a short consequence of what `Biogo/Proofs/AlignLin*.lean` and
`Biogo/Proofs/AlignPairs.lean` prove.

The theorems are about `Biogo.AlignLin.align`, the executable model the driver runs
(`Biogo/Model/AlignLin.lean`: argument checks, row-major fill of the flat table, traceback).
For a call `c`, `callS c` is the scoring function built from the flattened matrix
(`la[a*n+b]`, row/column 0 = gap letter) and `callR c`, `callQ c` are the alphabet indices of
the two sequences.  `decode r q ps` is the alignment (`Spec.Alignment.Aln`) described by the
returned feature pairs `ps`, `total ps` the sum of their scores.
-/
import Biogo.Proofs.AlignLinCore
import Biogo.Proofs.AlignLinEntries
import Biogo.Proofs.AlignPairs

namespace Biogo.Properties.C08_lin
open Biogo.AlignLin Biogo.Spec.AlignPairs Biogo.Spec.Alignment Biogo.Proofs.AlignLin Biogo.Proofs.AlignPairs

/-- "the total score … equals the maximum over all global alignments" — table level: the
    bottom-right cell of the table the model fills row by row bounds every global alignment and
    is attained by one.  Holds for every matrix (non-positive gap scores are not needed). -/
theorem nw_opt (S : Matrix) (r q : List Nat) :
    (∀ a, IsGlobal a r q → scoreLin S a ≤ nwScore S r q) ∧
    ∃ a, IsGlobal a r q ∧ scoreLin S a = nwScore S r q :=
  Biogo.Proofs.AlignLin.nw_opt S r q

/-- "… of the Smith-Waterman aligners equals the maximum over all local alignments (zero if none
    is positive)" — table level: `maxS` bounds every local alignment (the empty one scores 0) and
    is attained; this includes that the code's end-cell filter `score == diagScore` loses nothing
    when gap scores are ≤ 0. -/
theorem sw_opt (S : Matrix) (r q : List Nat) (hg : GapsNonPos S r q) :
    (∀ a, IsLocal a r q → scoreLin S a ≤ swScore S r q) ∧
    ∃ a, IsLocal a r q ∧ scoreLin S a = swScore S r q :=
  Biogo.Proofs.AlignLin.sw_opt S r q hg

/-- "(zero if none is positive)": SW's value is never negative -/
theorem sw_nonneg (S : Matrix) (r q : List Nat) (hg : GapsNonPos S r q) : 0 ≤ swScore S r q :=
  (swFill_bound S r q hg).1

/-- "optimal among all such alignments that end at the same reference position" — table level:
    for every end position `e`, the last-column cell of row `e` of Fitted's table is the maximum
    over the alignments of the whole query with a reference segment ending at `e`. -/
theorem fitted_table_opt (S : Matrix) (r q : List Nat) (hg : ∀ x ∈ r, S x 0 ≤ 0)
    (e : Nat) (he : e ≤ r.length) :
    (∀ a, IsFitted a r q e → scoreLin S a ≤ fitScoreAt S r q e) ∧
    ∃ a, IsFitted a r q e ∧ scoreLin S a = fitScoreAt S r q e :=
  fit_opt S r q hg e he

/-- `trace_faithful_nw`: whenever the model's NW returns pairs, they describe a global alignment
    of the two sequences whose recomputed score is the sum of the pair scores, and that sum is
    the table value. -/
theorem trace_faithful_nw (c : Call) (ps : List Pair) (h : align .nw c = .ok ps) :
    IsGlobal (decode (callR c) (callQ c) ps) (callR c) (callQ c) ∧
    scoreLin (callS c) (decode (callR c) (callQ c) ps) = total ps ∧
    total ps = nwScore (callS c) (callR c) (callQ c) := by
  obtain ⟨hwf, hsc, htot⟩ := of_ok h (nwCore_spec (callS c) (callR c) (callQ c))
  exact ⟨wellFormed_global_sound _ _ _ hwf, (pairScores_total _ _ _ _ hsc).symm, htot⟩

/-- **NW returns an optimal alignment** (C08, first sentence): the pairs the model returns
    describe a global alignment whose score is their total, and no global alignment of the two
    sequences scores more. -/
theorem nw_returns_optimal (c : Call) (ps : List Pair) (h : align .nw c = .ok ps) :
    IsGlobal (decode (callR c) (callQ c) ps) (callR c) (callQ c) ∧
    scoreLin (callS c) (decode (callR c) (callQ c) ps) = total ps ∧
    ∀ a, IsGlobal a (callR c) (callQ c) → scoreLin (callS c) a ≤ total ps := by
  obtain ⟨h1, h2, h3⟩ := trace_faithful_nw c ps h
  exact ⟨h1, h2, fun a ha => by rw [h3]; exact (nw_opt _ _ _).1 a ha⟩

/-- `trace_faithful_sw`: the model's SW returns pairs describing a local alignment whose
    recomputed score is their total, which is `maxS`. -/
theorem trace_faithful_sw (c : Call) (ps : List Pair) (h : align .sw c = .ok ps) :
    IsLocal (decode (callR c) (callQ c) ps) (callR c) (callQ c) ∧
    scoreLin (callS c) (decode (callR c) (callQ c) ps) = total ps ∧
    total ps = swScore (callS c) (callR c) (callQ c) := by
  obtain ⟨hwf, hsc, htot⟩ := of_ok h (swCore_spec (callS c) (callR c) (callQ c))
  exact ⟨wellFormed_local_sound _ _ _ hwf, (pairScores_total _ _ _ _ hsc).symm, htot⟩

/-- **SW returns an optimal local alignment** (C08, second sentence; gap scores ≤ 0): the
    returned pairs describe a local alignment whose score is their total, no local alignment
    scores more, and the total is ≥ 0 ("zero if none is positive"). -/
theorem sw_returns_optimal (c : Call) (hg : GapsNonPos (callS c) (callR c) (callQ c))
    (ps : List Pair) (h : align .sw c = .ok ps) :
    IsLocal (decode (callR c) (callQ c) ps) (callR c) (callQ c) ∧
    scoreLin (callS c) (decode (callR c) (callQ c) ps) = total ps ∧
    (∀ a, IsLocal a (callR c) (callQ c) → scoreLin (callS c) a ≤ total ps) ∧ 0 ≤ total ps := by
  obtain ⟨h1, h2, h3⟩ := trace_faithful_sw c ps h
  exact ⟨h1, h2, fun a ha => by rw [h3]; exact (sw_opt _ _ _ hg).1 a ha, by rw [h3]; exact sw_nonneg _ _ _ hg⟩

/-- `trace_faithful_fit`: the model's Fitted (with the repair of K2b) returns pairs that consume
    the whole query and describe an alignment of the query with a reference segment ending at
    `endRef ps`, whose recomputed score is their total, the table value of that end row. -/
theorem trace_faithful_fit (c : Call) (ps : List Pair) (h : align .fit c = .ok ps) :
    consumesQuery (callQ c).length ps = true ∧ endRef ps ≤ (callR c).length ∧
    IsFitted (decode (callR c) (callQ c) ps) (callR c) (callQ c) (endRef ps) ∧
    scoreLin (callS c) (decode (callR c) (callQ c) ps) = total ps ∧
    total ps = fitScoreAt (callS c) (callR c) (callQ c) (endRef ps) := by
  obtain ⟨⟨hwf, hcq, hend⟩, hsc, htot⟩ := of_ok h (fitCore_spec (callS c) (callR c) (callQ c))
  rw [← hend] at htot
  exact ⟨hcq, hend ▸ fitEnd_le _ _ _, wellFormed_fitted_sound _ _ _ hwf hcq,
    (pairScores_total _ _ _ _ hsc).symm, htot⟩

/-- **`fitted_opt_at_end`** (C08, third sentence; gap scores ≤ 0): the alignment Fitted returns
    consumes the whole query and is optimal among all alignments of the whole query that end at
    the same reference position. -/
theorem fitted_opt_at_end (c : Call) (hg : ∀ x ∈ callR c, callS c x 0 ≤ 0)
    (ps : List Pair) (h : align .fit c = .ok ps) :
    consumesQuery (callQ c).length ps = true ∧
    IsFitted (decode (callR c) (callQ c) ps) (callR c) (callQ c) (endRef ps) ∧
    scoreLin (callS c) (decode (callR c) (callQ c) ps) = total ps ∧
    ∀ a, IsFitted a (callR c) (callQ c) (endRef ps) → scoreLin (callS c) a ≤ total ps := by
  obtain ⟨h1, he, h2, h3, h4⟩ := trace_faithful_fit c ps h
  exact ⟨h1, h2, h3, fun a ha => by rw [h4]; exact (fitted_table_opt _ _ _ hg _ he).1 a ha⟩

/-! ### Matrices larger than the alphabet

"any square integer scoring matrix": `Align` accepts every square matrix with at least as many
rows as the alphabet has letters (`let < alpha.Len()` is the only size error), so e.g. a 6×6 matrix
may be used with the 5-letter `alphabet.DNAgapped`.  The theorems above carry no hypothesis on the
matrix size: `callS c` is the flattened matrix read with the row stride `let = len(a)`
(`la[x*let+y]`), whatever the alphabet's size, so they hold for such *oversized* matrices as they
stand.  This section says so explicitly, in terms of the matrix the caller wrote:
`entry m x y` is `m[x][y]`; `IndexInAlphabet c` says that `alpha.LetterIndex()` maps into
`[0, alpha.Len())`; `GapEntriesNonPos c` is "non-positive gap scores" for the letters of the
alphabet (the rows and columns beyond the alphabet are no letter's gap scores); `SameBlock c c'`
says that two calls differ only in their matrices, which agree on the alphabet-sized upper-left
block.  (Definitions and helper lemmas in `Proofs/AlignLinEntries.lean`.) -/

/-- The scoring function of the model is the matrix entry the caller wrote: for a square matrix
    of any size, `la[x*let+y] = a[x][y]` for every column `y < let`.  (This is where the row
    stride matters: with the stride `alpha.Len()`, or with only the alphabet-sized block copied
    into `la`, the equation fails for every oversized matrix.) -/
theorem scoring_reads_matrix_entries (c : Call) (hsq : ∀ row ∈ c.mat, row.length = c.mat.length)
    (x y : Nat) (hy : y < c.mat.length) : callS c x y = entry c.mat x y :=
  callS_entry c hsq x y hy

/-- **NW, matrix of any accepted size** (C08, first sentence, "any square integer scoring matrix"):
    whenever NW returns pairs the matrix has at least `alpha.Len()` rows — possibly more — and
    the pairs describe a global alignment whose score *under the entries of that matrix* is their
    total, and no global alignment scores more under those entries. -/
theorem nw_returns_optimal_any_size (c : Call) (hi : IndexInAlphabet c)
    (ps : List Pair) (h : align .nw c = .ok ps) :
    c.alphaLen ≤ c.mat.length ∧
    IsGlobal (decode (callR c) (callQ c) ps) (callR c) (callQ c) ∧
    scoreLin (entry c.mat) (decode (callR c) (callQ c) ps) = total ps ∧
    ∀ a, IsGlobal a (callR c) (callQ c) → scoreLin (entry c.mat) a ≤ total ps := by
  obtain ⟨hsz, hsq⟩ := accepted_matrix h
  obtain ⟨h1, h2, h3⟩ := nw_returns_optimal c ps h
  have hglob : ∀ a, IsGlobal a (callR c) (callQ c) → scoreLin (callS c) a = scoreLin (entry c.mat) a :=
    fun a ha => score_by_entries c hi hsz hsq a (by rw [ha.1]; exact fun _ h => h) (by rw [ha.2]; exact fun _ h => h)
  exact ⟨hsz, h1, by rw [← hglob _ h1]; exact h2, fun a ha => by rw [← hglob a ha]; exact h3 a ha⟩

/-- **SW, matrix of any accepted size** (C08, second sentence): as `sw_returns_optimal`, with
    scores and the gap-score hypothesis read from the entries of the (possibly oversized) matrix. -/
theorem sw_returns_optimal_any_size (c : Call) (hi : IndexInAlphabet c) (hg : GapEntriesNonPos c)
    (ps : List Pair) (h : align .sw c = .ok ps) :
    c.alphaLen ≤ c.mat.length ∧
    IsLocal (decode (callR c) (callQ c) ps) (callR c) (callQ c) ∧
    scoreLin (entry c.mat) (decode (callR c) (callQ c) ps) = total ps ∧
    (∀ a, IsLocal a (callR c) (callQ c) → scoreLin (entry c.mat) a ≤ total ps) ∧ 0 ≤ total ps := by
  obtain ⟨hsz, hsq⟩ := accepted_matrix h
  obtain ⟨h1, h2, h3, h4⟩ := sw_returns_optimal c (gapsNonPos_of_entries c hi hsz hsq hg) ps h
  have hloc : ∀ a, IsLocal a (callR c) (callQ c) → scoreLin (callS c) a = scoreLin (entry c.mat) a :=
    fun a ha => score_by_entries c hi hsz hsq a ha.mem.1 ha.mem.2
  exact ⟨hsz, h1, by rw [← hloc _ h1]; exact h2, fun a ha => by rw [← hloc a ha]; exact h3 a ha, h4⟩

/-- **Fitted, matrix of any accepted size** (C08, third sentence): as `fitted_opt_at_end`, with
    scores and the (reference-side) gap-score hypothesis read from the entries of the matrix. -/
theorem fitted_opt_at_end_any_size (c : Call) (hi : IndexInAlphabet c)
    (hg : ∀ x, x < c.alphaLen → entry c.mat x 0 ≤ 0)
    (ps : List Pair) (h : align .fit c = .ok ps) :
    c.alphaLen ≤ c.mat.length ∧
    consumesQuery (callQ c).length ps = true ∧
    IsFitted (decode (callR c) (callQ c) ps) (callR c) (callQ c) (endRef ps) ∧
    scoreLin (entry c.mat) (decode (callR c) (callQ c) ps) = total ps ∧
    ∀ a, IsFitted a (callR c) (callQ c) (endRef ps) → scoreLin (entry c.mat) a ≤ total ps := by
  obtain ⟨hsz, hsq⟩ := accepted_matrix h
  have hpos := index_pos hi
  have hg' : ∀ x ∈ callR c, callS c x 0 ≤ 0 := fun x hx => by
    rw [callS_entry c hsq x 0 (by omega)]; exact hg x (callR_lt c hi x hx)
  obtain ⟨h1, h2, h3, h4⟩ := fitted_opt_at_end c hg' ps h
  have hfit : ∀ a, IsFitted a (callR c) (callQ c) (endRef ps) →
      scoreLin (callS c) a = scoreLin (entry c.mat) a :=
    fun a ha => score_by_entries c hi hsz hsq a ha.mem.1 ha.mem.2
  exact ⟨hsz, h1, h2, by rw [← hfit _ h2]; exact h3, fun a ha => by rw [← hfit a ha]; exact h4 a ha⟩

/-- The rows and columns beyond the alphabet do not influence NW's score: two calls on the same
    sequences whose (square, possibly differently sized) matrices agree on the block the alphabet
    addresses return alignments with the same total. -/
theorem nw_total_ignores_extra_rows (c c' : Call) (hi : IndexInAlphabet c) (hb : SameBlock c c')
    (ps ps' : List Pair) (h : align .nw c = .ok ps) (h' : align .nw c' = .ok ps') :
    total ps = total ps' := by
  obtain ⟨hi', hR, hQ⟩ := hb.calls hi
  obtain ⟨_, _, _, _, hblock⟩ := hb
  obtain ⟨_, g1, s1, o1⟩ := nw_returns_optimal_any_size c hi ps h
  obtain ⟨_, g2, s2, o2⟩ := nw_returns_optimal_any_size c' hi' ps' h'
  rw [hR, hQ] at g2 s2 o2
  exact optimum_unique (fun a ha => scoreLin_congr _ _ c.alphaLen (index_pos hi) hblock a
    (by rw [ha.1]; exact callR_lt c hi) (by rw [ha.2]; exact callQ_lt c hi)) g1 s1 o1 g2 s2 o2

/-- … nor SW's (gap scores of the alphabet's letters ≤ 0). -/
theorem sw_total_ignores_extra_rows (c c' : Call) (hi : IndexInAlphabet c) (hg : GapEntriesNonPos c)
    (hb : SameBlock c c')
    (ps ps' : List Pair) (h : align .sw c = .ok ps) (h' : align .sw c' = .ok ps') :
    total ps = total ps' := by
  obtain ⟨hi', hR, hQ⟩ := hb.calls hi
  obtain ⟨_, hlen, _, _, hblock⟩ := hb
  have hpos := index_pos hi
  have hg' : GapEntriesNonPos c' := fun x hx => by
    rw [hlen] at hx
    rw [hblock x 0 hx hpos, hblock 0 x hpos hx]; exact hg x hx
  obtain ⟨_, g1, s1, o1, _⟩ := sw_returns_optimal_any_size c hi hg ps h
  obtain ⟨_, g2, s2, o2, _⟩ := sw_returns_optimal_any_size c' hi' hg' ps' h'
  rw [hR, hQ] at g2 s2 o2
  exact optimum_unique (fun a ha => scoreLin_congr _ _ c.alphaLen hpos hblock a
    (fun x hx => callR_lt c hi x (ha.mem.1 x hx))
    (fun y hy => callQ_lt c hi y (ha.mem.2 y hy))) g1 s1 o1 g2 s2 o2

/-! ### non-vacuity -/

/-- a legal call: alphabet `-ab`, match 2, mismatch −1, gap −1 -/
def exCall (r q : List UInt8) : Call :=
  { refAlpha := some 0, qryAlpha := some 0, gapIndex := 0, refQ := false, qryQ := false, alphaLen := 3,
    index := fun l => if l = 45 then 0 else if l = 97 then 1 else if l = 98 then 2 else -1,
    mat := [[0, -1, -1], [-1, 2, -1], [-1, -1, 2]], r := r, q := q }

example : GapsNonPos (callS (exCall [98, 97, 97] [97, 97, 98])) (callR (exCall [98, 97, 97] [97, 97, 98]))
    (callQ (exCall [98, 97, 97] [97, 97, 98])) := by unfold GapsNonPos; decide +kernel
example : align .nw (exCall [97, 98, 97] [97, 97]) = .ok [⟨0, 1, 0, 1, 2⟩, ⟨1, 2, 1, 1, -1⟩, ⟨2, 3, 1, 2, 2⟩] := by decide +kernel
example : align .sw (exCall [98, 97, 97] [97, 97, 98]) = .ok [⟨1, 3, 0, 2, 4⟩] := by decide +kernel
example : align .fit (exCall [98, 97, 98, 98] [97, 98]) = .ok [⟨1, 3, 0, 2, 4⟩] := by decide +kernel
example : nwScore (callS (exCall [] [])) [1, 2, 1] [1, 1] = 3 := by decide +kernel

/-! non-vacuity for oversized matrices -/

/-- the call `exCall r q` with its 3×3 matrix embedded in a 5×5 one (alphabet `-ab`, 3 letters):
    the two extra rows and columns hold values no correct lookup reads -/
def exCallOver (r q : List UInt8) : Call :=
  { exCall r q with
    mat := [[0, -1, -1, 1003, 1004], [-1, 2, -1, 1040, 1041], [-1, -1, 2, 1077, 1078],
            [1111, 1112, 1113, 1114, 1115], [1148, 1149, 1150, 1151, 1152]] }

theorem exCall_index (r q : List UInt8) : IndexInAlphabet (exCall r q) := by
  intro l
  simp only [exCall]
  split
  · decide
  · split
    · decide
    · split <;> decide +kernel

example (r q : List UInt8) : IndexInAlphabet (exCallOver r q) := exCall_index r q
example (r q : List UInt8) : GapEntriesNonPos (exCallOver r q) :=
  (by decide +kernel : ∀ x < 3, entry (exCallOver [] []).mat x 0 ≤ 0 ∧ entry (exCallOver [] []).mat 0 x ≤ 0)
example (r q : List UInt8) : SameBlock (exCall r q) (exCallOver r q) :=
  ⟨rfl, rfl, rfl, rfl, fun x y hx hy =>
    (by decide +kernel : ∀ x < 3, ∀ y < 3, entry (exCallOver [] []).mat x y = entry (exCall [] []).mat x y)
      x hx y hy⟩
/- the oversized matrix is accepted and the three aligners return what they return for the 3×3
   matrix (stride `let = 5`; with stride 3, or with only the 3×3 block copied, they would not) -/
example : align .nw (exCallOver [97, 98, 97] [97, 97]) = .ok [⟨0, 1, 0, 1, 2⟩, ⟨1, 2, 1, 1, -1⟩, ⟨2, 3, 1, 2, 2⟩] := by decide +kernel
example : align .sw (exCallOver [98, 97, 97] [97, 97, 98]) = .ok [⟨1, 3, 0, 2, 4⟩] := by decide +kernel
example : align .fit (exCallOver [98, 97, 98, 98] [97, 98]) = .ok [⟨1, 3, 0, 2, 4⟩] := by decide +kernel
example : callS (exCallOver [] []) 2 2 = 2 ∧ entry (exCallOver [] []).mat 2 2 = 2 := by decide +kernel
/- an oversized matrix with a ragged extra row is not accepted -/
example : align .sw { exCall [97] [97] with mat := [[0, -1, -1, 7], [-1, 2, -1, 7], [-1, -1, 2, 7], [7, 7, 7]] }
    = .error .notSquare := by decide +kernel

end Biogo.Properties.C08_lin
