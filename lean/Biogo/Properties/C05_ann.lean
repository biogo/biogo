/-
C05 / C07 — `Clone` is deep, the row annotations (`SubAnnotations`) included.

Model/Containers.lean holds the row annotations of a column-stored alignment as a value.  In
the code they are a slice (`[]seq.Annotation`) that `Row(i).RevComp()`, `Row(i).Reverse()`,
`Delete`, `Add` write or re-slice in place.  Model/ContAnn.lean models that storage on a heap
(`AnnStore`, `applyAnn`); the driver executes it (`runHistoryA false`) and observes name, offset
and strand of every row by reading the heap.  The theorems here state that with `Clone` as fixed
(F6) the heap storage is observed exactly as the value model — so every theorem about the value
model (`clone_deep_all`, `untouched_object_unchanged_all`, `row_revcomp_spec_alignment`,
`delete_exact_aln`, …) is a theorem about the storage on the heap — and that with `Clone` as it
was before the fix it is not (refutation witnesses = the two recorded witnesses of F6).
-/
import Biogo.Model.ContAnn
import Biogo.Proofs.ContAnn
import Biogo.Proofs.ContSepWorld

namespace Biogo.Properties.C05_ann
open Biogo.Containers Biogo.Go

/-- **the function the drivers execute reports the observations of the value model.**
    `runHistoryA false` runs the value model and the heap storage of `SubAnnotations` in
    lockstep (`Clone` = `append([]seq.Annotation(nil), s.SubAnnotations...)`) and reads every
    row's name, offset and strand from the annotation heap; its output equals that of
    `runHistory`, for every initial world and every history. -/
theorem annotation_store_refines_values (cx : Ctx) (w : World) (ops : List Op) :
    runHistoryA false cx w ops = runHistory cx w ops :=
  runHistoryA_eq cx w ops

/-- the simulation behind it, for every state of every history: the annotation slice of every
    alignment lies (with its capacity) in an allocated array of the annotation heap and reads
    exactly the row annotations the value model holds; the slices of different alignments lie in
    different arrays (no two alignments share `SubAnnotations`). -/
theorem annotations_separated (cx : Ctx) (w : World) (ops : List Op) :
    let ws := runOpsA false cx (w, initAnn w) ops
    ws.1 = runOps cx w ops ∧ ws.2.subs.length = ws.1.objs.length ∧
    (∀ (k : Nat) (a : Aln) (s : Slice), ws.1.objs[k]? = some (.aln a) → ws.2.subs[k]? = some s →
      CapValidG ws.2.anns s ∧ ws.2.anns.read s = a.subs) ∧
    (∀ (i j : Nat) (ai aj : Aln) (si sj : Slice), i ≠ j → ws.1.objs[i]? = some (.aln ai) →
      ws.1.objs[j]? = some (.aln aj) → ws.2.subs[i]? = some si → ws.2.subs[j]? = some sj → si.arr ≠ sj.arr) := by
  intro ws
  obtain ⟨e, hs⟩ := runOpsA_sim cx ops w (initAnn w) (initAnn_sim w)
  have hL : ∀ (k : Nat) (a : Aln), ws.1.objs[k]? = some (.aln a) →
      ((runOps cx w ops).objs.map Obj.subs?)[k]? = some (some a.subs) := by
    intro k a hk
    rw [List.getElem?_map, ← e, hk]; rfl
  refine ⟨e, by rw [hs.len, List.length_map, e], ?_, ?_⟩
  · intro k a s hk hsk
    exact hs.read k a.subs s (hL k a hk) hsk
  · intro i j ai aj si sj hij hi hj hsi hsj
    exact hs.disj i j ai.subs aj.subs si sj hij (hL i ai hi) (hL j aj hj) hsi hsj

/-- **clone_deep, the annotations on the heap.**  In a well-formed world whose annotation
    storage represents it, let object `k` be cloned and then any operations of the histories be
    applied, none of them to the original.  Then the observation of the original *read from the
    annotation heap* — names, offsets, strands of its rows as well as all letters — is what it
    was before the `Clone`; likewise for the copy when no operation is applied to it. -/
theorem clone_deep_annotations (cx : Ctx) (w : World) (hw : WorldWF w) (st : AnnStore)
    (hs : AnnSim (w.objs.map Obj.subs?) st) (k : Nat) (o : Obj) (hk : w.objs[k]? = some o)
    (hclonable : ∀ m, o ≠ .set m) (ops : List Op) :
    let ws := runOpsA false cx (w, st) (.clone k :: ops)
    ((∀ op ∈ ops, op.written ≠ some k) → (viewA cx ws.1 ws.2)[k]? = some (viewObj cx w.cells o)) ∧
    ((∀ op ∈ ops, op.written ≠ some w.objs.length) →
      (viewA cx ws.1 ws.2)[w.objs.length]? = some (viewObj cx w.cells o)) := by
  intro ws
  obtain ⟨e, hs'⟩ := runOpsA_sim cx (.clone k :: ops) w st hs
  have hv : viewA cx ws.1 ws.2 = (runOps cx w (.clone k :: ops)).view cx := by
    have := viewA_eq_view cx ws.1 ws.2 (by rw [e]; exact hs')
    rw [this, e]
  obtain ⟨c, hc, hobs⟩ := clone_view_equal cx w hw k o hk hclonable
  obtain ⟨hw1, hoth1⟩ := step_all cx w hw (.clone k)
  obtain ⟨hk1, hko⟩ := hoth1 k o (by simp [Op.written]) hk
  have hrun : runOps cx w (.clone k :: ops) = runOps cx (apply cx w (.clone k)).1 ops := rfl
  refine ⟨?_, ?_⟩
  · intro hnot
    obtain ⟨r1, r2⟩ := untouched_all cx ops _ hw1 k o hk1 hnot
    rw [hv, hrun]
    simp only [World.view, List.getElem?_map, r1, Option.map_some]
    rw [r2, hko]
  · intro hnot
    obtain ⟨r1, r2⟩ := untouched_all cx ops _ hw1 w.objs.length c hc hnot
    rw [hv, hrun]
    simp only [World.view, List.getElem?_map, r1, Option.map_some]
    rw [r2, hobs]

/-- the hypothesis of `clone_deep_annotations` holds of the storage the constructors allocate -/
theorem initial_annotation_store (w : World) : AnnSim (w.objs.map Obj.subs?) (initAnn w) :=
  initAnn_sim w

/-! ### refutation for `Clone` as it was before fix F6 (`c := *s` shares `SubAnnotations`) -/

def cxId : Ctx := { comp := fun l => l, gap := 45, amb := 110,
                    alpha := ⟨[], 0, fun _ => false, fun _ => -1, 45, 110, false⟩, grow := growExact }

/-- three rows `r0 r1 r2` (strands `+ + -`) of two columns -/
def w3 : World := initWorld cxId "aln" 1
  [⟨false, 0, 1, 0, [⟨65, 0⟩, ⟨67, 0⟩]⟩, ⟨false, 0, 1, 1, [⟨71, 0⟩, ⟨71, 0⟩]⟩, ⟨false, 0, -1, 2, [⟨84, 0⟩, ⟨84, 0⟩]⟩]

/-- names and strands of the rows of every object in the last snapshot -/
def lastRows (snaps : List (String × List ObjV)) : List (List (Nat × Int)) :=
  match snaps.getLast? with
  | some s => s.2.map fun o => o.rows.map fun r => (r.name, r.strand)
  | none => []

/-- **Refutation witness for the tree before fix F6** (`pinned = true`: `Clone` copies the slice
    header of `SubAnnotations` only).  (i) `clone.Delete(0)` turns the *original's* row names
    `r0, r1, r2` into `r1, r2, r2` (the in-place `copy` of `Delete` runs in the shared array);
    (ii) `clone.Row(0).RevComp()` negates the strand of the *original's* row 0.  With `Clone`
    as fixed neither happens; so `annotation_store_refines_values` is false of `Clone` before the fix. -/
theorem pinned_clone_shares_annotations :
    lastRows (runHistoryA true cxId w3 [.clone 0, .delete 1 0]) = [[(1, 1), (2, -1), (2, -1)], [(1, 1), (2, -1)]] ∧
    lastRows (runHistoryA false cxId w3 [.clone 0, .delete 1 0]) = [[(0, 1), (1, 1), (2, -1)], [(1, 1), (2, -1)]] ∧
    lastRows (runHistoryA true cxId w3 [.clone 0, .rowRevComp 1 0]) = [[(0, -1), (1, 1), (2, -1)], [(0, -1), (1, 1), (2, -1)]] ∧
    lastRows (runHistoryA false cxId w3 [.clone 0, .rowRevComp 1 0]) = [[(0, 1), (1, 1), (2, -1)], [(0, -1), (1, 1), (2, -1)]] ∧
    runHistoryA true cxId w3 [.clone 0, .delete 1 0] ≠ runHistory cxId w3 [.clone 0, .delete 1 0] := by
  have h1 : lastRows (runHistoryA true cxId w3 [.clone 0, .delete 1 0]) = [[(1, 1), (2, -1), (2, -1)], [(1, 1), (2, -1)]] := by
    decide
  have h2 : lastRows (runHistoryA false cxId w3 [.clone 0, .delete 1 0]) = [[(0, 1), (1, 1), (2, -1)], [(1, 1), (2, -1)]] := by
    decide
  refine ⟨h1, h2, by decide, by decide, fun e => ?_⟩
  -- the two runs report different last snapshots, and the run with `Clone` as fixed is `runHistory`
  rw [e, ← annotation_store_refines_values, h2] at h1
  exact absurd h1 (by decide)

end Biogo.Properties.C05_ann
