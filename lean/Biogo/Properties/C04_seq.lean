/-
C04 (part seq) — FASTA/FASTQ records do not depend on line layout or terminators.
Property theorems only.

`FastaRenders recs bs` / `FastqRenders qline recs bs` (`Biogo.Spec.Seqio`) say that the bytes
`bs` hold the records `recs` in *some* layout: lines are `Padded` (content followed by any
trailing blanks — tab, VT, FF, CR, space — so a CRLF terminator is a trailing CR), every line
ends in LF except possibly the last; FASTA sequence lines are arbitrary pieces of the letters
(any wrap width, one long line, empty pieces = blank lines) and blank lines may stand before
any header; FASTQ records are four lines with blank lines between records.
-/
import Biogo.Proofs.Fasta
import Biogo.Proofs.FastaView
import Biogo.Proofs.Fastq
import Biogo.Proofs.FastqView
import Biogo.Proofs.SeqCRLF

namespace Biogo.Properties.C04_seq
open Biogo.Go.Bytes Biogo.Spec.Seqio

section fasta
open Biogo.Fasta

/-- **FASTA layout independence.**  Two byte strings that hold the same well-formed records —
    in whatever wrapping of the sequence lines (including one physical line of any length),
    with or without blank lines, trailing blanks, CRLF terminators, final newline — are read
    as the same call history: exactly these records, then `io.EOF`. -/
theorem fasta_layout_independent (recs : List Rec) (bs₁ bs₂ : Bytes)
    (hwf : ∀ r ∈ recs, wfFasta r = true) (h₁ : FastaRenders recs bs₁) (h₂ : FastaRenders recs bs₂) :
    readAll {} bs₁ = readAll {} bs₂ ∧
    readAll {} bs₁ = recs.map (fun r => Call.ret ⟨some r, none⟩) ++ [Call.ret ⟨none, some .eof⟩] := by
  have e₁ := renders_read recs bs₁ hwf h₁
  have e₂ := renders_read recs bs₂ hwf h₂
  exact ⟨e₁.trans e₂.symm, e₁⟩

/-- **re-wrapping**: the file written at width `w` and the file written at width `w'` read as
    the same records (an instance of `fasta_layout_independent`). -/
theorem fasta_rewrap (recs : List Rec) (w w' : Nat) (hwf : ∀ r ∈ recs, wfFasta r = true) :
    readAll {} (recs.flatMap (render w)) = readAll {} (recs.flatMap (render w')) :=
  (fasta_layout_independent recs _ _ hwf (renders_writer w recs hwf) (renders_writer w' recs hwf)).1

-- non-vacuity: a CRLF file with a blank line, trailing blanks, a sequence cut into uneven
-- pieces and no final newline is a layout of the record (name `x`, description `d e`,
-- letters `acgt`) …
example : FastaRenders [⟨[120], [100, 32, 101], [97, 99, 103, 116]⟩]
    ([32, 13, 10] ++ [62, 120, 32, 100, 32, 101, 9, 13, 10] ++ [97, 13, 10] ++ [13, 10] ++ [99, 103, 116, 32]) := by
  refine ⟨[[32, 13], [62, 120, 32, 100, 32, 101, 9, 13], [97, 13], [13], [99, 103, 116, 32]], ?_, ?_⟩
  · refine .blank _ _ _ ⟨[32, 13], rfl, by decide⟩ ?_
    refine .record ⟨[120], [100, 32, 101], [97, 99, 103, 116]⟩ _ [[97, 13], [13], [99, 103, 116, 32]] [] []
      ⟨[9, 13], rfl, by decide⟩ ?_ .nil
    exact .cons [97] _ [99, 103, 116] _ ⟨[13], rfl, by decide⟩
      (.cons [] _ [99, 103, 116] _ ⟨[13], rfl, by decide⟩
        (.cons [99, 103, 116] _ [] _ ⟨[32], rfl, by decide⟩ .nil))
  · exact .lf [32, 13] _ _ (by decide) (.lf _ _ _ (by decide) (.lf [97, 13] _ _ (by decide)
      (.lf [13] _ _ (by decide) (.last _ (by decide) (by decide)))))
-- … and it is read as that record
example : readAll {} ([32, 13, 10] ++ [62, 120, 32, 100, 32, 101, 9, 13, 10] ++ [97, 13, 10] ++ [13, 10] ++ [99, 103, 116, 32])
    = [.ret ⟨some ⟨[120], [100, 32, 101], [97, 99, 103, 116]⟩, none⟩, .ret ⟨none, some .eof⟩] := by decide +kernel

/-! #### terminators and white space, for every input

The reader sees a byte string only through `view bs`: its non-blank lines after
`bytes.TrimSpace` (`fasta_view`).  Hence, for *every* byte string, a valid file or not: -/

/-- two inputs with the same non-blank trimmed lines give the same call history -/
theorem fasta_view (bs bs' : Bytes) (h : view bs = view bs') : readAll {} bs = readAll {} bs' :=
  readAll_view {} bs bs' h

/-- **CRLF instead of LF** (every LF replaced by CR LF) -/
theorem fasta_crlf_any (bs : Bytes) : readAll {} (toCRLF bs) = readAll {} bs :=
  readAll_toCRLF bs

/-- **final newline** present or omitted -/
theorem fasta_final_newline_any (bs : Bytes) : readAll {} (bs ++ [10]) = readAll {} bs :=
  readAll_view {} _ _ (view_snoc_lf bs)

/-- **trailing white space** (tab, VT, FF, CR, space) before any line terminator, and at the
    end of an input without final newline -/
theorem fasta_trailing_blanks_any (a blanks b : Bytes) (hb : ∀ x ∈ blanks, isBlank x = true) :
    readAll {} (a ++ blanks ++ 10 :: b) = readAll {} (a ++ 10 :: b) ∧
    readAll {} (a ++ blanks) = readAll {} a :=
  ⟨readAll_view {} _ _ (view_trailing_blanks a blanks b hb), readAll_view {} _ _ (view_trailing_blanks_end a blanks hb)⟩

/-- **blank lines** (empty or blanks only) inserted before the first line, between two lines or
    after the last terminated line -/
theorem fasta_blank_line_any (a blanks b : Bytes) (hb : ∀ x ∈ blanks, isBlank x = true)
    (ha : a = [] ∨ a.getLast? = some 10) :
    readAll {} (a ++ (blanks ++ 10 :: b)) = readAll {} (a ++ b) :=
  readAll_view {} _ _ (view_blank_line a blanks b hb ha)

/-- **`FastaRenders` is closed under the explicit CRLF transformation**: if `bs` is a layout of
    `recs`, so is `toCRLF bs` (every LF replaced by CR LF) — the relation's "a CR is a trailing
    blank" really covers the CRLF form of every file it admits. -/
theorem fasta_renders_toCRLF (recs : List Rec) (bs : Bytes) (h : FastaRenders recs bs) :
    FastaRenders recs (toCRLF bs) := fastaRenders_toCRLF h

end fasta

section fastq
open Biogo.Fastq

/-- **FASTQ layout independence** (`linear.QSeq`).  Two byte strings that hold the same
    well-formed records (scores in the printable range of `enc`) as four-line records — with
    or without blank lines between records, trailing blanks on any line, CRLF terminators, the
    final newline (also when that makes the last, empty, quality line disappear), `+` alone or
    with the header repeated — are read as the same call history: these records, then
    `io.EOF`; for either behaviour of the `io.Reader` at the end of the input. -/
theorem fastq_layout_independent (tabs : QTables) (enc : Encoding) (e₁ e₂ : Bool) (recs : List QRec)
    (bs₁ bs₂ : Bytes) (hwf : ∀ r ∈ recs, wfFastq enc r = true)
    (h₁ : FastqRenders (qlineOf tabs enc) recs bs₁) (h₂ : FastqRenders (qlineOf tabs enc) recs bs₂) :
    readAll ⟨.qseq enc, tabs⟩ e₁ bs₁ = readAll ⟨.qseq enc, tabs⟩ e₂ bs₂ ∧
    readAll ⟨.qseq enc, tabs⟩ e₁ bs₁ = recs.map (fun r => Call.ret ⟨some r, none⟩) ++ [Call.ret ⟨none, some .eof⟩] := by
  have a := renders_read_qseq tabs enc e₁ recs bs₁ hwf h₁
  exact ⟨a.trans (renders_read_qseq tabs enc e₂ recs bs₂ hwf h₂).symm, a⟩

/-- the same for a plain `linear.Seq` template: the quality lines may be anything visible of
    the right length (`ql`), the sequences returned carry no scores -/
theorem fastq_layout_independent_plain (tabs : QTables) (ql : QRec → Bytes) (e₁ e₂ : Bool) (recs : List QRec)
    (bs₁ bs₂ : Bytes) (hok : ∀ r ∈ recs, RecOK ql r)
    (h₁ : FastqRenders ql recs bs₁) (h₂ : FastqRenders ql recs bs₂) :
    readAll ⟨.seq, tabs⟩ e₁ bs₁ = readAll ⟨.seq, tabs⟩ e₂ bs₂ ∧
    readAll ⟨.seq, tabs⟩ e₁ bs₁
      = recs.map (fun r => Call.ret ⟨some { r with quals := [] }, none⟩) ++ [Call.ret ⟨none, some .eof⟩] := by
  have a := renders_read ⟨.seq, tabs⟩ e₁ _ recs bs₁ hok h₁
  have b := renders_read ⟨.seq, tabs⟩ e₂ _ recs bs₂ hok h₂
  refine ⟨a.trans b.symm, ?_⟩
  rw [a]
  congr 1

-- non-vacuity: `@x d / ac / +x d / I5` with CRLF, a blank line before it, trailing blanks and
-- no final newline is a layout of the record (name `x`, description `d`, letters `ac`, scores 40, 20) …
example : FastqRenders (qlineOf ⟨id, id⟩ .sanger) [⟨[120], [100], [97, 99], [40, 20]⟩]
    ([13, 10] ++ [64, 120, 32, 100, 13, 10] ++ [97, 99, 32, 13, 10] ++ [43, 120, 32, 100, 13, 10] ++ [73, 53, 9]) := by
  refine .inl ⟨[[13], [64, 120, 32, 100, 13], [97, 99, 32, 13], [43, 120, 32, 100, 13], [73, 53, 9]], ?_, ?_⟩
  · refine .blank _ _ _ ⟨[13], rfl, by decide⟩ ?_
    exact .record ⟨[120], [100], [97, 99], [40, 20]⟩ _ _ _ _ [] [] ⟨[13], rfl, by decide⟩ ⟨[32, 13], rfl, by decide⟩
      (.inr ⟨[13], rfl, by decide⟩) ⟨[9], rfl, by decide⟩ .nil
  · exact .lf [13] _ _ (by decide) (.lf _ _ _ (by decide) (.lf [97, 99, 32, 13] _ _ (by decide)
      (.lf [43, 120, 32, 100, 13] _ _ (by decide) (.last _ (by decide) (by decide)))))
-- … and so is `@x / (empty) / +` without the final newline (second alternative of `FastqRenders`)
example : FastqRenders (qlineOf ⟨id, id⟩ .sanger) [⟨[120], [], [], []⟩] [64, 120, 10, 10, 43, 10] :=
  .inr ⟨[[64, 120], [], [43]],
    .record ⟨[120], [], [], []⟩ _ _ _ _ [] [] ⟨[], rfl, by decide⟩ ⟨[], rfl, by decide⟩
      (.inl ⟨[], rfl, by decide⟩) ⟨[], rfl, by decide⟩ .nil, rfl⟩
example : readAll ⟨.qseq .sanger, ⟨id, id⟩⟩ false [64, 120, 10, 10, 43, 10]
    = [.ret ⟨some ⟨[120], [], [], []⟩, none⟩, .ret ⟨none, some .eof⟩] := by decide +kernel

/-! #### terminators and white space, for every input

Unlike the FASTA reader, the FASTQ reader does not skip blank lines in every state, and an
unterminated last line may be what is pending at `io.EOF`; for arbitrary byte strings the
statements that hold are: -/

/-- **CRLF instead of LF**, every byte string (valid file or not), every template -/
theorem fastq_crlf_any (cfg : Cfg) (eofWithData : Bool) (bs : Bytes) :
    readAll cfg eofWithData (Biogo.Fasta.toCRLF bs) = readAll cfg eofWithData bs :=
  readAll_viewQ cfg _ _ _ _ (viewQ_toCRLF eofWithData bs)

/-- **trailing white space** in front of any line terminator, every byte string -/
theorem fastq_trailing_blanks_any (cfg : Cfg) (eofWithData : Bool) (a blanks b : Bytes)
    (hb : ∀ x ∈ blanks, isBlank x = true) :
    readAll cfg eofWithData (a ++ blanks ++ 10 :: b) = readAll cfg eofWithData (a ++ 10 :: b) :=
  readAll_viewQ cfg _ _ _ _ (viewQ_trailing_blanks eofWithData a blanks b hb)

/-- **The FASTQ reader sees an input only through `viewQ`** (analogue of `fasta_view`): the lines
    `ReadLine` delivers completely, after `bytes.TrimSpace` (blank lines included: they are data
    in state `quality` after an empty sequence), and the bytes pending at `io.EOF` without
    their white space.  Two byte strings — valid files or not — with the same view, under
    either behaviour of the `io.Reader` at the end of each, give the same call history. -/
theorem fastq_view (cfg : Cfg) (e e' : Bool) (bs bs' : Bytes) (h : viewQ e bs = viewQ e' bs') :
    readAll cfg e bs = readAll cfg e' bs' := readAll_viewQ cfg e e' bs bs' h

-- non-vacuity: CRLF, trailing blanks and a missing final newline leave the view unchanged …
example : viewQ false [64, 120, 13, 10, 97, 32, 13, 10, 43, 9, 10, 73] = viewQ true [64, 120, 10, 97, 10, 43, 10, 73, 10] := by
  decide +kernel
-- … and a blank line does not
example : viewQ false [64, 120, 10, 10, 97, 10] ≠ viewQ false [64, 120, 10, 97, 10] := by decide +kernel

/-- **`FastqRenders` is closed under the explicit CRLF transformation** (for records whose
    header, letters and quality line contain no LF — `RecOK`, implied by `wfFastq`). -/
theorem fastq_renders_toCRLF (ql : QRec → Bytes) (recs : List QRec) (bs : Bytes)
    (hok : ∀ r ∈ recs, RecOK ql r) (h : FastqRenders ql recs bs) :
    FastqRenders ql recs (Biogo.Fasta.toCRLF bs) := fastqRenders_toCRLF hok h

end fastq

end Biogo.Properties.C04_seq
