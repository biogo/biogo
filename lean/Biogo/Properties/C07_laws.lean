/-
C07 — checker soundness.  The C07 driver answers `ok`/`diff` only if `checkC07` (Drive/C07.lean:
the executable laws of Spec/ContLaws.lean evaluated on the implementation's observations)
returns no complaint.  The theorem `c07_verdict_sound` says what the absence of a complaint
means, in declarative terms: every sentence of the property holds of the observations of the
implementation, at every step of the history.  So the executable laws are not trusted to
*be* the property's sentences: that is proved here.
-/
import Biogo.Drive.C07
import Biogo.Proofs.ContLawsSound

namespace Biogo.Properties.C07_laws
open Biogo.Containers Biogo.Containers.Laws Biogo.Drive.C07

def bufsAfter (bufs : List (List QL)) (ops : List Op) : List (List QL) := ops.foldl stepBufs bufs

/-- what one step `before --op--> after` of a C07 history must satisfy, declaratively
    (`bufs`: the caller's buffers as the history has left them, this step included) -/
def StepSpec (hist : History) (bufs : List (List QL)) (op : Op) (before after : Snap) : Prop :=
  match op with
  | .mkbuf _ _ => after.1 = "ok" ∧ FrameSpec before.2 after.2 none
  | .mutbuf _ _ _ =>
    -- append_no_retain / clone_deep: a write to a caller buffer changes no object
    after.1 = "ok" ∧ FrameSpec before.2 after.2 none ∧ after.2.length = before.2.length
  | .appendCols k bs =>
    FrameSpec before.2 after.2 (some k) ∧ ∃ b a, before.2[k]? = some b ∧ after.2[k]? = some a ∧
      ((∀ i ∈ bs, i < bufs.length) → (∀ i ∈ bs, (bufs.getD i []).length = b.nrows) → b.nrows > 0 →
        after.1 = "ok" ∧ AppendColsSpec b a (bs.map fun i => bufs.getD i []))
  | .appendEach k bs =>
    FrameSpec before.2 after.2 (some k) ∧ ∃ b a, before.2[k]? = some b ∧ after.2[k]? = some a ∧
      ((∀ i ∈ bs, i < bufs.length) → bs.length = b.nrows → b.nrows > 0 →
        after.1 = "ok" ∧ AppendEachSpec hist.cx.gap b a (bs.map fun i => bufs.getD i []))
  | .add k _ => FrameSpec before.2 after.2 (some k)
  | .delete k i =>
    after.1 = "ok" ∧ FrameSpec before.2 after.2 (some k) ∧
      ∃ b a, before.2[k]? = some b ∧ after.2[k]? = some a ∧ DeleteSpec b a i
  | .flush k wh fill =>
    after.1 = "ok" ∧ FrameSpec before.2 after.2 (some k) ∧
      ∃ b a, before.2[k]? = some b ∧ after.2[k]? = some a ∧ FlushSpec b a wh fill
  | .truncate k st en =>
    FrameSpec before.2 after.2 (some k) ∧ ∃ b a, before.2[k]? = some b ∧ after.2[k]? = some a ∧
      (st ≤ en → (∀ r ∈ b.rows, r.start ≤ st ∧ en ≤ r.«end») → after.1 = "ok" ∧ RangeSpec b a st en)
  | .subseq k st en =>
    FrameSpec before.2 after.2 none ∧ ∃ b, before.2[k]? = some b ∧
      (st ≤ en → (∀ r ∈ b.rows, r.start ≤ st ∧ en ≤ r.«end») →
        after.1 = "ok" ∧ after.2.length = before.2.length + 1 ∧
        ∃ a, after.2[before.2.length]? = some a ∧ RangeSpec b a st en)
  | .clone k =>
    after.1 = "ok" ∧ FrameSpec before.2 after.2 none ∧ after.2.length = before.2.length + 1 ∧
      ∃ b, before.2[k]? = some b ∧ after.2[before.2.length]? = some b
  | .set k r pos c =>
    after.1 = "ok" ∧ FrameSpec before.2 after.2 (some k) ∧
      ∃ b a, before.2[k]? = some b ∧ after.2[k]? = some a ∧ SetSpec b a r pos c
  | _ => False

theorem all_lt {bs : List Nat} {n : Nat} (h : ∀ i ∈ bs, i < n) : bs.all (· < n) = true := by
  rw [List.all_eq_true]; intro i hi; simpa using h i hi

theorem stepLaw_sound (hist : History) (bufs : List (List QL)) (op : Op) (before after : Snap)
    (h : stepLaw hist bufs op before after = none) : StepSpec hist bufs op before after := by
  unfold stepLaw at h
  cases op with
  | mkbuf cells extra =>
    simp only [and_none, check_none, beq_iff_eq] at h
    exact ⟨h.1, lawFrame_sound _ _ _ h.2⟩
  | mutbuf b i c =>
    simp only [and_none, check_none, beq_iff_eq] at h
    exact ⟨h.1, lawFrame_sound _ _ _ h.2.1, h.2.2⟩
  | appendCols k bs =>
    simp only [and_none] at h
    obtain ⟨h1, h2⟩ := h
    refine ⟨lawFrame_sound _ _ _ h1, ?_⟩
    split at h2
    · rename_i b a hb ha
      refine ⟨b, a, hb, ha, ?_⟩
      intro g1 g2 g3
      have hg : (bs.all (· < bufs.length) && (bs.map fun i => bufs.getD i []).all (·.length == b.nrows)
          && decide (b.nrows > 0)) = true := by
        simp only [Bool.and_eq_true, decide_eq_true_eq]
        refine ⟨⟨all_lt g1, ?_⟩, g3⟩
        rw [List.all_eq_true]
        intro x hx
        obtain ⟨i, hi, rfl⟩ := List.mem_map.mp hx
        simpa using g2 i hi
      rw [if_pos hg] at h2
      simp only [and_none, check_none, beq_iff_eq] at h2
      exact ⟨h2.1, lawAppendCols_sound _ _ _ h2.2⟩
    · cases h2
  | appendEach k bs =>
    simp only [and_none] at h
    obtain ⟨h1, h2⟩ := h
    refine ⟨lawFrame_sound _ _ _ h1, ?_⟩
    split at h2
    · rename_i b a hb ha
      refine ⟨b, a, hb, ha, ?_⟩
      intro g1 g2 g3
      have hg : (bs.all (· < bufs.length) && (bs.map fun i => bufs.getD i []).length == b.nrows
          && decide (b.nrows > 0)) = true := by
        simp only [Bool.and_eq_true, decide_eq_true_eq, beq_iff_eq, List.length_map]
        exact ⟨⟨all_lt g1, g2⟩, g3⟩
      rw [if_pos hg] at h2
      simp only [and_none, check_none, beq_iff_eq] at h2
      exact ⟨h2.1, lawAppendEach_sound _ _ _ _ h2.2⟩
    · cases h2
  | add k seqs =>
    exact lawFrame_sound _ _ _ h
  | delete k i =>
    simp only [and_none, check_none, beq_iff_eq] at h
    obtain ⟨h0, h1, h2⟩ := h
    refine ⟨h0, lawFrame_sound _ _ _ h1, ?_⟩
    split at h2
    · rename_i b a hb ha; exact ⟨b, a, hb, ha, lawDelete_sound _ _ _ h2⟩
    · cases h2
  | flush k wh fill =>
    simp only [and_none, check_none, beq_iff_eq] at h
    obtain ⟨h0, h1, h2⟩ := h
    refine ⟨h0, lawFrame_sound _ _ _ h1, ?_⟩
    split at h2
    · rename_i b a hb ha; exact ⟨b, a, hb, ha, lawFlush_sound _ _ _ _ h2⟩
    · cases h2
  | truncate k st en =>
    simp only [and_none] at h
    obtain ⟨h1, h2⟩ := h
    refine ⟨lawFrame_sound _ _ _ h1, ?_⟩
    split at h2
    · rename_i b a hb ha
      refine ⟨b, a, hb, ha, ?_⟩
      intro g1 g2
      rw [if_pos ((allCover_iff b st en).mpr ⟨g1, g2⟩)] at h2
      simp only [and_none, check_none, beq_iff_eq] at h2
      exact ⟨h2.1, lawRange_sound _ _ _ _ h2.2⟩
    · cases h2
  | subseq k st en =>
    simp only [and_none] at h
    obtain ⟨h1, h2⟩ := h
    refine ⟨lawFrame_sound _ _ _ h1, ?_⟩
    cases hb : before.2[k]? with
    | none => rw [hb] at h2; simp at h2
    | some b =>
      rw [hb] at h2
      refine ⟨b, rfl, ?_⟩
      intro g1 g2
      dsimp only at h2
      rw [if_pos ((allCover_iff b st en).mpr ⟨g1, g2⟩)] at h2
      simp only [and_none, check_none, beq_iff_eq] at h2
      obtain ⟨c1, c2, c3⟩ := h2
      refine ⟨c1, c2, ?_⟩
      cases ha : after.2[before.2.length]? with
      | none => rw [ha] at c3; simp at c3
      | some a => rw [ha] at c3; exact ⟨a, rfl, lawRange_sound _ _ _ _ c3⟩
  | clone k =>
    simp only [and_none, check_none, beq_iff_eq, Bool.and_eq_true] at h
    obtain ⟨h0, h1, h2, h3, h4⟩ := h
    refine ⟨h0, lawFrame_sound _ _ _ h1, h2, ?_⟩
    cases hb : before.2[k]? with
    | none => rw [hb] at h4; simp at h4
    | some b => exact ⟨b, rfl, by rw [h3, hb]⟩
  | set k r pos c =>
    simp only [and_none, check_none, beq_iff_eq] at h
    obtain ⟨h0, h1, h2⟩ := h
    refine ⟨h0, lawFrame_sound _ _ _ h1, ?_⟩
    split at h2
    · rename_i b a hb ha; exact ⟨b, a, hb, ha, lawSet_sound _ _ _ _ _ h2⟩
    · cases h2
  | _ => simp at h

/-- what every single observation must satisfy: row_eq_column and, for the case-insensitive
    alphabets, unanimous_consensus -/
def SnapSpec (hist : History) (s : Snap) : Prop :=
  ∀ o ∈ s.2, RowEqColumnSpec hist.cx.gap hist.cx.amb o ∧
    (hist.cx.alpha.cased = false → ConsensusSpec hist.cx.alpha.valid o)

theorem snapLaw_sound (hist : History) (s : Snap) (h : snapLaw hist s = none) : SnapSpec hist s := by
  intro o ho
  obtain ⟨j, hj⟩ := List.getElem?_of_mem ho
  have hjl : j < s.2.length := (List.getElem?_eq_some_iff.mp hj).1
  simp only [snapLaw, allIdx_none] at h
  have := h j hjl
  rw [hj] at this
  simp only [and_none] at this
  refine ⟨lawRowEqColumn_sound _ _ _ this.1, ?_⟩
  intro hc
  have h2 := this.2
  rw [hc] at h2
  exact lawConsensus_sound _ _ h2

theorem checkSteps_sound (hist : History) : ∀ (ops : List Op) (bufs : List (List QL)) (snaps : List Snap),
    checkSteps hist ops bufs snaps = none →
    snaps.length = ops.length + 1 ∧
    ∀ (t : Nat) (op : Op) (before after : Snap), ops[t]? = some op → snaps[t]? = some before →
      snaps[t + 1]? = some after →
      StepSpec hist (bufsAfter bufs (ops.take (t + 1))) op before after ∧ SnapSpec hist after := by
  intro ops
  induction ops with
  | nil =>
    intro bufs snaps h
    match snaps, h with
    | [_], _ => exact ⟨rfl, fun t op _ _ ht => by simp at ht⟩
    | [], h => simp [checkSteps] at h
    | _ :: _ :: _, h => simp [checkSteps] at h
  | cons op ops ih =>
    intro bufs snaps h
    match snaps, h with
    | [], h => simp [checkSteps] at h
    | [_], h => simp [checkSteps] at h
    | before :: after :: rest, h =>
      simp only [checkSteps, and_none] at h
      obtain ⟨h1, h2, h3⟩ := h
      obtain ⟨hl, hrest⟩ := ih (stepBufs bufs op) (after :: rest) h3
      refine ⟨by simp only [List.length_cons] at hl ⊢; omega, ?_⟩
      intro t op' b' a' hop hb ha
      cases t with
      | zero =>
        simp only [List.getElem?_cons_zero, Option.some.injEq] at hop hb
        simp only [Nat.zero_add, List.getElem?_cons_succ, List.getElem?_cons_zero, Option.some.injEq] at ha
        subst hop; subst hb; subst ha
        exact ⟨stepLaw_sound hist _ _ _ _ h1, snapLaw_sound hist _ h2⟩
      | succ t =>
        simp only [List.getElem?_cons_succ] at hop hb ha
        have := hrest t op' b' a' hop hb ha
        simpa [bufsAfter] using this

/-- **checker soundness (C07).**  If the driver's check of the implementation's observations
    `impl` (one snapshot after construction and one after every operation) raises no complaint,
    then: there is one snapshot per operation; every object of every snapshot satisfies
    row_eq_column and unanimous_consensus; and every step `impl[t] --ops[t]--> impl[t+1]`
    satisfies the declarative statement of its operation (`StepSpec`: append_exact,
    append_no_retain and clone_deep as frame statements, delete_exact, flush_preserves,
    subseq_truncate_exact, the effect of `Set`). -/
theorem c07_verdict_sound (hist : History) (impl : List Snap) (h : checkC07 hist impl = none) :
    impl.length = hist.ops.length + 1 ∧
    (∀ s ∈ impl, SnapSpec hist s) ∧
    ∀ (t : Nat) (op : Op) (before after : Snap), hist.ops[t]? = some op → impl[t]? = some before →
      impl[t + 1]? = some after →
      StepSpec hist (bufsAfter [] (hist.ops.take (t + 1))) op before after := by
  match impl, h with
  | [], h => simp [checkC07] at h
  | s0 :: rest, h =>
    simp only [checkC07, and_none] at h
    obtain ⟨h0, h1⟩ := h
    obtain ⟨hl, hsteps⟩ := checkSteps_sound hist hist.ops [] (s0 :: rest) h1
    refine ⟨hl, ?_, fun t op b a hop hb ha => (hsteps t op b a hop hb ha).1⟩
    intro s hs
    obtain ⟨j, hj⟩ := List.getElem?_of_mem hs
    cases j with
    | zero =>
      simp only [List.getElem?_cons_zero, Option.some.injEq] at hj
      subst hj; exact snapLaw_sound hist _ h0
    | succ j =>
      have hjl : j + 1 < (s0 :: rest).length := (List.getElem?_eq_some_iff.mp hj).1
      have hjo : j < hist.ops.length := by rw [hl] at hjl; omega
      have hbl : j < (s0 :: rest).length := by omega
      exact (hsteps j hist.ops[j] (s0 :: rest)[j] s (List.getElem?_eq_getElem hjo)
        (List.getElem?_eq_getElem hbl) hj).2

/-- **the verdict**: when the driver answers `ok` or `diff` for a case line, the input parsed to
    a history, the implementation's observation parsed to snapshots, and `checkC07` raised no
    complaint about them — so `c07_verdict_sound` applies to the implementation's observations
    (`fail` is answered exactly when a law complains or the implementation panicked or hung;
    `skip` when the model itself panics, i.e. the history leaves the domain of the property) -/
theorem verdict_means_checked (inp obs : String)
    (h : (handleLine inp obs).status = "ok" ∨ (handleLine inp obs).status = "diff") :
    ∃ hist impl, parseHistory Biogo.Generated.builtins (Biogo.Wire.tokens inp) = some hist ∧
      parseSnapshots obs = some impl ∧ checkC07 hist impl = none := by
  unfold handleLine at h
  split at h
  · simp [Biogo.Wire.bad] at h
  · rename_i hist hh
    dsimp only at h
    split at h
    · simp at h
    · split at h
      · simp [Biogo.Wire.fail] at h
      · split at h
        · simp [Biogo.Wire.bad] at h
        · rename_i impl hi
          split at h
          · simp [Biogo.Wire.fail] at h
          · rename_i hc
            exact ⟨hist, impl, hh, hi, hc⟩

end Biogo.Properties.C07_laws
