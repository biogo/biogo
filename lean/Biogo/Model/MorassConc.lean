/-
Model of `morass.Morass` with its background chunk writers, as a labelled transition system
on `Biogo.Go.Interleave` (C12), with a fault oracle for the file-system / gob steps and the
residue of the temporary directory (C13).

Actors: `0` = the caller (the goroutine that calls Push/Finalise/Pull/Clear), `k+1` = the k-th
goroutine spawned by `go m.write()`.  An atomic block is the code between two `verif` hook
points at which the schedule-forcing harness parks goroutines:

  caller   op boundary · push.send · push.recv · finalise.write · (write.* of the inline
           `m.write()`) · finalise.wait
  writer   write.recv · write.register · write.encode (once per element) · write.sync ·
           write.return

`pool` (cap 2) is the counter of `Morass.State`; `writable` (cap 1) is a bounded channel;
`filesLock`/`errLock` protect sections without hook points and are therefore atomic here.
With `conc = false` the `pool` channel starts empty and the same system describes the
sequential mode (the caller is then blocked at push.recv until the writer has returned).

The model mirrors the code after the `fix:` commits of C11, C12 (`Finalise` waits for the
outstanding writers: `wg`) and C13 (a successful `Sync` no longer overwrites `_err`).
`Pull` and `Clear` without a pending fault are the functions of the sequential model
(`pullF_spec`, `clearF_spec` in `Proofs/MorassCycle.lean`).  Core Lean only.
-/
import Biogo.Go.Interleave
import Biogo.Model.Morass

namespace Biogo.MorassConc
open Biogo.Morass Biogo.Interleave

/-- fault points: the n-th execution of one of these operations fails -/
inductive Pt where
  | tempfile | encode | sync | seek | fdecode | pdecode | close | remove
deriving DecidableEq, Repr

/-- The fault oracle: a *list* of faults, armed one after the other.  Only the head is armed: it
    fires at the `n`-th execution (from 0) of its operation kind `p`, counted from the moment it
    became armed (the start of the run for the first one, the firing of its predecessor for the
    others); when it has fired the next one becomes armed.  `[]` = no fault; a singleton is the
    single fault of the first two waves.  (In sequential mode no temp-file / Encode / Sync / Seek /
    Decode operation is executed between the firing of a fault and the end of the `Clear` with
    which the caller recovers, so there the count of a later fault is the count over the cycles
    that follow the recovery.) -/
abbrev Fault := List (Pt × Nat)

/-- one execution of an operation of kind `pt`: does it fail, and the remaining oracle -/
def tick (f : Fault) (pt : Pt) : Bool × Fault :=
  match f with
  | (p, k) :: rest =>
    if p = pt then (match k with | 0 => (true, rest) | k + 1 => (false, (p, k) :: rest))
    else (false, f)
  | [] => (false, [])

inductive WPc where
  | recv | register | encode | sync | ret | done
deriving DecidableEq, Repr

/-- one activation of `write()` -/
structure Writer where
  pc : WPc := .recv
  todo : List Elem := []     -- elements of `writing` not yet encoded
  file : Nat := 0            -- index of its file in `m.files` (after register)
deriving Repr

inductive CPc where
  | idle | pushSend | pushRecv | finSend | finWrite | finWait
deriving DecidableEq, Repr

structure CState where
  m : Morass.State
  conc : Bool := false                -- background writing enabled (`New(..., concurrent)`)
  autoClean : Bool := false
  writable : Chan (List Elem) := { cap := 1, buf := [] }
  writers : List Writer := []
  wg : Nat := 0                       -- `m.writers` (sync.WaitGroup counter)
  pc : CPc := .idle
  inl : Writer := {}                  -- the caller's own `m.write()` during Finalise
  prog : List Op := []                -- API calls still to make (head = current)
  outs : List Out := []               -- what the caller has observed so far (reversed)
  flt : Fault := []
  onDisk : Nat := 0                   -- run files present in the temporary directory
  dirExists : Bool := true
  reuse : Bool := false               -- the concurrent caller, too, recovers with `Clear` after an error
deriving Repr

def initState (conc : Bool) (chunkSize : Nat) (autoClear autoClean : Bool) (prog : List Op)
    (flt : Fault) (reuse : Bool := false) : CState :=
  { m := { chunkSize, autoClear, pool := if conc then 1 else 0 }, conc, autoClean, prog, flt, reuse }

/-- `setErr` is only ever called with a non-nil error (after the fix for C13 a successful Sync
    no longer stores nil) -/
def setErr (m : Morass.State) (e : Res) : Morass.State := { m with err := some e }

def appendData (fs : List File) (i : Nat) (e : Elem) : List File :=
  fs.modify i (fun f => { f with data := f.data ++ [e] })

/-- one atomic block of a `write()` activation; `none` = blocked (or finished) -/
def wstep (s : CState) (w : Writer) : Option (Writer × CState) :=
  match w.pc with
  | .recv =>
    -- writing := <-m.writable; sort; ioutil.TempFile
    match s.writable.recv with
    | none => none
    | some (r, ch) =>
      let (bad, flt) := tick s.flt .tempfile
      if bad then some ({ w with pc := .ret, todo := sortRun r }, { s with writable := ch, flt, m := setErr s.m .ioerr })
      else some ({ w with pc := .register, todo := sortRun r }, { s with writable := ch, flt, onDisk := s.onDisk + 1 })
  | .register =>
    -- filesLock; m.files = append(m.files, f)
    some ({ w with pc := if w.todo.isEmpty then .sync else .encode, file := s.m.files.length },
          { s with m := { s.m with files := s.m.files ++ [mkFile []] } })
  | .encode =>
    match w.todo with
    | [] => some ({ w with pc := .sync }, s)
    | e :: t =>
      let (bad, flt) := tick s.flt .encode
      if bad then some ({ w with pc := .ret }, { s with flt, m := setErr s.m .ioerr })
      else some ({ w with pc := if t.isEmpty then .sync else .encode, todo := t },
                 { s with flt, m := { s.m with files := appendData s.m.files w.file e } })
  | .sync =>
    let (bad, flt) := tick s.flt .sync
    some ({ w with pc := .ret }, { s with flt, m := if bad then setErr s.m .ioerr else s.m })
  | .ret =>
    -- m.pool <- writing[:0]; then (deferred first, so last) m.writers.Done()
    if s.m.pool < 2 then some ({ w with pc := .done }, { s with m := { s.m with pool := s.m.pool + 1 }, wg := s.wg - 1 })
    else none
  | .done => none

/-- `Seek(0,0)` and `Decode(&head)` for every file in turn; stops at the first failure -/
def primeAll : Fault → List File → Fault × List File × Bool
  | flt, [] => (flt, [], true)
  | flt, f :: fs =>
    let (bad1, flt1) := tick flt .seek
    if bad1 then (flt1, f :: fs, false) else
    let (bad2, flt2) := tick flt1 .fdecode
    if bad2 then (flt2, { f with rest := f.data } :: fs, false) else
    let (flt3, fs', ok) := primeAll flt2 fs
    (flt3, primeFile f :: fs', ok)

/-- `Clear` with faults: close and remove every file in turn; `none` result = success.
    A failing Close/Remove returns at once, leaving `m.files` as it was. -/
def clearLoop : Fault → Nat → List File → Fault × Nat × Bool
  | flt, disk, [] => (flt, disk, true)
  | flt, disk, _ :: fs =>
    let (bad1, flt1) := tick flt .close
    if bad1 then (flt1, disk, false) else
    let (bad2, flt2) := tick flt1 .remove
    -- the hook overrides the result after the real Remove has happened
    if bad2 then (flt2, disk - 1, false) else
    clearLoop flt2 (disk - 1) fs

def clearF (s : CState) : CState × Res :=
  let (flt, disk, ok) := clearLoop s.flt s.onDisk s.m.files
  if ok then ({ s with flt, onDisk := disk, m := clear s.m }, .ok)
  else ({ s with flt, onDisk := disk }, .ioerr)

/-- `if m.AutoClean { os.RemoveAll(m.dir) }` when `Pull` reports `io.EOF` -/
def atEof (s : CState) : CState :=
  if s.autoClean then { s with onDisk := 0, dirExists := false } else s

/-- `Pull` with faults and residue -/
def pullF (s : CState) : CState × Res × Option Elem :=
  let m := s.m
  if m.fast then
    match m.chunk with
    | some ch =>
      match ch[m.pos]? with
      | some e => ({ s with m := { m with pos := m.pos + 1 } }, .ok, some e)
      | none =>
        if 2 ≤ m.pool then (s, .hang, none) else
        let s1 := { s with m := { m with pool := m.pool + 1, chunk := none } }
        (atEof (if m.autoClear then (clearF s1).1 else s1), .eof, none)
    | none => (atEof (if m.autoClear then (clearF s).1 else s), .eof, none)
  else
    match popMin m.files with
    | some (low, others) =>
      let (bad, flt) := tick s.flt .pdecode
      -- the file is closed (and removed under AutoClear) on io.EOF and on a decode error
      let gone : CState := { s with flt, m := { m with files := others, pos := m.pos + 1 },
                                    onDisk := if m.autoClear then s.onDisk - 1 else s.onDisk }
      let s' : CState :=
        if bad then gone else
        match low.rest with
        | n :: r => { s with flt, m := { m with files := { low with head := some n, rest := r } :: others, pos := m.pos + 1 } }
        | [] => gone
      if bad then (s', .ioerr, none) else
      match low.head with
      | none => (s', .panic, none)
      | some e => (s', .ok, some e)
    | none =>
      (atEof (if m.autoClear then (clearF s).1 else s), .eof, none)

/-- the caller finishes its current call with result `r` (and value `v`) -/
def finishOp (s : CState) (r : Res) (v : Option Elem) : CState :=
  { s with pc := .idle, outs := ⟨r, v, s.m.len, s.m.pos⟩ :: s.outs,
           -- a panic (or a call that never returns) ends the caller's program; after an I/O error
           -- the caller gives up the cycle: it makes no further call until its next `Clear`
           -- (sequential mode), or gives up altogether (concurrent mode: writers of the failed
           -- cycle may still be running, and `Clear` does not wait for them).  With `reuse` the
           -- concurrent caller recovers like the sequential one (third wave: the model is tied to
           -- the code for this only under schedules in which every writer of the failed cycle has
           -- ended before that `Clear`, see notes/C13.md)
           prog := if r = .panic ∨ r = .hang then []
                   else if r = .ioerr then (if s.conc && !s.reuse then [] else s.prog.tail.dropWhile (· != Op.clear))
                   else s.prog.tail }

/-- one atomic block of the caller -/
def cstep (s : CState) : Option CState :=
  match s.pc with
  | .idle =>
    match s.prog with
    | [] => none
    | .push e :: _ =>
      match s.m.err with
      | some r => some (finishOp s r none)
      | none =>
        match s.m.chunk with
        | none => some (finishOp s .finalised none)
        | some ch =>
          if ch.length = s.m.chunkSize then some { s with pc := .pushSend }
          else some (finishOp { s with m := (push s.m e).1 } .ok none)
    | .finalise :: _ =>
      match s.m.err with
      | some r => some (finishOp s r none)
      | none =>
        match s.m.chunk with
        | none => some (finishOp s .ok none)
        | some ch =>
          if s.m.pos < s.m.chunkSize then some (finishOp { s with m := (finalise s.m).1 } .ok none)
          else if 0 < ch.length then some { s with m := { s.m with fast := false }, pc := .finSend }
          else
            -- (unreachable for chunk size ≥ 1) nothing to write: no wait, no error check
            let (flt, fs, ok) := primeAll s.flt s.m.files
            some (finishOp { s with flt, m := { s.m with fast := false, pos := 0, files := fs } }
                    (if ok then .ok else .ioerr) none)
    | .pull :: _ => let (s', r, v) := pullF s; some (finishOp s' r v)
    | .clear :: _ => let (s', r) := clearF s; some (finishOp s' r none)
    -- a Push of a value of another type returns its error before touching anything
    | .reject :: _ => some (finishOp s .rejected none)
  | .pushSend =>
    -- m.writable <- m.chunk; m.writers.Add(1); go m.write()
    match s.m.chunk with
    | none => none
    | some ch =>
      match s.writable.send ch with
      | none => none
      | some wr => some { s with writable := wr, wg := s.wg + 1, writers := s.writers ++ [{}], pc := .pushRecv }
  | .pushRecv =>
    -- m.chunk = <-m.pool; error check; append
    if s.m.pool = 0 then none else
    match s.prog with
    | .push e :: _ =>
      let m1 := { s.m with pool := s.m.pool - 1, chunk := some [] }
      match m1.err with
      | some r => some (finishOp { s with m := m1 } r none)
      | none => some (finishOp { s with m := { m1 with chunk := some [e], pos := m1.pos + 1, len := m1.len + 1 } } .ok none)
    | _ => none
  | .finSend =>
    match s.m.chunk with
    | none => none
    | some ch =>
      match s.writable.send ch with
      | none => none
      | some wr => some { s with writable := wr, wg := s.wg + 1, m := { s.m with chunk := none }, inl := {}, pc := .finWrite }
  | .finWrite =>
    match wstep s s.inl with
    | none => none
    | some (w, s') => some { s' with inl := w, pc := if w.pc = .done then .finWait else .finWrite }
  | .finWait =>
    -- m.writers.Wait(); error check; pos = 0; prime every file; heap.Init
    if s.wg ≠ 0 then none else
    match s.m.err with
    | some r => some (finishOp s r none)
    | none =>
      let (flt, fs, ok) := primeAll s.flt s.m.files
      let s' := { s with flt, m := { s.m with pos := 0, files := fs } }
      some (finishOp s' (if ok then .ok else .ioerr) none)

/-- actor 0 = caller, actor k+1 = k-th spawned writer -/
def step (s : CState) : Nat → Option CState
  | 0 => cstep s
  | k + 1 =>
    match s.writers[k]? with
    | none => none
    | some w =>
      match wstep s w with
      | none => none
      | some (w', s') => some { s' with writers := s'.writers.set k w' }

def sys (conc : Bool) (chunkSize : Nat) (autoClear autoClean : Bool) (prog : List Op) (flt : Fault)
    (reuse : Bool := false) : Sys CState Nat :=
  { init := initState conc chunkSize autoClear autoClean prog flt reuse, step := step }

/-- actors that exist in a state (for the fixed finishing policy): writers first, oldest first,
    then the caller — so that the free run after a forced schedule terminates quickly -/
def actors (s : CState) : List Nat := (List.range s.writers.length).map (· + 1) ++ [0]

/-- `CleanUp`: `os.RemoveAll(m.dir)` -/
def cleanUp (s : CState) : CState := { s with onDisk := 0, dirExists := false }

/-- the caller has returned from every call of its program -/
def finished (s : CState) : Bool := s.prog.isEmpty && s.pc == .idle

end Biogo.MorassConc
